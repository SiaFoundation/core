import SiaModel.Codec.Policy
import SiaModel.Policy.Address
/-!
# SiaModel.Codec.PolicyBridge — the policy tree type of `SiaModel/Policy` as codec values

`ofPolicy` embeds `Sia.Policy.Policy` (the tree type of the policy semantics, C14) into the
value trees of the schema codec; `toPolicy` is its partial inverse. `SiaModel/Policy/Address.lean`
has its own `ByteArray` encoder (used for addresses); the driver op `policyx`
(`Driver/Codec.lean`) runs both encoders on the same tree and checks they produce the same bytes.
-/
namespace Sia.Codec.Policy
open Sia.Policy (Policy UnlockKey UnlockConditions)

def ofKey (k : UnlockKey) : Val := .pair (.bytes k.algorithm.data.toList) (.pair (.bytes k.key.data.toList) .unit)

def ofUC (c : UnlockConditions) : Val :=
  .pair (.nat c.timelock) (.pair (.list (c.publicKeys.map ofKey)) (.pair (.nat c.signaturesRequired) .unit))

mutual
/-- the node value (without the version byte) -/
def ofNode : Policy → Val
  | .above h => .pair (.nat opAbove) (.nat h)
  | .after t => .pair (.nat opAfter) (.nat (Sia.Policy.timeU64 t))
  | .pk k => .pair (.nat opPublicKey) (.bytes k.data.toList)
  | .hash h => .pair (.nat opHash) (.bytes h.data.toList)
  | .thresh n subs => .pair (.nat opThreshold) (.pair (.nat n) (.pair (.list (ofNodes subs)) .unit))
  | .opaque a => .pair (.nat opOpaque) (.bytes a.data.toList)
  | .uc c => .pair (.nat opUnlockConditions) (ofUC c)
def ofNodes : List Policy → List Val
  | [] => []
  | p :: ps => ofNode p :: ofNodes ps
end

/-- the codec value of a policy: version, then the root node -/
def ofPolicy (p : Policy) : Val := .pair (.nat version) (ofNode p)

def toBA (l : List UInt8) : ByteArray := ⟨l.toArray⟩

def toInt64 (u : Nat) : Int := if u < 9223372036854775808 then u else (u : Int) - 18446744073709551616

def toKey : Val → Option UnlockKey
  | .pair (.bytes a) (.pair (.bytes k) .unit) => some ⟨toBA a, toBA k⟩
  | _ => none

def toNode : Nat → Val → Option Policy
  | 0, _ => none
  | f + 1, v => match v with
    | .pair (.nat 1) (.nat h) => some (.above h)
    | .pair (.nat 2) (.nat t) => some (.after (toInt64 t))
    | .pair (.nat 3) (.bytes k) => some (.pk (toBA k))
    | .pair (.nat 4) (.bytes h) => some (.hash (toBA h))
    | .pair (.nat 5) (.pair (.nat n) (.pair (.list cs) .unit)) => (cs.mapM (toNode f)).map (.thresh n)
    | .pair (.nat 6) (.bytes a) => some (.opaque (toBA a))
    | .pair (.nat 7) (.pair (.nat tl) (.pair (.list ks) (.pair (.nat sr) .unit))) =>
      (ks.mapM toKey).map fun ks => .uc ⟨tl, ks, sr⟩
    | _ => none

def toPolicy : Val → Option Policy
  | .pair (.nat 1) n => toNode 40 n
  | _ => none

/-- the bytes of the policy semantics' own encoder (`Sia.Policy.encode`) -/
def otherEncoder (p : Policy) : List UInt8 := (Sia.Policy.encode p).data.toList

end Sia.Codec.Policy
