import SiaModel.Codec.Schema
/-!
# SiaModel.Codec.Spec — the committed wire layout of consensus-critical objects

Hand-written from the protocol format at the pinned commit (Sia v1 "siad" encoding
for v1 objects; the v2 encoding of core for v2 objects). This file is the
independent statement of the byte layout: `C11.tie_wire_*` (Props/C11Tie, C11Irregular) proves that the
schema read off the *current* `EncodeTo` bodies equals these terms, so a field
re-ordered, dropped or re-typed symmetrically in encoder and decoder (every round
trip still passes) breaks a tie here. Labels are the Go field names: swapping two
fields of the same wire type is also caught.

NEVER regenerate this file from the code. Change it only when the protocol changes.
-/
namespace Sia.Codec.Spec
open Sia.Codec

/-- 32-byte hashes, IDs, addresses, public keys: raw bytes, no prefix -/
def hash32 : Sch := .fixed 32
/-- 16-byte specifier, zero padded -/
def specifier : Sch := .fixed 16
/-- 64-byte ed25519 signature, raw -/
def signature : Sch := .fixed 64

/-- v2 currency: 128 bit, low word first, both little-endian -/
def v2Currency : Sch := Sch.seq [("Lo", .u64), ("Hi", .u64)]

def chainIndex : Sch := Sch.seq [("Height", .u64), ("ID", hash32)]

/-! ### v1 transactions (siad encoding) -/

def unlockKey : Sch := Sch.seq [("Algorithm", specifier), ("Key", .bytes)]

def unlockConditions : Sch :=
  Sch.seq [("Timelock", .u64), ("PublicKeys", .slice unlockKey), ("SignaturesRequired", .u64)]

/-- v1 currency: length-prefixed big-endian, no leading zeros -/
def v1SiacoinOutput : Sch := Sch.seq [("Value", .cur1), ("Address", hash32)]

/-- siafund count as a v1 currency, address, and siad's (always zero) "ClaimStart" -/
def v1SiafundOutput : Sch := Sch.seq [("Value", .sfval1), ("Address", hash32), ("-", .cur1pad)]

def siacoinInput : Sch := Sch.seq [("ParentID", hash32), ("UnlockConditions", unlockConditions)]

def siafundInput : Sch :=
  Sch.seq [("ParentID", hash32), ("UnlockConditions", unlockConditions), ("ClaimAddress", hash32)]

def fileContract : Sch := Sch.seq [
  ("Filesize", .u64), ("FileMerkleRoot", hash32), ("WindowStart", .u64), ("WindowEnd", .u64),
  ("Payout", .cur1),
  ("ValidProofOutputs", .slice v1SiacoinOutput), ("MissedProofOutputs", .slice v1SiacoinOutput),
  ("UnlockHash", hash32), ("RevisionNumber", .u64)]

/-- a revision carries no payout and puts the revision number first -/
def fileContractRevision : Sch := Sch.seq [
  ("ParentID", hash32), ("UnlockConditions", unlockConditions),
  ("FileContract.RevisionNumber", .u64), ("FileContract.Filesize", .u64),
  ("FileContract.FileMerkleRoot", hash32),
  ("FileContract.WindowStart", .u64), ("FileContract.WindowEnd", .u64),
  ("FileContract.ValidProofOutputs", .slice v1SiacoinOutput),
  ("FileContract.MissedProofOutputs", .slice v1SiacoinOutput),
  ("FileContract.UnlockHash", hash32)]

def storageProof : Sch := Sch.seq [("ParentID", hash32), ("Leaf", .fixed 64), ("Proof", .slice hash32)]

def foundationAddressUpdate : Sch := Sch.seq [("NewPrimary", hash32), ("NewFailsafe", hash32)]

def coveredFields : Sch := Sch.seq [
  ("WholeTransaction", .bool),
  ("SiacoinInputs", .slice .u64), ("SiacoinOutputs", .slice .u64), ("FileContracts", .slice .u64),
  ("FileContractRevisions", .slice .u64), ("StorageProofs", .slice .u64),
  ("SiafundInputs", .slice .u64), ("SiafundOutputs", .slice .u64), ("MinerFees", .slice .u64),
  ("ArbitraryData", .slice .u64), ("Signatures", .slice .u64)]

def transactionSignature : Sch := Sch.seq [
  ("ParentID", hash32), ("PublicKeyIndex", .u64), ("Timelock", .u64),
  ("CoveredFields", coveredFields), ("Signature", .bytes)]

def transaction : Sch := Sch.seq [
  ("SiacoinInputs", .slice siacoinInput), ("SiacoinOutputs", .slice v1SiacoinOutput),
  ("FileContracts", .slice fileContract), ("FileContractRevisions", .slice fileContractRevision),
  ("StorageProofs", .slice storageProof),
  ("SiafundInputs", .slice siafundInput), ("SiafundOutputs", .slice v1SiafundOutput),
  ("MinerFees", .slice .cur1), ("ArbitraryData", .slice .bytes),
  ("Signatures", .slice transactionSignature)]

/-! ### blocks -/

def blockHeader : Sch :=
  Sch.seq [("ParentID", hash32), ("Nonce", .u64), ("Timestamp", .time), ("Commitment", hash32)]

def v1Block : Sch := Sch.seq [
  ("ParentID", hash32), ("Nonce", .u64), ("Timestamp", .time),
  ("MinerPayouts", .slice v1SiacoinOutput), ("Transactions", .slice transaction)]

/-- the v2 part: height, commitment, and the v2 transactions as a multiproof (irregular) -/
def v2BlockData : Sch := Sch.seq [
  ("Height", .u64), ("Commitment", hash32), ("Transactions", .ext "Types.V2TransactionsMultiproof")]

def v2Block : Sch := Sch.seq [
  ("ParentID", hash32), ("Nonce", .u64), ("Timestamp", .time),
  ("MinerPayouts", .slice v1SiacoinOutput), ("Transactions", .slice transaction),
  ("V2", .opt v2BlockData)]

/-! ### elements and v2 objects -/

def v2SiacoinOutput : Sch := Sch.seq [("Value", v2Currency), ("Address", hash32)]
def v2SiafundOutput : Sch := Sch.seq [("Value", .u64), ("Address", hash32)]

def stateElement : Sch := Sch.seq [("LeafIndex", .u64), ("MerkleProof", .slice hash32)]

def chainIndexElement : Sch :=
  Sch.seq [("StateElement", stateElement), ("ID", hash32), ("ChainIndex", chainIndex)]

def siacoinElement : Sch := Sch.seq [
  ("StateElement", stateElement), ("ID", hash32), ("SiacoinOutput", v2SiacoinOutput), ("MaturityHeight", .u64)]

def siafundElement : Sch := Sch.seq [
  ("StateElement", stateElement), ("ID", hash32), ("SiafundOutput", v2SiafundOutput), ("ClaimStart", v2Currency)]

def fileContractElement : Sch :=
  Sch.seq [("StateElement", stateElement), ("ID", hash32), ("FileContract", fileContract)]

def v2FileContract : Sch := Sch.seq [
  ("Capacity", .u64), ("Filesize", .u64), ("FileMerkleRoot", hash32),
  ("ProofHeight", .u64), ("ExpirationHeight", .u64),
  ("RenterOutput", v2SiacoinOutput), ("HostOutput", v2SiacoinOutput),
  ("MissedHostValue", v2Currency), ("TotalCollateral", v2Currency),
  ("RenterPublicKey", hash32), ("HostPublicKey", hash32),
  ("RevisionNumber", .u64), ("RenterSignature", signature), ("HostSignature", signature)]

def v2FileContractElement : Sch :=
  Sch.seq [("StateElement", stateElement), ("ID", hash32), ("V2FileContract", v2FileContract)]

def satisfiedPolicy : Sch := Sch.seq [
  ("Policy", .ext "Types.SpendPolicy"), ("Signatures", .slice signature), ("Preimages", .slice hash32)]

def v2SiacoinInput : Sch := Sch.seq [("Parent", siacoinElement), ("SatisfiedPolicy", satisfiedPolicy)]

def v2SiafundInput : Sch :=
  Sch.seq [("Parent", siafundElement), ("ClaimAddress", hash32), ("SatisfiedPolicy", satisfiedPolicy)]

def v2FileContractRevision : Sch := Sch.seq [("Parent", v2FileContractElement), ("Revision", v2FileContract)]

def v2FileContractRenewal : Sch := Sch.seq [
  ("FinalRenterOutput", v2SiacoinOutput), ("FinalHostOutput", v2SiacoinOutput),
  ("RenterRollover", v2Currency), ("HostRollover", v2Currency),
  ("NewContract", v2FileContract), ("RenterSignature", signature), ("HostSignature", signature)]

def v2StorageProof : Sch :=
  Sch.seq [("ProofIndex", chainIndexElement), ("Leaf", .fixed 64), ("Proof", .slice hash32)]

def v2FileContractExpiration : Sch := .nil

def attestation : Sch :=
  Sch.seq [("PublicKey", hash32), ("Key", .str), ("Value", .bytes), ("Signature", signature)]

/-- v2 transaction: version byte 2, a 64-bit presence bitmap, then — for every set bit, in
this order — the field. A bit is set iff the field is non-empty (slices, data), non-nil
(foundation address) or non-zero (miner fee). -/
def v2TransactionVersion : Nat := 2
def v2TransactionFields : List (Nat × String × ZeroKind × Sch) := [
  (0, "SiacoinInputs", .len, .slice v2SiacoinInput),
  (1, "SiacoinOutputs", .len, .slice v2SiacoinOutput),
  (2, "SiafundInputs", .len, .slice v2SiafundInput),
  (3, "SiafundOutputs", .len, .slice v2SiafundOutput),
  (4, "FileContracts", .len, .slice v2FileContract),
  (5, "FileContractRevisions", .len, .slice v2FileContractRevision),
  (6, "FileContractResolutions", .len, .slice (.ext "Types.V2FileContractResolution")),
  (7, "Attestations", .len, .slice attestation),
  (8, "ArbitraryData", .len, .bytes),
  (9, "NewFoundationAddress", .never, hash32),
  (10, "MinerFee", .zero, v2Currency)]

/-- a resolution: the contract element being resolved, then a type tag
(0 renewal, 1 storage proof, 2 expiration) and the payload of that type -/
def v2FileContractResolutionTags : List (String × Nat) :=
  [("V2FileContractRenewal", 0), ("V2StorageProof", 1), ("V2FileContractExpiration", 2)]

/-! ### consensus -/

/-- 256-bit big-endian work -/
def work : Sch := Sch.seq [("n", .fixed 32)]

/-- the accumulator: leaf count, then ONLY the roots of the trees that exist (bit `i` of
the leaf count set), lowest height first. (`ext`: the count depends on the first field.) -/
def elementAccumulator : Sch :=
  Sch.seq [("NumLeaves", .u64), ("Trees", .ext "dep[hasTreeAtHeight(i)] Types_Hash256")]

/-- the consensus state as hashed into the block commitment: only the first
`min(height+1, 11)` timestamps are present; the network parameters are not part of it -/
def state : Sch := Sch.seq [
  ("Index", chainIndex), ("PrevTimestamps", .ext "dep[:numTimestamps()] .time"),
  ("Depth", hash32), ("ChildTarget", hash32), ("SiafundTaxRevenue", v2Currency),
  ("OakTime", .u64), ("OakTarget", hash32),
  ("FoundationSubsidyAddress", hash32), ("FoundationManagementAddress", hash32),
  ("TotalWork", work), ("Difficulty", work), ("OakWork", work),
  ("Elements", elementAccumulator), ("Attestations", .u64)]

def v1StorageProofSupplement : Sch := Sch.seq [("FileContract", fileContractElement), ("WindowID", hash32)]

def v1TransactionSupplement : Sch := Sch.seq [
  ("SiacoinInputs", .slice siacoinElement), ("SiafundInputs", .slice siafundElement),
  ("RevisedFileContracts", .slice fileContractElement), ("StorageProofs", .slice v1StorageProofSupplement)]

def v1BlockSupplement : Sch := Sch.seq [
  ("Transactions", .slice v1TransactionSupplement), ("ExpiringFileContracts", .slice fileContractElement)]

end Sia.Codec.Spec
