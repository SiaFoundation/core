/-!
# SiaModel.Codec.Schema — the schema language of the binary codec (C11, C10-decode)

One small schema language (`Sch`), one value tree (`Val`) and one pair of
interpreters (`enc`, `dec`) mirroring `types/encoding.go`:

* `Encoder.WriteUint8/WriteUint64/WriteBool/WriteTime/WriteBytes/WriteString/Write`,
  `EncodeSlice*`, `EncodePtr`, `V1Currency.EncodeTo`;
* `Decoder.Read*`, `ReadBytes` and `DecodeSlice*` **with their length-prefix guard**
  (`n > uint64(d.lr.N)` → error, i.e. the prefix may not exceed the bytes the limited
  reader still allows), `DecodePtr`, `V1Currency.DecodeFrom` (accepts ≤ 16 bytes,
  leading zeros included).

The decoder's *sticky error* (first error wins, later reads return zeros and every
loop ends at once because all length prefixes then read as 0) is modelled by the
`Except` monad.  `slack` is `d.lr.N - (bytes really available)`: 0 for
`NewBufDecoder`, `maxLen - len` for the stream decoders of gateway / rhp.

Core Lean only (the driver links this natively).
-/

namespace Sia.Codec

abbrev Bytes := List UInt8

/-! ## values -/

/-- Value tree with *normalised* representatives: lists have no nil/empty
distinction, times are raw seconds, fixed arrays are byte lists of that length. -/
inductive Val where
  | nat (n : Nat)
  | bool (b : Bool)
  | bytes (bs : List UInt8)
  | unit
  | pair (a b : Val)
  | list (vs : List Val)
  | none
  | some (v : Val)
  deriving Repr, Inhabited

inductive DecErr where
  | short        -- io.ErrUnexpectedEOF / io.EOF
  | invalid      -- d.SetErr(...) by a guard (length prefix, bool, currency size, ...)
  | panic        -- the Go code would panic (makeslice / slice bounds)
  | unsupported  -- no model (unknown `ext` codec)
  deriving DecidableEq, Repr, Inhabited

abbrev DecRes := Except DecErr (Val × Bytes)

/-! ## integers on the wire -/

/-- `k` little-endian bytes of `n` (truncating). -/
def leBytes : Nat → Nat → Bytes
  | 0, _ => []
  | k+1, n => UInt8.ofNat (n % 256) :: leBytes k (n / 256)

/-- little-endian value of a byte string -/
def leVal : Bytes → Nat
  | [] => 0
  | b :: bs => b.toNat + 256 * leVal bs

/-- big-endian value of a byte string -/
def beVal (bs : Bytes) : Nat := leVal bs.reverse

/-- `binary.LittleEndian.PutUint64` -/
def u64le (n : Nat) : Bytes := leBytes 8 n

/-- 16 big-endian bytes (`PutUint64(buf[:8], Hi); PutUint64(buf[8:], Lo)`) -/
def be16 (n : Nat) : Bytes := (leBytes 16 n).reverse

/-- `bytes.TrimLeft(buf, "\x00")` -/
def trimZeros (bs : Bytes) : Bytes := bs.dropWhile (· == 0)

def zeros (n : Nat) : Bytes := List.replicate n 0

/-- `copy(dst[:n], src)` into a zeroed array of size `n` -/
def copyInto (n : Nat) (src : Bytes) : Bytes := src.take n ++ zeros (n - src.length)

/-- `d.Read(p)` for `len(p) = n`: all or nothing. -/
def takeN (n : Nat) (bs : Bytes) : Except DecErr (Bytes × Bytes) :=
  if n ≤ bs.length then .ok (bs.take n, bs.drop n) else .error .short

def readU64 (bs : Bytes) : Except DecErr (Nat × Bytes) :=
  match takeN 8 bs with
  | .ok (a, r) => .ok (leVal a, r)
  | .error e => .error e

/-- `Decoder.ReadBytes`: prefix, guard against the limited reader's remaining
allowance (`bs.length + slack`), then `make([]byte, n)` and `Read`. -/
def readPrefixed (slack : Nat) (bs : Bytes) : Except DecErr (Bytes × Bytes) :=
  match readU64 bs with
  | .ok (n, r) => if r.length + slack < n then .error .invalid else takeN n r
  | .error e => .error e

/-- `V1Currency.DecodeFrom`: prefix `n ≤ 16`, then `n` big-endian bytes. With
`strict`, additionally reject a leading zero byte (non-canonical). -/
def readCur1 (strict : Bool) (bs : Bytes) : Except DecErr (Nat × Bytes) :=
  match readU64 bs with
  | .ok (n, r) =>
    if 16 < n then .error .invalid else
    match takeN n r with
    | .ok (a, r') => if strict && a.head? == some 0 then .error .invalid else .ok (beVal a, r')
    | .error e => .error e
  | .error e => .error e

def encCur1 (n : Nat) : Bytes :=
  let b := trimZeros (be16 n)
  u64le b.length ++ b

/-! ## atoms: the non-recursive wire forms -/

inductive Atom where
  | u8 | u64 | bool | time
  | fixed (n : Nat)     -- `e.Write(x[:])` of a `[n]byte`
  | bytes               -- `WriteBytes` / `ReadBytes`
  | str                 -- `WriteString` / `ReadString` (same wire form)
  | pfixed (n : Nat)    -- `e.WriteBytes(x.F[:])` / `copy(x.F[:], d.ReadBytes())` of a `[n]byte`
  | cur1                -- `V1Currency`: length-prefixed trimmed big-endian
  | sfval1              -- `V1Currency(NewCurrency64(x))`; decoder rejects `Hi != 0`
  | cur1pad             -- `(V1Currency{}).EncodeTo(e)` / `(&V1Currency{}).DecodeFrom(d)` (value discarded)
  | ubytes              -- `n := d.ReadUint64(); make([]byte, n); d.Read(..)` WITHOUT guard
  | cbytes              -- rhp `readN(d, buf, d.ReadUint64())`: no guard, buffer grown as data arrives
  deriving DecidableEq, Repr, Inhabited

/-- A codec for one (atomic or externally modelled) wire form. `dec strict slack`;
`alloc` additionally meters allocation (slots requested through `make`/`append`). -/
structure Codec where
  enc : Val → Bytes
  dec : Bool → Nat → Bytes → DecRes
  alloc : Nat → Bytes → Nat
  canon : Val → Bool
  minLen : Nat
  depth : Nat
  guarded : Bool

def W64 : Nat := 18446744073709551616
def W128 : Nat := 340282366920938463463374607431768211456

def isBytes (p : Bytes → Bool) : Val → Bool
  | .bytes b => p b
  | _ => false

def isNat (bound : Nat) : Val → Bool
  | .nat n => n < bound
  | _ => false

def okNat (r : Except DecErr (Nat × Bytes)) : DecRes :=
  match r with
  | .ok (n, r) => .ok (.nat n, r)
  | .error e => .error e

def okBytes (r : Except DecErr (Bytes × Bytes)) : DecRes :=
  match r with
  | .ok (a, r) => .ok (.bytes a, r)
  | .error e => .error e

/-- allocation requested by `ReadBytes` on this input -/
def allocPrefixed (slack : Nat) (bs : Bytes) : Nat :=
  match readU64 bs with
  | .ok (n, r) => if r.length + slack < n then 0 else n
  | .error _ => 0

/-- The codec of an atom. `lim` is the runtime's allocation limit (`makeslice`
panics above it); it only matters for the unguarded atom `ubytes`. -/
def Atom.codec (lim : Nat) : Atom → Codec
  | .u8 => {
      enc := fun v => match v with | .nat n => leBytes 1 n | _ => []
      dec := fun _ _ bs => match takeN 1 bs with
        | .ok (a, r) => .ok (.nat (leVal a), r)
        | .error e => .error e
      alloc := fun _ _ => 0
      canon := isNat 256, minLen := 1, depth := 0, guarded := true }
  | .u64 | .time => {
      enc := fun v => match v with | .nat n => u64le n | _ => []
      dec := fun _ _ bs => okNat (readU64 bs)
      alloc := fun _ _ => 0
      canon := isNat W64, minLen := 8, depth := 0, guarded := true }
  | .bool => {
      enc := fun v => match v with | .bool b => [if b then 1 else 0] | _ => []
      dec := fun _ _ bs => match takeN 1 bs with
        | .ok (a, r) =>
          if leVal a = 0 then .ok (.bool false, r)
          else if leVal a = 1 then .ok (.bool true, r)
          else .error .invalid
        | .error e => .error e
      alloc := fun _ _ => 0
      canon := fun v => match v with | .bool _ => true | _ => false
      minLen := 1, depth := 0, guarded := true }
  | .fixed n => {
      enc := fun v => match v with | .bytes b => b | _ => []
      dec := fun _ _ bs => okBytes (takeN n bs)
      alloc := fun _ _ => 0
      canon := isBytes (fun b => b.length == n), minLen := n, depth := 0, guarded := true }
  | .bytes | .str => {
      enc := fun v => match v with | .bytes b => u64le b.length ++ b | _ => []
      dec := fun _ k bs => okBytes (readPrefixed k bs)
      alloc := allocPrefixed
      canon := isBytes (fun b => b.length < W64), minLen := 8, depth := 1, guarded := true }
  | .pfixed n => {
      enc := fun v => match v with | .bytes b => u64le b.length ++ b | _ => []
      dec := fun strict k bs => match readPrefixed k bs with
        | .ok (a, r) =>
          -- (`W64 ≤ n` cannot occur for a Go array; it keeps the decoder's image canonical)
          if (strict && a.length != n) || decide (W64 ≤ n) then .error .invalid
          else .ok (.bytes (copyInto n a), r)
        | .error e => .error e
      alloc := allocPrefixed
      canon := isBytes (fun b => b.length == n && n < W64), minLen := 8, depth := 1, guarded := true }
  | .cur1 => {
      enc := fun v => match v with | .nat n => encCur1 n | _ => []
      dec := fun strict _ bs => okNat (readCur1 strict bs)
      alloc := fun _ _ => 0
      canon := isNat W128, minLen := 8, depth := 0, guarded := true }
  | .sfval1 => {
      enc := fun v => match v with | .nat n => encCur1 n | _ => []
      dec := fun strict _ bs => match readCur1 strict bs with
        | .ok (n, r) => if W64 ≤ n then .error .invalid else .ok (.nat n, r)
        | .error e => .error e
      alloc := fun _ _ => 0
      canon := isNat W64, minLen := 8, depth := 0, guarded := true }
  | .cur1pad => {
      enc := fun v => match v with | .unit => encCur1 0 | _ => []
      dec := fun strict _ bs => match readCur1 strict bs with
        | .ok (n, r) => if strict && n != 0 then .error .invalid else .ok (.unit, r)
        | .error e => .error e
      alloc := fun _ _ => 0
      canon := fun v => match v with | .unit => true | _ => false
      minLen := 8, depth := 0, guarded := true }
  | .ubytes => {
      enc := fun v => match v with | .bytes b => u64le b.length ++ b | _ => []
      dec := fun _ _ bs => match readU64 bs with
        | .ok (n, r) => if lim < n then .error .panic else okBytes (takeN n r)
        | .error e => .error e
      alloc := fun _ bs => match readU64 bs with
        | .ok (n, _) => if lim < n then 0 else n
        | .error _ => 0
      canon := isBytes (fun b => b.length < W64 && b.length ≤ lim), minLen := 8, depth := 1, guarded := false }
  | .cbytes => {
      -- `readN`: the announced length is not compared with the reader's allowance, but the
      -- buffer only grows (16 KiB chunks) by what was really read; a short read is an error
      enc := fun v => match v with | .bytes b => u64le b.length ++ b | _ => []
      dec := fun _ _ bs => match readU64 bs with
        | .ok (n, r) => okBytes (takeN n r)
        | .error e => .error e
      alloc := fun _ bs => match readU64 bs with
        | .ok (n, r) => min n r.length
        | .error _ => 0
      canon := isBytes (fun b => b.length < W64), minLen := 8, depth := 1, guarded := true }

/-! ## schemas -/

/-- Schema terms. A record is a `cons` chain ended by `nil`; labels are Go field
paths and carry no wire meaning. -/
inductive Sch where
  | atom (a : Atom)
  | nil
  | cons (label : String) (s : Sch) (rest : Sch)
  | slice (s : Sch)      -- `EncodeSlice*` / `DecodeSlice*` (guarded, grown by `append`)
  | opt (s : Sch)        -- `EncodePtr` / `DecodePtr`
  | uslice (s : Sch)     -- `make([]T, d.ReadUint64())` WITHOUT guard, then a loop
  | aslice (s : Sch)     -- `n := d.ReadUint64(); for i < n { decode; append }`: no guard, grown by `append`
  | ext (name : String)  -- irregular codec, modelled by hand and supplied by the environment
  deriving DecidableEq, Repr, Inhabited

namespace Sch
@[match_pattern, reducible] def u8 : Sch := .atom .u8
@[match_pattern, reducible] def u64 : Sch := .atom .u64
@[match_pattern, reducible] def bool : Sch := .atom .bool
@[match_pattern, reducible] def time : Sch := .atom .time
@[match_pattern, reducible] def fixed (n : Nat) : Sch := .atom (.fixed n)
@[match_pattern, reducible] def bytes : Sch := .atom .bytes
@[match_pattern, reducible] def str : Sch := .atom .str
@[match_pattern, reducible] def pfixed (n : Nat) : Sch := .atom (.pfixed n)
@[match_pattern, reducible] def cur1 : Sch := .atom .cur1
@[match_pattern, reducible] def sfval1 : Sch := .atom .sfval1
@[match_pattern, reducible] def cur1pad : Sch := .atom .cur1pad
@[match_pattern, reducible] def ubytes : Sch := .atom .ubytes
@[match_pattern, reducible] def cbytes : Sch := .atom .cbytes

/-- record from a field list (what the extractor prints) -/
def seq : List (String × Sch) → Sch
  | [] => .nil
  | (l, s) :: fs => .cons l s (seq fs)

/-- splice: the fields of record `a` followed by those of `b` (used when a codec
delegates to another codec of the same object, e.g. `V1Block(b).EncodeTo(e)`);
a non-record `a` becomes one field with an empty label. -/
def append : Sch → Sch → Sch
  | .nil, b => b
  | .cons l s r, b => .cons l s (append r b)
  | a, b => .cons "" a b

/-- top-level labels of a record -/
def labels : Sch → List String
  | .cons l _ r => l :: labels r
  | _ => []
end Sch

/-- The environment: hand-modelled irregular codecs by name, and the allocation limit. -/
structure Env where
  ext : String → Codec
  lim : Nat

/-- codec used for names without a model: nothing is canonical, decoding is refused
(so every law holds vacuously; `minLen := 1` only says "would occupy a byte"). -/
def Codec.unsupported : Codec :=
  { enc := fun _ => [], dec := fun _ _ _ => .error .unsupported, alloc := fun _ _ => 0,
    canon := fun _ => false, minLen := 1, depth := 0, guarded := true }

/-- lower bound on the encoded length of canonical values -/
def Sch.minLen (E : Env) : Sch → Nat
  | .atom a => (a.codec E.lim).minLen
  | .nil => 0
  | .cons _ s r => s.minLen E + r.minLen E
  | .slice _ => 8
  | .opt _ => 1
  | .uslice _ => 8
  | .aslice _ => 8
  | .ext n => (E.ext n).minLen

/-- well-formed: every slice element occupies at least one byte. (Otherwise the real
`DecodeSlice` guard rejects valid encodings, and allocation is not linear.) -/
def Sch.wf (E : Env) : Sch → Bool
  | .atom _ => true
  | .nil => true
  | .cons _ s r => s.wf E && r.wf E
  | .slice s => s.wf E && decide (1 ≤ s.minLen E)
  | .opt s => s.wf E
  | .uslice s => s.wf E && decide (1 ≤ s.minLen E)
  | .aslice s => s.wf E && decide (1 ≤ s.minLen E)
  | .ext _ => true

/-- no unguarded allocation anywhere -/
def Sch.guarded (E : Env) : Sch → Bool
  | .atom a => (a.codec E.lim).guarded
  | .nil => true
  | .cons _ s r => s.guarded E && r.guarded E
  | .slice s => s.guarded E
  | .opt s => s.guarded E
  | .uslice _ => false
  | .aslice s => s.guarded E
  | .ext n => (E.ext n).guarded

/-- nesting depth of allocating constructs (the constant of the allocation bound) -/
def Sch.depth (E : Env) : Sch → Nat
  | .atom a => (a.codec E.lim).depth
  | .nil => 0
  | .cons _ s r => max (s.depth E) (r.depth E)
  | .slice s => s.depth E + 1
  | .opt s => s.depth E
  | .uslice s => s.depth E + 1
  | .aslice s => s.depth E + 1
  | .ext n => (E.ext n).depth

/-- `Canon s v`: `v` is a well-typed value of schema `s` (as a Bool). -/
def canon (E : Env) : Sch → Val → Bool
  | .atom a, v => (a.codec E.lim).canon v
  | .nil, v => match v with | .unit => true | _ => false
  | .cons _ s r, v => match v with | .pair a b => canon E s a && canon E r b | _ => false
  | .slice s, v => match v with | .list vs => decide (vs.length < W64) && vs.all (canon E s) | _ => false
  | .opt s, v => match v with | .none => true | .some a => canon E s a | _ => false
  | .uslice s, v => match v with
      | .list vs => decide (vs.length < W64) && decide (vs.length ≤ E.lim) && vs.all (canon E s)
      | _ => false
  | .aslice s, v => match v with | .list vs => decide (vs.length < W64) && vs.all (canon E s) | _ => false
  | .ext n, v => (E.ext n).canon v

abbrev Canon (E : Env) (s : Sch) (v : Val) : Prop := canon E s v = true

/-! ## encoder -/

def encList (f : Val → Bytes) : List Val → Bytes
  | [] => []
  | v :: vs => f v ++ encList f vs

def enc (E : Env) : Sch → Val → Bytes
  | .atom a, v => (a.codec E.lim).enc v
  | .nil, _ => []
  | .cons _ s r, v => match v with | .pair a b => enc E s a ++ enc E r b | _ => []
  | .slice s, v => match v with | .list vs => u64le vs.length ++ encList (enc E s) vs | _ => []
  | .opt s, v => match v with
      | .none => [0]
      | .some a => 1 :: enc E s a
      | _ => []
  | .uslice s, v => match v with | .list vs => u64le vs.length ++ encList (enc E s) vs | _ => []
  | .aslice s, v => match v with | .list vs => u64le vs.length ++ encList (enc E s) vs | _ => []
  | .ext n, v => (E.ext n).enc v

/-! ## decoder -/

/-- decode `n` consecutive elements -/
def decRep (f : Bytes → DecRes) : Nat → Bytes → Except DecErr (List Val × Bytes)
  | 0, bs => .ok ([], bs)
  | n+1, bs =>
    match f bs with
    | .ok (v, bs1) =>
      match decRep f n bs1 with
      | .ok (vs, bs2) => .ok (v :: vs, bs2)
      | .error e => .error e
    | .error e => .error e

def okList (r : Except DecErr (List Val × Bytes)) : DecRes :=
  match r with
  | .ok (vs, r) => .ok (.list vs, r)
  | .error e => .error e

/-- The decoder. `strict = false` is the real decoder; `strict = true` additionally
rejects the (exactly three kinds of) non-canonical atoms the real decoder accepts:
a V1 currency with a leading zero byte, a length-prefixed fixed array whose prefix
is not the array size, a non-zero discarded "ClaimStart". -/
def decG (E : Env) (strict : Bool) (slack : Nat) : Sch → Bytes → DecRes
  | .atom a, bs => (a.codec E.lim).dec strict slack bs
  | .nil, bs => .ok (.unit, bs)
  | .cons _ s r, bs =>
    match decG E strict slack s bs with
    | .ok (a, bs1) =>
      match decG E strict slack r bs1 with
      | .ok (b, bs2) => .ok (.pair a b, bs2)
      | .error e => .error e
    | .error e => .error e
  | .slice s, bs =>
    match readU64 bs with
    | .ok (n, r) =>
      if r.length + slack < n then .error .invalid
      else okList (decRep (decG E strict slack s) n r)
    | .error e => .error e
  | .opt s, bs =>
    match takeN 1 bs with
    | .ok (a, r) =>
      if leVal a = 0 then .ok (.none, r)
      else if leVal a = 1 then
        match decG E strict slack s r with
        | .ok (v, r') => .ok (.some v, r')
        | .error e => .error e
      else .error .invalid
    | .error e => .error e
  | .uslice s, bs =>
    match readU64 bs with
    | .ok (n, r) =>
      if E.lim < n then .error .panic
      else okList (decRep (decG E strict slack s) n r)
    | .error e => .error e
  | .aslice s, bs =>
    match readU64 bs with
    | .ok (n, r) => okList (decRep (decG E strict slack s) n r)
    | .error e => .error e
  | .ext n, bs => (E.ext n).dec strict slack bs

/-- the real decoder -/
abbrev dec (E : Env) (slack : Nat) (s : Sch) (bs : Bytes) : DecRes := decG E false slack s bs

/-- the canonical-input decoder -/
abbrev decStrict (E : Env) (slack : Nat) (s : Sch) (bs : Bytes) : DecRes := decG E true slack s bs

/-! ## allocation meter

`allocOf E slack s bs` = number of slots (`[]byte` bytes, slice elements) the real
decoder requests while decoding `bs`, whatever the outcome. `DecodeSlice` grows its
result by `append`, so only elements that were really decoded are counted. -/

def allocRep (f : Bytes → DecRes) (g : Bytes → Nat) : Nat → Bytes → Nat
  | 0, _ => 0
  | n+1, bs =>
    match f bs with
    | .ok (_, bs1) => g bs + 1 + allocRep f g n bs1
    | .error _ => g bs

def allocOf (E : Env) (slack : Nat) : Sch → Bytes → Nat
  | .atom a, bs => (a.codec E.lim).alloc slack bs
  | .nil, _ => 0
  | .cons _ s r, bs =>
    match decG E false slack s bs with
    | .ok (_, bs1) => allocOf E slack s bs + allocOf E slack r bs1
    | .error _ => allocOf E slack s bs
  | .slice s, bs =>
    match readU64 bs with
    | .ok (n, r) =>
      if r.length + slack < n then 0
      else allocRep (decG E false slack s) (allocOf E slack s) n r
    | .error _ => 0
  | .opt s, bs =>
    match takeN 1 bs with
    | .ok (a, r) => if leVal a = 1 then allocOf E slack s r else 0
    | .error _ => 0
  | .uslice s, bs =>
    match readU64 bs with
    | .ok (n, r) =>
      if E.lim < n then 0
      else n + allocRep (decG E false slack s) (allocOf E slack s) n r
    | .error _ => 0
  | .aslice s, bs =>
    match readU64 bs with
    | .ok (n, r) => allocRep (decG E false slack s) (allocOf E slack s) n r
    | .error _ => 0
  | .ext n, bs => (E.ext n).alloc slack bs

/-- how Go decides that a field is "empty" (and therefore absent from a presence bitmap) -/
inductive ZeroKind where
  | len     -- `len(x) != 0`: slices and byte strings
  | never   -- `x != nil`: a pointer; the bit alone says present
  | zero    -- `!x.IsZero()`: all-zero number(s)
  deriving DecidableEq, Repr, Inhabited

/-- all numeric leaves are zero (`Currency.IsZero`) -/
def Val.allZero : Val → Bool
  | .nat n => n == 0
  | .pair a b => a.allZero && b.allZero
  | .unit => true
  | _ => false

def isZeroVal : ZeroKind → Val → Bool
  | .len, .list vs => vs.isEmpty
  | .len, .bytes b => b.isEmpty
  | .len, _ => false
  | .never, _ => false
  | .zero, v => v.allZero

/-- default environment: no external models; allocation limit 2^47 (Go's `maxAlloc` on amd64) -/
def Env.default : Env := { ext := fun _ => Codec.unsupported, lim := 140737488355328 }

end Sia.Codec
