import SiaModel.Codec.Schema
/-!
# SiaModel.Codec.Size — encoded sizes (C19)

* `size E s v` — the encoded size of a value, computed structurally (`= |enc E s v|`,
  theorem `Sia.Codec.size_eq`, restated as `C19.c19_size_eq`);
* `zeroSize s` — the size of the encoding of Go's zero value (rhp/v4 `sizeof(T{})`);
* `maxSize B s` — an upper bound on the size of every value whose variable-length parts
  obey the per-field limits `B` (field label ↦ maximal element / byte count); `none` when
  some part has no bound (an `ext` leaf, a field without limit);
* `within B s v` — `v` obeys the limits.
-/
namespace Sia.Codec

def sizeList (f : Val → Nat) : List Val → Nat
  | [] => 0
  | v :: vs => f v + sizeList f vs

/-- encoded size, structurally -/
def size (E : Env) : Sch → Val → Nat
  | .atom a, v => ((a.codec E.lim).enc v).length
  | .nil, _ => 0
  | .cons _ s r, v => match v with | .pair a b => size E s a + size E r b | _ => 0
  | .slice s, v => match v with | .list vs => 8 + sizeList (size E s) vs | _ => 0
  | .opt s, v => match v with | .none => 1 | .some a => 1 + size E s a | _ => 0
  | .uslice s, v => match v with | .list vs => 8 + sizeList (size E s) vs | _ => 0
  | .aslice s, v => match v with | .list vs => 8 + sizeList (size E s) vs | _ => 0
  | .ext n, v => ((E.ext n).enc v).length

/-- size of the encoding of the zero value: empty slices and byte strings, nil
pointers, zero numbers (rhp/v4 `sizeof(T{})`); `ext` leaves count 0 -/
def Sch.zeroSize : Sch → Nat
  | .atom a => match a with
    | .u8 | .bool => 1
    | .u64 | .time => 8
    | .fixed n => n
    | .bytes | .str | .ubytes | .cbytes => 8
    | .pfixed n => 8 + n
    | .cur1 | .sfval1 | .cur1pad => 8
  | .nil => 0
  | .cons _ s r => s.zeroSize + r.zeroSize
  | .slice _ => 8
  | .opt _ => 1
  | .uslice _ => 8
  | .aslice _ => 8
  | .ext _ => 0

def optAdd (a b : Option Nat) : Option Nat :=
  match a, b with
  | some x, some y => some (x + y)
  | _, _ => none

def optMul (n : Nat) (a : Option Nat) : Option Nat :=
  match a with
  | some x => some (n * x)
  | none => none

/-- upper bound of the encoded size of a part all of whose slices (nested ones too) have
at most `cur` elements and whose byte strings have at most `cur` bytes; `none`: no bound -/
def maxSizeIn : Option Nat → Sch → Option Nat
  | cur, .atom a => match a with
    | .u8 | .bool => some 1
    | .u64 | .time => some 8
    | .fixed n => some n
    | .bytes | .str | .ubytes | .cbytes => optAdd (some 8) cur
    | .pfixed n => some (8 + n)
    | .cur1 | .sfval1 => some 24
    | .cur1pad => some 8
  | _, .nil => some 0
  | cur, .cons _ s r => optAdd (maxSizeIn cur s) (maxSizeIn cur r)
  | cur, .slice s => match cur with
    | some n => optAdd (some 8) (optMul n (maxSizeIn cur s))
    | none => none
  | cur, .opt s => optAdd (some 1) (maxSizeIn cur s)
  | cur, .uslice s => match cur with
    | some n => optAdd (some 8) (optMul n (maxSizeIn cur s))
    | none => none
  | cur, .aslice s => match cur with
    | some n => optAdd (some 8) (optMul n (maxSizeIn cur s))
    | none => none
  | _, .ext _ => none

/-- the part obeys the limit `cur` -/
def withinIn : Option Nat → Sch → Val → Bool
  | cur, .atom a, v => match a with
    | .bytes | .str | .ubytes | .cbytes => (match cur, v with
      | some n, .bytes b => decide (b.length ≤ n)
      | _, _ => false)
    | _ => true
  | _, .nil, _ => true
  | cur, .cons _ s r, v => match v with
    | .pair a b => withinIn cur s a && withinIn cur r b
    | _ => false
  | cur, .slice s, v => match cur, v with
    | some n, .list vs => decide (vs.length ≤ n) && vs.all (withinIn cur s)
    | _, _ => false
  | cur, .opt s, v => match v with
    | .some a => withinIn cur s a
    | _ => true
  | cur, .uslice s, v => match cur, v with
    | some n, .list vs => decide (vs.length ≤ n) && vs.all (withinIn cur s)
    | _, _ => false
  | cur, .aslice s, v => match cur, v with
    | some n, .list vs => decide (vs.length ≤ n) && vs.all (withinIn cur s)
    | _, _ => false
  | _, .ext _, _ => false

/-- per-field limits of a record, IN FIELD ORDER: (Go field name, maximal element / byte
count of that field, `none` = the field has no variable-length part or no limit). The
names are documentation, tied to the schema's labels by a `rfl` theorem. -/
abbrev Limits := List (String × Option Nat)

/-- upper bound of the encoded size of a record under per-field limits -/
def maxSize : Limits → Sch → Option Nat
  | b :: B, .cons _ s r => optAdd (maxSizeIn b.2 s) (maxSize B r)
  | [], .cons _ s r => optAdd (maxSizeIn none s) (maxSize [] r)
  | _, .nil => some 0
  | _, s => maxSizeIn none s

/-- the record obeys its per-field limits -/
def within : Limits → Sch → Val → Bool
  | b :: B, .cons _ s r, v => match v with
    | .pair x y => withinIn b.2 s x && within B r y
    | _ => false
  | [], .cons _ s r, v => match v with
    | .pair x y => withinIn none s x && within [] r y
    | _ => false
  | _, .nil, _ => true
  | _, s, v => withinIn none s v

end Sia.Codec
