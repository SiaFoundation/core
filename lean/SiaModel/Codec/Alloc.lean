import SiaModel.Codec.Schema
/-!
# element-slot meter: how `DecodeSlice` sizes its result

`allocOf` (Schema.lean) counts every slot (bytes of `[]byte`, slice elements) and its bound
carries a `depth × slack` term: `ReadBytes` really does `make([]byte, n)` for any
`n ≤ d.lr.N`, so on a stream decoder a short message may allocate up to the reader's
allowance. Slice ELEMENTS are different: `DecodeSlice` / `DecodeSliceFn` start from
`var items []T` and `append` one element per element actually decoded, so the element
slots are bounded by the bytes really present — with NO slack term. `allocOf` does not
separate the two, and its bound (because of the slack term) is also met by a decoder that
pre-sizes the slice from the claimed count. `elemsOf` is the refinement: it counts slice
element slots only, charged at the moment the real decoder requests them, for either
growth discipline:

* `Growth.append`  — `items = append(items, v)`: one slot per decoded element;
* `Growth.presize` — `slices.Grow(nil, n)` / `make([]T, n)`: `n` slots at once, when the
  prefix has passed the guard.

`X` meters the external codecs (`ext`); see `ElemsOK` in `Props/C10Alloc.lean`.
-/
namespace Sia.Codec

/-- how a slice decoder sizes its result -/
inductive Growth where
  | append
  | presize
  deriving DecidableEq, Repr

/-- slots requested when the length prefix `n` has been accepted -/
def Growth.claim : Growth → Nat → Nat
  | .append, _ => 0
  | .presize, n => n

/-- decoded elements + the slots of their own decoding (element slots of a slice under
`append`; nested slots only are extra under `presize`, where the `n` are charged up front) -/
def elemsRep (f : Bytes → DecRes) (g : Bytes → Nat) (one : Nat) : Nat → Bytes → Nat
  | 0, _ => 0
  | n+1, bs =>
    match f bs with
    | .ok (_, bs1) => g bs + one + elemsRep f g one n bs1
    | .error _ => g bs

def Growth.perElem : Growth → Nat
  | .append => 1
  | .presize => 0

def elemsOf (gr : Growth) (E : Env) (X : String → Nat → Bytes → Nat) (slack : Nat) : Sch → Bytes → Nat
  | .atom _, _ => 0
  | .nil, _ => 0
  | .cons _ s r, bs =>
    match decG E false slack s bs with
    | .ok (_, bs1) => elemsOf gr E X slack s bs + elemsOf gr E X slack r bs1
    | .error _ => elemsOf gr E X slack s bs
  | .slice s, bs =>
    match readU64 bs with
    | .ok (n, r) =>
      if r.length + slack < n then 0
      else gr.claim n + elemsRep (decG E false slack s) (elemsOf gr E X slack s) gr.perElem n r
    | .error _ => 0
  | .opt s, bs =>
    match takeN 1 bs with
    | .ok (a, r) => if leVal a = 1 then elemsOf gr E X slack s r else 0
    | .error _ => 0
  | .uslice s, bs =>   -- `make([]T, n)` without guard: always charged at the claim
    match readU64 bs with
    | .ok (n, r) =>
      if E.lim < n then 0
      else n + elemsRep (decG E false slack s) (elemsOf gr E X slack s) 0 n r
    | .error _ => 0
  | .aslice s, bs =>   -- append-grown without guard (rhp3 program instructions)
    match readU64 bs with
    | .ok (n, r) => elemsRep (decG E false slack s) (elemsOf gr E X slack s) 1 n r
    | .error _ => 0
  | .ext n, bs => X n slack bs

end Sia.Codec
