/-!
# Ledger model

Hand-written executable model of `consensus/validation.go` (`ValidateBlock` and
everything below it) and `consensus/application.go` (`MidState.Apply*`), function by
function and check by check, **in the same order** (except in `validateMinerPayouts`, which tests all fees, then
all payouts, for zero before it sums them where Go alternates: same verdict, possibly another message), with

* hashes replaced by identities: element ids, addresses, keys, Merkle roots are
  opaque numbers supplied by the harness (which interns the real 32-byte values);
* authorisation replaced by its verdict: each v2 input carries `addrOk` (revealed policy
  hashes to the parent's address) and `authOk` (policy satisfied); a v1 input / revision
  carries the address its unlock conditions hash to (`ucAddr`, compared by the model) and
  the v1 transaction one `sigsOk`; v2 contracts, revisions and renewals carry signature
  verdicts; each storage proof carries `proofOk`;
* accumulator membership replaced by ledger membership (C04/C05 are the link);
* currency arithmetic on `Nat` with Go's behaviour made explicit: `addC`/`subC`
  panic exactly where unchecked `Add`/`Sub` would.

It is tied to the Go code by the `ledger-block` correspondence op.
-/
namespace Sia.Ledger

abbrev Id := Nat
abbrev Addr := Nat
abbrev Cur := Nat

/-- 2^128 -/
def curLimit : Nat := 340282366920938463463374607431768211456
/-- 2^64 -/
def u64Limit : Nat := 18446744073709551616

inductive Fail where
  | reject (msg : String)
  | panic (msg : String)
deriving Repr, DecidableEq

abbrev VM := Except Fail

def reject {α} (msg : String) : VM α := .error (.reject msg)
def gopanic {α} (msg : String) : VM α := .error (.panic msg)

/-- unchecked `Currency.Add` -/
def addC (a b : Cur) : VM Cur := if a + b < curLimit then pure (a + b) else gopanic "overflow"
/-- unchecked `Currency.Sub` -/
def subC (a b : Cur) : VM Cur := if b ≤ a then pure (a - b) else gopanic "underflow"
/-- unchecked `Currency.Mul64` -/
def mul64C (a : Cur) (n : Nat) : VM Cur := if a * n < curLimit then pure (a * n) else gopanic "overflow"

structure Params where
  initialCoinbase : Cur
  minimumCoinbase : Cur
  maturityDelay : Nat
  blocksPerYear : Nat          -- uint64(365*24h / BlockInterval)
  hfDevAddr : Nat
  devOldAddr : Addr
  devNewAddr : Addr
  hfTax : Nat
  hfStorageProof : Nat
  hfFoundation : Nat
  v2Allow : Nat
  v2Require : Nat
  ephemeralFix : Nat           -- HardforkV2.EphemeralOutputHeight
  voidAddr : Addr
deriving Repr, DecidableEq, Inhabited

structure ScOut where
  value : Cur
  addr : Addr
deriving Repr, DecidableEq, Inhabited

structure ScElem where
  id : Id
  value : Cur
  addr : Addr
  maturity : Nat
  leaf : Option Nat := none    -- none = UnassignedLeafIndex (ephemeral)
deriving Repr, DecidableEq, Inhabited

structure SfElem where
  id : Id
  value : Nat
  addr : Addr
  claimStart : Cur
  leaf : Option Nat := none
deriving Repr, DecidableEq, Inhabited

structure Fc1 where
  filesize : Nat
  root : Nat
  windowStart : Nat
  windowEnd : Nat
  payout : Cur
  valid : List ScOut
  missed : List ScOut
  unlockHash : Addr
  revNum : Nat
deriving Repr, DecidableEq, Inhabited

structure Fc1Elem where
  id : Id
  fc : Fc1
  leaf : Option Nat := none
deriving Repr, DecidableEq, Inhabited

structure Fc2 where
  capacity : Nat
  filesize : Nat
  root : Nat
  proofHeight : Nat
  expHeight : Nat
  renter : ScOut
  host : ScOut
  missedHost : Cur
  totalCollateral : Cur
  renterKey : Nat
  hostKey : Nat
  revNum : Nat
deriving Repr, DecidableEq, Inhabited

structure Fc2Elem where
  id : Id
  fc : Fc2
  leaf : Option Nat := none
deriving Repr, DecidableEq, Inhabited

/-- The consensus state as far as value, contracts and heights are concerned. -/
structure Ledger where
  P : Params
  child : Nat                      -- childHeight() of the state
  sc : List ScElem                 -- unspent siacoin elements
  sf : List SfElem
  fc1 : List Fc1Elem               -- unresolved v1 contracts
  fc2 : List Fc2Elem
  pool : Cur                       -- SiafundTaxRevenue
  fPrimary : Addr                  -- FoundationSubsidyAddress
  fFailsafe : Addr                 -- FoundationManagementAddress
  chain : List (Nat × Id)          -- (height, block id) of every ancestor (chain index elements)
deriving Repr, DecidableEq, Inhabited

-- ---------------------------------------------------------------- state.go helpers

def siacoins (n : Nat) : Cur := 1000000000000000000000000 * n

/-- `State.BlockReward` -/
def blockReward (L : Ledger) : Cur :=
  let sub := siacoins (L.child % 4294967296)
  if L.P.initialCoinbase < sub then L.P.minimumCoinbase
  else if L.P.initialCoinbase - sub < L.P.minimumCoinbase then L.P.minimumCoinbase
  else L.P.initialCoinbase - sub

def maturityHeight (L : Ledger) : Nat := L.child + L.P.maturityDelay

/-- `State.FoundationSubsidy`; the `%` by a zero `blocksPerMonth` would be a Go panic (the `/` by a zero block
interval is outside the model: `blocksPerYear` is a parameter). -/
def foundationSubsidy (L : Ledger) : VM (Option ScOut) :=
  if L.fPrimary = L.P.voidAddr then pure none
  else
    let perBlock := siacoins 30000
    let bpy := L.P.blocksPerYear
    let bpm := bpy / 12
    if bpm = 0 then
      -- `x % 0` panics in Go unless short-circuited by `childHeight < hardforkHeight`
      if L.child < L.P.hfFoundation then pure none else gopanic "integer divide by zero"
    else if L.child < L.P.hfFoundation ∨ (L.child - L.P.hfFoundation) % bpm ≠ 0 then pure none
    else if L.child = L.P.hfFoundation then do
      let v ← mul64C perBlock bpy
      pure (some { value := v, addr := L.fPrimary })
    else do
      let v ← mul64C perBlock bpm
      pure (some { value := v, addr := L.fPrimary })

/-- numerator of float64(0.039) over 2^57: 0.039 = 0x3FA3F7CED916872B -/
def taxNum : Nat := 5620492334958379
def taxDen : Nat := 144115188075855872

/-- `State.FileContractTax` -/
def fileContractTax (L : Ledger) (payout : Cur) : Cur :=
  let i := if L.child < L.P.hfTax then payout * taxNum / taxDen else payout * 39 / 1000
  (i - i % 10000) % curLimit

/-- `State.V2FileContractTax` (unchecked Add, Div64 25) -/
def v2Tax (fc : Fc2) : VM Cur := do
  let s ← addC fc.renter.value fc.host.value
  pure (s / 25)

def siafundCount : Nat := 10000

-- ---------------------------------------------------------------- MidState

structure ScDiff where
  e : ScElem
  created : Bool := false
  spent : Bool := false
deriving Repr, DecidableEq, Inhabited

structure SfDiff where
  e : SfElem
  created : Bool := false
  spent : Bool := false
deriving Repr, DecidableEq, Inhabited

structure Fc1Diff where
  e : Fc1Elem
  created : Bool := false
  revision : Option Fc1 := none
  resolved : Bool := false
  valid : Bool := false
deriving Repr, DecidableEq, Inhabited

inductive ResKind where
  | renewal | proof | expiration
deriving Repr, DecidableEq, Inhabited

structure Fc2Diff where
  e : Fc2Elem
  created : Bool := false
  revision : Option Fc2 := none
  resolution : Option ResKind := none
deriving Repr, DecidableEq, Inhabited

/-- which slice an id's diff lives in (Go keeps one `elements` map for all kinds) -/
inductive Kind where
  | sc | sf | fc1 | fc2 | att
deriving Repr, DecidableEq, Inhabited

structure Mid where
  base : Ledger
  elements : List (Id × Nat)       -- id ↦ index into the slice of its kind (first match wins, as a map)
  spends : List Id
  pool : Cur
  fPrimary : Addr
  fFailsafe : Addr
  sces : List ScDiff
  sfes : List SfDiff
  fces : List Fc1Diff
  v2fces : List Fc2Diff
  natts : Nat
deriving Repr, DecidableEq, Inhabited

def newMid (L : Ledger) : Mid :=
  { base := L, elements := [], spends := [], pool := L.pool, fPrimary := L.fPrimary, fFailsafe := L.fFailsafe,
    sces := [], sfes := [], fces := [], v2fces := [], natts := 0 }

def Mid.lookup (ms : Mid) (id : Id) : Option Nat := ms.elements.lookup id
def Mid.isSpent (ms : Mid) (id : Id) : Bool := ms.spends.contains id

def listSet {α} (l : List α) (i : Nat) (x : α) : List α := l.set i x

/-- `recordSiacoinElement` followed by a write of the whole diff -/
def Mid.putSc (ms : Mid) (id : Id) (f : ScDiff → ScDiff) : Mid :=
  match ms.lookup id with
  | some i => { ms with sces := listSet ms.sces i (f (ms.sces.getD i default)) }
  | none => { ms with sces := ms.sces ++ [f default], elements := ms.elements ++ [(id, ms.sces.length)] }

def Mid.putSf (ms : Mid) (id : Id) (f : SfDiff → SfDiff) : Mid :=
  match ms.lookup id with
  | some i => { ms with sfes := listSet ms.sfes i (f (ms.sfes.getD i default)) }
  | none => { ms with sfes := ms.sfes ++ [f default], elements := ms.elements ++ [(id, ms.sfes.length)] }

def Mid.putFc1 (ms : Mid) (id : Id) (f : Fc1Diff → Fc1Diff) : Mid :=
  match ms.lookup id with
  | some i => { ms with fces := listSet ms.fces i (f (ms.fces.getD i default)) }
  | none => { ms with fces := ms.fces ++ [f default], elements := ms.elements ++ [(id, ms.fces.length)] }

def Mid.putFc2 (ms : Mid) (id : Id) (f : Fc2Diff → Fc2Diff) : Mid :=
  match ms.lookup id with
  | some i => { ms with v2fces := listSet ms.v2fces i (f (ms.v2fces.getD i default)) }
  | none => { ms with v2fces := ms.v2fces ++ [f default], elements := ms.elements ++ [(id, ms.v2fces.length)] }

def Mid.createSc (ms : Mid) (id : Id) (o : ScOut) (maturity : Nat := 0) : Mid :=
  ms.putSc id fun d => { d with e := { id := id, value := o.value, addr := o.addr, maturity := maturity, leaf := none }, created := true }

def Mid.createImmatureSc (ms : Mid) (id : Id) (o : ScOut) : Mid :=
  ms.createSc id o (maturityHeight ms.base)

def Mid.spendSc (ms : Mid) (e : ScElem) : Mid :=
  let ms := ms.putSc e.id fun d => { d with e := e, spent := true }
  { ms with spends := e.id :: ms.spends }

def Mid.createSf (ms : Mid) (id : Id) (value : Nat) (addr : Addr) : Mid :=
  ms.putSf id fun d => { d with e := { id := id, value := value, addr := addr, claimStart := ms.pool, leaf := none }, created := true }

def Mid.spendSf (ms : Mid) (e : SfElem) : Mid :=
  let ms := ms.putSf e.id fun d => { d with e := e, spent := true }
  { ms with spends := e.id :: ms.spends }

def Mid.createFc1 (ms : Mid) (id : Id) (fc : Fc1) : VM Mid := do
  let ms := ms.putFc1 id fun d => { d with e := { id := id, fc := fc, leaf := none }, created := true }
  let pool ← addC ms.pool (fileContractTax ms.base fc.payout)
  pure { ms with pool := pool }

def Mid.reviseFc1 (ms : Mid) (e : Fc1Elem) (rev : Fc1) : Mid :=
  let rev := { rev with payout := e.fc.payout }
  ms.putFc1 e.id fun d =>
    if d.created then { d with e := { d.e with fc := rev } }
    else if d.revision.isSome then { d with revision := some rev }
    else { d with e := e, revision := some rev }

def Mid.resolveFc1 (ms : Mid) (e : Fc1Elem) (valid : Bool) : Mid :=
  let ms := ms.putFc1 e.id fun d =>
    -- a contract revised earlier in the block keeps its pre-block element
    if d.revision.isSome then { d with resolved := true, valid := valid }
    else { d with e := e, resolved := true, valid := valid }
  { ms with spends := e.id :: ms.spends }

def Mid.createFc2 (ms : Mid) (id : Id) (fc : Fc2) : VM Mid := do
  let ms := ms.putFc2 id fun d => { d with e := { id := id, fc := fc, leaf := none }, created := true }
  let tax ← v2Tax fc
  let pool ← addC ms.pool tax
  pure { ms with pool := pool }

def Mid.reviseFc2 (ms : Mid) (e : Fc2Elem) (rev : Fc2) : Mid :=
  ms.putFc2 e.id fun d =>
    if d.created then { d with e := { d.e with fc := rev } }
    else if d.revision.isSome then { d with revision := some rev }
    else { d with e := e, revision := some rev }

def Mid.resolveFc2 (ms : Mid) (e : Fc2Elem) (k : ResKind) : VM Mid :=
  match ms.lookup e.id with
  | some i =>
    if (ms.v2fces.getD i default).created then gopanic "consensus: resolved a newly-created v2 contract"
    else
      let ms := ms.putFc2 e.id fun d => { d with e := e, resolution := some k }
      pure { ms with spends := e.id :: ms.spends }
  | none =>
    let ms := ms.putFc2 e.id fun d => { d with e := e, resolution := some k }
    pure { ms with spends := e.id :: ms.spends }

-- ---------------------------------------------------------------- transactions (abstracted)

structure ScIn1 where
  parent : Id
  timelock : Nat       -- UnlockConditions.Timelock
  ucAddr : Addr        -- UnlockConditions.UnlockHash()
deriving Repr, DecidableEq, Inhabited

structure SfIn1 where
  parent : Id
  timelock : Nat
  ucAddr : Addr
  claimAddr : Addr
  claimId : Id         -- ParentID.ClaimOutputID()
deriving Repr, DecidableEq, Inhabited

structure Rev1 where
  parent : Id
  timelock : Nat
  ucAddr : Addr
  fc : Fc1
deriving Repr, DecidableEq, Inhabited

structure Proof1 where
  parent : Id
  proofOk : Bool       -- storageProofRoot(...) == FileMerkleRoot for the era's leaf and not "too few proof hashes" (or leaf == nil)
  outIds : List Id     -- ParentID.ValidOutputID(i)
deriving Repr, DecidableEq, Inhabited

structure Supp1 where
  scIns : List ScElem
  sfIns : List SfElem
  revised : List Fc1Elem
  proofs : List (Fc1Elem × Id)    -- contract, window id
deriving Repr, DecidableEq, Inhabited

structure Txn1 where
  scIns : List ScIn1
  scOuts : List (Id × ScOut)
  fcs : List (Id × Fc1)
  revs : List Rev1
  proofs : List Proof1
  sfIns : List SfIn1
  sfOuts : List (Id × Nat × Addr)
  fees : List Cur
  foundation : Option (Option (Addr × Addr) × Bool)  -- arbitrary data with the foundation prefix: decoded update (none = undecodable), signed-by-current-key verdict
  sigsOk : Bool        -- validateSignatures verdict with duplicate-parent detection excluded
  weight : Nat
  supp : Supp1
deriving Repr, DecidableEq, Inhabited

structure ScIn2 where
  parent : ScElem
  addrOk : Bool        -- Policy.Address() == parent address
  authOk : Bool        -- Policy.Verify(...) == nil
deriving Repr, DecidableEq, Inhabited

structure SfIn2 where
  parent : SfElem
  claimAddr : Addr
  claimId : Id
  addrOk : Bool
  authOk : Bool
deriving Repr, DecidableEq, Inhabited

structure Rev2 where
  parent : Fc2Elem
  rev : Fc2
  sigCurOk : Bool      -- signatures of the revision verify under the keys of the contract as it currently stands
deriving Repr, DecidableEq, Inhabited

structure Renewal where
  finalRenter : ScOut
  finalHost : ScOut
  renterRollover : Cur
  hostRollover : Cur
  newContract : Fc2
  newId : Id
  newSigOk : Bool
  sigOk : Bool
deriving Repr, DecidableEq, Inhabited

inductive Res2 where
  | renewal (r : Renewal)
  | proof (indexHeight : Nat) (indexId : Id) (indexLeafOk : Bool) (proofOk : Bool)
  | expiration
deriving Repr, DecidableEq, Inhabited

structure Resolution2 where
  parent : Fc2Elem
  res : Res2
  renterOutId : Id
  hostOutId : Id
deriving Repr, DecidableEq, Inhabited

structure Txn2 where
  scIns : List ScIn2
  scOuts : List (Id × ScOut)
  sfIns : List SfIn2
  sfOuts : List (Id × Nat × Addr)
  fcs : List (Id × Fc2 × Bool)       -- contract, signatures ok
  revs : List Rev2
  ress : List Resolution2
  natts : Nat
  attsOk : Bool
  newFoundation : Option Addr
  fee : Cur
  weight : Nat
deriving Repr, DecidableEq, Inhabited

structure Block where
  txns1 : List Txn1
  v2 : Option (Nat × Bool × List Txn2)     -- height, commitment ok, transactions
  payouts : List (Id × ScOut)
  foundationOutId : Id
  expiring : List (Fc1Elem × List Id)      -- supplement ExpiringFileContracts with their MissedOutputID(i)
  headerOk : Bool                           -- ValidateHeader verdict (C13)
  blockId : Id
  maxWeight : Nat
  suppLenOk : Bool := true                  -- len(bs.Transactions) == len(b.Transactions)
deriving Repr, DecidableEq, Inhabited

-- ---------------------------------------------------------------- element lookups (state.go)

/-- the in-block diff of kind siacoin recorded under `id`, if any: `ms.elements` is shared by all
kinds, so the index is used only when it is in range and the diff found there carries `id` -/
def Mid.scDiff? (ms : Mid) (id : Id) : Option ScDiff :=
  match ms.lookup id with
  | some i => if i < ms.sces.length ∧ (ms.sces.getD i default).e.id = id then some (ms.sces.getD i default) else none
  | none => none

def Mid.sfDiff? (ms : Mid) (id : Id) : Option SfDiff :=
  match ms.lookup id with
  | some i => if i < ms.sfes.length ∧ (ms.sfes.getD i default).e.id = id then some (ms.sfes.getD i default) else none
  | none => none

def Mid.fc1Diff? (ms : Mid) (id : Id) : Option Fc1Diff :=
  match ms.lookup id with
  | some i => if i < ms.fces.length ∧ (ms.fces.getD i default).e.id = id then some (ms.fces.getD i default) else none
  | none => none

def Mid.scElement (ms : Mid) (ts : Supp1) (id : Id) : Option ScElem :=
  match ms.scDiff? id with
  | some d => some d.e
  | none => ts.scIns.find? (·.id = id)

def Mid.sfElement (ms : Mid) (ts : Supp1) (id : Id) : Option SfElem :=
  match ms.sfDiff? id with
  | some d => some d.e
  | none => ts.sfIns.find? (·.id = id)

def Fc1Diff.current (d : Fc1Diff) : Fc1Elem :=
  match d.revision with
  | some r => { d.e with fc := r }
  | none => d.e

def Mid.fc1Element (ms : Mid) (ts : Supp1) (id : Id) : Option Fc1Elem :=
  match ms.fc1Diff? id with
  | some d => some d.current
  | none =>
    match ts.revised.find? (·.id = id) with
    | some e => some e
    | none => (ts.proofs.find? (·.1.id = id)).map (·.1)

def Mid.windowId (ms : Mid) (ts : Supp1) (id : Id) (parentBlockId : Id) : Option Id :=
  match ms.fc1Diff? id with
  | some d =>
    if d.e.fc.windowStart = ms.base.child then some parentBlockId
    else (ts.proofs.find? (·.1.id = id)).map (·.2)
  | none => (ts.proofs.find? (·.1.id = id)).map (·.2)

-- ---------------------------------------------------------------- v1 validation

def sumOuts (l : List ScOut) : VM Cur := l.foldlM (fun s o => addC s o.value) 0

/-- checked running sum as in `validateCurrencyOverflow` -/
def sumChecked (vals : List Cur) : Option Cur :=
  vals.foldl (fun s v => match s with
    | some s => if s + v < curLimit then some (s + v) else none
    | none => none) (some 0)

def Txn1.currencyValues (t : Txn1) : List Cur :=
  t.scOuts.map (·.2.value) ++
  (t.fcs.map fun (_, fc) => [fc.payout] ++ fc.valid.map (·.value) ++ fc.missed.map (·.value)).flatten ++
  (t.revs.map fun r => r.fc.valid.map (·.value) ++ r.fc.missed.map (·.value)).flatten

def validateCurrencyOverflow (t : Txn1) : VM Unit :=
  if (sumChecked t.currencyValues).isNone ∨ t.sfOuts.any (fun (_, v, _) => v > 10000) then
    reject "transaction outputs exceed inputs"
  else pure ()

/-- the siafund-pool half of `validateCurrencyOverflow` (fix "contract tax overflows the siafund pool"):
the taxes of the transaction's new contracts, added one by one to the running pool, stay below 2^128 -/
def validateTaxPool (ms : Mid) (t : Txn1) : VM Unit :=
  if (sumChecked (ms.pool :: t.fcs.map (fun f => fileContractTax ms.base f.2.payout))).isNone then
    reject "transaction contract tax overflows the siafund pool"
  else pure ()

def validateMinimumValues (t : Txn1) : VM Unit :=
  if t.scOuts.any (·.2.value = 0) ∨ t.fcs.any (·.2.payout = 0) ∨ t.sfOuts.any (fun (_, v, _) => v = 0) ∨ t.fees.any (· = 0) then
    reject "transaction creates a zero-valued output"
  else pure ()

def validateSiacoins (ms : Mid) (t : Txn1) : VM Unit := do
  let inputSum ← t.scIns.foldlM (fun (sum : Cur) sci => do
    if sci.timelock > ms.base.child then reject "siacoin input has timelocked parent"
    else if ms.isSpent sci.parent then reject "siacoin input double-spends parent output"
    else match ms.scElement t.supp sci.parent with
      | none => reject "siacoin input spends nonexistent siacoin output"
      | some p =>
        if sci.ucAddr ≠ p.addr then reject "siacoin input claims incorrect unlock conditions"
        else if p.maturity > ms.base.child then reject "siacoin input has immature parent"
        -- checked: a parent listed twice is only detected later, by `validateSignatures`
        else if sum + p.value < curLimit then pure (sum + p.value) else reject "siacoin inputs overflow") 0
  let o1 ← t.scOuts.foldlM (fun s o => addC s o.2.value) 0
  let o2 ← t.fcs.foldlM (fun s f => addC s f.2.payout) o1
  -- miner fees are not covered by `validateCurrencyOverflow`: checked addition, overflow rejects
  let outputSum ← t.fees.foldlM (fun (s : Cur) f => if s + f < curLimit then pure (s + f) else reject "transaction outputs exceed inputs") o2
  if inputSum ≠ outputSum then reject "siacoin inputs do not equal outputs" else pure ()

def validateSiafunds (ms : Mid) (t : Txn1) : VM Unit := do
  let inputSum ← t.sfIns.foldlM (fun (sum : Nat) sfi => do
    if sfi.timelock > ms.base.child then reject "siafund input has timelocked parent"
    else if ms.isSpent sfi.parent then reject "siafund input double-spends parent output"
    else match ms.sfElement t.supp sfi.parent with
      | none => reject "siafund input spends nonexistent siafund output"
      | some p =>
        if sfi.ucAddr ≠ p.addr ∧
            ¬ (ms.base.child ≥ ms.base.P.hfDevAddr ∧ p.addr = ms.base.P.devOldAddr ∧ sfi.ucAddr = ms.base.P.devNewAddr) then
          reject "siafund input claims incorrect unlock conditions"
        else pure ((sum + p.value) % u64Limit)) 0
  let outputSum := t.sfOuts.foldl (fun s (_, v, _) => (s + v) % u64Limit) 0
  if inputSum ≠ outputSum then reject "siafund inputs do not equal outputs" else pure ()

def validateFileContracts (ms : Mid) (t : Txn1) (parentBlockId : Id) : VM Unit := do
  for (_, fc) in t.fcs do
    if fc.windowStart < ms.base.child then reject "file contract has window that starts in the past"
    else if fc.windowEnd ≤ fc.windowStart then reject "file contract has window that ends before it begins"
    else
      let validSum ← sumOuts fc.valid
      let missedSum ← sumOuts fc.missed
      if validSum ≠ missedSum then reject "file contract has valid payout that does not equal missed payout"
      else
        let want ← addC validSum (fileContractTax ms.base fc.payout)
        if fc.payout ≠ want then reject "file contract has payout with incorrect tax" else pure ()
  for r in t.revs do
    if r.timelock > ms.base.child then reject "file contract revision has timelocked parent"
    else if r.fc.windowStart < ms.base.child then reject "file contract revision has window that starts in the past"
    else if r.fc.windowEnd ≤ r.fc.windowStart then reject "file contract revision has window that ends before it begins"
    else if ms.isSpent r.parent then reject "file contract revision conflicts with previous proof or revision"
    else match ms.fc1Element t.supp r.parent with
      | none => reject "file contract revision revises nonexistent file contract"
      | some p =>
        if p.fc.windowStart < ms.base.child then reject "file contract revision revises contract after its proof window has opened"
        else if r.fc.revNum ≤ p.fc.revNum then reject "file contract revision does not have a higher revision number than its parent"
        else if r.ucAddr ≠ p.fc.unlockHash then reject "file contract revision claims incorrect unlock conditions"
        else
          let a ← sumOuts r.fc.valid
          let b ← sumOuts p.fc.valid
          if a ≠ b then reject "file contract revision changes valid payout sum"
          else
            let c ← sumOuts r.fc.missed
            let d ← sumOuts p.fc.missed
            if c ≠ d then reject "file contract revision changes missed payout sum" else pure ()
  if t.proofs.length > 0 ∧ (t.scOuts.length > 0 ∨ t.sfOuts.length > 0 ∨ t.fcs.length > 0 ∨ t.revs.length > 0) then
    reject "transaction contains both a storage proof and other outputs"
  else if ¬ (t.proofs.map (·.parent)).Nodup then reject "storage proof resolves contract already resolved"
  else
    for sp in t.proofs do
      if ms.isSpent sp.parent then reject "storage proof conflicts with previous proof"
      else match ms.fc1Element t.supp sp.parent with
        | none => reject "storage proof references nonexistent file contract"
        | some _ =>
          match ms.windowId t.supp sp.parent parentBlockId with
          | none => reject "storage proof cannot be submitted until after window start"
          | some _ => if sp.proofOk then pure () else reject "storage proof has root that does not match contract Merkle root"

def validateArbitraryData (ms : Mid) (t : Txn1) : VM Unit :=
  if ms.base.child < ms.base.P.hfFoundation then pure ()
  else match t.foundation with
    | none => pure ()
    | some (none, _) => reject "improperly-encoded FoundationAddressUpdate"
    | some (some (p, f), signed) =>
      if p = ms.base.P.voidAddr ∨ f = ms.base.P.voidAddr then reject "uninitialized FoundationAddressUpdate"
      else if signed then pure () else reject "unsigned FoundationAddressUpdate"

/-- the duplicate-parent detection of `validateSignatures` (the rest is `sigsOk`) -/
def validateSignatures (t : Txn1) : VM Unit :=
  let ids := t.scIns.map (·.parent) ++ t.sfIns.map (·.parent) ++ t.revs.map (·.parent)
  if ¬ ids.Nodup then reject "transaction spends or revises a parent more than once"
  else if t.sigsOk then pure () else reject "invalid signatures"

def validateTransaction (ms : Mid) (t : Txn1) (parentBlockId : Id) (maxWeight : Nat) : VM Unit := do
  if ms.base.child ≥ ms.base.P.v2Require then reject "v1 transactions are not allowed after v2 hardfork is complete"
  validateCurrencyOverflow t
  validateTaxPool ms t
  if t.weight > maxWeight then reject "transaction exceeds maximum block weight"
  validateMinimumValues t
  validateSiacoins ms t
  validateSiafunds ms t
  validateFileContracts ms t parentBlockId
  validateArbitraryData ms t
  validateSignatures t

-- ---------------------------------------------------------------- v1 application

def claimPortion (pool claimStart : Cur) (value : Nat) : VM Cur := do
  let d ← subC pool claimStart
  mul64C (d / siafundCount) value

def applyTransaction (ms : Mid) (t : Txn1) : VM Mid := do
  let mut ms := ms
  for sci in t.scIns do
    match ms.scElement t.supp sci.parent with
    | none => gopanic "missing SiacoinElement"
    | some e => ms := ms.spendSc e
  for (id, o) in t.scOuts do
    ms := ms.createSc id o
  for sfi in t.sfIns do
    match ms.sfElement t.supp sfi.parent with
    | none => gopanic "missing SiafundElement"
    | some e =>
      let c ← claimPortion ms.pool e.claimStart e.value
      ms := ms.spendSf e
      ms := ms.createImmatureSc sfi.claimId { value := c, addr := sfi.claimAddr }
  for (id, v, a) in t.sfOuts do
    ms := ms.createSf id v a
  for (id, fc) in t.fcs do
    ms ← ms.createFc1 id fc
  for r in t.revs do
    match ms.fc1Element t.supp r.parent with
    | none => gopanic "missing FileContractElement"
    | some e => ms := ms.reviseFc1 e r.fc
  for sp in t.proofs do
    match ms.fc1Element t.supp sp.parent with
    | none => gopanic "missing V1StorageProofSupplement"
    | some e =>
      ms := ms.resolveFc1 e true
      for (o, id) in e.fc.valid.zip sp.outIds do
        ms := ms.createImmatureSc id o
  -- Foundation update (note: compares the *parent* height with the hardfork height)
  if ms.base.child ≥ ms.base.P.hfFoundation + 1 then
    match t.foundation with
    | some (some (p, f), _) => ms := { ms with fPrimary := p, fFailsafe := f }
    | some (none, _) => ms := { ms with fPrimary := 0, fFailsafe := 0 }   -- undecodable update: Go stores the bytes the short read delivered, zero-padded; the abstraction does not carry them (0 is a placeholder); never reached after validation
    | none => pure ()
  pure ms

-- ---------------------------------------------------------------- v2 validation

def Fc2.values (fc : Fc2) : List Cur := [fc.renter.value, fc.host.value, fc.missedHost, fc.totalCollateral]

/-- `validateV2CurrencyOverflow` -/
def validateV2CurrencyOverflow (t : Txn2) : VM Unit :=
  let contract (fc : Fc2) : Option (List Cur) :=
    if fc.renter.value + fc.host.value < curLimit then some (fc.values ++ [(fc.renter.value + fc.host.value) / 25]) else none
  let parts : List (Option (List Cur)) :=
    [some (t.scOuts.map (·.2.value))] ++ t.fcs.map (fun (_, fc, _) => contract fc) ++ t.revs.map (fun r => contract r.rev) ++
    (t.ress.map fun r => match r.res with
      | .renewal rn => (contract rn.newContract).map (· ++ [rn.finalRenter.value, rn.finalHost.value, rn.renterRollover, rn.hostRollover])
      | _ => some []) ++ [some [t.fee]]
  if parts.any (·.isNone) then reject "transaction outputs exceed inputs"
  else if (sumChecked (parts.filterMap id).flatten).isNone ∨ t.sfOuts.any (fun (_, v, _) => v > 10000) then
    reject "transaction outputs exceed inputs"
  else pure ()

/-- the siafund-pool half of `validateV2CurrencyOverflow`: taxes of new contracts and of renewals' new contracts
(each `renter + host < 2^128` has been established by `validateV2CurrencyOverflow` at this point) -/
def validateV2TaxPool (ms : Mid) (t : Txn2) : VM Unit :=
  let taxes : List Cur := t.fcs.map (fun (_, fc, _) => (fc.renter.value + fc.host.value) / 25) ++
    t.ress.filterMap (fun r => match r.res with
      | .renewal rn => some ((rn.newContract.renter.value + rn.newContract.host.value) / 25)
      | _ => none)
  if (sumChecked (ms.pool :: taxes)).isNone then reject "transaction contract tax overflows the siafund pool"
  else pure ()

def Ledger.hasSc (L : Ledger) (e : ScElem) : Bool := L.sc.contains e
def Ledger.hasSf (L : Ledger) (e : SfElem) : Bool := L.sf.contains e
def Ledger.hasFc1 (L : Ledger) (e : Fc1Elem) : Bool := L.fc1.contains e
def Ledger.hasFc2 (L : Ledger) (e : Fc2Elem) : Bool := L.fc2.contains e

def validateEphemeralSc (ms : Mid) (sci : ScIn2) : VM Unit :=
  match ms.lookup sci.parent.id with
  | none => reject "spends nonexistent ephemeral output"
  | some j =>
    if j ≥ ms.sces.length ∨ ¬ (ms.sces.getD j default).created then reject "spends nonexistent ephemeral output"
    else if ms.base.child < ms.base.P.ephemeralFix then pure ()
    else
      let e := (ms.sces.getD j default).e
      if sci.parent.id ≠ e.id then reject "spends nonexistent ephemeral output"
      else if sci.parent.value ≠ e.value ∨ sci.parent.addr ≠ e.addr then reject "claims incorrect value for ephemeral output"
      else if sci.parent.maturity ≠ e.maturity then reject "claims incorrect maturity height for ephemeral output"
      else pure ()

def validateV2Siacoins (ms : Mid) (t : Txn2) : VM Unit := do
  let _ ← t.scIns.foldlM (fun (seen : List Id) sci => do
    if ms.isSpent sci.parent.id then reject "siacoin input double-spends parent output"
    else if seen.contains sci.parent.id then reject "siacoin input double-spends parent output (previously spent by input)"
    else if sci.parent.maturity > ms.base.child then reject "siacoin input has immature parent"
    else
      (match sci.parent.leaf with
       | none => validateEphemeralSc ms sci
       | some _ => if ms.base.hasSc sci.parent then pure () else reject "siacoin input spends output not present in the accumulator")
      if ¬ sci.addrOk then reject "claims incorrect policy for parent address"
      else if ¬ sci.authOk then reject "failed to satisfy spend policy"
      else pure (sci.parent.id :: seen)) []
  -- checked: below the ephemeral fix height claimed ephemeral values are not bounded by the supply
  let inputSum0 ← t.scIns.foldlM (fun (s : Cur) sci => if s + sci.parent.value < curLimit then pure (s + sci.parent.value) else reject "siacoin inputs overflow") 0
  let outputSum0 ← t.scOuts.foldlM (fun (s : Cur) o => if o.2.value = 0 then reject "siacoin output has zero value" else addC s o.2.value) 0
  let outputSum1 ← t.fcs.foldlM (fun s (_, fc, _) => do
    let a ← addC s fc.renter.value
    let b ← addC a fc.host.value
    let tax ← v2Tax fc
    addC b tax) outputSum0
  let (inputSum, outputSum2) ← t.ress.foldlM (fun ((i, o) : Cur × Cur) r => match r.res with
    | .renewal rn => do
      -- checked: the rollovers are bounded by the overflow pre-check, their sum with the inputs is not
      let i1 ← if i + rn.renterRollover < curLimit then pure (i + rn.renterRollover) else reject "siacoin inputs overflow"
      let i2 ← if i1 + rn.hostRollover < curLimit then pure (i1 + rn.hostRollover) else reject "siacoin inputs overflow"
      let a ← addC o rn.newContract.renter.value
      let b ← addC a rn.newContract.host.value
      let tax ← v2Tax rn.newContract
      let c ← addC b tax
      pure (i2, c)
    | _ => pure (i, o)) (inputSum0, outputSum1)
  let outputSum ← addC outputSum2 t.fee
  if inputSum ≠ outputSum then reject "siacoin inputs do not equal outputs" else pure ()

def validateEphemeralSf (ms : Mid) (sfi : SfIn2) : VM Unit :=
  match ms.lookup sfi.parent.id with
  | none => reject "spends nonexistent ephemeral output"
  | some j =>
    if j ≥ ms.sfes.length ∨ ¬ (ms.sfes.getD j default).created then reject "spends nonexistent ephemeral output"
    else if ms.base.child ≥ ms.base.P.ephemeralFix then reject "spends ephemeral output"
    -- legacy window: the claimed record is unchecked, but its claim must be computable
    else if sfi.parent.claimStart > ms.pool then reject "claims invalid claim start for ephemeral output"
    else if (ms.pool - sfi.parent.claimStart) / siafundCount * sfi.parent.value ≥ curLimit then reject "claims invalid value for ephemeral output"
    else pure ()

def validateV2Siafunds (ms : Mid) (t : Txn2) : VM Unit := do
  let _ ← t.sfIns.foldlM (fun (seen : List Id) sfi => do
    if ms.isSpent sfi.parent.id then reject "siafund input double-spends parent output"
    else if seen.contains sfi.parent.id then reject "siafund input double-spends parent output (previously spent by input)"
    else
      (match sfi.parent.leaf with
       | none => validateEphemeralSf ms sfi
       | some _ => if ms.base.hasSf sfi.parent then pure () else reject "siafund input spends output not present in the accumulator")
      if ¬ sfi.addrOk then reject "claims incorrect policy for parent address"
      else if ¬ sfi.authOk then reject "failed to satisfy spend policy"
      else pure (sfi.parent.id :: seen)) []
  let inputSum := t.sfIns.foldl (fun s i => (s + i.parent.value) % u64Limit) 0
  let outputSum ← t.sfOuts.foldlM (fun (s : Nat) (_, v, _) => if v = 0 then reject "siafund output has zero value" else pure ((s + v) % u64Limit)) 0
  if inputSum ≠ outputSum then reject "siafund inputs do not equal outputs" else pure ()

def cmpGt (a b : Cur) : Bool := a > b

/-- `validateContract` closure, signatures as a verdict -/
def validateContract2 (ms : Mid) (fc : Fc2) (sigOk : Bool) : VM Unit :=
  if fc.filesize > fc.capacity then reject "has filesize exceeding capacity"
  else if fc.proofHeight < ms.base.child then reject "has proof height that has already passed"
  else if fc.expHeight ≤ fc.proofHeight then reject "leaves no time between proof height and expiration height"
  else if fc.renter.value = 0 ∧ fc.host.value = 0 then reject "has zero value"
  else if fc.missedHost > fc.host.value then reject "has missed host value exceeding valid host value"
  else if fc.totalCollateral > fc.host.value then reject "has total collateral exceeding valid host value"
  else if sigOk then pure () else reject "has invalid signature"

def validateParent2 (ms : Mid) (revised resolved : List Id) (e : Fc2Elem) : VM Unit :=
  if ms.isSpent e.id then reject "has already been resolved in transaction"
  else if revised.contains e.id then reject "has already been revised by contract revision"
  else if resolved.contains e.id then reject "has already been resolved by contract resolution"
  else if ¬ ms.base.hasFc2 e then reject "is not present in the accumulator"
  else pure ()

def validateRevision2 (ms : Mid) (e : Fc2Elem) (rev : Fc2) (sigCurOk : Bool) : VM Unit := do
  let cur := match ms.lookup e.id with
    | some i => match (ms.v2fces.getD i default).revision with
      | some r => r
      | none => e.fc
    | none => e.fc
  let curSum ← addC cur.renter.value cur.host.value
  let revSum ← addC rev.renter.value rev.host.value
  if rev.capacity < cur.capacity then reject "decreases capacity"
  else if rev.filesize > rev.capacity then reject "has filesize exceeding capacity"
  else if cur.proofHeight < ms.base.child then reject "revises contract after its proof window has opened"
  else if rev.revNum ≤ cur.revNum then reject "does not increase revision number"
  else if revSum ≠ curSum then reject "modifies output sum"
  else if rev.missedHost > cur.missedHost then reject "has missed host value exceeding old value"
  else if ms.base.child ≥ ms.base.P.ephemeralFix ∧ rev.missedHost > rev.host.value then reject "has missed host value exceeding valid host value"
  else if rev.totalCollateral ≠ cur.totalCollateral then reject "modifies total collateral"
  else if rev.proofHeight < ms.base.child then reject "has proof height that has already passed"
  else if rev.expHeight ≤ rev.proofHeight then reject "leaves no time between proof height and expiration height"
  else if sigCurOk then pure () else reject "has invalid signature"

def validateV2FileContracts (ms : Mid) (t : Txn2) : VM Unit := do
  for (_, fc, sigOk) in t.fcs do
    validateContract2 ms fc sigOk
  let revised ← t.revs.foldlM (fun (revised : List Id) r => do
    validateParent2 ms revised [] r.parent
    if r.parent.fc.proofHeight < ms.base.child then reject "file contract revision cannot be applied to contract after proof height"
    validateRevision2 ms r.parent r.rev r.sigCurOk
    pure (r.parent.id :: revised)) []
  let _ ← t.ress.foldlM (fun (resolved : List Id) r => do
    validateParent2 ms revised resolved r.parent
    let fc := r.parent.fc
    match r.res with
    | .renewal rn =>
      if fc.renterKey ≠ rn.newContract.renterKey then reject "file contract renewal changes renter public key"
      else if fc.hostKey ≠ rn.newContract.hostKey then reject "file contract renewal changes host public key"
      else
        let a ← addC rn.finalRenter.value rn.renterRollover
        let b ← addC a rn.finalHost.value
        let totalPayout ← addC b rn.hostRollover
        let existing ← addC fc.renter.value fc.host.value
        if totalPayout ≠ existing then reject "renewal payout does not match existing contract payout"
        else
          let c ← addC rn.newContract.renter.value rn.newContract.host.value
          let tax ← v2Tax rn.newContract
          let cost ← addC c tax
          let rollover ← addC rn.renterRollover rn.hostRollover
          if rollover > cost then reject "file contract renewal has rollover exceeding new contract cost"
          else
            validateContract2 ms rn.newContract rn.newSigOk
            if rn.sigOk then pure () else reject "file contract renewal has invalid signature"
    | .proof ih iid leafOk proofOk =>
      if ms.base.child < fc.proofHeight then reject "file contract storage proof cannot be submitted until after proof height"
      else if ih ≠ fc.proofHeight then reject "file contract storage proof has ProofIndex height that does not match contract ProofHeight"
      else if ¬ (leafOk ∧ ms.base.chain.contains (ih, iid)) then reject "file contract storage proof has invalid history proof"
      else if ¬ proofOk then reject "file contract storage proof has root that does not match contract Merkle root"
      else pure ()
    | .expiration =>
      if ms.base.child ≤ fc.expHeight then reject "file contract expiration cannot be submitted until after expiration height"
      else pure ()
    pure (r.parent.id :: resolved)) []
  pure ()

def validateFoundationUpdate (ms : Mid) (t : Txn2) : VM Unit :=
  match t.newFoundation with
  | none => pure ()
  | some _ =>
    if t.scIns.any (fun i => i.parent.addr = ms.base.fFailsafe) then pure ()
    else reject "transaction changes Foundation address, but does not spend an input controlled by current address"

def validateV2Transaction (ms : Mid) (t : Txn2) (maxWeight : Nat) : VM Unit := do
  if ms.base.child < ms.base.P.v2Allow then reject "v2 transactions are not allowed until v2 hardfork begins"
  validateV2CurrencyOverflow t
  validateV2TaxPool ms t
  if t.weight = 0 then reject "transactions cannot be empty"
  if t.weight > maxWeight then reject "transaction exceeds maximum block weight"
  validateV2Siacoins ms t
  validateV2Siafunds ms t
  validateV2FileContracts ms t
  if ¬ t.attsOk then reject "attestation invalid"
  validateFoundationUpdate ms t

-- ---------------------------------------------------------------- v2 application

def applyV2Transaction (ms : Mid) (t : Txn2) : VM Mid := do
  let mut ms := ms
  for sci in t.scIns do
    ms := ms.spendSc sci.parent
  for (id, o) in t.scOuts do
    ms := ms.createSc id o
  for sfi in t.sfIns do
    ms := ms.spendSf sfi.parent
    let c ← claimPortion ms.pool sfi.parent.claimStart sfi.parent.value
    ms := ms.createImmatureSc sfi.claimId { value := c, addr := sfi.claimAddr }
  for (id, v, a) in t.sfOuts do
    ms := ms.createSf id v a
  for (id, fc, _) in t.fcs do
    ms ← ms.createFc2 id fc
  for r in t.revs do
    ms := ms.reviseFc2 r.parent r.rev
  for r in t.ress do
    let fc := r.parent.fc
    match r.res with
    | .renewal rn =>
      ms ← ms.resolveFc2 r.parent .renewal
      ms ← ms.createFc2 rn.newId rn.newContract
      ms := ms.createImmatureSc r.renterOutId rn.finalRenter
      ms := ms.createImmatureSc r.hostOutId rn.finalHost
    | .proof _ _ _ _ =>
      ms ← ms.resolveFc2 r.parent .proof
      ms := ms.createImmatureSc r.renterOutId fc.renter
      ms := ms.createImmatureSc r.hostOutId fc.host
    | .expiration =>
      ms ← ms.resolveFc2 r.parent .expiration
      ms := ms.createImmatureSc r.renterOutId fc.renter
      ms := ms.createImmatureSc r.hostOutId { value := fc.missedHost, addr := fc.host.addr }
  ms := { ms with natts := ms.natts + t.natts }
  match t.newFoundation with
  | some a =>
    ms := { ms with fPrimary := a }
    if a ≠ ms.base.P.voidAddr then ms := { ms with fFailsafe := a }
  | none => pure ()
  pure ms

-- ---------------------------------------------------------------- blocks

def validateMinerPayouts (L : Ledger) (b : Block) : VM Unit := do
  let fees1 := (b.txns1.map (·.fees)).flatten
  if fees1.any (· = 0) then reject "transaction fee has zero value"
  let e1 ← match sumChecked (blockReward L :: fees1) with
    | some s => pure s
    | none => reject "transaction fees overflow"
  let expected ← match b.v2 with
    | some (_, _, txns) =>
      match sumChecked (e1 :: txns.map (·.fee)) with
      | some s => if b.payouts.length ≠ 1 then reject "block must have exactly one miner payout" else pure s
      | none => reject "v2 transaction fees overflow"
    | none => pure e1
  if b.payouts.any (·.2.value = 0) then reject "miner payout has zero value"
  match sumChecked (b.payouts.map (·.2.value)) with
  | none => reject "miner payouts overflow"
  | some sum => if sum ≠ expected then reject "miner payout sum does not match block reward + fees" else pure ()

def validateOrphan (L : Ledger) (b : Block) : VM Unit := do
  let w := (b.txns1.map (·.weight)).foldl (fun a x => (a + x) % u64Limit) 0
  let w := (match b.v2 with | some (_, _, ts) => ts.map Txn2.weight | none => []).foldl (fun a x => (a + x) % u64Limit) w
  if w > b.maxWeight then reject "block exceeds maximum weight"
  validateMinerPayouts L b
  if ¬ b.headerOk then reject "block has invalid header"
  match b.v2 with
  | some (h, _, _) => if h ≠ L.child then reject "block height does not increment parent height" else pure ()
  | none => pure ()

def validateSupplement (L : Ledger) (b : Block) : VM Unit := do
  if L.child ≥ L.P.v2Require ∧ (b.txns1.length ≠ 0 ∨ b.expiring.length ≠ 0) then
    reject "v1 block supplements are not allowed after v2 hardfork is complete"
  if ¬ b.suppLenOk then reject "incorrect number of transactions"
  for t in b.txns1 do
    if ¬ t.supp.scIns.all L.hasSc then reject "siacoin element is not present in the accumulator"
    if ¬ t.supp.sfIns.all L.hasSf then reject "siafund element is not present in the accumulator"
    if ¬ t.supp.revised.all L.hasFc1 then reject "revised file contract is not present in the accumulator"
    if ¬ t.supp.proofs.all (fun p => L.hasFc1 p.1) then reject "valid file contract is not present in the accumulator"
  if ¬ b.expiring.all (fun p => L.hasFc1 p.1) then reject "expiring file contract is not present in the accumulator"

/-- `ValidateBlock`: returns the mid-state reached after the last transaction. -/
def validateBlock (L : Ledger) (b : Block) (parentBlockId : Id) : VM Mid := do
  validateOrphan L b
  validateSupplement L b
  match b.v2 with
  | some (_, commitOk, _) => if ¬ commitOk then reject "commitment hash mismatch"
  | none => pure ()
  let mut ms := newMid L
  for t in b.txns1 do
    validateTransaction ms t parentBlockId b.maxWeight
    ms ← applyTransaction ms t
  match b.v2 with
  | some (_, _, txns) =>
    for t in txns do
      validateV2Transaction ms t b.maxWeight
      ms ← applyV2Transaction ms t
  | none => pure ()
  pure ms

/-- `MidState.ApplyBlock` -/
def midApplyBlock (ms : Mid) (b : Block) : VM Mid := do
  if ms.base.child ≥ ms.base.P.v2Require ∧ (b.txns1.length ≠ 0 ∨ b.expiring.length ≠ 0) then
    gopanic "consensus: block supplement must be empty after v2 hardfork"
  let mut ms := ms
  for t in b.txns1 do
    ms ← applyTransaction ms t
  match b.v2 with
  | some (_, _, txns) =>
    for t in txns do
      ms ← applyV2Transaction ms t
  | none => pure ()
  for (id, o) in b.payouts do
    ms := ms.createImmatureSc id o
  match ← foundationSubsidy ms.base with
  | some o => ms := ms.createImmatureSc b.foundationOutId o
  | none => pure ()
  for (e, ids) in b.expiring do
    if ms.isSpent e.id then pure ()
    else
      ms := ms.resolveFc1 e false
      for (o, id) in e.fc.missed.zip ids do
        ms := ms.createImmatureSc id o
  pure ms

/-- fold the diffs of a mid-state into the ledger (what a full node's store does with an ApplyUpdate;
leaf indices are assigned by the accumulator and supplied by the harness when it compares). -/
def Mid.commit (ms : Mid) (blockId : Id) : Ledger :=
  let L := ms.base
  let sc := L.sc.filter (fun e => ¬ ms.sces.any (fun d => d.e.id = e.id))
  let sc := sc ++ (ms.sces.filter (fun d => ¬ d.spent)).map (·.e)
  let sf := L.sf.filter (fun e => ¬ ms.sfes.any (fun d => d.e.id = e.id))
  let sf := sf ++ (ms.sfes.filter (fun d => ¬ d.spent)).map (·.e)
  let fc1 := L.fc1.filter (fun e => ¬ ms.fces.any (fun d => d.e.id = e.id))
  let fc1 := fc1 ++ (ms.fces.filter (fun d => ¬ d.resolved)).map (·.current)
  let fc2 := L.fc2.filter (fun e => ¬ ms.v2fces.any (fun d => d.e.id = e.id))
  let fc2 := fc2 ++ (ms.v2fces.filter (fun d => d.resolution.isNone)).map
    (fun d => match d.revision with | some r => { d.e with fc := r } | none => d.e)
  { L with child := L.child + 1, sc := sc, sf := sf, fc1 := fc1, fc2 := fc2, pool := ms.pool,
           fPrimary := ms.fPrimary, fFailsafe := ms.fFailsafe, chain := L.chain ++ [(L.child, blockId)] }

/-- `ApplyBlock` (ledger part) -/
def applyBlock (L : Ledger) (b : Block) : VM (Ledger × Mid) := do
  let ms ← midApplyBlock (newMid L) b
  pure (ms.commit b.blockId, ms)

end Sia.Ledger
