import SiaModel.Gen.CodeRhp4
/-!
  Hand-written model of the v2 file-contract rules of `consensus/validation.go`
  (`validateV2FileContracts`: the closures `validateContract`, `validateRevision`
  and the arithmetic part of the renewal branch), signatures excluded.  The same
  closures are also translated from the source (`Gen.Consensus.validateV2FileContracts_*`);
  `SiaProofs/Props/C07Gen.lean` proves that these predicates accept and panic exactly when the
  translated code does (given that the signatures verify).

  Currency arithmetic uses the generated (`Gen.Types.Currency.*`) definitions, so an
  unchecked `Add` that would panic in Go is an `Except.error` here.
-/
namespace Sia.Ledger
open Gen.Types

/-- `validateContract` without the signature check. `none` = accepted, `some msg` = rejected. -/
def validateContract (childHeight : Nat) (fc : V2FileContract) : Option String :=
  if fc.Filesize > fc.Capacity then some "filesize exceeding capacity"
  else if fc.ProofHeight < childHeight then some "proof height has already passed"
  else if fc.ExpirationHeight ≤ fc.ProofHeight then some "no time between proof and expiration height"
  else if fc.RenterOutput.Value.IsZero && fc.HostOutput.Value.IsZero then some "zero value"
  else if fc.MissedHostValue.Cmp fc.HostOutput.Value > 0 then some "missed host value exceeding valid host value"
  else if fc.TotalCollateral.Cmp fc.HostOutput.Value > 0 then some "total collateral exceeding valid host value"
  else none

/-- `validateRevision` without the signature check; `cur` is the contract as it currently stands. -/
def validateRevision (childHeight ephemeralOutputHeight : Nat) (cur rev : V2FileContract) : Except String (Option String) := do
  let curOutputSum ← cur.RenterOutput.Value.Add cur.HostOutput.Value
  let revOutputSum ← rev.RenterOutput.Value.Add rev.HostOutput.Value
  if rev.Capacity < cur.Capacity then pure (some "decreases capacity")
  else if rev.Filesize > rev.Capacity then pure (some "filesize exceeding capacity")
  else if cur.ProofHeight < childHeight then pure (some "revises contract after its proof window has opened")
  else if rev.RevisionNumber ≤ cur.RevisionNumber then pure (some "does not increase revision number")
  else if !(revOutputSum.Equals curOutputSum) then pure (some "modifies output sum")
  else if rev.MissedHostValue.Cmp cur.MissedHostValue > 0 then pure (some "missed host value exceeding old value")
  else if childHeight ≥ ephemeralOutputHeight && rev.MissedHostValue.Cmp rev.HostOutput.Value > 0 then
    pure (some "missed host value exceeding valid host value")
  else if rev.TotalCollateral ≠ cur.TotalCollateral then pure (some "modifies total collateral")
  else if rev.ProofHeight < childHeight then pure (some "proof height has already passed")
  else if rev.ExpirationHeight ≤ rev.ProofHeight then pure (some "no time between proof and expiration height")
  else pure none

/-- the renewal branch of `validateV2FileContracts` without signatures: `fc` is the parent contract. -/
def validateRenewal (childHeight : Nat) (fc : V2FileContract) (r : V2FileContractRenewal) : Except String (Option String) := do
  if fc.RenterPublicKey ≠ r.NewContract.RenterPublicKey then pure (some "changes renter public key")
  else if fc.HostPublicKey ≠ r.NewContract.HostPublicKey then pure (some "changes host public key")
  else
    let t1 ← r.FinalRenterOutput.Value.Add r.RenterRollover
    let t2 ← t1.Add r.FinalHostOutput.Value
    let totalPayout ← t2.Add r.HostRollover
    let existingPayout ← fc.RenterOutput.Value.Add fc.HostOutput.Value
    if totalPayout ≠ existingPayout then pure (some "renewal payout does not match existing contract payout")
    else
      let s ← r.NewContract.RenterOutput.Value.Add r.NewContract.HostOutput.Value
      let tax ← Gen.Consensus.State.V2FileContractTax {} r.NewContract
      let newContractCost ← s.Add tax
      let rollover ← r.RenterRollover.Add r.HostRollover
      if rollover.Cmp newContractCost > 0 then pure (some "rollover exceeding new contract cost")
      else match validateContract childHeight r.NewContract with
        | some e => pure (some ("initial revision " ++ e))
        | none => pure none

end Sia.Ledger
