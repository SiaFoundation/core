import SiaModel.Prim.GoSem
/-!
# C13 model, part 1: `Work`, targets, int64/Duration arithmetic

Mirrors `consensus/application.go` lines 18-178 and the `big.Int` helpers.

* `Work` (a big-endian `[32]byte`) and targets (`types.BlockID` read as a big-endian
  number) are `Nat`; well-formedness is `< 2^256`.
* Every Go `panic` is an `Except.error`.
* The four limb loops (`add`, `sub`, `mul64`, `div64`) are mirrored literally on a
  4-limb representation (`Limbs`), and the `Nat`-level operations used by the rest of
  the model (`wadd`, …) are proved equal to them in `SiaProofs/Props/C13Work.lean`
  (`c13_work_ops_exact_*`).
* `time.Duration` and other `int64` values are `Int`s kept in `[-2^63, 2^63)` by
  `wrap64` after every `+ - *` exactly where Go wraps silently; `/` is Go's truncating
  division (`Int.tdiv`).
-/
namespace Sia.Pow

/-- 2^256 -/
scoped notation "W256" => (115792089237316195423570985008687907853269984665640564039457584007913129639936 : Nat)
/-- `maxTarget` = 2^256 - 1 -/
scoped notation "MAXT" => (115792089237316195423570985008687907853269984665640564039457584007913129639935 : Nat)
/-- 2^255 -/
scoped notation "W255" => (57896044618658097711785492504343953926634992332820282019728792003956564819968 : Nat)
/-- 2^64 -/
scoped notation "W64" => (18446744073709551616 : Nat)

/-! ## int64 -/

/-- two's-complement wrap of a mathematical integer into int64 -/
def wrap64 (x : Int) : Int := (x + 9223372036854775808) % 18446744073709551616 - 9223372036854775808

/-- `uint64(x)` for an int64 `x` -/
def toU64 (x : Int) : Nat := (x % 18446744073709551616).toNat

/-- `int64(h)` / `time.Duration(h)` for a uint64 `h` -/
def ofU64 (h : Nat) : Int := wrap64 (Int.ofNat h)

def i64add (a b : Int) : Int := wrap64 (a + b)
def i64sub (a b : Int) : Int := wrap64 (a - b)
def i64mul (a b : Int) : Int := wrap64 (a * b)
def i64neg (a : Int) : Int := wrap64 (-a)
/-- Go `/` on int64 by a positive constant (truncates toward zero; cannot overflow) -/
def i64div (a b : Int) : Int := Int.tdiv a b

/-- one second in nanoseconds -/
scoped notation "SECOND" => (1000000000 : Int)
scoped notation "MAXDUR" => (9223372036854775807 : Int)
scoped notation "MINDUR" => (-9223372036854775808 : Int)

/-- `t.Sub(u)` for second-resolution `time.Time` values given as Unix seconds:
    the exact difference in nanoseconds, saturated to the int64 range
    (time.Time.Sub documents and implements the saturation). -/
def timeSub (t u : Int) : Int :=
  let d := (t - u) * SECOND
  if d > MAXDUR then MAXDUR else if d < MINDUR then MINDUR else d

/-! ## Work on `Nat` (used by the model) -/

abbrev Work := Nat

def wadd (w v : Nat) : Except String Nat :=
  if w + v < W256 then .ok (w + v) else .error "Work.add: overflow"

def wsub (w v : Nat) : Except String Nat :=
  if v ≤ w then .ok (w - v) else .error "Work.sub: underflow"

def wmul64 (w v : Nat) : Except String Nat :=
  if w * v < W256 then .ok (w * v) else .error "Work.mul64: overflow"

def wdiv64 (w v : Nat) : Except String Nat :=
  if v = 0 then .error "Work.div64: division by zero" else .ok (w / v)

def wmin (w v : Nat) : Nat := if w < v then w else v
def wmax (w v : Nat) : Nat := if w > v then w else v

/-! ## Work on four big-endian uint64 limbs (literal mirror of the loops) -/

/-- big-endian limbs: `n[0:8], n[8:16], n[16:24], n[24:32]` -/
structure Limbs where
  l0 : Nat
  l1 : Nat
  l2 : Nat
  l3 : Nat
deriving Repr, DecidableEq

def Limbs.val (x : Limbs) : Nat :=
  x.l0 * 6277101735386680763835789423207666416102355444464034512896 +
  x.l1 * 340282366920938463463374607431768211456 + x.l2 * 18446744073709551616 + x.l3

def Limbs.WF (x : Limbs) : Prop := x.l0 < W64 ∧ x.l1 < W64 ∧ x.l2 < W64 ∧ x.l3 < W64

def Limbs.ofNat (n : Nat) : Limbs :=
  { l0 := n / 6277101735386680763835789423207666416102355444464034512896 % 18446744073709551616,
    l1 := n / 340282366920938463463374607431768211456 % 18446744073709551616,
    l2 := n / 18446744073709551616 % 18446744073709551616,
    l3 := n % 18446744073709551616 }

/-- the four iterations `i = 24, 16, 8, 0` of the `Work.add` loop: limbs and final carry -/
def Limbs.addCarry (w v : Limbs) : Limbs × Nat :=
  let (s3, c) := Go.bits_Add64 w.l3 v.l3 0
  let (s2, c) := Go.bits_Add64 w.l2 v.l2 c
  let (s1, c) := Go.bits_Add64 w.l1 v.l1 c
  let (s0, c) := Go.bits_Add64 w.l0 v.l0 c
  (⟨s0, s1, s2, s3⟩, c)

/-- `Work.add`: panic when the carry out of the most significant limb is set
    (`if c > 0 && i == 0`). -/
def Limbs.add (w v : Limbs) : Except String Limbs :=
  if (Limbs.addCarry w v).2 > 0 then .error "Work.add: overflow" else .ok (Limbs.addCarry w v).1

def Limbs.subBorrow (w v : Limbs) : Limbs × Nat :=
  let (s3, c) := Go.bits_Sub64 w.l3 v.l3 0
  let (s2, c) := Go.bits_Sub64 w.l2 v.l2 c
  let (s1, c) := Go.bits_Sub64 w.l1 v.l1 c
  let (s0, c) := Go.bits_Sub64 w.l0 v.l0 c
  (⟨s0, s1, s2, s3⟩, c)

def Limbs.sub (w v : Limbs) : Except String Limbs :=
  if (Limbs.subBorrow w v).2 > 0 then .error "Work.sub: underflow" else .ok (Limbs.subBorrow w v).1

/-- one iteration of the `mul64` loop: returns (limb, carry) -/
def mulStep (wi v c : Nat) : Nat × Nat :=
  let (hi, prod) := Go.bits_Mul64 wi v
  let (prod, cc) := Go.bits_Add64 prod c 0
  (prod, (hi + cc) % 18446744073709551616)

def Limbs.mulCarry (w : Limbs) (v : Nat) : Limbs × Nat :=
  let (p3, c) := mulStep w.l3 v 0
  let (p2, c) := mulStep w.l2 v c
  let (p1, c) := mulStep w.l1 v c
  let (p0, c) := mulStep w.l0 v c
  (⟨p0, p1, p2, p3⟩, c)

def Limbs.mul64 (w : Limbs) (v : Nat) : Except String Limbs :=
  if (Limbs.mulCarry w v).2 > 0 then .error "Work.mul64: overflow" else .ok (Limbs.mulCarry w v).1

/-- `Work.div64`: loop `i = 0, 8, 16, 24` with `bits.Div64(rem, wi, v)` (which itself
    panics when `v ≤ rem`; never the case here since `rem < v`). -/
def Limbs.div64 (w : Limbs) (v : Nat) : Except String Limbs :=
  if v = 0 then .error "Work.div64: division by zero" else do
  let (q0, r) ← Go.bits_Div64 0 w.l0 v
  let (q1, r) ← Go.bits_Div64 r w.l1 v
  let (q2, r) ← Go.bits_Div64 r w.l2 v
  let (q3, _) ← Go.bits_Div64 r w.l3 v
  pure ⟨q0, q1, q2, q3⟩

/-! ## Targets (`big.Int` code) -/

/-- `invTarget`: `maxTarget / n`; `big.Int.Div` panics on a zero divisor. -/
def invTarget (n : Nat) : Except String Nat :=
  if n = 0 then .error "division by zero" else .ok (MAXT / n)

/-- `intToTarget`: `if i.BitLen() >= 256 { i = maxTarget }`. `BitLen` (of the absolute
    value; `FillBytes` ignores the sign too) is ≥ 256 exactly when `|i| ≥ 2^255`, so
    every value from 2^255 upwards — not only those that do not fit — becomes
    `maxTarget` = 2^256-1. (Found by the correspondence run; mirrored as is.) -/
def intToTarget (i : Int) : Nat :=
  if i.natAbs ≥ W255 then MAXT else i.natAbs

/-- `addTarget`: `x*y/(x+y)` -/
def addTarget (x y : Nat) : Except String Nat :=
  if x + y = 0 then .error "division by zero" else .ok (intToTarget (Int.ofNat (x * y / (x + y))))

/-- `mulTargetFrac`: `x*n/d` with `big.Int.Div` (Euclidean division, panics for `d = 0`) -/
def mulTargetFrac (x : Nat) (n d : Int) : Except String Nat :=
  if d = 0 then .error "division by zero" else .ok (intToTarget (Int.ediv (Int.ofNat x * n) d))

end Sia.Pow
