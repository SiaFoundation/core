import SiaModel.Pow.Adjust
/-!
# C13 model, part 3: `ApplyHeader`, `medianTimestamp`, `ValidateHeader`,
`SufficientlyHeavierThan`, `PoWTarget`, `NonceFactor`, and `Network.WF`.
-/
namespace Sia.Pow

/-- the `types.BlockHeader` content the PoW code looks at; `id` is `bh.ID()`
    (the hash itself is outside this model: the harness supplies the real ID). -/
structure Header where
  parentID : Nat
  timestamp : Int
  nonce : Nat
  id : Nat
deriving Repr, DecidableEq

/-- `ApplyHeader`'s PoW state transition -/
def applyHeader (n : Network) (s : PowState) (h : Header) (targetTs : Int) : Except String PowState :=
  if s.height > 0 ∧ s.id ≠ h.parentID then .error "consensus: cannot apply non-child block"
  else do
    let next ←
      if h.parentID = 0 then do
        -- special handling for genesis block
        let oakTime := updateOakTime n s h.timestamp h.timestamp
        let (oakWork, oakTarget) ← updateOakWork n s
        pure { s with oakTime := oakTime, oakWork := oakWork, oakTarget := oakTarget,
                      height := 0, id := h.id }
      else do
        let (totalWork, depth) ← updateTotalWork n s
        let (difficulty, childTarget) ← adjustDifficulty n s h.timestamp targetTs
        let oakTime := updateOakTime n s h.timestamp (s.prevTimestamps.headD ZEROTIME)
        let (oakWork, oakTarget) ← updateOakWork n s
        pure { s with totalWork := totalWork, depth := depth, difficulty := difficulty,
                      childTarget := childTarget, oakTime := oakTime, oakWork := oakWork,
                      oakTarget := oakTarget,
                      height := (s.height + 1) % 18446744073709551616, id := h.id }
    let next := { next with prevTimestamps := h.timestamp :: s.prevTimestamps.take 10 }
    -- zero out deprecated fields
    if next.height ≥ n.v2FinalCutHeight then
      pure { next with depth := 0, childTarget := 0, oakTarget := 0 }
    else pure next

/-- The PoW projection of `ApplyBlock`: `ApplyBlock` assigns `SiafundTaxRevenue`,
    `Attestations`, the two Foundation addresses and `Elements`, none of which
    `ApplyHeader` reads (tie `tie_header_reads_only_pow`, regenerated from the source on
    every run), and then returns `ApplyHeader(s, b.Header(), targetTimestamp)`. -/
def applyBlockPow (n : Network) (s : PowState) (blockHeader : Header) (targetTs : Int) : Except String PowState :=
  applyHeader n s blockHeader targetTs

/-- `s.numTimestamps()` -/
def PowState.numTimestamps (s : PowState) : Nat :=
  if s.childHeight < 11 then s.childHeight else 11

/-- `s.medianTimestamp()` in **nanoseconds** since the epoch (the even case adds half
    of a nanosecond `Duration`, so the result can fall between two seconds).
    `sort.Slice` is modelled by `List.mergeSort` (any correct sort gives the same
    list of values). With no timestamps (genesis state) Go indexes `ts[-1]`: panic. -/
def medianTimestamp (s : PowState) : Except String Int :=
  let ts := (s.prevTimestamps.take s.numTimestamps).mergeSort (fun a b => decide (a ≤ b))
  let k := ts.length
  if k % 2 ≠ 0 then .ok (ts.getD (k / 2) 0 * SECOND)
  else if k = 0 then .error "index out of range [-1]"
  else
    let l := ts.getD (k / 2 - 1) 0
    let r := ts.getD (k / 2) 0
    .ok (l * SECOND + Int.tdiv (timeSub r l) 2)

/-- `s.NonceFactor()` -/
def nonceFactor (n : Network) (s : PowState) : Nat :=
  if s.childHeight < n.asicHeight then 1 else n.asicNonceFactor

/-- `s.PoWTarget()` -/
def powTarget (n : Network) (s : PowState) : Except String Nat :=
  if s.childHeight < n.v2FinalCutHeight then .ok s.childTarget else invTarget s.difficulty

/-- outcome of `ValidateHeader`: `none` = accepted, `some k` = rejected by the k-th check -/
def validateHeader (n : Network) (s : PowState) (h : Header) : Except String (Option Nat) :=
  if h.parentID ≠ s.id then .ok (some 1)
  else do
    let m ← medianTimestamp s
    if h.timestamp * SECOND < m then pure (some 2)
    else if nonceFactor n s = 0 then .error "integer divide by zero"
    else if h.nonce % nonceFactor n s ≠ 0 then pure (some 3)
    else do
      let t ← powTarget n s
      -- bh.ID().CmpWork(target) < 0  ⇔  target < id
      if t < h.id then pure (some 4) else pure none

/-- `s.SufficientlyHeavierThan(t)` -/
def sufficientlyHeavierThan (s t : PowState) : Except String Bool := do
  let q ← wdiv64 t.difficulty 5
  let x ← wadd t.totalWork q
  pure (decide (s.totalWork > x))

/-! ## Well-formed network parameters

The conditions under which the retargeting code is meant to run (everything the
code silently assumes about `consensus.Network`). All decidable. -/

def Network.WF (n : Network) : Prop :=
  -- the block interval is positive and at most 2^50 ns (≈ 13 days), so that `3 * interval`
  -- and `interval/Second * 1000` stay far inside int64
  1 ≤ n.blockInterval ∧ n.blockInterval ≤ 1125899906842624 ∧
  -- the pre-Oak retarget divides by `blockInterval/Second * depth`: needs whole seconds,
  -- unless the pre-Oak algorithm never reaches a retarget height (Oak at or before block 499)
  (SECOND ≤ n.blockInterval ∨ n.oakHeight < 500) ∧
  0 < n.initialTarget ∧ n.initialTarget < W256 ∧
  0 < n.asicOakTarget ∧ n.asicOakTarget < W256 ∧
  -- `bh.Nonce % s.NonceFactor()`
  0 < n.asicNonceFactor ∧
  -- a `time.Duration` (int64)
  -9223372036854775808 ≤ n.asicOakTime ∧ n.asicOakTime < 9223372036854775808 ∧
  -- the only ordering of fork heights the PoW code relies on: the deprecated target
  -- fields are zeroed at FinalCutHeight and must not be read afterwards
  n.v2AllowHeight ≤ n.v2FinalCutHeight ∧ n.v2FinalCutHeight < 9223372036854775808

instance (n : Network) : Decidable n.WF := by unfold Network.WF; infer_instance

/-- `consensus/validation_test.go: testnet()` -/
def testnet : Network :=
  { blockInterval := 10000000, initialTarget := 255 * 2 ^ 248,
    oakHeight := 4, oakFixHeight := 5, oakGenesisTs := 1618033988,
    asicHeight := 6, asicOakTime := 10000 * 1000000000, asicOakTarget := 255 * 2 ^ 248,
    asicNonceFactor := 1009, v2AllowHeight := 1000, v2FinalCutHeight := 3000 }

/-- a mainnet-like parameter set (values of the Sia main network as published in
    `coreutils/chain.Mainnet`; that package is not part of this repository) -/
def mainnetLike : Network :=
  { blockInterval := 600 * 1000000000, initialTarget := 32 * 2 ^ 216,
    oakHeight := 135000, oakFixHeight := 139000, oakGenesisTs := 1433600000,
    asicHeight := 179000, asicOakTime := 120000 * 1000000000, asicOakTarget := 32 * 2 ^ 184,
    asicNonceFactor := 1009, v2AllowHeight := 526000, v2FinalCutHeight := 555000 }

end Sia.Pow
