import SiaModel.Codec.Comb
import SiaModel.Codec.Irregular
import SiaModel.Codec.Size
import SiaModel.Gen.FactsFraming
/-!
# SiaModel.Rhp4.Framing — message framing of rhp/v4, the gateway, rhp/v2 and rhp/v3 (C19)

A receiver never hands the raw stream to a decoder: it wraps it in an
`io.LimitedReader{N: limit}`. `readLimited` is that: the decoder sees `stream.take N`
and the reader's remaining allowance beyond the bytes present is the decoder's `slack`.

* rhp/v4 (`rhp/v4/transport.go`): `ReadRequest` limit `o.maxLen()`; `WriteResponse` =
  error flag (`1` iff the object is an `*RPCError`) + object; `ReadResponse` limit
  `RPCError.maxLen() + o.maxLen()`, an error flag `1` makes the call return that error.
* gateway (`gateway/transport.go`, `encoding.go`): v2 streams like rhp/v4 without flag,
  a zero limit means "nothing is read"; the handshake uses the v1 framing (8-byte length
  prefix that the reader ignores, limit `8 + maxLen`) and `validateHeader`.
* rhp/v2 (`rhp/v2/transport.go`): `writeMessage`/`readMessage` frames
  `len ‖ nonce ‖ AEAD(nonce, payload ‖ padding)` with a **symbolic AEAD**, padding to
  `minMessageSize`, sticky error after an authentication failure.
* rhp/v3 (`rhp/v3/transport.go`): `writeObject`/`readObject` length prefix and limit.
-/
namespace Sia.Framing
open Sia.Codec

/-- what a bounded read returns: the value and the number of bytes pulled from the stream -/
abbrev ReadRes := Except DecErr (Val × Nat)

/-- read one message of leaf codec `c` through `io.LimitedReader{N}` -/
def readLimitedC (c : Codec) (N : Nat) (stream : Bytes) : ReadRes :=
  match c.dec false (N - (stream.take N).length) (stream.take N) with
  | .ok (v, rest) => .ok (v, (stream.take N).length - rest.length)
  | .error e => .error e

/-- read one message of schema `s` through `io.LimitedReader{N}` -/
def readLimited (E : Env) (N : Nat) (s : Sch) (stream : Bytes) : ReadRes :=
  readLimitedC (Codec.ofSch E s) N stream

/-! ## rhp/v4 -/

/-- `RPCError` (code, description) as generated from `(*RPCError).encodeTo` -/
def rhp4ErrSch : Sch := Gen.encSchema_Rhp4_RPCError

/-- `WriteRequest(w, id, o)`: the 16-byte RPC id, then the object -/
def rhp4WriteRequest (E : Env) (id : Bytes) (s : Sch) (v : Val) : Bytes := id ++ enc E s v

/-- `ReadRequest(r, o)`: limit `o.maxLen()` -/
def rhp4ReadRequest (E : Env) (s : Sch) (maxLen : Nat) (stream : Bytes) : ReadRes :=
  readLimited E maxLen s stream

/-- a response on the wire: flag byte 0 + object, or flag byte 1 + `RPCError`.
Values: `pair (nat 0) obj` / `pair (nat 1) err`. -/
def rhp4RespCodec (E : Env) (s : Sch) : Codec :=
  Codec.tagged [(0, Codec.ofSch E s), (1, Codec.ofSch E rhp4ErrSch)]

def respObj (v : Val) : Val := .pair (.nat 0) v
def respErr (e : Val) : Val := .pair (.nat 1) e

/-- `WriteResponse(w, o)` -/
def rhp4WriteResponse (E : Env) (s : Sch) (r : Val) : Bytes := (rhp4RespCodec E s).enc r

/-- the limit `ReadResponse` applies: `(*RPCError)(nil).maxLen() + o.maxLen()` -/
def rhp4RespLimit (maxLen : Nat) : Nat := Gen.Framing.rhp4_maxLen_RPCError + maxLen

/-- `ReadResponse(r, o)`: the result `pair (nat 1) e` is "the call returns the error `e`" -/
def rhp4ReadResponse (E : Env) (s : Sch) (maxLen : Nat) (stream : Bytes) : ReadRes :=
  readLimitedC (rhp4RespCodec E s) (rhp4RespLimit maxLen) stream

/-- `RPCError` value -/
def rpcError (code : Nat) (desc : Bytes) : Val := .pair (.nat code) (.pair (.bytes desc) .unit)

/-! ## gateway -/

/-- v2 stream: `ReadRequest`/`ReadResponse` read nothing when the limit is 0 -/
def gwRead (E : Env) (s : Sch) (maxLen : Nat) (stream : Bytes) : ReadRes :=
  if maxLen = 0 then .ok (.unit, 0) else readLimited E maxLen s stream

/-- v1 framing (`withV1Encoder`): an 8-byte length prefix, then the payload -/
def gwV1Write (payload : Bytes) : Bytes := u64le payload.length ++ payload

/-- v1 framing (`withV1Decoder(r, maxLen, fn)`): limit `8 + maxLen`, the prefix is read and ignored -/
def gwV1Read (E : Env) (s : Sch) (maxLen : Nat) (stream : Bytes) : ReadRes :=
  readLimited E (8 + maxLen) (.cons "prefix" .u64 (.cons "payload" s .nil)) stream

structure Header where
  genesis : Bytes   -- 32 bytes
  unique : Bytes    -- 8 bytes
  addr : Bytes
  deriving DecidableEq, Repr

inductive Verdict where
  | accept
  | reject (msg : String)
  deriving DecidableEq, Repr

/-- `validateHeader(ours, theirs)` -/
def validateHeader (ours theirs : Header) : Verdict :=
  if theirs.genesis ≠ ours.genesis then .reject "peer has different genesis block"
  else if theirs.unique = ours.unique then .reject "peer has same unique ID as us"
  else .accept

/-- the header exchange of `Dial` (sends its header first) against `Accept`: the acceptor
validates the dialer's header and answers "accept" or the rejection message; only after
"accept" does it send its own header, which the dialer validates the same way.
Result: (dialer's outcome, acceptor's outcome). -/
def handshake (dialer acceptor : Header) : Verdict × Verdict :=
  match validateHeader acceptor dialer with
  | .reject m => (.reject ("peer rejected our header: " ++ m), .reject m)
  | .accept =>
    match validateHeader dialer acceptor with
    | .reject m => (.reject m, .reject ("peer rejected our header: " ++ m))
    | .accept => (.accept, .accept)

/-! ## rhp/v2 encrypted frames, symbolic AEAD -/

/-- an AEAD with 12-byte nonces and 16-byte tags, symbolically -/
structure AEAD where
  sealF : Bytes → Bytes → Bytes            -- nonce → plaintext → ciphertext ‖ tag
  openF : Bytes → Bytes → Option Bytes   -- nonce → ciphertext ‖ tag → plaintext

def nonceSize : Nat := 12
def tagSize : Nat := 16

def rhp2PadLen (payloadLen : Nat) : Nat :=
  Gen.Framing.rhp2_minMessageSize - min Gen.Framing.rhp2_minMessageSize (8 + nonceSize + payloadLen + tagSize)

/-- `writeMessage`: `len ‖ nonce ‖ seal(nonce, payload ‖ padding)`; `padding` is whatever the
buffer holds up to `minMessageSize` (its length is fixed by the code, its content is not) -/
def rhp2Frame (A : AEAD) (nonce payload padding : Bytes) : Bytes :=
  let body := nonce ++ A.sealF nonce (payload ++ padding)
  u64le body.length ++ body

/-- receiver state: the sticky error (`t.err`) -/
abbrev Rhp2State := Option DecErr

inductive Rhp2Out where
  | msg (plaintext : Bytes) (rest : Bytes)   -- authenticated plaintext (payload ‖ padding), remaining stream
  | fail (fatal : Bool)                      -- fatal = the sticky error was set (`setErr`)
  deriving Repr

/-- `readMessage` up to the point where the plaintext is handed to the object decoder -/
def rhp2ReadFrame (A : AEAD) (st : Rhp2State) (maxLen : Nat) (stream : Bytes) : Rhp2Out × Rhp2State :=
  match st with
  | some _ => (.fail false, st)
  | none =>
    let maxLen := max maxLen Gen.Framing.rhp2_minMessageSize
    match readU64 stream with
    | .error _ => (.fail false, st)
    | .ok (n, r) =>
      if maxLen < n then (.fail false, st)
      else if n < nonceSize + tagSize then (.fail false, st)
      else match takeN n r with
        | .error _ => (.fail false, st)
        | .ok (body, rest) =>
          match A.openF (body.take nonceSize) (body.drop nonceSize) with
          | none => (.fail true, some .invalid)
          | some pt => (.msg pt rest, st)

/-- `readMessage`: the object is decoded from the plaintext with `NewBufDecoder` (padding ignored) -/
def rhp2ReadMessage (A : AEAD) (E : Env) (s : Sch) (st : Rhp2State) (maxLen : Nat) (stream : Bytes) :
    Except DecErr (Val × Bytes) × Rhp2State :=
  match rhp2ReadFrame A st maxLen stream with
  | (.msg pt rest, st') =>
    (match dec E 0 s pt with
     | .ok (v, _) => (.ok (v, rest), st')
     | .error e => (.error e, st'))
  | (.fail _, st') => (.error .invalid, st')

/-! ## rhp/v3 objects -/

/-- `writeObject`: 8-byte length, then flag + object; `tail` = the part of the object sent
outside the announced length (`ProgramData` / `Output` of ExecuteProgram, else 0) -/
def rhp3WriteObject (E : Env) (s : Sch) (r : Val) (tail : Nat) : Bytes :=
  let b := (rhp4RespCodec E s).enc r
  u64le (b.length - tail) ++ b

/-- the limit `readObject` applies: `maxLen + minMessageSize` -/
def rhp3Limit (maxLen : Nat) : Nat := maxLen + Gen.Framing.rhp3_minMessageSize

/-- `readObject`: limited reader of `maxLen + minMessageSize`; the announced length must not
exceed that limit (it is not otherwise used); then flag + object (or error) are decoded -/
def rhp3ReadObject (E : Env) (s : Sch) (maxLen : Nat) (stream : Bytes) : ReadRes :=
  let seen := stream.take (rhp3Limit maxLen)
  match readU64 seen with
  | .ok (l, r) =>
    if rhp3Limit maxLen < l then .error .invalid
    else match (rhp4RespCodec E s).dec false (rhp3Limit maxLen - seen.length) r with
      | .ok (v, rest) => .ok (v, seen.length - rest.length)
      | .error e => .error e
  | .error e => .error e

/-! ### rhp/v3 RPCs on one stream: the per-RPC subscription frame

`(*Stream).WriteRequest` writes, for EVERY RPC, a subscription frame (`len ‖ "host"` as a
length-prefixed string), then the id object, then the request object; `(*Stream).ReadID` reads a
subscription frame (through a reader limited to `minMessageSize`), answers it, then reads the id.
The mux below is symbolic: an ordered, lossless byte stream (concatenation). -/

/-- the subscriber name every RPC announces -/
def rhp3Subscriber : Bytes := [104, 111, 115, 116]  -- "host"

/-- subscription frame: `e.WriteUint64(8 + len("host")); e.WriteString("host")` -/
def rhp3SubFrame : Bytes := u64le (8 + rhp3Subscriber.length) ++ (u64le rhp3Subscriber.length ++ rhp3Subscriber)

def rhp3SubSch : Sch := .cons "length" .u64 (.cons "subscriber" .str .nil)

/-- the 16-byte RPC id, sent as an object -/
def rhp3IdSch : Sch := .fixed 16

/-- `WriteRequest(id, req)`: subscription, id object, request object -/
def rhp3WriteRPC (E : Env) (s : Sch) (id req : Val) : Bytes :=
  rhp3SubFrame ++ (rhp3WriteObject E rhp3IdSch (respObj id) 0 ++ rhp3WriteObject E s (respObj req) 0)

/-- the host's `ReadID` + `ReadRequest`: the (id, request) read and the rest of the stream -/
def rhp3HostReadRPC (E : Env) (s : Sch) (maxLen : Nat) (stream : Bytes) : Except DecErr ((Val × Val) × Bytes) :=
  match readLimited E Gen.Framing.rhp3_minMessageSize rhp3SubSch stream with
  | .ok (.pair _ (.pair (.bytes name) .unit), c1) =>
    if name ≠ rhp3Subscriber then .error .invalid else
    match rhp3ReadObject E rhp3IdSch 16 (stream.drop c1) with
    | .ok (.pair (.nat 0) id, c2) =>
      (match rhp3ReadObject E s maxLen ((stream.drop c1).drop c2) with
       | .ok (.pair (.nat 0) req, c3) => .ok ((id, req), ((stream.drop c1).drop c2).drop c3)
       | .ok _ => .error .invalid
       | .error e => .error e)
    | .ok _ => .error .invalid
    | .error e => .error e
  | .ok _ => .error .invalid
  | .error e => .error e

/-- `k` RPCs written one after the other on the stream -/
def rhp3WriteSeq (E : Env) (s : Sch) : List (Val × Val) → Bytes
  | [] => []
  | (id, req) :: rest => rhp3WriteRPC E s id req ++ rhp3WriteSeq E s rest

/-- the host reading `n` RPCs from the stream -/
def rhp3HostReadSeq (E : Env) (s : Sch) (maxLen : Nat) : Nat → Bytes → Except DecErr (List (Val × Val) × Bytes)
  | 0, stream => .ok ([], stream)
  | n + 1, stream =>
    match rhp3HostReadRPC E s maxLen stream with
    | .ok (r, rest) =>
      (match rhp3HostReadSeq E s maxLen n rest with
       | .ok (rs, rest') => .ok (r :: rs, rest')
       | .error e => .error e)
    | .error e => .error e

end Sia.Framing
