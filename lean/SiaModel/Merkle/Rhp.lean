/-
  SiaModel.Merkle.Rhp — RHP Merkle roots and proofs (property C16).

  Specification: `metaRoot` (the plainly defined binary tree) and `sectorRoot`.
  Implementation models mirroring /repo/rhp/v2/merkle.go, /repo/rhp/v4/merkle.go
  and /repo/blake2b/blake2b.go: the binary-counter accumulators, `MetaRoot`,
  `nextSubtreeSize`/`RangeProofSize`, the range-proof builders and verifiers,
  append proofs, diff (swap/trim/append) proofs and `ConvertProofOrdering`.

  Everything is parametric in an abstract hash type (`HashOps`): theorems assume
  injectivity of `node` (`NodeInj`, Lemmas/MerkleRhpSound; with `leaf`: `HashInj`) as a
  hypothesis, the driver instantiates real BLAKE2b.

  Modelling conventions (see props.d/C16.json "assumptions"):
  * `uint64` counters are `Nat`; leaf counts are assumed `< 2^63`, so the
    64-slot tree arrays of the Go accumulators are modelled as `Nat → H`
    (a slot index never reaches 64) and counter wrap-around is not modelled,
    except in `sectorsChanged` (Go's `newNumSectors--`) and `convertFreeActions`
    (`numSectors - i - 1`), which may wrap.
  * Go panics are `Except.error`.

  Core Lean only (the driver links this natively).
-/
import SiaModel.Prim.Blake2b
import SiaModel.Gen.FactsRhp
set_option linter.unusedVariables false

namespace Sia.Rhp

/-- The hash operations the Merkle code distinguishes: the zero hash (root of the
empty tree), leaf hash (prefix 0x00) and node hash (prefix 0x01). -/
class HashOps (H : Type) where
  zero : H
  leaf : ByteArray → H
  node : H → H → H

open HashOps

/-- Symbolic collision freedom; always a hypothesis, never an axiom. -/
structure HashInj (H : Type) [HashOps H] : Prop where
  node_inj : ∀ a b c d : H, node a b = node c d → a = c ∧ b = d
  leaf_inj : ∀ x y : ByteArray, (leaf x : H) = leaf y → x = y
  leaf_ne_node : ∀ (x : ByteArray) (a b : H), (leaf x : H) ≠ node a b

/-! ## Specification: the plain binary Merkle tree -/

/-- Largest power of two strictly below `n` (for `n ≥ 2`);
Go: `1 << (bits.Len(uint(n-1)) - 1)`. -/
def splitPoint (n : Nat) : Nat := 2 ^ Nat.log2 (n - 1)

theorem splitPoint_pos (n : Nat) : 0 < splitPoint n := Nat.two_pow_pos _

theorem splitPoint_lt {n : Nat} (h : 2 ≤ n) : splitPoint n < n := by
  have := Nat.log2_self_le (n := n - 1) (by omega)
  unfold splitPoint; omega

/-- Root of the plainly defined binary Merkle tree over a list of node hashes:
empty ↦ zero hash, singleton ↦ the element, otherwise split at the largest power
of two strictly below the length. -/
def metaRoot {H : Type} [HashOps H] (ls : List H) : H :=
  match ls with
  | [] => zero
  | [x] => x
  | x :: y :: r =>
    let k := splitPoint (r.length + 2)
    node (metaRoot ((x :: y :: r).take k)) (metaRoot ((x :: y :: r).drop k))
termination_by ls.length
decreasing_by
  · have := splitPoint_lt (n := r.length + 2) (by omega)
    simp [List.length_take]; omega
  · have := splitPoint_pos (r.length + 2)
    simp [List.length_drop]; omega

/-- 64-byte leaves of a byte string (a trailing partial leaf is dropped: callers
only pass multiples of 64). -/
def leafChunks (data : ByteArray) : List ByteArray :=
  (List.range (data.size / 64)).map (fun i => data.extract (64 * i) (64 * i + 64))

/-- Leaf hashes of a byte string. -/
def leafHashes {H : Type} [HashOps H] (data : ByteArray) : List H :=
  (leafChunks data).map leaf

/-- Root of a sector (or any whole number of leaves): the plain tree over the leaf hashes. -/
def sectorRoot {H : Type} [HashOps H] (data : ByteArray) : H :=
  metaRoot (leafHashes data)

/-! ## Integer helpers (hand models; tied to the generated `Gen.Rhp2.*` in Props/C16Tie) -/

/-- number of trailing zero bits (`0 ↦ 0`; Go's value 64 for zero is handled by callers) -/
def tz (x : Nat) : Nat :=
  if h : x = 0 then 0 else if x % 2 = 1 then 0 else 1 + tz (x / 2)
termination_by x
decreasing_by omega

/-- number of one bits -/
def popcount (x : Nat) : Nat :=
  if h : x = 0 then 0 else x % 2 + popcount (x / 2)
termination_by x
decreasing_by omega

/-- Go `nextSubtreeSize(start, end)`: the size of the largest aligned power-of-two
subtree that begins at `start` and does not overlap `end` (`start < end`). -/
def nextSubtreeSize (start end_ : Nat) : Nat :=
  let maxSize := Nat.log2 (end_ - start)
  if start = 0 ∨ tz start > maxSize then 2 ^ maxSize else 2 ^ tz start

theorem nextSubtreeSize_pos (i j : Nat) : 0 < nextSubtreeSize i j := by
  unfold nextSubtreeSize
  simp only
  split <;> exact Nat.two_pow_pos _

/-- number of zero bits of `x` at positions `< L` -/
def zerosBelow (x : Nat) : Nat → Nat
  | 0 => 0
  | L + 1 => (1 - x % 2) + zerosBelow (x / 2) L

/-- `bits.Len64(x ^ m)`: one more than the position of the highest bit where `x` and `m` differ -/
def diffLen (x m : Nat) : Nat :=
  if h : x = m then 0 else 1 + diffLen (x / 2) (m / 2)
termination_by x + m
decreasing_by omega

/-- Go `RangeProofSize(n, start, end)`: `popcount(start)` hashes on the left plus one
hash for every zero bit of `end-1` below the highest bit where `end-1` and `n-1` differ. -/
def rangeProofSize (n start end_ : Nat) : Nat :=
  popcount start + zerosBelow (end_ - 1) (diffLen (end_ - 1) (n - 1))

/-! ## Binary-counter accumulators (blake2b.Accumulator, rhp/v2 proofAccumulator) -/

/-- `trees [64]Hash256` + `numLeaves uint64` -/
structure Acc (H : Type) where
  trees : Nat → H
  n : Nat

def setTree {H : Type} (t : Nat → H) (i : Nat) (h : H) : Nat → H :=
  fun j => if j = i then h else t j

def Acc.empty {H : Type} [HashOps H] : Acc H := ⟨fun _ => zero, 0⟩

/-- The merge loop shared by `insertNode` and `AddLeaf`:
`for ; hasNodeAtHeight(i); i++ { h = SumPair(trees[i], h) }` with `m = numLeaves >> i`.
Returns the final slot and hash. -/
def carry {H : Type} [HashOps H] (t : Nat → H) (m i : Nat) (h : H) : Nat × H :=
  if m % 2 = 1 then carry t (m / 2) (i + 1) (node (t i) h) else (i, h)
termination_by m
decreasing_by omega

/-- `proofAccumulator.insertNode(h, height)` -/
def Acc.insertNode {H : Type} [HashOps H] (a : Acc H) (h : H) (height : Nat) : Acc H :=
  let r := carry a.trees (a.n / 2 ^ height) height h
  ⟨setTree a.trees r.1 r.2, a.n + 2 ^ height⟩

/-- `blake2b.Accumulator.AddLeaf(h)` -/
def Acc.addLeaf {H : Type} [HashOps H] (a : Acc H) (h : H) : Acc H :=
  let r := carry a.trees a.n 0 h
  ⟨setTree a.trees r.1 r.2, a.n + 1⟩

/-- The loop of `root()`/`Root()`: start at the lowest set bit, then fold every higher
set bit as `root = SumPair(trees[i], root)`; `m = numLeaves >> i`, `r = none` before
the lowest set bit has been seen. -/
def rootLoop {H : Type} [HashOps H] (t : Nat → H) (m i : Nat) (r : Option H) : Option H :=
  if h : m = 0 then r
  else rootLoop t (m / 2) (i + 1)
    (if m % 2 = 1 then some (match r with | none => t i | some x => node (t i) x) else r)
termination_by m
decreasing_by omega

/-- `proofAccumulator.root()` / `Accumulator.Root()` (zero hash when empty) -/
def Acc.root {H : Type} [HashOps H] (a : Acc H) : H :=
  (rootLoop a.trees a.n 0 none).getD zero

/-- `MetaRoot` above the sector-accumulator: Go recurses ("split at largest power of two")
while the list is longer than `limit = LeavesPerSector`, and hands shorter lists to the
4-lane `sectorAccumulator`, whose result is passed in as `base`. -/
def goMetaRoot {H : Type} [HashOps H] (limit : Nat) (base : List H → H) (ls : List H) : H :=
  if h : ls.length ≤ limit ∨ ls.length < 2 then base ls
  else
    let k := splitPoint ls.length
    node (goMetaRoot limit base (ls.take k)) (goMetaRoot limit base (ls.drop k))
termination_by ls.length
decreasing_by
  · have := splitPoint_lt (n := ls.length) (by omega)
    simp [List.length_take]; omega
  · have := splitPoint_pos ls.length
    simp [List.length_drop]; omega

/-! ## The 4-lane sector accumulator (rhp/v2 and rhp/v4 `sectorAccumulator`)

The algorithm of the SIMD code without its pointer casts: `trees[h]` holds FOUR subtree roots per
height and `SumNodes` merges two such quads into one (`blake2b.SumNodes` on 8 adjacent hashes);
`nodeBuf` collects up to four nodes before `mergeNodeBuf` pushes them down the carry chain.
Levels are counted from the bottom (`level = len(trees)-1-i` for Go's index `i`); Go's 15-level
bound (`trees [15]`: the 2^17-th node indexes `trees[-1]`) is not modelled. Intermediate results that Go leaves behind in slots it
marks as empty are not modelled (they are overwritten before they are read again). -/

/-- four hashes: one `[4][32]byte` row -/
structure Quad (H : Type) where
  a : H
  b : H
  c : H
  d : H

def Quad.set {H : Type} (q : Quad H) (i : Nat) (h : H) : Quad H :=
  match i with
  | 0 => { q with a := h }
  | 1 => { q with b := h }
  | 2 => { q with c := h }
  | _ => { q with d := h }

/-- `SumNodes(&trees[i], trees[i] ‖ next)`: four pair hashes over eight adjacent nodes -/
def mergeQuads {H : Type} [HashOps H] (x y : Quad H) : Quad H :=
  ⟨node x.a x.b, node x.c x.d, node y.a y.b, node y.c y.d⟩

/-- `root4`: the root of the four subtrees of one row (two rounds of `SumNodes`) -/
def root4 {H : Type} [HashOps H] (q : Quad H) : H := node (node q.a q.b) (node q.c q.d)

/-- the rows are merged exactly like single hashes in `proofAccumulator`; this instance lets the
carry loop `carry` be shared (`node`, and `zero` in `SecAcc.empty`, are used; `leaf` is not) -/
instance quadOps {H : Type} [HashOps H] : HashOps (Quad H) where
  zero := ⟨zero, zero, zero, zero⟩
  leaf := fun b => ⟨leaf b, leaf b, leaf b, leaf b⟩
  node := mergeQuads

structure SecAcc (H : Type) where
  trees : Nat → Quad H
  nodeBuf : Quad H
  numLeaves : Nat

def SecAcc.empty {H : Type} [HashOps H] : SecAcc H := ⟨fun _ => zero, zero, 0⟩

/-- `mergeNodeBuf()`: merge `nodeBuf` into the rows while `hasNodeAtHeight`, store, `numLeaves += 4` -/
def SecAcc.mergeNodeBuf {H : Type} [HashOps H] (sa : SecAcc H) : SecAcc H :=
  let r := carry sa.trees (sa.numLeaves / 4) 0 sa.nodeBuf
  { sa with trees := setTree sa.trees r.1 r.2, numLeaves := sa.numLeaves + 4 }

/-- `appendNode(h)` -/
def SecAcc.appendNode {H : Type} [HashOps H] (sa : SecAcc H) (h : H) : SecAcc H :=
  let sa1 := { sa with nodeBuf := sa.nodeBuf.set (sa.numLeaves % 4) h, numLeaves := sa.numLeaves + 1 }
  if sa1.numLeaves % 4 = 0 then { sa1 with numLeaves := sa1.numLeaves - 4 }.mergeNodeBuf else sa1

/-- `appendLeaves(leaves)` over the leaf hashes: whole groups of four go through `SumLeaves`
straight into `nodeBuf` (overwriting it — Go relies on `numLeaves % 4 == 0` here), the rest
through `appendNode` -/
def SecAcc.appendLeafHashes {H : Type} [HashOps H] (sa : SecAcc H) : List H → SecAcc H
  | w :: x :: y :: z :: rest => ({ sa with nodeBuf := ⟨w, x, y, z⟩ }.mergeNodeBuf).appendLeafHashes rest
  | l => l.foldl SecAcc.appendNode sa

/-- `root()` -/
def SecAcc.root {H : Type} [HashOps H] (sa : SecAcc H) : H :=
  if sa.numLeaves = 0 then zero
  else
    let part : Option H :=
      match sa.numLeaves % 4 with
      | 0 => none
      | 1 => some sa.nodeBuf.a
      | 2 => some (node sa.nodeBuf.a sa.nodeBuf.b)
      | _ => some (node (node sa.nodeBuf.a sa.nodeBuf.b) sa.nodeBuf.c)
    (rootLoop (fun l => root4 (sa.trees l)) (sa.numLeaves / 4) 0 part).getD zero

def leavesPerSector : Nat := 65536
/-- Go `MetaRoot(roots)`: the sector accumulator up to `LeavesPerSector` roots, the recursion above -/
def goMetaRootSA {H : Type} [HashOps H] (ls : List H) : H :=
  goMetaRoot leavesPerSector (fun l => (l.foldl SecAcc.appendNode SecAcc.empty).root) ls

/-! ## Range proofs over a list of roots (rhp/v2 Build/VerifySectorRangeProof,
rhp/v4 Build/VerifySectorRootsProof, VerifyLeafProof) -/

def maxUint64 : Nat := 18446744073709551615
def maxInt32 : Nat := 2147483647

/-- `buildRange(i, j)` inside `BuildSectorRangeProof` -/
def buildRange {H : Type} [HashOps H] (ls : List H) (i j : Nat) : List H :=
  if h : i < j ∧ i < ls.length then
    let sz0 := nextSubtreeSize i j
    let sz := if i + sz0 > ls.length then ls.length - i else sz0
    metaRoot ((ls.drop i).take sz) :: buildRange ls (i + sz) j
  else []
termination_by ls.length - i
decreasing_by
  have := nextSubtreeSize_pos i j
  split <;> omega

/-- `BuildSectorRangeProof(sectorRoots, start, end)` -/
def buildSectorRangeProof {H : Type} [HashOps H] (ls : List H) (start end_ : Nat) : Except String (List H) :=
  if ls.length = 0 then .ok []
  else if end_ > ls.length ∨ start > end_ ∨ start = end_ then .error "BuildSectorRangeProof: illegal proof range"
  else .ok (buildRange ls 0 start ++ buildRange ls end_ maxInt32)

/-- `insertRange(i, j)` / `consume(&proof, i, j)` of the verifiers: while `i < j` and
proof hashes remain, insert the next hash at the height of the next subtree.
Returns the accumulator and the unconsumed hashes. -/
def insertRange {H : Type} [HashOps H] (acc : Acc H) : List H → Nat → Nat → Acc H × List H
  | [], _, _ => (acc, [])
  | p :: ps, i, j =>
    if i < j then
      let sz := nextSubtreeSize i j
      insertRange (acc.insertNode p (tz sz)) ps (i + sz) j
    else (acc, p :: ps)

/-- `VerifySectorRangeProof(proof, rangeRoots, start, end, numRoots, root)` -/
def verifySectorRangeProof {H : Type} [HashOps H] [DecidableEq H]
    (proof rangeRoots : List H) (start end_ numRoots : Nat) (root : H) : Except String Bool :=
  if numRoots = 0 then .ok (proof.length == 0)
  else if rangeRoots.length ≠ end_ - start then .error "VerifySectorRangeProof: number of roots does not match range"
  else if end_ > numRoots ∨ start > end_ ∨ start = end_ then .error "VerifySectorRangeProof: illegal proof range"
  else if proof.length ≠ rangeProofSize numRoots start end_ then .ok false
  else
    let s1 := insertRange Acc.empty proof 0 start
    let acc := rangeRoots.foldl (fun a h => a.insertNode h 0) s1.1
    let s2 := insertRange acc s1.2 end_ maxUint64
    .ok (decide (s2.1.root = root))

/-! ## Range proofs inside one sector (rhp/v2 BuildProof, RangeProofVerifier;
rhp/v4 BuildSectorProof) — stated for any power-of-two leaf count `n` -/

/-- The recursion `rec(i, j)` of `BuildProof` over leaf hashes `ls`. `fuel` bounds the
halving depth (`j - i = 2^fuel`). -/
def buildProofRec {H : Type} [HashOps H] (ls : List H) (start end_ : Nat) : Nat → Nat → Nat → List H
  | fuel, i, j =>
    if i ≥ start ∧ j ≤ end_ then []
    else if j ≤ start ∨ i ≥ end_ then [metaRoot ((ls.drop i).take (j - i))]
    else match fuel with
      | 0 => []
      | f + 1 =>
        let mid := (i + j) / 2
        buildProofRec ls start end_ f i mid ++ buildProofRec ls start end_ f mid j

/-- `BuildProof(sector, start, end, nil)` over the sector's leaf hashes (`ls.length = 2^k`). -/
def buildProof {H : Type} [HashOps H] (ls : List H) (start end_ : Nat) : Except String (List H) :=
  if end_ > ls.length ∨ start > end_ ∨ start = end_ then .error "BuildProof: illegal proof range"
  else .ok (buildProofRec ls start end_ (Nat.log2 ls.length) 0 ls.length)

/-- `RangeProofVerifier.ReadFrom`: the roots of the subtrees `nextSubtreeSize` cuts
`[start, end)` into (each computed by `ReaderRoot`, i.e. the plain root of that block).
`ls` are the leaf hashes of the data read, i.e. of leaves `start … end-1`. -/
def rangeSubtreeRoots {H : Type} [HashOps H] (ls : List H) (i j : Nat) : List H :=
  if h : i < j then
    let sz := nextSubtreeSize i j
    metaRoot (ls.take sz) :: rangeSubtreeRoots (ls.drop sz) (i + sz) j
  else []
termination_by j - i
decreasing_by
  have := nextSubtreeSize_pos i j
  omega

/-- `RangeProofVerifier.Verify(proof, root)` after `ReadFrom` ingested `leaves`
(`n = LeavesPerSector` in Go). -/
def rangeProofVerify {H : Type} [HashOps H] [DecidableEq H]
    (n : Nat) (proof leaves : List H) (start end_ : Nat) (root : H) : Bool :=
  if proof.length ≠ rangeProofSize n start end_ then false
  else
    let roots := rangeSubtreeRoots leaves start end_
    let s1 := insertRange Acc.empty proof 0 start
    let s2 := insertRange s1.1 roots start end_
    let s3 := insertRange s2.1 s1.2 end_ n
    decide (s3.1.root = root)

/-! ## Append proofs -/

/-- `for i := range acc.trees { if acc.hasNodeAtHeight(i) && len(treeHashes) > 0 {…} }`,
`m = numLeaves >> i` -/
def fillTrees {H : Type} (t : Nat → H) (m i : Nat) (hs : List H) : Nat → H :=
  if h : m = 0 then t
  else if m % 2 = 1 then
    match hs with
    | [] => fillTrees t (m / 2) (i + 1) []
    | x :: hs' => fillTrees (setTree t i x) (m / 2) (i + 1) hs'
  else fillTrees t (m / 2) (i + 1) hs
termination_by m
decreasing_by all_goals omega

/-- rhp/v2 `VerifyAppendProof(numLeaves, treeHashes, sectorRoot, oldRoot, newRoot)` -/
def verifyAppendProof {H : Type} [HashOps H] [DecidableEq H]
    (numLeaves : Nat) (treeHashes : List H) (sectorRoot oldRoot newRoot : H) : Bool :=
  let acc : Acc H := ⟨fillTrees (fun _ => zero) numLeaves 0 treeHashes, numLeaves⟩
  if acc.root ≠ oldRoot then false
  else decide ((acc.insertNode sectorRoot 0).root = newRoot)

/-- the subtree roots at the set bits of `m = numLeaves >> i`, lowest first -/
def collectTrees {H : Type} (t : Nat → H) (m i : Nat) : List H :=
  if h : m = 0 then []
  else if m % 2 = 1 then t i :: collectTrees t (m / 2) (i + 1)
  else collectTrees t (m / 2) (i + 1)
termination_by m
decreasing_by all_goals omega

/-- rhp/v4 `BuildAppendProof(sectorRoots, appended)` -/
def buildAppendProof {H : Type} [HashOps H] (sectorRoots appended : List H) : List H × H :=
  let acc := sectorRoots.foldl Acc.addLeaf Acc.empty
  (collectTrees acc.trees acc.n 0, (appended.foldl Acc.addLeaf acc).root)

/-- rhp/v4 `VerifyAppendSectorsProof(numSectors, subtreeRoots, appended, oldRoot, newRoot)` -/
def verifyAppendSectorsProof {H : Type} [HashOps H] [DecidableEq H]
    (numSectors : Nat) (subtreeRoots appended : List H) (oldRoot newRoot : H) : Bool :=
  let acc : Acc H := ⟨fillTrees (fun _ => zero) numSectors 0 subtreeRoots, numSectors⟩
  if acc.root ≠ oldRoot then false
  else decide ((appended.foldl Acc.addLeaf acc).root = newRoot)

/-! ## Diff proofs (rhp/v2 Build/VerifyDiffProof; rhp/v4 Build/VerifyFreeSectorsProof) -/

/-- `RPCWriteAction` restricted to what the diff proofs support; an append carries the
root of the appended sector (`appendRoots`). Anything else is `other` (Go panics). -/
inductive Action (H : Type) where
  | append (root : H)
  | trim (n : Nat)
  | swap (a b : Nat)
  | other

def wrapDec (x : Nat) : Nat := (x + 18446744073709551615) % 18446744073709551616

/-- the indices touched by `Trim(k)` starting from `numSectors` (Go: `newNumSectors--` k times, wrapping) -/
def trimIndices : Nat → Nat → Nat × List Nat
  | 0, n => (n, [])
  | k + 1, n => let n' := wrapDec n; let r := trimIndices k n'; (r.1, n' :: r.2)

/-- all indices named by the actions, in action order, with the final sector count -/
def actionIndices {H : Type} : List (Action H) → Nat → Except String (List Nat)
  | [], _ => .ok []
  | .append _ :: as, n => do let r ← actionIndices as (n + 1); pure (n :: r)
  | .trim k :: as, n => do
      let t := trimIndices k n
      let r ← actionIndices as t.1
      pure (t.2 ++ r)
  | .swap a b :: as, n => do let r ← actionIndices as n; pure (a :: b :: r)
  | .other :: _, _ => .error "unknown or unsupported action type"

def insertSorted (x : Nat) : List Nat → List Nat
  | [] => [x]
  | y :: ys => if x < y then x :: y :: ys else if x = y then y :: ys else y :: insertSorted x ys

/-- sort + remove duplicates -/
def sortDedup (l : List Nat) : List Nat := l.foldr insertSorted []

/-- `sectorsChanged(actions, numSectors)` -/
def sectorsChanged {H : Type} (actions : List (Action H)) (numSectors : Nat) : Except String (List Nat) := do
  let idx ← actionIndices actions numSectors
  pure ((sortDedup idx).filter (· < numSectors))

/-- `buildRange(i, j)` inside `BuildDiffProof` (no clipping; Go panics on a slice beyond the list) -/
def diffBuildRange {H : Type} [HashOps H] (ls : List H) (i j : Nat) : Except String (List H) :=
  if h : i < j then
    let sz := nextSubtreeSize i j
    if i + sz > ls.length then .error "slice bounds out of range"
    else do
      let r ← diffBuildRange ls (i + sz) j
      pure (metaRoot ((ls.drop i).take sz) :: r)
  else .ok []
termination_by j - i
decreasing_by
  have := nextSubtreeSize_pos i j
  omega

/-- the tree hashes between the changed indices -/
def diffTreeHashes {H : Type} [HashOps H] (ls : List H) : List Nat → Nat → Except String (List H)
  | [], start => diffBuildRange ls start ls.length
  | e :: es, start => do
      let a ← diffBuildRange ls start e
      let b ← diffTreeHashes ls es (e + 1)
      pure (a ++ b)

/-- `BuildDiffProof(actions, sectorRoots)` -/
def buildDiffProof {H : Type} [HashOps H] (actions : List (Action H)) (ls : List H) :
    Except String (List H × List H) := do
  let indices ← sectorsChanged actions ls.length
  let leafs := indices.map (fun j => ls.getD j zero)
  let th ← diffTreeHashes ls indices 0
  pure (th, leafs)

/-- number of `buildRange` iterations -/
def diffRangeCount (i j : Nat) : Nat :=
  if h : i < j then 1 + diffRangeCount (i + nextSubtreeSize i j) j else 0
termination_by j - i
decreasing_by
  have := nextSubtreeSize_pos i j
  omega

def diffTreeCount : List Nat → Nat → Nat → Nat
  | [], start, n => diffRangeCount start n
  | e :: es, start, n => diffRangeCount start e + diffTreeCount es (e + 1) n

/-- `DiffProofSize(actions, numLeaves)` -/
def diffProofSize {H : Type} (actions : List (Action H)) (numLeaves : Nat) : Except String Nat := do
  let indices ← sectorsChanged actions numLeaves
  pure (indices.length + diffTreeCount indices 0 numLeaves)

/-- the inner loop of `verifyMulti` -/
def verifyMultiLoop {H : Type} [HashOps H] (acc : Acc H) (treeHashes : List H) :
    List Nat → List H → Nat → Nat → Except String (Acc H × List H)
  | [], _, start, numLeaves => .ok (insertRange acc treeHashes start numLeaves)
  | e :: es, leafs, start, numLeaves =>
    let s := insertRange acc treeHashes start e
    match leafs with
    | [] => .error "index out of range"
    | l :: leafs' => verifyMultiLoop (s.1.insertNode l 0) s.2 es leafs' (e + 1) numLeaves

/-- Does `verifyMulti` also require its accumulator to end with exactly `numLeaves` leaves
(Go: `&& acc.numLeaves == numLeaves`)? READ FROM THE CODE: the T-fact generator
`extract/facts_rhp.go` inspects the `return` of the `verifyMulti` closure on every run. The
pinned commit lacked the check (finding C16 "freed-index", `C16.c16_diff_forged_accepted`); it was
added by the fix 9e80790. Every theorem is stated for an explicit value of the flag, and
`C16.tie_verifyMulti_checks_leaf_count` pins the value the soundness theorems need. -/
def codeChecksLeafCount : Bool := Gen.FactsRhp.verifyMultiChecksLeafCount

/-- `verifyMulti(proofIndices, treeHashes, leafHashes, numLeaves, root)`; `checkCount` selects the
variant with the leaf-count check (see `codeChecksLeafCount`) -/
def verifyMultiG {H : Type} [HashOps H] [DecidableEq H] (checkCount : Bool)
    (proofIndices : List Nat) (treeHashes leafHashes : List H) (numLeaves : Nat) (root : H) : Except String Bool := do
  let s ← verifyMultiLoop Acc.empty treeHashes proofIndices leafHashes 0 numLeaves
  pure (decide (s.1.root = root) && s.2.length == 0 && (!checkCount || s.1.n == numLeaves))

/-- `modifyProofRanges` -/
def modifyProofRanges {H : Type} : List Nat → List (Action H) → Nat → Except String (List Nat)
  | idx, [], _ => .ok idx
  | idx, .append _ :: as, n => modifyProofRanges (idx ++ [n]) as (n + 1)
  | idx, .trim k :: as, n =>
      if k > idx.length then .error "slice bounds out of range"
      else modifyProofRanges (idx.take (idx.length - k)) as (n - k)
  | idx, .swap _ _ :: as, n => modifyProofRanges idx as n
  | _, .other :: _, _ => .error "unknown or unsupported action type"

/-- position of `x` in a sorted duplicate-free list (Go's `indexMap`; a missing key reads as 0) -/
def indexOf (x : Nat) : List Nat → Nat → Nat
  | [], _ => 0
  | y :: ys, k => if x = y then k else indexOf x ys (k + 1)

def swapList {H : Type} (l : List H) (i j : Nat) : Except String (List H) :=
  match l[i]?, l[j]? with
  | some a, some b => .ok ((l.set i b).set j a)
  | _, _ => .error "index out of range"

def applyLeafActions {H : Type} (sorted : List Nat) : List H → List (Action H) → Except String (List H)
  | leafs, [] => .ok leafs
  | leafs, .append r :: as => applyLeafActions sorted (leafs ++ [r]) as
  | leafs, .trim k :: as =>
      if k > leafs.length then .error "slice bounds out of range"
      else applyLeafActions sorted (leafs.take (leafs.length - k)) as
  | leafs, .swap a b :: as => do
      let l ← swapList leafs (indexOf a sorted 0) (indexOf b sorted 0)
      applyLeafActions sorted l as
  | _, .other :: _ => .error "unknown or unsupported action type"

/-- `modifyLeaves(leafHashes, actions, numSectors, appendRoots)` -/
def modifyLeaves {H : Type} (leafHashes : List H) (actions : List (Action H)) (numSectors : Nat) :
    Except String (List H) := do
  let idx ← actionIndices actions numSectors
  applyLeafActions (sortDedup idx) leafHashes actions

/-- `VerifyDiffProof(actions, numLeaves, treeHashes, leafHashes, oldRoot, newRoot, appendRoots)` -/
def verifyDiffProofG {H : Type} [HashOps H] [DecidableEq H] (checkCount : Bool)
    (actions : List (Action H)) (numLeaves : Nat) (treeHashes leafHashes : List H)
    (oldRoot newRoot : H) : Except String Bool :=
  match sectorsChanged actions numLeaves with
  | .error e => .error e
  | .ok proofIndices =>
    if proofIndices.length ≠ leafHashes.length then .ok false
    else
      -- first use the original proof to construct oldRoot
      match verifyMultiG checkCount proofIndices treeHashes leafHashes numLeaves oldRoot with
      | .error e => .error e
      | .ok false => .ok false
      | .ok true =>
        -- then modify the proof according to actions and construct the newRoot
        match modifyLeaves leafHashes actions numLeaves with
        | .error e => .error e
        | .ok newLeafHashes =>
          match modifyProofRanges proofIndices actions numLeaves with
          | .error e => .error e
          | .ok newProofIndices =>
            verifyMultiG checkCount newProofIndices treeHashes newLeafHashes
              (numLeaves + newLeafHashes.length - leafHashes.length) newRoot

/-- SPECIFICATION: the list of sector roots after performing the actions one after the other
(`Append` adds the root at the end, `Trim k` drops the last `k`, `Swap a b` exchanges two entries) -/
def applyActions {H : Type} : List H → List (Action H) → Except String (List H)
  | l, [] => .ok l
  | l, .append r :: as => applyActions (l ++ [r]) as
  | l, .trim k :: as =>
      if k > l.length then .error "slice bounds out of range" else applyActions (l.take (l.length - k)) as
  | l, .swap a b :: as => do
      let l' ← swapList l a b
      applyActions l' as
  | _, .other :: _ => .error "unknown or unsupported action type"

/-- rhp/v4 `convertFreeActions(freed, numSectors)` -/
def convertFreeActions {H : Type} (freed : List Nat) (numSectors : Nat) : List (Action H) :=
  (freed.zipIdx.map (fun (x : Nat × Nat) => Action.swap x.1 ((numSectors + 18446744073709551616 - x.2 - 1) % 18446744073709551616)))
    ++ [Action.trim freed.length]

/-- rhp/v4 `BuildFreeSectorsProof(sectorRoots, freed)` -/
def buildFreeSectorsProof {H : Type} [HashOps H] (ls : List H) (freed : List Nat) :=
  buildDiffProof (convertFreeActions freed ls.length) ls

/-- rhp/v4 `VerifyFreeSectorsProof(treeHashes, leafHashes, freed, numSectors, oldRoot, newRoot)` -/
def verifyFreeSectorsProofG {H : Type} [HashOps H] [DecidableEq H] (checkCount : Bool)
    (treeHashes leafHashes : List H) (freed : List Nat) (numSectors : Nat) (oldRoot newRoot : H) :=
  verifyDiffProofG checkCount (convertFreeActions freed numSectors) numSectors treeHashes leafHashes oldRoot newRoot

/-- the verifiers as the code has them now -/
def verifyDiffProof {H : Type} [HashOps H] [DecidableEq H] (actions : List (Action H)) (numLeaves : Nat)
    (treeHashes leafHashes : List H) (oldRoot newRoot : H) : Except String Bool :=
  verifyDiffProofG codeChecksLeafCount actions numLeaves treeHashes leafHashes oldRoot newRoot

def verifyFreeSectorsProof {H : Type} [HashOps H] [DecidableEq H]
    (treeHashes leafHashes : List H) (freed : List Nat) (numSectors : Nat) (oldRoot newRoot : H) :=
  verifyFreeSectorsProofG codeChecksLeafCount treeHashes leafHashes freed numSectors oldRoot newRoot

/-- the sector roots after freeing: swap each freed index with the current last, then trim -/
def applyFree {H : Type} (ls : List H) (freed : List Nat) : Except String (List H) := do
  let swapped ← (freed.zipIdx).foldlM
    (fun (l : List H) (x : Nat × Nat) => swapList l x.1 (ls.length - x.2 - 1)) ls
  pure (swapped.take (ls.length - freed.length))

/-! ## ConvertProofOrdering and the consensus-style leaf-to-root verification -/

/-- the loop of `ConvertProofOrdering`; `idx = index >> i`. `fuel` bounds the number of
bit positions visited (Go loops until all hashes are placed). -/
def convertLoop {H : Type} : Nat → Nat → List H → List H → Except String (List H)
  | 0, _, _, _ => .ok []
  | fuel + 1, idx, lefts, rights =>
    if lefts.length + rights.length = 0 then .ok []
    else if idx % 2 = 1 then
      match lefts.getLast? with
      | none => .error "index out of range"
      | some x => do
        let r ← convertLoop fuel (idx / 2) lefts.dropLast rights
        pure (x :: r)
    else match rights with
      | [] => convertLoop fuel (idx / 2) lefts rights
      | x :: rs => do
        let r ← convertLoop fuel (idx / 2) lefts rs
        pure (x :: r)

/-- `ConvertProofOrdering(proof, index)` (panics when the proof has fewer than
`popcount index` hashes) -/
def convertProofOrdering {H : Type} (proof : List H) (index : Nat) : Except String (List H) :=
  let k := popcount index
  if k > proof.length then .error "slice bounds out of range"
  else convertLoop (proof.length + 64) index (proof.take k) (proof.drop k)

/-- leaf-to-root evaluation of a single-leaf proof in a balanced `2^k`-leaf tree, as
consensus does it for storage proofs: the sibling is on the left when the index bit is 1. -/
def leafToRoot {H : Type} [HashOps H] (h : H) (index : Nat) : List H → H
  | [] => h
  | p :: ps => leafToRoot (if index % 2 = 1 then node p h else node h p) (index / 2) ps

end Sia.Rhp
