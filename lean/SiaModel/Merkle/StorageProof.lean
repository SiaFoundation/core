/-
  SiaModel.Merkle.StorageProof — consensus storage-proof verification (property C07, proof part).

  Mirrors /repo/consensus/merkle.go (`proofRoot`, `storageProofRoot`, used for v2 contracts) and
  the closures `lastLeafIndex`, `storageProofLeaf`, `storageProofRoot` inside
  `validateFileContracts` (/repo/consensus/validation.go, v1 contracts, three leaf eras).
  The specification root of a file is `Sia.Rhp.metaRoot` over the leaf hashes of its 64-byte
  segments (the last one zero-padded); `spPath` is the honest leaf-to-root proof.

  `uint64` values are `Nat < 2^64`; the only wrap-around that is reachable
  (`lastLeafIndex` of an empty file: `0 - 1`) is modelled. Core Lean only.
-/
import SiaModel.Merkle.Rhp
import SiaModel.Prim.GoSem
set_option linter.unusedVariables false

namespace Sia.SP
open Sia.Rhp Sia.Rhp.HashOps

/-- `bits.Len64` -/
def bitLen (x : Nat) : Nat := if x = 0 then 0 else Nat.log2 x + 1

/-- `proofRoot(leafHash, leafIndex, proof)`: bit `i` of the index clear ⇒ sibling on the right -/
def proofRoot {H : Type} [HashOps H] (leafHash : H) (leafIndex : Nat) (proof : List H) : H :=
  leafToRoot leafHash leafIndex proof

/-- `lastLeafIndex` as computed in `storageProofSubtreeHeight` (consensus/merkle.go): `filesize/64`, minus one
(wrapping) when `filesize` is a multiple of 64 -/
def lastLeafIndex (filesize : Nat) : Nat :=
  if filesize % 64 = 0 then (filesize / 64 + 18446744073709551615) % 18446744073709551616 else filesize / 64

/-- consensus/merkle.go `storageProofSubtreeHeight(leafIndex, filesize)`: the height at which the path
of the leaf merges with the path of the last leaf -/
def storageProofSubtreeHeight (leafIndex filesize : Nat) : Nat :=
  bitLen (leafIndex ^^^ lastLeafIndex filesize)

/-- consensus/merkle.go `storageProofRoot(leafHash, leafIndex, filesize, proof)` (v2 contracts) -/
def storageProofRoot {H : Type} [HashOps H] (leafHash : H) (leafIndex filesize : Nat) (proof : List H) : H :=
  let subtreeHeight := storageProofSubtreeHeight leafIndex filesize
  if proof.length < subtreeHeight then zero
  else (proof.drop subtreeHeight).foldl (fun root h => node h root)
    (proofRoot leafHash leafIndex (proof.take subtreeHeight))

/-- the loop of the v1 closure `storageProofRoot` in `validateFileContracts`:
`if leafIndex&(1<<i) != 0 || i >= subtreeHeight { root = SumPair(h, root) } else { root = SumPair(root, h) }` -/
def spLoop {H : Type} [HashOps H] (leafIndex subtreeHeight : Nat) : Nat → H → List H → H
  | _, root, [] => root
  | i, root, h :: rest =>
    spLoop leafIndex subtreeHeight (i + 1)
      (if leafIndex / 2 ^ i % 2 = 1 ∨ i ≥ subtreeHeight then node h root else node root h) rest

/-- zero-extend to one 64-byte leaf (`buf := make([]byte, 1+leafSize); copy(buf[1:], leaf)`) -/
def padLeaf (b : ByteArray) : ByteArray := b ++ Bytes.zeros (64 - b.size)

/-- the v1 closure `storageProofRoot(leafIndex, filesize, leaf, proof)` -/
def storageProofRootV1 {H : Type} [HashOps H] (leafIndex filesize : Nat) (leafBytes : ByteArray) (proof : List H) : H :=
  spLoop leafIndex (bitLen (leafIndex ^^^ lastLeafIndex filesize)) 0 (leaf (padLeaf leafBytes)) proof

/-- the three leaf eras of v1 storage proofs -/
inductive Era where
  | preTax          -- childHeight < HardforkTax.Height
  | preStorageProof -- < HardforkStorageProof.Height
  | current

/-- the v1 closure `storageProofLeaf(leafIndex, filesize, leaf)`; `none` is Go's `nil` (no check) -/
def storageProofLeaf (era : Era) (leafIndex filesize : Nat) (leaf64 : ByteArray) : Option ByteArray :=
  match era with
  | .preTax => some leaf64
  | .preStorageProof =>
    if leafIndex = lastLeafIndex filesize then some (leaf64.extract 0 (filesize % 64)) else some leaf64
  | .current =>
    if filesize = 0 then none
    else if leafIndex = lastLeafIndex filesize ∧ filesize % 64 ≠ 0 then some (leaf64.extract 0 (filesize % 64))
    else some leaf64

/-- the verdict of the v1 storage-proof check in `validateFileContracts` for one proof
(after the contract and the leaf index have been determined) -/
def verifyV1 {H : Type} [HashOps H] [DecidableEq H] (era : Era) (leafIndex filesize : Nat) (leaf64 : ByteArray)
    (proof : List H) (root : H) : Bool :=
  match storageProofLeaf era leafIndex filesize leaf64 with
  | none => true
  | some lf =>
    if filesize > 0 ∧ proof.length < bitLen (leafIndex ^^^ lastLeafIndex filesize) then false
    else decide (storageProofRootV1 leafIndex filesize lf proof = root)

/-- the verdict of the v2 storage-proof check in `validateV2FileContracts` (after the height and
history checks and the computation of the leaf index):
`fc.Filesize > 0 && len(sp.Proof) < storageProofSubtreeHeight(leafIndex, fc.Filesize)` ⇒ reject
("too few proof hashes", added by fix a3a6e71), then
`storageProofRoot(StorageProofLeafHash(leaf), leafIndex, filesize, proof) == root` -/
def verifyV2 {H : Type} [HashOps H] [DecidableEq H] (leafIndex filesize : Nat) (leaf64 : ByteArray)
    (proof : List H) (root : H) : Bool :=
  if filesize > 0 ∧ proof.length < storageProofSubtreeHeight leafIndex filesize then false
  else decide (storageProofRoot (leaf (padLeaf leaf64)) leafIndex filesize proof = root)

/-- the v2 verdict BEFORE fix a3a6e71 (no guard): kept for `C07.c07_v2_zero_root_counterexample` -/
def verifyV2NoGuard {H : Type} [HashOps H] [DecidableEq H] (leafIndex filesize : Nat) (leaf64 : ByteArray)
    (proof : List H) (root : H) : Bool :=
  decide (storageProofRoot (leaf (padLeaf leaf64)) leafIndex filesize proof = root)

/-! ## the challenged leaf (consensus/state.go `State.StorageProofLeafIndex`) -/

/-- number of 64-byte leaves of a file of `filesize` bytes (`StorageProofLeafIndex`'s `numLeaves`) -/
def numLeaves (filesize : Nat) : Nat := if filesize % 64 ≠ 0 then filesize / 64 + 1 else filesize / 64


/-- the loop `for i := 0; i < len(seed); i += 8 { _, r = bits.Div64(r, binary.BigEndian.Uint64(seed[i:]), numLeaves) }`
over the four big-endian words of the 32-byte seed, from word `k` on (`bits.Div64` panics on a zero
divisor and on `numLeaves ≤ r`) -/
def leafIndexLoop (seed : ByteArray) (numLeaves : Nat) : Nat → Nat → Except String Nat
  | 0, r => .ok r
  | fuel + 1, r => do
      let qr ← Go.bits_Div64 r (readBe64 seed (8 * (3 - fuel))) numLeaves
      leafIndexLoop seed numLeaves fuel qr.2

/-- `StorageProofLeafIndex` after `seed := hashAll(windowID, fcid)`: number of leaves rounded up,
`0` for an empty file, otherwise the 256-bit seed reduced word by word -/
def storageProofLeafIndexOfSeed (filesize : Nat) (seed : ByteArray) : Except String Nat :=
  if numLeaves filesize = 0 then .ok 0
  else leafIndexLoop seed (numLeaves filesize) 4 0

/-- `State.StorageProofLeafIndex(filesize, windowID, fcid)`; `hash` is `hashAll` on the two 32-byte
ids, i.e. BLAKE2b-256 of their concatenation -/
def storageProofLeafIndex (hash : ByteArray → ByteArray) (filesize : Nat) (windowID fcid : ByteArray) : Except String Nat :=
  storageProofLeafIndexOfSeed filesize (hash (windowID ++ fcid))

/-! ## the prover side (specification) -/

/-- the leaves of a file: 64-byte segments, the last one zero-padded -/
def fileLeaves (file : ByteArray) : List ByteArray :=
  (List.range (numLeaves file.size)).map (fun i => padLeaf (file.extract (64 * i) (64 * i + 64)))

/-- the Merkle root of a file -/
def fileRoot {H : Type} [HashOps H] (file : ByteArray) : H := metaRoot ((fileLeaves file).map leaf)

/-- the honest leaf-to-root proof of leaf `i` in the plain tree over `ls` -/
def spPath {H : Type} [HashOps H] (ls : List H) (i : Nat) : List H :=
  if h : ls.length < 2 then []
  else
    let k := splitPoint ls.length
    if i < k then spPath (ls.take k) i ++ [metaRoot (ls.drop k)]
    else spPath (ls.drop k) (i - k) ++ [metaRoot (ls.take k)]
termination_by ls.length
decreasing_by
  · have := splitPoint_lt (n := ls.length) (by omega)
    simp [List.length_take]; omega
  · have := splitPoint_pos ls.length
    simp [List.length_drop]; omega

end Sia.SP
