/-
  SiaModel.Merkle.Accumulator — executable model of `consensus/merkle.go`
  (ElementAccumulator): a function-by-function transliteration of

    mergeHeight, clearBits, proofRoot, elementLeaf.hash/proofRoot,
    hasTreeAtHeight, containsLeaf, addLeaves, updateLeaves (with `recompute`),
    applyBlock, revertBlock, updateProof,
    elementApplyUpdate.updateElementProof, elementRevertUpdate.updateElementProof

  over `Nat` indices and `List H` proofs.  In-place slice writes become functional
  updates; `[64]T` arrays become functions `Nat → T` (entries at heights without a
  tree are stale in Go and are never observed; they are never observed here either).
  Go panics are `Except.error`.

  Standing assumption: leaf counts are `< 2^64` (the theorems that assign indices ask
  `≤ unassignedLeafIndex`), proofs are shorter
  than 64 — outside that range Go's `1<<height` / `[64]` indexing wraps or panics and
  the model does not follow it.

  Core Lean only (linked into the driver).
-/
import SiaModel.Merkle.Forest
namespace Sia.ElemAcc

/-- `mergeHeight x y = bits.Len64(x ^ y)` -/
def mergeHeight (x y : Nat) : Nat := bitLen (x ^^^ y)

/-- `clearBits x n = x &^ (1<<n - 1)`: clear the `n` least significant bits. -/
def clearBits (x n : Nat) : Nat := x - x % 2 ^ n

/-- `types.UnassignedLeafIndex` -/
def unassignedLeafIndex : Nat := 10101010101010101010

/-- `elementLeaf`: element hash, spent flag and the StateElement's index and proof. -/
structure Leaf (H : Type) where
  elem : H
  spent : Bool
  index : Nat
  proof : List H

/-- functional array write -/
def setFn {α : Type} (f : Nat → α) (k : Nat) (v : α) : Nat → α := fun j => if j = k then v else f j

section
variable {H : Type} [Hasher H]

/-- `elementLeaf.hash` -/
def Leaf.hash (l : Leaf H) : H := Hasher.leaf l.elem l.index l.spent

/-- the loop of `proofRoot`, started at proof position `lvl` -/
def proofRootFrom (idx : Nat) : Nat → H → List H → H
  | _, root, [] => root
  | lvl, root, h :: t =>
    proofRootFrom idx (lvl + 1) (if idx.testBit lvl then node h root else node root h) t

/-- `proofRoot(leafHash, leafIndex, proof)` -/
def proofRoot (leafHash : H) (idx : Nat) (proof : List H) : H := proofRootFrom idx 0 leafHash proof

/-- `elementLeaf.proofRoot` -/
def Leaf.proofRoot (l : Leaf H) : H := ElemAcc.proofRoot l.hash l.index l.proof

/-- `ElementAccumulator` -/
structure Acc (H : Type) where
  trees : Nat → H
  numLeaves : Nat

/-- `hasTreeAtHeight` -/
def Acc.hasTreeAtHeight (acc : Acc H) (height : Nat) : Bool := hasTree acc.numLeaves height

/-- `containsLeaf` -/
def Acc.containsLeaf [DecidableEq H] (acc : Acc H) (l : Leaf H) : Bool :=
  acc.hasTreeAtHeight l.proof.length && decide (acc.trees l.proof.length = l.proofRoot)

/-! ### addLeaves -/

/-- loop state of `addLeaves`: the accumulator, the batch leaves processed so far
    (including the current one) and `treeGrowth` -/
structure AddState (H : Type) where
  trees : Nat → H
  numLeaves : Nat
  leaves : List (Leaf H)
  growth : Nat → List H

/-- The two backward loops `for ; j > startOfNewTree && j >= 0; j--` and
    `for ; j > startOfOldTree && j >= 0; j--` of one merge step for batch leaf `i`
    (`leaves` has length `i+1`): the last `2^height` batch leaves get `oldRoot`, the
    `2^height` before them get `h`. -/
def appendSiblings (leaves : List (Leaf H)) (i height : Nat) (oldRoot h : H) : List (Leaf H) :=
  leaves.mapIdx fun j l =>
    if i < j + 2 ^ height then { l with proof := l.proof ++ [oldRoot] }
    else if i < j + 2 ^ (height + 1) then { l with proof := l.proof ++ [h] }
    else l

/-- The `for bit := range treeGrowth` loop of one merge step. -/
def growStep (initial numLeaves height : Nat) (oldRoot h : H) (growth : Nat → List H) : Nat → List H :=
  let curTreeIndex := (numLeaves + 1) - 2 ^ height
  let prevTreeIndex := (numLeaves + 1) - 2 ^ (height + 1)
  fun bit =>
    if bit < 64 ∧ initial.testBit bit then
      let treeStartIndex := clearBits initial (bit + 1)
      if treeStartIndex ≥ curTreeIndex then growth bit ++ [oldRoot]
      else if treeStartIndex ≥ prevTreeIndex then growth bit ++ [h]
      else growth bit
    else growth bit

/-- `for height := range &acc.Trees` for batch leaf `i`; `fuel = 64 - height`. -/
def addLeafLoop (initial i : Nat) : Nat → Nat → H → AddState H → AddState H
  | 0, _, _, st => st
  | fuel + 1, height, h, st =>
    if !hasTree st.numLeaves height then
      { st with trees := setFn st.trees height h, numLeaves := st.numLeaves + 1 }
    else
      let oldRoot := st.trees height
      let st' := { st with
        leaves := appendSiblings st.leaves i height oldRoot h
        growth := growStep initial st.numLeaves height oldRoot h st.growth }
      addLeafLoop initial i fuel (height + 1) (node oldRoot h) st'

/-- one iteration of `for i, el := range leaves` -/
def addOne (initial : Nat) (el : Leaf H) (st : AddState H) : AddState H :=
  let el := { el with index := st.numLeaves }
  addLeafLoop initial st.leaves.length 64 0 el.hash { st with leaves := st.leaves ++ [el] }

def addLeavesGo (initial : Nat) : List (Leaf H) → AddState H → AddState H
  | [], st => st
  | el :: rest, st => addLeavesGo initial rest (addOne initial el st)

/-- `addLeaves`: returns the new accumulator, the batch with indices and proofs
    filled in, and `treeGrowth`. -/
def Acc.addLeaves (acc : Acc H) (leaves : List (Leaf H)) : Acc H × List (Leaf H) × (Nat → List H) :=
  let st := addLeavesGo acc.numLeaves leaves
    { trees := acc.trees, numLeaves := acc.numLeaves, leaves := [], growth := fun _ => [] }
  ({ trees := st.trees, numLeaves := st.numLeaves }, st.leaves, st.growth)

/-! ### updateLeaves -/

variable [Inhabited H]

/-- `e.MerkleProof[k] = x` -/
def Leaf.setProofAt (l : Leaf H) (k : Nat) (x : H) : Leaf H := { l with proof := l.proof.set k x }

/-- `recompute(i, j, leaves)` with `j = i + 2^height`; returns the root and the
    leaves with rewritten proofs. `sort.Search` on the (sorted) leaves is the
    `takeWhile/dropWhile` split. -/
def recompute : Nat → Nat → List (Leaf H) → Except String (H × List (Leaf H))
  | 0, _, leaves =>
    match leaves with
    | [l] => .ok (l.hash, [l])
    | [] => .error "index out of range"
    | _ => .error "consensus: multiple leaves with same accumulator index"
  | height + 1, i, leaves =>
    let mid := i + 2 ^ height
    let left := leaves.takeWhile (fun l => l.index < mid)
    let right := leaves.dropWhile (fun l => l.index < mid)
    match left, right with
    | [], [] => .error "index out of range"
    | [], r0 :: _ => do
      let leftRoot := r0.proof.getD height default
      let (rightRoot, right') ← recompute height mid right
      pure (node leftRoot rightRoot, right')
    | _ :: _, [] => do
      let (leftRoot, left') ← recompute height i left
      let rightRoot := match left' with
        | l0 :: _ => l0.proof.getD height default
        | [] => default
      pure (node leftRoot rightRoot, left')
    | _ :: _, _ :: _ => do
      let (leftRoot, left') ← recompute height i left
      let right1 := right.map (·.setProofAt height leftRoot)
      let (rightRoot, right') ← recompute height mid right1
      let left'' := left'.map (·.setProofAt height rightRoot)
      pure (node leftRoot rightRoot, left'' ++ right')

/-- the order of `sort.Slice` in `updateLeaves`: by proof length, then leaf index -/
def leafLE (a b : Leaf H) : Bool :=
  a.proof.length < b.proof.length || (a.proof.length == b.proof.length && a.index ≤ b.index)

/-- the leaves of one tree after `recompute` -/
def updateGroup (sorted : List (Leaf H)) (height : Nat) : Except String (List (Leaf H)) :=
  match sorted.filter (fun l => l.proof.length == height) with
  | [] => .ok []
  | l0 :: rest => do
    let start := clearBits l0.index height
    let (_, grp) ← recompute height start (l0 :: rest)
    pure grp

def updateGroups (sorted : List (Leaf H)) : Nat → Except String (Nat → List (Leaf H))
  | 0 => .ok (fun _ => [])
  | k + 1 => do
    let t ← updateGroups sorted k
    let g ← updateGroup sorted k
    pure (setFn t k g)

/-- `updateLeaves`: leaves grouped by tree height, proofs mutually updated. -/
def updateLeaves (leaves : List (Leaf H)) : Except String (Nat → List (Leaf H)) :=
  updateGroups (leaves.mergeSort leafLE) 64

/-! ### applyBlock / revertBlock -/

/-- `elementApplyUpdate` -/
structure ApplyUpdate (H : Type) where
  updated : Nat → List (Leaf H)
  growth : Nat → List H
  oldNumLeaves : Nat
  numLeaves : Nat

/-- `elementRevertUpdate` -/
structure RevertUpdate (H : Type) where
  updated : Nat → List (Leaf H)
  numLeaves : Nat

/-- `for height, es := range eau.updated { if len(es) > 0 { acc.Trees[height] = es[0].proofRoot() } }` -/
def Acc.withUpdatedRoots (acc : Acc H) (upd : Nat → List (Leaf H)) : Acc H where
  trees := fun height =>
    match upd height with
    | l0 :: _ => if height < 64 then l0.proofRoot else acc.trees height
    | [] => acc.trees height
  numLeaves := acc.numLeaves

/-- the treeGrowth extension of the updated leaves' proofs at the end of `applyBlock` -/
def extendUpdated (upd : Nat → List (Leaf H)) (growth : Nat → List H) : Nat → List (Leaf H) :=
  fun height => (upd height).map fun l => { l with proof := l.proof ++ growth l.proof.length }

/-- `applyBlock`: new accumulator, the update, and the added leaves (indices and
    proofs filled in). The updated leaves with their final proofs are
    `eau.updated` (Go shares the StateElements between the caller's slice and
    `eau.updated`, so the treeGrowth extension is visible in both). -/
def Acc.applyBlock (acc : Acc H) (updated added : List (Leaf H)) :
    Except String (Acc H × ApplyUpdate H × List (Leaf H)) := do
  let upd ← updateLeaves updated
  let r := (acc.withUpdatedRoots upd).addLeaves added
  pure (r.1, { updated := extendUpdated upd r.2.2, growth := r.2.2, oldNumLeaves := acc.numLeaves, numLeaves := r.1.numLeaves }, r.2.1)

/-- `revertBlock`: `acc` is the accumulator before the block; returns the update and
    the added leaves with their (now meaningless) indices assigned. -/
def Acc.revertBlock (acc : Acc H) (updated added : List (Leaf H)) :
    Except String (RevertUpdate H × List (Leaf H)) := do
  let upd ← updateLeaves updated
  pure ({ updated := upd, numLeaves := acc.numLeaves },
        added.mapIdx fun i l => { l with index := acc.numLeaves + i })

/-! ### updateProof / updateElementProof -/

/-- Go's `copy(dst, src)` on lists -/
def copyInto {α : Type} (dst src : List α) : List α := src.take dst.length ++ dst.drop src.length

/-- `updateProof(e, updated)`; returns the new `e.MerkleProof`. -/
def updateProof (idx : Nat) (proof : List H) (updated : Nat → List (Leaf H)) : Except String (List H) :=
  match updated proof.length with
  | [] => .ok proof
  | u0 :: us =>
    let best := us.foldl (fun best ul =>
      if mergeHeight idx ul.index < mergeHeight idx best.index then ul else best) u0
    if best.index = idx then
      .ok (copyInto proof best.proof)
    else
      let mh := mergeHeight idx best.index
      if mh > proof.length ∨ mh > best.proof.length then .error "slice bounds out of range"
      else
        let p1 := proof.take mh ++ copyInto (proof.drop mh) (best.proof.drop mh)
        .ok (p1.set (mh - 1) (ElemAcc.proofRoot best.hash best.index (best.proof.take (mh - 1))))

/-- `elementApplyUpdate.updateElementProof` -/
def ApplyUpdate.updateElementProof (u : ApplyUpdate H) (idx : Nat) (proof : List H) : Except String (List H) :=
  if idx = unassignedLeafIndex then .error "cannot update an ephemeral element"
  else if idx ≥ u.oldNumLeaves then .ok proof
  else do
    let p ← updateProof idx proof u.updated
    if mergeHeight u.numLeaves idx ≠ p.length then pure (p ++ u.growth p.length) else pure p

/-- `elementRevertUpdate.updateElementProof` -/
def RevertUpdate.updateElementProof (u : RevertUpdate H) (idx : Nat) (proof : List H) : Except String (List H) :=
  if idx = unassignedLeafIndex then .error "cannot update an ephemeral element"
  else if idx ≥ u.numLeaves then .error "cannot update an element that is not present in the accumulator"
  else
    let mh := mergeHeight u.numLeaves idx
    let p := if mh ≤ proof.length then proof.take (mh - 1) else proof
    updateProof idx p u.updated

end
end Sia.ElemAcc
