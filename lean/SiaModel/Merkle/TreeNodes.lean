/-
  SiaModel.Merkle.TreeNodes — `ApplyUpdate.ForEachTreeNode` (consensus/application.go;
  `RevertUpdate.ForEachTreeNode` is the same walk after a skip of the elements with
  `LeafIndex >= numLeaves`, which is not modelled): the stream of accumulator nodes (row, column, hash) handed to
  clients that maintain a node store.

  For every element of the update, in diff order: the leaf `(0, LeafIndex, el.hash())`, then
  — hashing up along the element's proof — every ancestor `(row, LeafIndex >> row, h)`,
  stopping at the first coordinate already reported ("already seen everything above this").
  `seen` is the Go map, here the list of coordinates reported so far. Core Lean only.
-/
import SiaModel.Merkle.Accumulator
namespace Sia.ElemAcc

section
variable {H : Type} [Hasher H]

/-- the `for i, sibling := range el.MerkleProof` loop: current node `(row, col, h)`, remaining
    proof; returns the nodes reported and the updated `seen` -/
def walkUp (idx : Nat) : Nat → Nat → H → List H → List (Nat × Nat) → List (Nat × Nat × H) × List (Nat × Nat)
  | _, _, _, [], seen => ([], seen)
  | row, col, h, sibling :: rest, seen =>
    let h' := if idx.testBit row then node sibling h else node h sibling
    let col' := col / 2
    if (row + 1, col') ∈ seen then ([], seen)
    else
      let r := walkUp idx (row + 1) col' h' rest ((row + 1, col') :: seen)
      ((row + 1, col', h') :: r.1, r.2)

/-- one element: its leaf is reported unconditionally, then its ancestors -/
def nodesOfLeaf (l : Leaf H) (seen : List (Nat × Nat)) : List (Nat × Nat × H) × List (Nat × Nat) :=
  let r := walkUp l.index 0 l.index l.hash l.proof ((0, l.index) :: seen)
  ((0, l.index, l.hash) :: r.1, r.2)

def nodesFrom : List (Leaf H) → List (Nat × Nat) → List (Nat × Nat × H)
  | [], _ => []
  | l :: ls, seen =>
    let r := nodesOfLeaf l seen
    r.1 ++ nodesFrom ls r.2

/-- `ForEachTreeNode` over the elements of an update (with the proofs they carry after the
    block), in the order of the diffs -/
def forEachTreeNode (els : List (Leaf H)) : List (Nat × Nat × H) := nodesFrom els []

end
end Sia.ElemAcc
