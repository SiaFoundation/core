/-
  SiaModel.Merkle.Forest — the SPECIFICATION: the naive Merkle forest of a list of
  leaf hashes (C04, C05; reused by C18, C20).

  For `n = ls.length` leaves the forest has one perfect tree per set bit of `n`,
  the highest tree first (leftmost).  Everything is written structurally over an
  abstract hash type `H` with a binary node function; nothing here is derived from
  `consensus/merkle.go`.

  * `subRoot ls h s`    root of the perfect tree of height `h` over `ls[s .. s+2^h)`
  * `perfectRoot h l`   the same for a list that is exactly one tree
  * `treeStart n h`     first leaf index of the tree of height `h` (bit `h` of `n` set)
  * `subPath ls h p H S` sibling hashes, bottom-up, from the height-`h` subtree that
                        contains leaf `p` up to the root of the subtree `(H,S)`
  * `path ls i`         the Merkle proof of leaf `i`: siblings from the leaf to the
                        root of the tree that contains it
  * `forestOf ls`       `(numLeaves, trees : height → Option H)`

  Core Lean only (linked into the driver).
-/
namespace Sia.ElemAcc

/-- The hash interface the accumulator code uses: `node l r` is
    `blake2b(0x01 ‖ l ‖ r)` (`blake2b.SumPair`), `leaf e i s` is
    `elementLeaf.hash`: `blake2b(0x00 ‖ elementHash ‖ le64 leafIndex ‖ spentByte)`. -/
class Hasher (H : Type) where
  node : H → H → H
  leaf : H → Nat → Bool → H

export Hasher (node)

section
variable {H : Type} [Hasher H] [Inhabited H]

/-- Root of the perfect subtree of height `h` whose first leaf is `ls[s]`. -/
def subRoot (ls : List H) : Nat → Nat → H
  | 0, s => ls.getD s default
  | h + 1, s => node (subRoot ls h s) (subRoot ls h (s + 2 ^ h))

/-- Root of a list that forms exactly one perfect tree of height `h`. -/
def perfectRoot (h : Nat) (l : List H) : H := subRoot l h 0

/-- The same root written by halving the list (no index arithmetic): the root of the
    perfect tree over the first `2^h` elements of `l`. `Lemmas/Forest: subRoot_eq_halving`
    proves `subRoot ls h s = halvingRoot h (ls.drop s)`. -/
def halvingRoot : Nat → List H → H
  | 0, l => l.headD default
  | h + 1, l => node (halvingRoot h (l.take (2 ^ h))) (halvingRoot h (l.drop (2 ^ h)))

/-- First leaf of the tree of height `h` in a forest of `n` leaves: the sum of the
    sizes of all higher trees, i.e. `n` with its low `h+1` bits cleared. -/
def treeStart (n h : Nat) : Nat := n / 2 ^ (h + 1) * 2 ^ (h + 1)

/-- Is there a tree of height `h` in a forest of `n` leaves? -/
def hasTree (n h : Nat) : Bool := n.testBit h

/-- Number of bits needed to write `x` (Go `bits.Len64`). -/
def bitLen (x : Nat) : Nat := if x = 0 then 0 else Nat.log2 x + 1

/-- Height of the tree containing leaf `i < n`: the highest bit in which `n` and `i`
    differ (`Lemmas/Bits: treeHeight_spec`, `treeHeight_unique`: this is the unique `h` with bit
    `h` of `n` set and `treeStart n h ≤ i < treeStart n h + 2^h`). -/
def treeHeight (n i : Nat) : Nat := bitLen (n ^^^ i) - 1

/-- Sibling hashes, bottom-up, on the way from the height-`h` subtree containing leaf
    `p` up to the root of the subtree of height `Ht` starting at `S`.
    Written by descent from the root: at every level the sibling is the root of the
    half that does not contain `p`. -/
def subPath (ls : List H) (h p : Nat) : Nat → Nat → List H
  | 0, _ => []
  | Ht + 1, S =>
    if Ht + 1 ≤ h then []
    else if p < S + 2 ^ Ht then subPath ls h p Ht S ++ [subRoot ls Ht (S + 2 ^ Ht)]
    else subPath ls h p Ht (S + 2 ^ Ht) ++ [subRoot ls Ht S]

/-- The Merkle proof of leaf `i` in the naive forest of `ls`. -/
def path (ls : List H) (i : Nat) : List H :=
  let h := treeHeight ls.length i
  subPath ls 0 i h (treeStart ls.length h)

/-- The naive forest. -/
structure Forest (H : Type) where
  numLeaves : Nat
  trees : Nat → Option H

def forestOf (ls : List H) : Forest H where
  numLeaves := ls.length
  trees := fun h => if hasTree ls.length h then some (subRoot ls h (treeStart ls.length h)) else none

/-- Replace leaf `i` (specification of an in-place leaf update). -/
def setLeaf (ls : List H) (i : Nat) (x : H) : List H := ls.set i x

end
end Sia.ElemAcc
