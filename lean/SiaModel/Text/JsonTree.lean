/-
  SiaModel.Text.JsonTree — JSON at the level of a VALUE TREE (C20).

  `encoding/json` (bytes ↔ tree, struct-field matching, `omitempty`, map-key
  sorting) is trusted; what is modelled is what the HAND-WRITTEN MarshalJSON /
  UnmarshalJSON methods of core do on top of it, as pairs of tree functions
  `…ToTree` / `…OfTree`:

    types:      ChainIndex, StorageProof, SpendPolicy (object form), SatisfiedPolicy,
                FileContractRevision (payout omitted, sentinel on input), SiacoinInput /
                SiafundInput (extra "address"), Transaction / V2Transaction (extra "id"
                on the transaction and on every output), V2FileContractResolution
                ("type" tag);
    consensus:  Work, ElementAccumulator (trees list ↔ occupied slots),
                V2FileContractElementDiff (the byte splice that appends "type");
                ApplyUpdate / RevertUpdate are in JsonUpdate.lean;
    rhp/v4:     ProtocolVersion (string form, legacy array accepted).

  Conventions.  Object fields are ordered (struct order; Go sorts map keys as
  strings).  A decoder looks a field up by the name the marshaler writes and ignores
  unknown fields; a missing field leaves the Go zero value.  A nil slice is `none`
  (JSON `null`), a non-nil one `some l` (JSON array), where the Go form can tell them
  apart.  Nested types that have no hand-written marshaler are parameters
  (`enc`/`dec` pairs) of the definitions that contain them.  `render` prints a tree as
  the compact text `json.Marshal` produces (strings: ASCII escaping only), which is
  what the correspondence run compares byte for byte.
-/
import SiaModel.Text.Policy
import SiaModel.Text.Ident

namespace Sia.Text

inductive Json where
  | null
  | bool (b : Bool)
  | num (n : Int)
  | str (s : Txt)
  | arr (l : List Json)
  | obj (fs : List (Txt × Json))

namespace Json

/-- field name of a string literal (run-time version; the model uses `key!`) -/
def key (s : String) : Txt := s.toUTF8.data.toList

end Json

open Lean in
/-- `key! "abc"` is the byte-list literal `[97, 98, 99]` (expanded at elaboration
    time, so that comparing two field names is a comparison of numeral lists) -/
macro "key!" s:str : term => do
  let bytes := s.getString.toUTF8.toList
  let elems : Array (TSyntax `term) := (bytes.map (fun b => Syntax.mkNumLit (toString b.toNat))).toArray
  `(([$elems,*] : List UInt8))

namespace Json

/-- lookup of a field; like encoding/json, the last occurrence wins -/
def getF (k : Txt) : List (Txt × Json) → Option Json
  | [] => none
  | (k', v) :: r =>
    match getF k r with
    | some x => some x
    | none => if k' = k then some v else none

/-! ## rendering (compact, as `json.Marshal`) -/

def hexNib (n : Nat) : UInt8 := hexDigit (n % 16)

/-- string escaping of encoding/json for ASCII input (HTML-safe mode): `"` `\` control
    characters `<` `>` `&`; everything else verbatim -/
def escByte (c : UInt8) : Txt :=
  if c = 34 then [92, 34]
  else if c = 92 then [92, 92]
  else if c = 10 then [92, 110]
  else if c = 13 then [92, 114]
  else if c = 9 then [92, 116]
  else if c = 8 then [92, 98]
  else if c = 12 then [92, 102]
  else if c.toNat < 32 ∨ c = 60 ∨ c = 62 ∨ c = 38 then
    [92, 117, 48, 48, hexNib (c.toNat / 16), hexNib c.toNat]
  else [c]

def escape (s : Txt) : Txt := (s.map escByte).flatten

def quoteJ (s : Txt) : Txt := 34 :: (escape s ++ [34])

mutual
  def render : Json → Txt
    | .null => key! "null"
    | .bool true => key! "true"
    | .bool false => key! "false"
    | .num n => intToDec n
    | .str s => quoteJ s
    | .arr l => 91 :: (renderList l ++ [93])
    | .obj fs => 123 :: (renderFields fs ++ [125])
  def renderList : List Json → Txt
    | [] => []
    | [x] => render x
    | x :: y :: r => render x ++ 44 :: renderList (y :: r)
  def renderFields : List (Txt × Json) → Txt
    | [] => []
    | [(k, v)] => quoteJ k ++ 58 :: render v
    | (k, v) :: f :: r => quoteJ k ++ 58 :: (render v ++ 44 :: renderFields (f :: r))
end

/-! ## leaf codecs -/

def ofNat (n : Nat) : Json := .num n

/-- an unsigned integer of `bits` bits -/
def toNatBits (bits : Nat) : Json → Option Nat
  | .num i => if 0 ≤ i ∧ i < 2 ^ bits then some i.toNat else none
  | .null => some 0
  | _ => none

def toBool : Json → Option Bool
  | .bool b => some b
  | .null => some false
  | _ => none

def ofHex (b : List UInt8) : Json := .str (hexEnc b)

/-- a fixed-size hex identifier (Hash256, Signature, …: `unmarshalHex`) -/
def toHex (n : Nat) : Json → Option (List UInt8)
  | .str s => unmarshalHex n s
  | .null => some (List.replicate n 0)
  | _ => none

/-- a hex value that Go first reads into a `string` and then decodes with a length check
    (SatisfiedPolicy preimages): null reads as "" and fails the length check -/
def toHexStrict (n : Nat) : Json → Option (List UInt8)
  | .str s => unmarshalHex n s
  | _ => none

/-- `Currency` as its exact decimal string (ParseCurrency also reads unit suffixes;
    only the form MarshalText writes is modelled) -/
def ofCurrency (c : Nat) : Json := .str (natToDec c)

def toCurrency : Json → Option Nat
  | .str s => parseUint 128 s
  | .null => some 0
  | _ => none

/-- a slice: `none` = nil = JSON null -/
def ofSlice {α : Type} (enc : α → Json) : Option (List α) → Json
  | none => .null
  | some l => .arr (l.map enc)

def decList {α : Type} (dec : Json → Option α) : List Json → Option (List α)
  | [] => some []
  | x :: xs =>
    match dec x, decList dec xs with
    | some a, some as => some (a :: as)
    | _, _ => none

def toSlice {α : Type} (dec : Json → Option α) : Json → Option (Option (List α))
  | .null => some none
  | .arr l => (decList dec l).map some
  | _ => none

/-- a field read into a Go zero value when absent -/
def fieldOr {α : Type} (fs : List (Txt × Json)) (k : Txt) (dflt : α) (dec : Json → Option α) : Option α :=
  match getF k fs with
  | none => some dflt
  | some .null => some dflt
  | some v => dec v

end Json

open Json

/-! JSON `null` read into a non-pointer Go value leaves it at its zero value (for a type with
    its own UnmarshalJSON the method is called with `null`; those are noted where they differ). -/

/-! ## types.ChainIndex (MarshalJSON hides MarshalText: plain object) -/

def ciToTree (ci : ChainIndex) : Json :=
  .obj [(key! "height", ofNat ci.height), (key! "id", ofHex ci.id)]

def ciOfTree : Json → Option ChainIndex
  | .obj fs =>
    match fieldOr fs (key! "height") 0 (toNatBits 64), fieldOr fs (key! "id") (List.replicate 32 0) (toHex 32) with
    | some h, some id => some ⟨h, id⟩
    | _, _ => none
  | .null => some ⟨0, List.replicate 32 0⟩
  | _ => none

/-! ## consensus.Work: a JSON string with the decimal value -/

def workToTree (n : Nat) : Json := .str (workText n)

/-- `UnmarshalJSON` trims the quotes and calls UnmarshalText -/
def workOfTree : Json → Option Nat
  | .str s => parseWork s
  | .num i => if 0 ≤ i then parseWork (natToDec i.toNat) else none
  | _ => none

/-! ## rhp/v4 ProtocolVersion -/

def versionToTree (a b c : Nat) : Json := .str (versionText a b c)

/-- string form, or the legacy array decoded into a `[3]uint8` (missing elements are zero,
    surplus elements must still be valid JSON but are dropped) -/
def versionOfTree : Json → Option (Nat × Nat × Nat)
  | .str s => parseVersion s
  | .arr l =>
    match toNatBits 8 (l.getD 0 .null), toNatBits 8 (l.getD 1 .null), toNatBits 8 (l.getD 2 .null) with
    | some a, some b, some c => some (a, b, c)
    | _, _, _ => none
  | _ => none

/-! ## consensus.ElementAccumulator: `trees` lists the roots of the occupied slots only -/

/-- heights `< 64` at which `numLeaves` has a tree, ascending -/
def occupied (numLeaves : Nat) : List Nat := (List.range 64).filter (fun i => numLeaves.testBit i)

def accToTree {H : Type} (encH : H → Json) (numLeaves : Nat) (trees : Nat → H) : Json :=
  .obj [(key! "numLeaves", ofNat numLeaves), (key! "trees", .arr ((occupied numLeaves).map (fun i => encH (trees i))))]

/-- hand the decoded roots out to the occupied slots, in order -/
def assignTrees {H : Type} (zero : H) : List Nat → List H → Nat → H
  | i :: is, h :: hs => fun j => if j = i then h else assignTrees zero is hs j
  | _, _ => fun _ => zero

/-- `UnmarshalJSON`: the number of roots must equal the number of set bits -/
def accOfTree {H : Type} (zero : H) (decH : Json → Option H) : Json → Option (Nat × (Nat → H))
  | .obj fs =>
    match fieldOr fs (key! "numLeaves") 0 (toNatBits 64), fieldOr fs (key! "trees") none (toSlice decH) with
    | some n, some ts =>
      let roots := ts.getD []
      if roots.length ≠ (occupied n).length then none
      else some (n, assignTrees zero (occupied n) roots)
    | _, _ => none
  | .null => some (0, fun _ => zero)
  | _ => none

/-! ## types.StorageProof: the 64-byte leaf travels as a hex string -/

structure StorageProofV where
  parentID : List UInt8
  leaf : List UInt8
  proof : Option (List (List UInt8))

def spToTree (sp : StorageProofV) : Json :=
  .obj [(key! "parentID", ofHex sp.parentID), (key! "leaf", .str (hexEnc sp.leaf)),
        (key! "proof", ofSlice ofHex sp.proof)]

/-- the leaf string must have exactly 128 characters and be hex -/
def spOfTree : Json → Option StorageProofV
  | .obj fs =>
    match fieldOr fs (key! "parentID") (List.replicate 32 0) (toHex 32),
          fieldOr fs (key! "leaf") [] (fun j => match j with | .str s => some s | _ => none),
          fieldOr fs (key! "proof") none (toSlice (toHex 32)) with
    | some pid, some leaf, some proof =>
      if leaf.length ≠ 128 then none
      else match hexDec leaf with
        | some l => some ⟨pid, l, proof⟩
        | none => none
    | _, _, _ => none
  | _ => none

/-! ## types.SpendPolicy, object form `{"type": …, "policy": …}` -/

/-- JSON of an UnlockKey: its text form -/
def ukToTree (hi : Nat → Bool) (k : UnlockKey) : Json := .str (ukText hi k)

def ukOfTree : Json → Option UnlockKey
  | .str s => parseUk 16 s
  | .null => some ⟨List.replicate 16 0, []⟩
  | _ => none

def keysToTree (hi : Nat → Bool) : List UnlockKey → Json
  | [] => .null
  | ks => .arr (ks.map (ukToTree hi))

def keysOfTree : Json → Option (List UnlockKey)
  | .null => some []
  | .arr l => decList ukOfTree l
  | _ => none

/-- `UnlockConditions` (default struct form) -/
def ucFields (hi : Nat → Bool) (tl : Nat) (ks : List UnlockKey) (sg : Nat) : List (Txt × Json) :=
  [(key! "timelock", ofNat tl), (key! "publicKeys", keysToTree hi ks), (key! "signaturesRequired", ofNat sg)]

def ucOfFields (fs : List (Txt × Json)) : Option (Nat × List UnlockKey × Nat) :=
  match fieldOr fs (key! "timelock") 0 (toNatBits 64), fieldOr fs (key! "publicKeys") [] keysOfTree,
        fieldOr fs (key! "signaturesRequired") 0 (toNatBits 64) with
  | some tl, some ks, some sg => some (tl, ks, sg)
  | _, _, _ => none

def ucOfTree : Json → Option (Nat × List UnlockKey × Nat)
  | .obj uf => ucOfFields uf
  | .null => some (0, [], 0)
  | _ => none

section
variable (Hh : List UInt8 → List UInt8) (hi : Nat → Bool)

mutual
  /-- `SpendPolicy.MarshalJSON` (an empty sub-policy / key list is written as null, the
      form of a nil slice) -/
  def policyToTree : Policy → Json
    | .above h => .obj [(key! "type", .str kwAbove), (key! "policy", ofNat h)]
    | .after t => .obj [(key! "type", .str kwAfter), (key! "policy", .num t)]
    | .pk k => .obj [(key! "type", .str kwPk), (key! "policy", .str (pkString Gen.FactsText.pkPrefixBytes k))]
    | .hash h => .obj [(key! "type", .str kwH), (key! "policy", ofHex h)]
    | .thresh n ps => .obj [(key! "type", .str kwThresh),
        (key! "policy", .obj [(key! "n", ofNat n), (key! "of", policyListToTree ps)])]
    | .opaque a => .obj [(key! "type", .str kwOpaque), (key! "policy", .str (addrStringH Hh 6 a))]
    | .uc tl ks sg => .obj [(key! "type", .str kwUc), (key! "policy", .obj (ucFields hi tl ks sg))]
  def policyListToTree : PolicyList → Json
    | .nil => .null
    | .cons p ps => .arr (policyToTree p :: policyItems ps)
  def policyItems : PolicyList → List Json
    | .nil => []
    | .cons p ps => policyToTree p :: policyItems ps
end

/-- the `switch v.Type` of `SpendPolicy.UnmarshalJSON`; `sub` decodes a list of sub-policies -/
def policyBody (sub : List Json → Option PolicyList) (typ : Txt) (body : Json) : Option Policy :=
  if typ = kwAbove then (toNatBits 64 body).map .above
  else if typ = kwAfter then
    match body with
    | .num t => if -(2 ^ 63 : Int) ≤ t ∧ t < 2 ^ 63 then some (.after t) else none
    | .null => some (.after 0)
    | _ => none
  else if typ = kwPk then
    match body with
    | .str s => (parsePk Gen.FactsText.pkAlgBytes 32 s).map .pk
    | .null => some (.pk (List.replicate 32 0))
    | _ => none
  else if typ = kwH then (toHex 32 body).map .hash
  else if typ = kwThresh then
    match body with
    | .obj tf =>
      match fieldOr tf (key! "n") 0 (toNatBits 8), getF (key! "of") tf with
      | some n, none => some (.thresh n .nil)
      | some n, some .null => some (.thresh n .nil)
      | some n, some (.arr l) => (sub l).map (.thresh n)
      | _, _ => none
    | .null => some (.thresh 0 .nil)
    | _ => none
  else if typ = kwOpaque then
    match body with
    | .str s => (parseAddrH Hh 32 6 s).map .opaque
    | .null => some (.opaque (List.replicate 32 0))
    | _ => none
  else if typ = kwUc then
    match body with
    | .obj uf => (ucOfFields uf).map (fun (tl, ks, sg) => .uc tl ks sg)
    | .null => some (.uc 0 [] 0)
    | _ => none
  else none

mutual
  /-- `SpendPolicy.UnmarshalJSON`; fuel bounds the nesting -/
  def policyOfTree : Nat → Json → Option Policy
    | 0, _ => none
    | f + 1, .obj fs =>
      match getF (key! "type") fs with
      | some (.str typ) =>
        -- `policy` is a json.RawMessage: absent, it is empty and cannot be decoded (null can)
        match getF (key! "policy") fs with
        | some body => policyBody Hh (policyListOfTree f) typ body
        | none => none
      | _ => none
    | _ + 1, _ => none
  def policyListOfTree : Nat → List Json → Option PolicyList
    | 0, _ => none
    | _ + 1, [] => some .nil
    | f + 1, x :: xs =>
      match policyOfTree f x, policyListOfTree f xs with
      | some p, some ps => some (.cons p ps)
      | _, _ => none
end

/-! ## types.SatisfiedPolicy: preimages travel as hex strings; both lists `omitempty` -/

structure SatisfiedV where
  policy : Policy
  signatures : List (List UInt8)
  preimages : List (List UInt8)

def omitEmpty (k : Txt) (l : List Json) : List (Txt × Json) :=
  if l.isEmpty then [] else [(k, .arr l)]

def satisfiedToTree (sp : SatisfiedV) : Json :=
  .obj ([(key! "policy", policyToTree Hh hi sp.policy)] ++ omitEmpty (key! "signatures") (sp.signatures.map ofHex)
        ++ omitEmpty (key! "preimages") (sp.preimages.map ofHex))

def satisfiedOfTree (fuel : Nat) : Json → Option SatisfiedV
  | .obj fs =>
    match (getF (key! "policy") fs).bind (policyOfTree Hh fuel),
          fieldOr fs (key! "signatures") [] (fun j => (toSlice (toHex 64) j).map (·.getD [])),
          fieldOr fs (key! "preimages") [] (fun j => (toSlice (toHexStrict 32) j).map (·.getD [])) with
    | some p, some sigs, some pre => some ⟨p, sigs, pre⟩
    | _, _, _ => none
  | _ => none

end

/-! ## types.FileContractRevision: the payout is not written; a sentinel is set on input -/

structure OutputV where
  value : Nat
  address : List UInt8

structure RevisionV where
  parentID : List UInt8
  timelock : Nat
  keys : List UnlockKey
  sigsRequired : Nat
  filesize : Nat
  fileMerkleRoot : List UInt8
  windowStart : Nat
  windowEnd : Nat
  payout : Nat
  validOutputs : Option (List OutputV)
  missedOutputs : Option (List OutputV)
  unlockHash : List UInt8
  revisionNumber : Nat

/-- `NewCurrency(math.MaxUint64, math.MaxUint64)` -/
def payoutSentinel : Nat := 2 ^ 128 - 1

section
variable (Hh : List UInt8 → List UInt8) (hi : Nat → Bool)

def outputFields (o : OutputV) : List (Txt × Json) :=
  [(key! "value", ofCurrency o.value), (key! "address", .str (addrStringH Hh 6 o.address))]

def outputToTree (o : OutputV) : Json := .obj (outputFields Hh o)

def addrOfTree : Json → Option (List UInt8)
  | .str s => parseAddrH Hh 32 6 s
  | .null => some (List.replicate 32 0)
  | _ => none

def outputOfFields (fs : List (Txt × Json)) : Option OutputV :=
  match fieldOr fs (key! "value") 0 toCurrency, fieldOr fs (key! "address") (List.replicate 32 0) (addrOfTree Hh) with
  | some v, some a => some ⟨v, a⟩
  | _, _ => none

def outputOfTree : Json → Option OutputV
  | .obj fs => outputOfFields Hh fs
  | .null => some ⟨0, List.replicate 32 0⟩
  | _ => none

def revisionToTree (r : RevisionV) : Json :=
  .obj [(key! "parentID", ofHex r.parentID),
        (key! "unlockConditions", .obj (ucFields hi r.timelock r.keys r.sigsRequired)),
        (key! "filesize", ofNat r.filesize), (key! "fileMerkleRoot", ofHex r.fileMerkleRoot),
        (key! "windowStart", ofNat r.windowStart), (key! "windowEnd", ofNat r.windowEnd),
        (key! "validProofOutputs", ofSlice (outputToTree Hh) r.validOutputs),
        (key! "missedProofOutputs", ofSlice (outputToTree Hh) r.missedOutputs),
        (key! "unlockHash", .str (addrStringH Hh 6 r.unlockHash)),
        (key! "revisionNumber", ofNat r.revisionNumber)]

/-- `UnmarshalJSON`: the default struct decoding (which would also read a "payout"
    field), then `fcr.Payout = sentinel` -/
def revisionOfTree : Json → Option RevisionV
  | .obj fs =>
    let zero32 : List UInt8 := List.replicate 32 0
    match fieldOr fs (key! "parentID") zero32 (toHex 32),
          fieldOr fs (key! "unlockConditions") (0, [], 0) ucOfTree,
          fieldOr fs (key! "filesize") 0 (toNatBits 64), fieldOr fs (key! "fileMerkleRoot") zero32 (toHex 32),
          fieldOr fs (key! "windowStart") 0 (toNatBits 64), fieldOr fs (key! "windowEnd") 0 (toNatBits 64),
          fieldOr fs (key! "validProofOutputs") none (toSlice (outputOfTree Hh)),
          fieldOr fs (key! "missedProofOutputs") none (toSlice (outputOfTree Hh)),
          fieldOr fs (key! "unlockHash") zero32 (addrOfTree Hh), fieldOr fs (key! "revisionNumber") 0 (toNatBits 64) with
    | some pid, some (tl, ks, sg), some fsz, some root, some ws, some we, some vo, some mo, some uh, some rn =>
      some ⟨pid, tl, ks, sg, fsz, root, ws, we, payoutSentinel, vo, mo, uh, rn⟩
    | _, _, _, _, _, _, _, _, _, _ => none
  | .null => some ⟨List.replicate 32 0, 0, [], 0, 0, List.replicate 32 0, 0, 0, payoutSentinel, none, none, List.replicate 32 0, 0⟩
  | _ => none

/-! ## SiacoinInput / SiafundInput (without its `claimAddress`): an extra "address" field is written and ignored on input -/

structure InputV where
  parentID : List UInt8
  timelock : Nat
  keys : List UnlockKey
  sigsRequired : Nat

/-- `unlockHash` is `UnlockConditions.UnlockHash`, a parameter here -/
def inputToTree (unlockHash : InputV → List UInt8) (i : InputV) : Json :=
  .obj [(key! "parentID", ofHex i.parentID),
        (key! "unlockConditions", .obj (ucFields hi i.timelock i.keys i.sigsRequired)),
        (key! "address", .str (addrStringH Hh 6 (unlockHash i)))]

def inputOfTree : Json → Option InputV
  | .obj fs =>
    match fieldOr fs (key! "parentID") (List.replicate 32 0) (toHex 32),
          fieldOr fs (key! "unlockConditions") (0, [], 0) ucOfTree with
    | some pid, some (tl, ks, sg) => some ⟨pid, tl, ks, sg⟩
    | _, _ => none
  | .null => some ⟨List.replicate 32 0, 0, [], 0⟩
  | _ => none

end

/-! ## Transaction / V2Transaction: "id" on the transaction and on each output -/

/-- put an extra field in front of an object's fields -/
def withField (k : Txt) (v : Json) : Json → Json
  | .obj fs => .obj ((k, v) :: fs)
  | j => j

/-- one output list of a transaction: each output object gets its `id` in front; with
    `omitempty` (v1) an empty list is not written at all -/
def outsField (omitE : Bool) (k : Txt) (l : List (Json × Json)) : List (Txt × Json) :=
  if omitE ∧ l.isEmpty then [] else [(k, .arr (l.map (fun x => withField (key! "id") x.1 x.2)))]

/-- the hand-written part of `Transaction.MarshalJSON` / `V2Transaction.MarshalJSON`:
    `id`, then the outputs each with its own `id` in front, then the remaining fields
    as the default encoding writes them.  `omitE` = the two output lists are
    `omitempty` (v1) or always written (v2). -/
def txnToTree (omitE : Bool) (id : Json) (scos sfos : List (Json × Json)) (rest : List (Txt × Json)) : Json :=
  .obj ((key! "id", id) :: (outsField omitE (key! "siacoinOutputs") scos ++ outsField omitE (key! "siafundOutputs") sfos ++ rest))

/-- reading it back: the default struct decoding, which looks fields up by name — the
    transaction's `id` and each output's `id` are not fields of the Go types and are
    ignored.  `decSco`/`decSfo` decode one output object, `decRest` the other fields. -/
def txnOfTree {α β ρ : Type} (decSco : Json → Option α) (decSfo : Json → Option β)
    (decRest : List (Txt × Json) → Option ρ) : Json → Option (List α × List β × ρ)
  | .obj fs =>
    match fieldOr fs (key! "siacoinOutputs") [] (fun j => (toSlice decSco j).map (·.getD [])),
          fieldOr fs (key! "siafundOutputs") [] (fun j => (toSlice decSfo j).map (·.getD [])),
          decRest fs with
    | some a, some b, some r => some (a, b, r)
    | _, _, _ => none
  | _ => none

/-! ## V2FileContractResolution: `{"parent", "type", "resolution"}` -/

inductive ResKind where
  | renewal | storageProof | expiration
  deriving DecidableEq, Repr

def ResKind.tag : ResKind → Txt
  | .renewal => key! "renewal"
  | .storageProof => key! "storageProof"
  | .expiration => key! "expiration"

def ResKind.ofTag (t : Txt) : Option ResKind :=
  if t = key! "renewal" then some .renewal
  else if t = key! "storageProof" then some .storageProof
  else if t = key! "expiration" then some .expiration
  else none

/-- `parent` and `body` are the default encodings of the parent element and of the
    resolution (a pointer to one of the three kinds) -/
def resolutionToTree (parent : Json) (k : ResKind) (body : Json) : Json :=
  .obj [(key! "parent", parent), (key! "type", .str k.tag), (key! "resolution", body)]

/-- `UnmarshalJSON`: the tag selects which kind `resolution` is decoded as -/
def resolutionOfTree {P R : Type} (decParent : Json → Option P) (decBody : ResKind → Json → Option R) :
    Json → Option (P × ResKind × R)
  | .obj fs =>
    match (getF (key! "parent") fs).bind decParent, getF (key! "type") fs with
    | some p, some (.str t) =>
      match ResKind.ofTag t with
      | some k =>
        match decBody k ((getF (key! "resolution") fs).getD .null) with
        | some r => some (p, k, r)
        | none => none
      | none => none
    | _, _ => none
  | _ => none

/-! ## consensus.V2FileContractElementDiff: the resolution object gets a `"type"` field
    spliced in at the BYTE level -/

/-- `append(buf[:len(buf)-1], []byte(`,"type":"<typ>"}`)...)` -/
def spliceType (buf : Txt) (typ : Txt) : Txt :=
  buf.dropLast ++ (key! ",\"type\":\"" ++ typ ++ key! "\"}")

/-- the text put in the `resolution` field: for an expiration (an empty struct) the
    literal `{"type":"expiration"}`, otherwise the resolution's own JSON with the type
    field spliced in before the closing brace -/
def diffResolutionText (k : ResKind) (body : Json) : Txt :=
  match k with
  | .expiration => key! "{\"type\":\"" ++ k.tag ++ key! "\"}"
  | _ => spliceType (render body) k.tag

/-- the same at tree level -/
def diffResolutionTree (k : ResKind) (body : Json) : Json :=
  match k, body with
  | .expiration, _ => .obj [(key! "type", .str k.tag)]
  | _, .obj fs => .obj (fs ++ [(key! "type", .str k.tag)])
  | _, j => j

/-- `UnmarshalJSON`: read `type` out of the resolution object, then decode the same
    object as that kind (the extra `type` field is ignored by the default decoder) -/
def diffResolutionOfTree {R : Type} (decBody : ResKind → Json → Option R) : Json → Option (ResKind × R)
  | .obj fs =>
    match getF (key! "type") fs with
    | some (.str t) =>
      match ResKind.ofTag t with
      | some .expiration => (decBody .expiration (.obj [])).map (fun r => (.expiration, r))
      | some k => (decBody k (.obj fs)).map (fun r => (k, r))
      | none => none
    | _ => none
  | _ => none

end Sia.Text
