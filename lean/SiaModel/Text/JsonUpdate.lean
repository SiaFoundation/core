/-
  SiaModel.Text.JsonUpdate — the JSON tree of consensus.ApplyUpdate / RevertUpdate
  (applyUpdateJSON / revertUpdateJSON in consensus/application.go) over the
  accumulator model of SiaModel/Merkle/Accumulator.lean.

  Only the accumulator part matters for proof refreshing: `updatedLeaves` and
  `treeGrowth` (JSON objects keyed by tree height, written only for non-empty
  entries, keys sorted as STRINGS by encoding/json), `oldNumLeaves`, `numLeaves`.
  The element diffs in front of them are carried as opaque fields.

  `leafToTree` is `elementLeaf.MarshalJSON` after repair fcf35a3 (leafIndex, merkleProof
  (omitempty), elementHash, spent); `leafToTreeOld` is the encoding before it (only the
  embedded StateElement), decoded by the same `leafOfTree`, which leaves a missing
  elementHash / spent at their zero values.

  `UnmarshalJSON` files every entry under its MAP KEY (`updated[i] = els`); a key
  outside 0..63 is an error in Go (`invalid tree height`), `none` here.
-/
import SiaModel.Text.JsonTree
import SiaModel.Merkle.Accumulator

namespace Sia.Text
open Json Sia.ElemAcc

section
variable {H : Type} (encH : H → Json) (decH : Json → Option H) (zero : H)

/-- `elementLeafJSON` -/
def leafToTree (l : Leaf H) : Json :=
  .obj ([(key! "leafIndex", ofNat l.index)] ++ omitEmpty (key! "merkleProof") (l.proof.map encH)
        ++ [(key! "elementHash", encH l.elem), (key! "spent", .bool l.spent)])

/-- the encoding before the repair: the embedded StateElement only -/
def leafToTreeOld (l : Leaf H) : Json :=
  .obj ([(key! "leafIndex", ofNat l.index)] ++ omitEmpty (key! "merkleProof") (l.proof.map encH))

def leafOfTree : Json → Option (Leaf H)
  | .obj fs =>
    match fieldOr fs (key! "leafIndex") 0 (toNatBits 64),
          fieldOr fs (key! "merkleProof") [] (fun j => (toSlice decH j).map (·.getD [])),
          fieldOr fs (key! "elementHash") zero decH, fieldOr fs (key! "spent") false toBool with
    | some i, some p, some e, some s => some ⟨e, s, i, p⟩
    | _, _, _, _ => none
  | .null => some ⟨zero, false, 0, []⟩
  | _ => none

/-- the heights 0..63 in the order encoding/json writes them as map keys
    (sorted as decimal strings: "0","1","10",…,"19","2","20",…) -/
def keyOrder : List Nat :=
  [0, 1, 10, 11, 12, 13, 14, 15, 16, 17, 18, 19, 2, 20, 21, 22, 23, 24, 25, 26, 27, 28, 29,
   3, 30, 31, 32, 33, 34, 35, 36, 37, 38, 39, 4, 40, 41, 42, 43, 44, 45, 46, 47, 48, 49,
   5, 50, 51, 52, 53, 54, 55, 56, 57, 58, 59, 6, 60, 61, 62, 63, 7, 8, 9]

/-- a `map[int][]T` built from a `[64][]T`: only the non-empty entries -/
def mapEntries {α : Type} (enc : α → Json) (f : Nat → List α) : List Nat → List (Txt × Json)
  | [] => []
  | k :: ks =>
    if (f k).isEmpty then mapEntries enc f ks
    else (natToDec k, .arr ((f k).map enc)) :: mapEntries enc f ks

def mapToTree {α : Type} (enc : α → Json) (f : Nat → List α) : Json := .obj (mapEntries enc f keyOrder)

/-- `for i, els := range js.X { arr[i] = els }` -/
def fileEntries {α : Type} (dec : Json → Option α) : List (Txt × Json) → (Nat → List α) → Option (Nat → List α)
  | [], acc => some acc
  | (k, v) :: r, acc =>
    match parseInt64 k, toSlice dec v with
    | some i, some els =>
      if 0 ≤ i ∧ i < 64 then fileEntries dec r (setFn acc i.toNat (els.getD [])) else none
    | _, _ => none

def mapOfTree {α : Type} (dec : Json → Option α) : Json → Option (Nat → List α)
  | .null => some (fun _ => [])
  | .obj es => fileEntries dec es (fun _ => [])
  | _ => none

/-- `ApplyUpdate.MarshalJSON`; `diffs` are the six element-diff fields -/
def applyToTreeWith (leafEnc : Leaf H → Json) (diffs : List (Txt × Json)) (u : ApplyUpdate H) : Json :=
  .obj (diffs ++ [(key! "updatedLeaves", mapToTree leafEnc u.updated), (key! "treeGrowth", mapToTree encH u.growth),
                  (key! "oldNumLeaves", ofNat u.oldNumLeaves), (key! "numLeaves", ofNat u.numLeaves)])

def applyToTree (diffs : List (Txt × Json)) (u : ApplyUpdate H) : Json :=
  applyToTreeWith encH (leafToTree encH) diffs u

def applyToTreeOld (diffs : List (Txt × Json)) (u : ApplyUpdate H) : Json :=
  applyToTreeWith encH (leafToTreeOld encH) diffs u

def applyOfTree : Json → Option (ApplyUpdate H)
  | .obj fs =>
    match fieldOr fs (key! "updatedLeaves") (fun _ => []) (mapOfTree (leafOfTree decH zero)),
          fieldOr fs (key! "treeGrowth") (fun _ => []) (mapOfTree decH),
          fieldOr fs (key! "oldNumLeaves") 0 (toNatBits 64), fieldOr fs (key! "numLeaves") 0 (toNatBits 64) with
    | some upd, some g, some o, some n => some ⟨upd, g, o, n⟩
    | _, _, _, _ => none
  | .null => some ⟨fun _ => [], fun _ => [], 0, 0⟩
  | _ => none

/-- `RevertUpdate.MarshalJSON` -/
def revertToTreeWith (leafEnc : Leaf H → Json) (diffs : List (Txt × Json)) (u : RevertUpdate H) : Json :=
  .obj (diffs ++ [(key! "updatedLeaves", mapToTree leafEnc u.updated), (key! "numLeaves", ofNat u.numLeaves)])

def revertToTree (diffs : List (Txt × Json)) (u : RevertUpdate H) : Json :=
  revertToTreeWith (leafToTree encH) diffs u

def revertToTreeOld (diffs : List (Txt × Json)) (u : RevertUpdate H) : Json :=
  revertToTreeWith (leafToTreeOld encH) diffs u

def revertOfTree : Json → Option (RevertUpdate H)
  | .obj fs =>
    match fieldOr fs (key! "updatedLeaves") (fun _ => []) (mapOfTree (leafOfTree decH zero)),
          fieldOr fs (key! "numLeaves") 0 (toNatBits 64) with
    | some upd, some n => some ⟨upd, n⟩
    | _, _ => none
  | .null => some ⟨fun _ => [], 0⟩
  | _ => none

end

/-- what the seeded "hardening" does instead of filing by key: regroup the decoded
    leaves by the length of their proof (kept to state why it is wrong) -/
def regroupByProofLength {H : Type} (f : Nat → List (Leaf H)) : Nat → List (Leaf H) :=
  fun h => (keyOrder.map f).flatten.filter (fun l => l.proof.length == h)

end Sia.Text
