/-
  SiaModel.Text.Ident — text forms of the identifier types (C20):
  Hash256 / BlockID / TransactionID / … / Signature (plain hex, exact length),
  Address (hex of 32 bytes + 6-byte checksum), PublicKey and rhp Account
  ("ed25519:" prefix forms), ChainIndex ("<height>::<id>"), rhp/v4
  ProtocolVersion ("v%d.%d.%d"), consensus.Work (decimal).

  Constants that the Go code spells out (prefix, checksum length, sizes) are
  parameters of the definitions; the driver (`SiaModel/Driver/Text.lean`) instantiates them
  from the facts generated out of the source (`SiaModel.Gen.FactsText`).
-/
import SiaModel.Text.Basic
import SiaModel.Prim.Blake2b

namespace Sia.Text

/-- outcome of a Go text parser: value, error return, or run-time panic -/
inductive Res (α : Type) where
  | ok (v : α)
  | err
  | panic
  deriving Repr, DecidableEq

def Res.ofOption {α} : Option α → Res α
  | some v => .ok v
  | none => .err

def Res.isOk {α} : Res α → Bool
  | .ok _ => true
  | _ => false

/-! ## Address -/

/-- `types.HashBytes` on a byte list (real BLAKE2b-256) -/
def hashBytes (b : List UInt8) : List UInt8 := (Sia.blake2b256 ⟨b.toArray⟩).data.toList

/-- `Address.String`: hex(addr ‖ H(addr)[:ck]) — stated for an arbitrary hash `H`
    so that theorems do not depend on BLAKE2b internals. -/
def addrStringH (H : List UInt8 → List UInt8) (ck : Nat) (a : List UInt8) : Txt :=
  hexEnc (a ++ (H a).take ck)

/-- `Address.UnmarshalText`: length must be 2*(n+ck); hex; checksum must match. -/
def parseAddrH (H : List UInt8 → List UInt8) (n ck : Nat) (t : Txt) : Option (List UInt8) :=
  if t.length ≠ (n + ck) * 2 then none
  else match hexDec t with
    | none => none
    | some w =>
      if w.length ≠ n + ck then none
      else if (H (w.take n)).take ck = w.drop n then some (w.take n) else none

/-! ## PublicKey / Account -/

/-- `PublicKey.String`: prefix ‖ hex -/
def pkString (pfx : Txt) (k : List UInt8) : Txt := pfx ++ hexEnc k

/-- `PublicKey.UnmarshalText`: `alg` is the prefix without its trailing ':' -/
def parsePk (alg : Txt) (n : Nat) (t : Txt) : Option (List UInt8) :=
  match splitFirst 58 t with
  | none => none
  | some (a, rest) => if a = alg then unmarshalHex n rest else none

/-- rhp/v4 `Account.UnmarshalText`: `hex.Decode(a[:], bytes.TrimPrefix(b, pfx))`, short
    input → ErrUnexpectedEOF.  `guard` says whether the source checks the length of the
    hex text before decoding (generated fact `acct4HexGuarded`, `true` in the source): without
    the guard an over-long text is a run-time panic; with it, an error. -/
def parseAccount4 (guard : Bool) (pfx : Txt) (n : Nat) (t : Txt) : Res (List UInt8) :=
  let body := match stripPrefix pfx t with
    | some r => r
    | none => t
  match hexDecodeInto n body [] with
  | .ok bs => if bs.length < n then .err else .ok bs
  | .err => .err
  | .panic => if guard then .err else .panic

/-! ## ChainIndex -/

structure ChainIndex where
  height : Nat
  id : List UInt8
  deriving Repr, DecidableEq

/-- `ChainIndex.MarshalText`: "%d::%x" -/
def ciText (ci : ChainIndex) : Txt := natToDec ci.height ++ [58, 58] ++ hexEnc ci.id

/-- `ChainIndex.String`: "%d::%x" with the last 4 bytes of the id -/
def ciString (ci : ChainIndex) : Txt :=
  natToDec ci.height ++ [58, 58] ++ hexEnc (ci.id.drop (ci.id.length - 4))

/-- split at the first "::" -/
def splitSep : Txt → Option (Txt × Txt)
  | [] => none
  | [_] => none
  | a :: b :: rest =>
    if a == 58 ∧ b == 58 then some ([], rest)
    else match splitSep (b :: rest) with
      | some (x, y) => some (a :: x, y)
      | none => none

/-- `ChainIndex.UnmarshalText`: exactly one "::" (bytes.Split gives two parts),
    ParseUint(…,10,64), then hex.Decode into the 32-byte id. `guard` (generated fact
    `ciHexGuarded`, `true` in the source) says whether the length of the hex text is checked
    first; without the guard an over-long id panics. -/
def parseCi (guard : Bool) (n : Nat) (t : Txt) : Res ChainIndex :=
  match splitSep t with
  | none => .err
  | some (a, b) =>
    match splitSep b with
    | some _ => .err
    | none =>
      match parseUint 64 a with
      | none => .err
      | some h =>
        match hexDecodeInto n b [] with
        | .ok bs => if bs.length < n then .err else .ok ⟨h, bs⟩
        | .err => .err
        | .panic => if guard then .err else .panic

/-! ## rhp/v4 ProtocolVersion -/

/-- `ProtocolVersion.String`: "v%d.%d.%d" -/
def versionText (a b c : Nat) : Txt :=
  118 :: (natToDec a ++ 46 :: (natToDec b ++ 46 :: natToDec c))

/-- fmt's SkipSpace inside Sscanf (newline is an error, other ASCII blanks are skipped);
    Unicode blanks are outside the model. -/
def scanSkip : Txt → Option Txt
  | [] => some []
  | c :: cs => if c == 10 then none else if isSpace c then scanSkip cs else some (c :: cs)

def takeNum : Txt → Txt × Txt
  | [] => ([], [])
  | c :: cs => if isDigit c then
      let (a, b) := takeNum cs; (c :: a, b)
    else ([], c :: cs)

/-- `%d` into a `*uint8`: skip blanks, a non-empty run of decimal digits (no sign,
    no underscore — those belong to `%v`), ParseUint, must fit 8 bits -/
def scanU8 (t : Txt) : Option (Nat × Txt) :=
  match scanSkip t with
  | none => none
  | some t =>
    let (tok, rest) := takeNum t
    match parseUint 64 tok with
    | some v => if v < 256 then some (v, rest) else none
    | none => none

def expect (c : UInt8) : Txt → Option Txt
  | [] => none
  | x :: xs => if x == c then some xs else none

/-- `fmt.Sscanf(s, "v%d.%d.%d", &v[0], &v[1], &v[2])`; trailing input is ignored -/
def parseVersion (t : Txt) : Option (Nat × Nat × Nat) :=
  match expect 118 t with
  | none => none
  | some t =>
  match scanU8 t with
  | none => none
  | some (a, t) =>
  match expect 46 t with
  | none => none
  | some t =>
  match scanU8 t with
  | none => none
  | some (b, t) =>
  match expect 46 t with
  | none => none
  | some t =>
  match scanU8 t with
  | none => none
  | some (c, _) => some (a, b, c)

/-! ## consensus.Work -/

/-- `Work.String` / `MarshalText`: decimal of the 256-bit big-endian number -/
def workText (n : Nat) : Txt := natToDec n

/-- `Work.UnmarshalText` restricted to plain decimal input without sign, prefix
    or underscore (big.Int's base-0 scanner accepts more; outside the model). -/
def parseWork (t : Txt) : Option Nat :=
  if t = [] then none
  else match parseDigits t 0 with
    | some v => if v < 2 ^ 256 then some v else none
    | none => none

end Sia.Text
