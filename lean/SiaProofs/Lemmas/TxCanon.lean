/-
  SiaProofs.Lemmas.TxCanon — canonicity along the traversal of `forEachElementLeaf`:
  from `Canon E (.slice v2txn) t` alone, (1) every visited parent has the element shape with
  32-byte proof entries (`GoodTxns t`) and (2) the stripped set (`l.MerkleProof = nil` on the
  visited parents) is canonical again.

  Stated for ANY environment in which the three irregular codecs involved are the modelled
  ones (`TxnEnv`): the V2Transaction bitmap codec over the generated field list, the
  resolution codec and its tagged payload. Other entries of the environment (e.g. a spend
  policy codec) are irrelevant: the traversal never touches them.
-/
import SiaModel.Codec.Irregular
import SiaProofs.Lemmas.TxTraverse
import SiaProofs.Lemmas.CodecBitmap
set_option linter.unusedSectionVars false
namespace Sia.Multiproof
open Sia.Codec

/-- empty the proof of a visited parent, leave an ephemeral one alone: what `strip` writes -/
def stripEl (x : Val) : Val := if visited x then setProof x [] else x

theorem setProofsEls_nils : ∀ (els : List Val) (n : Nat), nvis els ≤ n →
    setProofsEls els (List.replicate n []) = els.map stripEl := by
  intro els
  induction els with
  | nil => intro n _; rfl
  | cons el els ih =>
    intro n hn
    rw [nvis_cons] at hn
    by_cases hv : visited el = true
    · simp only [hv, if_true] at hn
      obtain ⟨m, rfl⟩ : ∃ m, n = m + 1 := ⟨n - 1, by omega⟩
      simp only [List.replicate_succ, setProofsEls, hv, if_true, List.map_cons, stripEl, ih m (by omega)]
    · simp only [hv, if_false, Nat.zero_add, Bool.false_eq_true] at hn
      simp only [setProofsEls, hv, if_false, List.map_cons, stripEl, ih n hn, Bool.false_eq_true]

/-- an element schema: a record whose first field is the StateElement -/
def IsElem (s : Sch) : Prop := ∃ l r, s = .cons l Gen.encSchema_Types_StateElement r

theorem elem_canon {E : Env} {s : Sch} (hs : IsElem s) {x : Val} (hc : canon E s x = true) :
    Shaped x ∧ canon E s (setProof x []) = true := by
  obtain ⟨l, r, rfl⟩ := hs
  obtain ⟨se, rest, rfl, hse, hrest⟩ := canon_cons_inv hc
  obtain ⟨i, q, rfl, hi, hq⟩ := canon_cons_inv hse
  obtain ⟨pr, u, rfl, hpr, hu⟩ := canon_cons_inv hq
  obtain ⟨pv, rfl, _, hpv⟩ := canon_slice_inv hpr
  refine ⟨⟨i, pv, u, rest, rfl, fun y hy => ?_⟩, ?_⟩
  · have hy' : isBytes (fun b => b.length == 32) y = true := hpv y hy
    cases y with
    | bytes b => exact ⟨⟨b, beq_iff_eq.1 hy'⟩, rfl⟩
    | _ => exact absurd hy' Bool.false_ne_true
  · show (canon E Gen.encSchema_Types_StateElement (.pair i (.pair (.list []) u)) && canon E r rest) = true
    rw [hrest, Bool.and_true]
    show (canon E .u64 i && (canon E (.slice Gen.encSchema_Types_Hash256) (.list []) && canon E .nil u)) = true
    rw [hi, hu]
    rfl

/-- At one value: the targets are shaped elements, and writing the stripped targets back
    gives a value satisfying `Q` and returns the rest of the supply. Stated for any
    `get`/`put` pair, as `Trav.Laws`. -/
structure TypedAt {α : Type} (get : α → List Val) (put : α → List Val → α × List Val) (Q : α → Prop) (a : α) : Prop where
  shaped : ∀ x ∈ get a, Shaped x
  strip : ∀ r, Q (put a ((get a).map stripEl ++ r)).1 ∧ (put a ((get a).map stripEl ++ r)).2 = r

/-- the traversal `t` applied to canonical values of schema `s`: its targets are shaped
    elements, and writing the stripped targets back gives a canonical value again -/
def Typed (E : Env) (t : Trav) (s : Sch) : Prop :=
  ∀ v, canon E s v = true → TypedAt t.get t.put (fun w => canon E s w = true) v

namespace TypedAt
variable {α β γ : Type} {g : α → List Val} {p : α → List Val → α × List Val}
  {g' : β → List Val} {p' : β → List Val → β × List Val}
  {G : γ → List Val} {P : γ → List Val → γ × List Val}
  {Q : α → Prop} {Q' : β → Prop} {R : γ → Prop}

theorem of_none {a : α} (hg : g a = []) (hp : ∀ l, p a l = (a, l)) (hQ : Q a) : TypedAt g p Q a :=
  ⟨fun x hx => (List.not_mem_nil (hg ▸ hx)).elim, fun r => by rw [hg, hp]; exact ⟨hQ, rfl⟩⟩

theorem wrap (c : α → β) (hg : ∀ a, g' (c a) = g a) (hp : ∀ a l, p' (c a) l = (c (p a l).1, (p a l).2))
    (hQ : ∀ a, Q a → Q' (c a)) {a : α} (h : TypedAt g p Q a) : TypedAt g' p' Q' (c a) :=
  ⟨fun x hx => h.shaped x (hg a ▸ hx), fun r => by rw [hg, hp]; exact ⟨hQ _ (h.strip r).1, (h.strip r).2⟩⟩

theorem seq (c : α → β → γ) (hg : ∀ a b, G (c a b) = g a ++ g' b)
    (hp : ∀ a b l, P (c a b) l = (c (p a l).1 (p' b (p a l).2).1, (p' b (p a l).2).2))
    (hQ : ∀ a b, Q a → Q' b → R (c a b))
    {a : α} {b : β} (h1 : TypedAt g p Q a) (h2 : TypedAt g' p' Q' b) : TypedAt G P R (c a b) := by
  refine ⟨fun x hx => ?_, fun r => ?_⟩
  · rw [hg] at hx
    exact (List.mem_append.1 hx).elim (h1.shaped x) (h2.shaped x)
  · obtain ⟨q1, e1⟩ := h1.strip ((g' b).map stripEl ++ r)
    obtain ⟨q2, e2⟩ := h2.strip r
    rw [hg, hp, List.map_append, List.append_assoc, e1]
    exact ⟨hQ _ _ q1 q2, e2⟩

end TypedAt

theorem typed_none (E : Env) (s : Sch) : Typed E Trav.none s := fun _ hc => .of_none rfl (fun _ => rfl) hc

theorem typed_here (E : Env) {s : Sch} (hs : IsElem s) : Typed E Trav.here s := by
  refine fun v hc => ⟨fun x hx => ?_, fun r => ⟨?_, rfl⟩⟩
  · rw [List.mem_singleton.1 hx]
    exact (elem_canon hs hc).1
  · show canon E s (stripEl v) = true
    unfold stripEl
    split
    · exact (elem_canon hs hc).2
    · exact hc

theorem typed_pair {E : Env} {t1 t2 : Trav} {s1 r1 : Sch} (lbl : String) (h1 : Typed E t1 s1) (h2 : Typed E t2 r1) :
    Typed E (Trav.pair t1 t2) (.cons lbl s1 r1) := by
  intro v hc
  obtain ⟨a, b, rfl, ha, hb⟩ := canon_cons_inv hc
  exact .seq Val.pair (fun _ _ => rfl) (fun _ _ _ => rfl) (fun _ _ qa qb => Bool.and_eq_true_iff.2 ⟨qa, qb⟩)
    (h1 a ha) (h2 b hb)

/-- the list traversal keeps the number of elements (so a `len`-emptiness test is unchanged) -/
theorem putList_typed {E : Env} {t : Trav} {s : Sch} (h : Typed E t s) : ∀ (vs : List Val),
    (∀ v ∈ vs, canon E s v = true) →
    TypedAt (List.flatMap t.get) (Trav.putList t) (fun ws => ws.length = vs.length ∧ ∀ w ∈ ws, canon E s w = true) vs
  | [], _ => .of_none rfl (fun _ => rfl) ⟨rfl, fun _ hw => nomatch hw⟩
  | v :: vs, hc =>
    .seq List.cons (fun _ _ => List.flatMap_cons) (fun _ _ _ => rfl)
      (fun _ _ qa qb => ⟨congrArg (· + 1) qb.1, List.forall_mem_cons.2 ⟨qa, qb.2⟩⟩)
      (h v (hc v (List.mem_cons_self ..))) (putList_typed h vs fun x hx => hc x (List.mem_cons_of_mem _ hx))

theorem typed_list {E : Env} {t : Trav} {s : Sch} (h : Typed E t s) : Typed E (Trav.list t) (.slice s) := by
  intro v hc
  obtain ⟨vs, rfl, hlen, hall⟩ := canon_slice_inv hc
  exact .wrap Val.list (fun _ => rfl) (fun _ _ => rfl) (fun ws q => canon_slice_iff.2 ⟨q.1 ▸ hlen, q.2⟩)
    (putList_typed h vs hall)

theorem typed_ext {E : Env} {n : String} {c : Codec} (he : E.ext n = c) {t : Trav}
    (h : ∀ v, c.canon v = true → TypedAt t.get t.put (fun w => c.canon w = true) v) : Typed E t (.ext n) := by
  subst he
  exact h

theorem tagged_typed {E0 : Env} {cs : List (Nat × Codec)} {tag : Nat} {t : Trav} {s : Sch}
    (hf : findTag tag cs = some (Codec.ofSch E0 s)) (ht : Typed E0 t s) (v : Val) (hc : (Codec.tagged cs).canon v = true) :
    TypedAt (Trav.tagged tag t).get (Trav.tagged tag t).put (fun w => (Codec.tagged cs).canon w = true) v := by
  cases v with
  | pair a x =>
    cases a with
    | nat k =>
      by_cases hk : k = tag
      · subst hk
        have hc' : (decide (k < 256) && (match findTag k cs with | some c => c.canon x | none => false)) = true := hc
        rw [hf, Bool.and_eq_true] at hc'
        refine .wrap (Val.pair (.nat k)) (fun _ => if_pos rfl) (fun _ _ => if_pos rfl) (fun y hy => ?_) (ht x hc'.2)
        show (decide (k < 256) && (match findTag k cs with | some c => c.canon y | none => false)) = true
        rw [hf, hc'.1]
        exact hy
      · exact .of_none (if_neg hk) (fun _ => if_neg hk) hc
    | _ => exact absurd hc Bool.false_ne_true
  | _ => exact absurd hc Bool.false_ne_true

/-- the three irregular codecs the traversal passes through are the modelled ones -/
structure TxnEnv (E E2 E1 E0 : Env) : Prop where
  txn : E.ext "Types.V2Transaction" = Irregular.v2TxnCodec E2
  res : E2.ext "Types.V2FileContractResolution" = Codec.ofSch E1 Irregular.resolutionSch
  pay : E1.ext "Types.V2FileContractResolution.payload" = Irregular.resolutionPayload E0

theorem isElem_siacoin : IsElem Gen.encSchema_Types_SiacoinElement := ⟨_, _, rfl⟩
theorem isElem_siafund : IsElem Gen.encSchema_Types_SiafundElement := ⟨_, _, rfl⟩
theorem isElem_v2fc : IsElem Gen.encSchema_Types_V2FileContractElement := ⟨_, _, rfl⟩
theorem isElem_chainIndex : IsElem Gen.encSchema_Types_ChainIndexElement := ⟨_, _, rfl⟩

/-- the payload of a resolution: for a storage proof (tag 1) the proof index is visited -/
theorem typed_payload {E1 E0 : Env} (hp : E1.ext "Types.V2FileContractResolution.payload" = Irregular.resolutionPayload E0) :
    Typed E1 (Trav.tagged 1 (Trav.pair Trav.here Trav.none)) (.ext "Types.V2FileContractResolution.payload") :=
  typed_ext hp (tagged_typed (s := Gen.encSchema_Types_V2StorageProof) rfl
    (typed_pair _ (typed_here E0 isElem_chainIndex) (typed_none E0 _)))

theorem typed_resolution {E2 E1 E0 : Env}
    (hr : E2.ext "Types.V2FileContractResolution" = Codec.ofSch E1 Irregular.resolutionSch)
    (hp : E1.ext "Types.V2FileContractResolution.payload" = Irregular.resolutionPayload E0) :
    Typed E2 resolutionParents (.ext "Types.V2FileContractResolution") :=
  typed_ext hr (show Typed E1 resolutionParents Irregular.resolutionSch from
    typed_pair "Parent" (typed_here E1 isElem_v2fc) (typed_pair "Resolution" (typed_payload hp) (typed_none E1 _)))

/-- the bitmap codec's condition on one field value -/
def fieldOK (f : BitField) (v : Val) : Prop :=
  v = .none ∨ ∃ x, v = .some x ∧ f.c.canon x = true ∧ f.isZero x = false

theorem canonFields_cons_cons {f : BitField} {fs : List BitField} {v : Val} {vs : List Val} :
    canonFields (f :: fs) (v :: vs) = true ↔ fieldOK f v ∧ canonFields fs vs = true := by
  refine Bool.and_eq_true_iff.trans (and_congr_left fun _ => ⟨canon_entry, ?_⟩)
  rintro (rfl | ⟨x, rfl, hc, hz⟩)
  · rfl
  · exact (Bool.and_eq_true _ _).mpr ⟨hc, by rw [hz]; rfl⟩

theorem canonFields_cons {f : BitField} {fs : List BitField} {vs : List Val} (h : canonFields (f :: fs) vs = true) :
    ∃ v vs', vs = v :: vs' ∧ fieldOK f v ∧ canonFields fs vs' = true := by
  cases vs with
  | nil => exact absurd h Bool.false_ne_true
  | cons v vs' => exact ⟨v, vs', rfl, canonFields_cons_cons.1 h⟩

/-- traversal by traversal, each keeps the condition of its field -/
inductive FieldsTyped : List Trav → List BitField → Prop
  | nil : FieldsTyped [] []
  | cons {t : Trav} {f : BitField} {ts : List Trav} {fs : List BitField} :
      (∀ v, fieldOK f v → TypedAt t.get t.put (fieldOK f) v) → FieldsTyped ts fs → FieldsTyped (t :: ts) (f :: fs)

/-- The record traversal against the bitmap codec's field list: if each traversal keeps its
    field's condition (`field_step`, `field_none`), the whole keeps `canonFields`; fields
    beyond the traversals (`rest`) are not touched. -/
theorem putFields_typed {ts : List Trav} {fs : List BitField}
    (h : FieldsTyped ts fs) (rest : List BitField) :
    ∀ vs, canonFields (fs ++ rest) vs = true →
      TypedAt (Trav.getFields ts) (Trav.putFields ts) (fun ws => canonFields (fs ++ rest) ws = true) vs := by
  induction h with
  | nil =>
    intro vs hc
    cases vs <;> exact .of_none rfl (fun _ => rfl) hc
  | cons ht _ ih =>
    intro vs hc
    obtain ⟨v, vs', rfl, hv, hr⟩ := canonFields_cons hc
    exact .seq List.cons (fun _ _ => rfl) (fun _ _ _ => rfl) (fun _ _ qa qb => canonFields_cons_cons.2 ⟨qa, qb⟩)
      (ht v hv) (ih vs' hr)

theorem field_step {E2 : Env} {P : Trav} {S : Sch} (hP : Typed E2 P S) (v : Val)
    (hv : fieldOK { c := Codec.ofSch E2 (.slice S), isZero := isZeroVal .len } v) :
    TypedAt (Trav.some (Trav.list P)).get (Trav.some (Trav.list P)).put
      (fieldOK { c := Codec.ofSch E2 (.slice S), isZero := isZeroVal .len }) v := by
  rcases hv with rfl | ⟨x, rfl, h1, h2⟩
  · exact .of_none rfl (fun _ => rfl) (Or.inl rfl)
  · obtain ⟨vs, rfl, hlen, hall⟩ := canon_slice_inv h1
    refine .wrap (fun ws => Val.some (Val.list ws)) (fun _ => rfl) (fun _ _ => rfl) (fun ws q => ?_) (putList_typed hP vs hall)
    refine Or.inr ⟨_, rfl, canon_slice_iff.2 ⟨q.1 ▸ hlen, q.2⟩, ?_⟩
    cases vs with
    | nil => exact absurd h2 Bool.noConfusion
    | cons _ _ =>
      cases ws with
      | nil => exact absurd q.1 (Nat.succ_ne_zero _).symm
      | cons _ _ => rfl

theorem field_none (f : BitField) {v : Val} (hv : fieldOK f v) (r : List Val) :
    fieldOK f (Trav.none.put v ((Trav.none.get v).map stripEl ++ r)).1 ∧
      (Trav.none.put v ((Trav.none.get v).map stripEl ++ r)).2 = r := ⟨hv, rfl⟩

theorem typed_txn {E E2 E1 E0 : Env} (h : TxnEnv E E2 E1 E0) : Typed E txnParents (.ext "Types.V2Transaction") := by
  have parent : ∀ {l s r}, IsElem s → Typed E2 parentOf (.cons l s r) :=
    fun hs => typed_pair _ (typed_here E2 hs) (typed_none E2 _)
  have skip : ∀ (f : BitField) (v : Val), fieldOK f v → TypedAt Trav.none.get Trav.none.put (fieldOK f) v :=
    fun f v hv => ⟨fun _ hx => (List.not_mem_nil hx).elim, field_none f hv⟩
  refine typed_ext h.txn fun v hc => ?_
  cases v with
  | list vs =>
    have hc' : (decide (Gen.v2TxnVersionEnc < 256) && decide ((Irregular.v2TxnBitFields E2 Gen.v2TxnFieldsEnc).length ≤ 64) &&
        canonFields (Irregular.v2TxnBitFields E2 Gen.v2TxnFieldsEnc) vs) = true := hc
    rw [Bool.and_eq_true] at hc'
    refine .wrap Val.list (fun _ => rfl) (fun _ _ => rfl) (fun ws q => ?_)
      (putFields_typed (.cons (field_step (parent isElem_siacoin)) <| .cons (skip _) <|
        .cons (field_step (parent isElem_siafund)) <| .cons (skip _) <| .cons (skip _) <|
        .cons (field_step (parent isElem_v2fc)) <| .cons (field_step (typed_resolution h.res h.pay)) .nil) _ vs hc'.2)
    exact Bool.and_eq_true_iff.2 ⟨hc'.1, q⟩
  | _ => exact absurd hc Bool.false_ne_true

theorem typed_txns {E E2 E1 E0 : Env} (h : TxnEnv E E2 E1 E0) :
    Typed E txnsParents (.slice (.ext "Types.V2Transaction")) := typed_list (typed_txn h)

theorem goodTxns_of_canon {E E2 E1 E0 : Env} (h : TxnEnv E E2 E1 E0) {t : Val}
    (hc : Canon E (.slice (.ext "Types.V2Transaction")) t) : GoodTxns t :=
  fun el hel _ => (typed_txns h t hc).shaped el hel

theorem strip_canon {E E2 E1 E0 : Env} (h : TxnEnv E E2 E1 E0) (eh : Nat → Val → Hash32)
    (encP : Val → Bytes) (decP : Bytes → Except DecErr (Val × Bytes)) {t : Val}
    (hc : Canon E (.slice (.ext "Types.V2Transaction")) t) :
    Canon E (.slice (.ext "Types.V2Transaction")) ((valOps eh encP decP).strip t) := by
  have hs := ((typed_txns h t hc).strip []).1
  rw [List.append_nil] at hs
  simp only [TxSetOps.strip, valOps, leavesOfEls]
  have : ((leavesFrom eh 0 (txnsParents.get t)).map fun _ => ([] : List Hash32)) =
      List.replicate (nvis (txnsParents.get t)) [] := by
    rw [← leavesFrom_length eh (txnsParents.get t) 0]
    exact List.map_const'
  rw [this, setProofsEls_nils _ _ (Nat.le_refl _)]
  exact hs

theorem irregular_txnEnv : TxnEnv Irregular.env Irregular.env2 Irregular.env1 Irregular.envP :=
  ⟨by simp [Irregular.env, Env.with], by simp [Irregular.env2, Env.with], by simp [Irregular.env1, Env.with]⟩

end Sia.Multiproof
