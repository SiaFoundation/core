import SiaProofs.Lemmas.CodecSch
import SiaModel.Codec.Size
/-! Encoded sizes: `size = |enc|`, and the bound `maxSize` under per-field limits (C19). -/
namespace Sia.Codec

theorem sizeList_eq {f : Val → Nat} {g : Val → Bytes} (vs : List Val)
    (h : ∀ v ∈ vs, f v = (g v).length) : sizeList f vs = (encList g vs).length := by
  induction vs with
  | nil => rfl
  | cons v vs ih =>
    simp only [sizeList, encList, List.length_append]
    rw [h v (by simp), ih (fun w hw => h w (by simp [hw]))]

theorem size_eq (E : Env) (s : Sch) (v : Val) : size E s v = (enc E s v).length := by
  induction s generalizing v with
  | atom a => rfl
  | nil => rfl
  | cons l s r ihs ihr => cases v <;> simp [size, enc, ihs, ihr]
  | slice s ih | uslice s ih | aslice s ih =>
    cases v <;> simp [size, enc, u64le_length]
    rename_i vs
    rw [sizeList_eq vs (fun w _ => ih w)]
  | opt s ih => cases v <;> simp [size, enc, ih]; omega
  | ext n => rfl

theorem optAdd_some {a b : Option Nat} {m : Nat} (h : optAdd a b = some m) :
    ∃ x y, a = some x ∧ b = some y ∧ m = x + y := by
  cases a <;> cases b <;> simp [optAdd] at h
  exact ⟨_, _, rfl, rfl, h.symm⟩

theorem optMul_some {n : Nat} {a : Option Nat} {m : Nat} (h : optMul n a = some m) :
    ∃ x, a = some x ∧ m = n * x := by
  cases a <;> simp [optMul] at h
  exact ⟨_, rfl, h.symm⟩

theorem encCur1_length_le {n : Nat} : (encCur1 n).length ≤ 24 := by
  have := trimZeros_length_le (be16 n)
  rw [be16_length] at this
  simp [encCur1, u64le_length]; omega

theorem slice_bound {E : Env} {s : Sch} {vs : List Val} {n x : Nat}
    (hl : vs.length ≤ n) (h : ∀ v ∈ vs, (enc E s v).length ≤ x) :
    (u64le vs.length ++ encList (enc E s) vs).length ≤ 8 + n * x := by
  have h1 := encList_length_le vs h
  have h2 : vs.length * x ≤ n * x := Nat.mul_le_mul_right _ hl
  simp [u64le_length]; omega

theorem bytes_size_bound {cur : Option Nat} {m : Nat} {v : Val} {p : Bytes → Bool} (hc : isBytes p v = true)
    (hm : maxSizeIn cur (.atom .bytes) = some m) (hw : withinIn cur (.atom .bytes) v = true) :
    (match v with | .bytes b => u64le b.length ++ b | _ => []).length ≤ m := by
  obtain ⟨b, rfl, _⟩ := (isBytes_iff fun _ => Iff.rfl).mp hc
  cases cur with
  | none => cases hm
  | some n =>
    cases hm
    have : b.length ≤ n := of_decide_eq_true hw
    simp only [List.length_append, u64le_length]; omega

theorem atom_size_bound (lim : Nat) (cur : Option Nat) (a : Atom) (m : Nat) (v : Val)
    (hm : maxSizeIn cur (.atom a) = some m) (hc : (a.codec lim).canon v = true)
    (hw : withinIn cur (.atom a) v = true) : ((a.codec lim).enc v).length ≤ m := by
  cases a
  case bytes => exact bytes_size_bound hc hm hw
  case str => exact bytes_size_bound hc hm hw
  case ubytes => exact bytes_size_bound hc hm hw
  case cbytes => exact bytes_size_bound hc hm hw
  all_goals cases hm
  case u8 => obtain ⟨n, rfl, _⟩ := isNat_iff.mp hc; exact Nat.le_of_eq (leBytes_length 1 n)
  case u64 => obtain ⟨n, rfl, _⟩ := isNat_iff.mp hc; exact Nat.le_of_eq (u64le_length n)
  case time => obtain ⟨n, rfl, _⟩ := isNat_iff.mp hc; exact Nat.le_of_eq (u64le_length n)
  case bool => match v, hc with | .bool _, _ => exact Nat.le_refl 1
  case fixed =>
    obtain ⟨b, rfl, hb⟩ := (isBytes_iff fun _ => beq_iff_eq).mp hc
    exact Nat.le_of_eq hb
  case pfixed =>
    obtain ⟨b, rfl, hb⟩ := (isBytes_iff fun _ => Iff.rfl).mp hc
    show (u64le b.length ++ b).length ≤ _
    rw [List.length_append, u64le_length, beq_iff_eq.mp ((Bool.and_eq_true _ _).mp hb).1]; exact Nat.le_refl _
  case cur1 => obtain ⟨n, rfl, _⟩ := isNat_iff.mp hc; exact encCur1_length_le
  case sfval1 => obtain ⟨n, rfl, _⟩ := isNat_iff.mp hc; exact encCur1_length_le
  case cur1pad => match v, hc with | .unit, _ => show (encCur1 0).length ≤ 8; decide

theorem list_size_bound {E : Env} {s : Sch} {n m : Nat} {vs : List Val}
    (ih : ∀ m v, maxSizeIn (some n) s = some m → Canon E s v → withinIn (some n) s v = true →
      (enc E s v).length ≤ m)
    (hm : optAdd (some 8) (optMul n (maxSizeIn (some n) s)) = some m) (hc : ∀ w ∈ vs, Canon E s w)
    (hw : (decide (vs.length ≤ n) && vs.all (withinIn (some n) s)) = true) :
    (u64le vs.length ++ encList (enc E s) vs).length ≤ m := by
  obtain ⟨x8, y, hx8, hy, rfl⟩ := optAdd_some hm
  obtain ⟨x, hx, rfl⟩ := optMul_some hy
  cases hx8
  simp only [Bool.and_eq_true, decide_eq_true_eq, List.all_eq_true] at hw
  exact slice_bound hw.1 (fun w hwm => ih x w hx (hc w hwm) (hw.2 w hwm))

theorem maxSizeIn_bound (E : Env) (cur : Option Nat) (s : Sch) (m : Nat) (v : Val)
    (hm : maxSizeIn cur s = some m) (hc : Canon E s v) (hw : withinIn cur s v = true) :
    (enc E s v).length ≤ m := by
  induction s generalizing m v with
  | atom a => exact atom_size_bound E.lim cur a m v hm hc hw
  | nil => exact Nat.zero_le _
  | cons l s r ihs ihr =>
    obtain ⟨x, y, hx, hy, rfl⟩ := optAdd_some hm
    obtain ⟨a, b, rfl, ha, hb⟩ := canon_cons_inv hc
    simp only [withinIn, Bool.and_eq_true] at hw
    have h1 := ihs x a hx ha hw.1
    have h2 := ihr y b hy hb hw.2
    simp only [enc, List.length_append]; omega
  | slice s ih | aslice s ih =>
    obtain ⟨vs, rfl, _, hall⟩ := canon_slice_inv (s := s) hc
    cases cur with
    | none => cases hm
    | some n => exact list_size_bound ih hm hall hw
  | opt s ih =>
    obtain ⟨x1, y, hx1, hy, rfl⟩ := optAdd_some hm
    cases hx1
    rcases canon_opt_inv hc with rfl | ⟨a, rfl, ha⟩
    · exact Nat.le_add_right 1 y
    · have := ih y a hy ha hw
      simp only [enc, List.length_cons]; omega
  | uslice s ih =>
    obtain ⟨vs, rfl, _, _, hall⟩ := canon_uslice_inv hc
    cases cur with
    | none => cases hm
    | some n => exact list_size_bound ih hm hall hw
  | ext n => cases hm

theorem maxSize_cons (B : Limits) (l : String) (s r : Sch) :
    maxSize B (.cons l s r) = optAdd (maxSizeIn (B.head?.bind (·.2)) s) (maxSize B.tail r) := by
  cases B <;> rfl

theorem within_cons (B : Limits) (l : String) (s r : Sch) (a b : Val) :
    within B (.cons l s r) (.pair a b) = (withinIn (B.head?.bind (·.2)) s a && within B.tail r b) := by
  cases B <;> rfl

theorem maxSize_bound (E : Env) (B : Limits) (s : Sch) (m : Nat) (v : Val)
    (hm : maxSize B s = some m) (hc : Canon E s v) (hw : within B s v = true) :
    (enc E s v).length ≤ m := by
  induction s generalizing B m v with
  | cons l s r _ ihr =>
    obtain ⟨a, b, rfl, ha, hb⟩ := canon_cons_inv hc
    rw [maxSize_cons] at hm
    rw [within_cons, Bool.and_eq_true] at hw
    obtain ⟨x, y, hx, hy, rfl⟩ := optAdd_some hm
    have h1 := maxSizeIn_bound E _ s x a hx ha hw.1
    have h2 := ihr _ y b hy hb hw.2
    simp only [enc, List.length_append]; omega
  -- off records `maxSize B` and `within B` are `maxSizeIn none` and `withinIn none`
  | _ => cases B <;> exact maxSizeIn_bound E none _ m v hm hc hw

end Sia.Codec
