import SiaProofs.Lemmas.LedgerValue
import SiaProofs.Lemmas.LedgerPut
/-!
# Structure of the mid-state's element index, `Mid.put*`

`Struct T ms`: the shared `elements` index is consistent with the four diff slices,
and every recorded id has the kind `T` assigns to it.  `Agree ms ms' P`: the two
mid-states look the same at every id outside `P`.  Then the effect of `Mid.put s` on structure,
views, membership and totals for a slice `s` whose ids `Struct` indexes; at the end, the `diff?` lemmas of the four
slices under the names of the model's lookups (`scDiff?_mem`, …).
-/
namespace Sia.Ledger

def Mid.fc2Diff? (ms : Mid) (id : Id) : Option Fc2Diff :=
  match ms.lookup id with
  | some i => if i < ms.v2fces.length ∧ (ms.v2fces.getD i default).e.id = id then some (ms.v2fces.getD i default) else none
  | none => none

/-- the index of the mid-state: `elements` sends the id of the `i`-th diff of a kind to `i`, every indexed id
is such an id, and the ids of kind `k` are typed `T k` -/
structure Struct (T : Kind → Id → Prop) (ms : Mid) : Prop where
  idx : ∀ k i id, (ms.idsOf k)[i]? = some id → ms.lookup id = some i
  kind : ∀ id i, ms.lookup id = some i → ∃ k, (ms.idsOf k)[i]? = some id
  typed : ∀ k id, id ∈ ms.idsOf k → T k id

def TDisj (T : Kind → Id → Prop) : Prop := ∀ k k' id, T k id → T k' id → k = k'

theorem Struct.same {T} {ms ms' : Mid} (h : Struct T ms) (he : ms'.elements = ms.elements)
    (hi : ∀ k, ms'.idsOf k = ms.idsOf k) : Struct T ms' := by
  constructor
  · intro k i id hk; rw [hi] at hk; have := h.idx k i id hk; unfold Mid.lookup at *; rw [he]; exact this
  · intro id i hl; unfold Mid.lookup at hl; rw [he] at hl
    obtain ⟨k, hk⟩ := h.kind id i hl; exact ⟨k, by rw [hi]; exact hk⟩
  · intro k id hm; rw [hi] at hm; exact h.typed k id hm

theorem Struct.ext {T} {ms ms' : Mid} (h : Struct T ms) (k : Kind) (id : Id)
    (hn : ms.lookup id = none) (hT : T k id)
    (hl : ∀ x, ms'.lookup x = (ms.lookup x).or (if x = id then some (ms.idsOf k).length else none))
    (hk : ms'.idsOf k = ms.idsOf k ++ [id])
    (ho : ∀ k', k' ≠ k → ms'.idsOf k' = ms.idsOf k') : Struct T ms' := by
  constructor
  · intro k' i x hx
    rw [hl]
    by_cases hkk : k' = k
    · subst hkk
      rw [hk] at hx
      by_cases hi : i < (ms.idsOf k').length
      · rw [List.getElem?_append_left hi] at hx
        rw [h.idx k' i x hx]; rfl
      · have hi' : (ms.idsOf k').length ≤ i := Nat.le_of_not_lt hi
        rw [List.getElem?_append_right hi'] at hx
        have : i - (ms.idsOf k').length = 0 ∧ x = id := by
          cases hj : i - (ms.idsOf k').length with
          | zero => rw [hj] at hx; simp at hx; exact ⟨rfl, hx.symm⟩
          | succ j => rw [hj] at hx; simp at hx
        obtain ⟨h0, rfl⟩ := this
        rw [hn]; simp only [Option.or, if_true]
        congr 1; omega
    · rw [ho k' hkk] at hx
      rw [h.idx k' i x hx]; rfl
  · intro x i hx
    rw [hl] at hx
    cases hlx : ms.lookup x with
    | some j =>
      rw [hlx] at hx
      have hji : j = i := by simpa [Option.or] using hx
      subst hji
      obtain ⟨k', hk'⟩ := h.kind x j hlx
      refine ⟨k', ?_⟩
      by_cases hkk : k' = k
      · subst hkk; rw [hk]
        rw [List.getElem?_append_left (lt_length_of_getElem? hk')]; exact hk'
      · rw [ho k' hkk]; exact hk'
    | none =>
      rw [hlx] at hx; simp only [Option.or] at hx
      split at hx
      · rename_i hxid; cases hx; subst hxid
        exact ⟨k, by rw [hk]; simp⟩
      · cases hx
  · intro k' x hm
    by_cases hkk : k' = k
    · subst hkk; rw [hk] at hm
      rcases List.mem_append.mp hm with hm | hm
      · exact h.typed k' x hm
      · simp at hm; subst hm; exact hT
    · rw [ho k' hkk] at hm; exact h.typed k' x hm

theorem Struct.lookup_kind {T} {ms : Mid} (h : Struct T ms) (hd : TDisj T) {k : Kind} {id : Id} {i : Nat}
    (hT : T k id) (hl : ms.lookup id = some i) : (ms.idsOf k)[i]? = some id := by
  obtain ⟨k', hk'⟩ := h.kind id i hl
  have : T k' id := h.typed k' id (List.mem_of_getElem? hk')
  rw [hd k k' id hT this]; exact hk'

theorem Struct.not_mem_of_lookup_none {T} {ms : Mid} (h : Struct T ms) {k : Kind} {id : Id}
    (hl : ms.lookup id = none) : id ∉ ms.idsOf k := by
  intro hm
  obtain ⟨i, hi⟩ := List.getElem?_of_mem hm
  rw [h.idx k i id hi] at hl; cases hl

def Agree (ms ms' : Mid) (P : Id → Prop) : Prop :=
  ms'.base = ms.base ∧ ∀ x, ¬ P x →
    ms'.lookup x = ms.lookup x ∧ ms'.scDiff? x = ms.scDiff? x ∧ ms'.sfDiff? x = ms.sfDiff? x ∧
    ms'.fc1Diff? x = ms.fc1Diff? x ∧ ms'.fc2Diff? x = ms.fc2Diff? x ∧ ms'.isSpent x = ms.isSpent x

theorem Agree.refl (ms : Mid) (P : Id → Prop) : Agree ms ms P :=
  ⟨rfl, fun _ _ => ⟨rfl, rfl, rfl, rfl, rfl, rfl⟩⟩

theorem Agree.mono {ms ms' : Mid} {P Q : Id → Prop} (h : Agree ms ms' P) (hpq : ∀ x, P x → Q x) : Agree ms ms' Q :=
  ⟨h.1, fun x hx => h.2 x (fun hp => hx (hpq x hp))⟩

theorem Agree.trans {ms ms' ms'' : Mid} {P : Id → Prop} (h1 : Agree ms ms' P) (h2 : Agree ms' ms'' P) : Agree ms ms'' P := by
  refine ⟨h2.1.trans h1.1, fun x hx => ?_⟩
  obtain ⟨a1, a2, a3, a4, a5, a6⟩ := h1.2 x hx
  obtain ⟨b1, b2, b3, b4, b5, b6⟩ := h2.2 x hx
  exact ⟨b1.trans a1, b2.trans a2, b3.trans a3, b4.trans a4, b5.trans a5, b6.trans a6⟩

theorem isSpent_cons (ms : Mid) (id x : Id) (h : x ≠ id) :
    ({ ms with spends := id :: ms.spends } : Mid).isSpent x = ms.isSpent x := by
  unfold Mid.isSpent
  simp only [List.contains_cons]
  have : (x == id) = false := by simp [h]
  rw [this]; rfl

section put
variable {D : Type} [Inhabited D]

theorem put_idsOf_other (s : Slice D) {k : Kind} (hk : k ≠ s.kind) (ms : Mid) (id : Id) (f : D → D) :
    (ms.put s id f).idsOf k = ms.idsOf k := by
  cases k with
  | sc => unfold Mid.idsOf Mid.scIds; rw [put_sces s hk.symm]
  | sf => unfold Mid.idsOf Mid.sfIds; rw [put_sfes s hk.symm]
  | fc1 => unfold Mid.idsOf Mid.fc1Ids; rw [put_fces s hk.symm]
  | fc2 => unfold Mid.idsOf Mid.fc2Ids; rw [put_v2fces s hk.symm]
  | att => rfl

theorem Struct.diff?_of_lookup {T} {ms : Mid} (hS : Struct T ms) (hd : TDisj T) (s : Slice D) {id : Id} {i : Nat}
    (hT : T s.kind id) (hl : ms.lookup id = some i) :
    ∃ d, (s.get ms)[i]? = some d ∧ s.idOf d = id ∧ s.diff? ms id = some d := by
  have hk := hS.lookup_kind hd hT hl
  rw [s.ids, List.getElem?_map] at hk
  cases hd' : (s.get ms)[i]? with
  | none => rw [hd'] at hk; cases hk
  | some d =>
    rw [hd'] at hk
    have hid : s.idOf d = id := Option.some.inj hk
    exact ⟨d, rfl, hid, s.diff?_of_getElem? hl hd' hid⟩

theorem Struct.diff?_none {T} {ms : Mid} (hS : Struct T ms) (hd : TDisj T) (s : Slice D) {id : Id}
    (hT : T s.kind id) (h : s.diff? ms id = none) : ms.lookup id = none := by
  cases hl : ms.lookup id with
  | none => rfl
  | some i =>
    obtain ⟨d, _, _, h'⟩ := hS.diff?_of_lookup hd s hT hl
    rw [h] at h'; cases h'

theorem Struct.diff?_of_mem {T} {ms : Mid} (hS : Struct T ms) (s : Slice D) {d : D} (hm : d ∈ s.get ms) :
    s.diff? ms (s.idOf d) = some d := by
  obtain ⟨i, hi⟩ := List.getElem?_of_mem hm
  have : (ms.idsOf s.kind)[i]? = some (s.idOf d) := by rw [s.ids, List.getElem?_map, hi]; rfl
  exact s.diff?_of_getElem? (hS.idx _ i _ this) hi rfl

/-- the diff `put` writes when `Struct`, `TDisj` and `T s.kind id` hold (`put_cases`); without them it writes
`f (s.target ms id)` (`LedgerPut`), which need not be the diff recorded under `id` -/
def Slice.new (s : Slice D) (ms : Mid) (id : Id) (f : D → D) : D := f ((s.diff? ms id).getD default)

theorem put_cases {T} {ms : Mid} (hS : Struct T ms) (hd : TDisj T) (s : Slice D) {id : Id} (hT : T s.kind id)
    (f : D → D) :
    (∃ i d, ms.lookup id = some i ∧ (s.get ms)[i]? = some d ∧ s.idOf d = id ∧ s.diff? ms id = some d ∧
        s.get (ms.put s id f) = (s.get ms).set i (s.new ms id f) ∧ (ms.put s id f).elements = ms.elements) ∨
    (ms.lookup id = none ∧ s.diff? ms id = none ∧ s.get (ms.put s id f) = s.get ms ++ [s.new ms id f]) := by
  unfold Slice.new
  rcases put_raw s ms id f with ⟨i, hl, hg, he⟩ | ⟨hl, hg, _⟩
  · obtain ⟨d, hd1, hd2, hd3⟩ := hS.diff?_of_lookup hd s hT hl
    rw [getD_of_getElem? hd1] at hg
    rw [hd3]
    exact .inl ⟨i, d, hl, hd1, hd2, rfl, hg, he⟩
  · rw [s.diff?_none_of_lookup hl]
    exact .inr ⟨hl, rfl, hg⟩

theorem put_struct {T} {ms : Mid} (hS : Struct T ms) (hd : TDisj T) (s : Slice D) {id : Id} (hT : T s.kind id)
    (f : D → D) (hf : s.idOf (s.new ms id f) = id) : Struct T (ms.put s id f) := by
  rcases put_cases hS hd s hT f with ⟨i, d, _, hi, hid, _, hg, he⟩ | ⟨hl, _, hg⟩
  · refine hS.same he (fun k => ?_)
    by_cases hk : k = s.kind
    · subst hk
      rw [s.ids, s.ids, hg]
      exact map_set_same _ _ _ _ _ hi (hf.trans hid.symm)
    · exact put_idsOf_other s hk ms id f
  · refine hS.ext s.kind id hl hT ?_ ?_ (fun k hk => put_idsOf_other s hk ms id f)
    · intro x; rw [put_lookup, s.ids, List.length_map]
    · rw [s.ids, s.ids, hg, List.map_append, List.map_cons, List.map_nil, hf]

theorem put_view {T} {ms : Mid} (hS : Struct T ms) (hd : TDisj T) (s : Slice D) {id : Id} (hT : T s.kind id)
    (f : D → D) (hf : s.idOf (s.new ms id f) = id) : s.diff? (ms.put s id f) id = some (s.new ms id f) := by
  rcases put_cases hS hd s hT f with ⟨i, d, hl, hi, _, _, hg, _⟩ | ⟨hl, _, hg⟩
  · refine s.diff?_of_getElem? (put_lookup_mono s hl) ?_ hf
    rw [hg, List.getElem?_set_self (lt_length_of_getElem? hi)]
  · have hl' : (ms.put s id f).lookup id = some (s.get ms).length := by rw [put_lookup, hl, if_pos rfl]; rfl
    refine s.diff?_of_getElem? hl' ?_ hf
    rw [hg]; simp

theorem put_mem {T} {ms : Mid} (hS : Struct T ms) (hd : TDisj T) (s : Slice D) {id : Id} (hT : T s.kind id)
    (f : D → D) {d' : D} (hm : d' ∈ s.get (ms.put s id f)) : d' ∈ s.get ms ∨ d' = s.new ms id f := by
  rcases put_cases hS hd s hT f with ⟨i, _, _, _, _, _, hg, _⟩ | ⟨_, _, hg⟩
  · rw [hg] at hm; exact List.mem_or_eq_of_mem_set hm
  · rw [hg, List.mem_append, List.mem_singleton] at hm; exact hm

theorem put_diff?_ne {T} {ms : Mid} (hS : Struct T ms) (hd : TDisj T) (s : Slice D) {id : Id} (hT : T s.kind id)
    (f : D → D) (hf : s.idOf (s.new ms id f) = id) {x : Id} (hx : x ≠ id) :
    s.diff? (ms.put s id f) x = s.diff? ms x := by
  rw [s.diff?_eq, s.diff?_eq, put_lookup_ne s hx]
  cases ms.lookup x with
  | none => rfl
  | some j =>
    have hnew : ¬ s.idOf (s.new ms id f) = x := fun h => hx (h.symm.trans hf)
    simp only [Option.bind_some]
    rcases put_cases hS hd s hT f with ⟨i, d, _, hi, hid, _, hg, _⟩ | ⟨_, _, hg⟩
    · rw [hg, List.getElem?_set]
      by_cases hij : i = j
      · subst hij
        have hold : ¬ s.idOf d = x := fun h => hx (h.symm.trans hid)
        rw [if_pos rfl, if_pos (lt_length_of_getElem? hi), hi]
        simp [hnew, hold]
      · rw [if_neg hij]
    · rw [hg]
      by_cases hj : j < (s.get ms).length
      · rw [List.getElem?_append_left hj]
      · have hj' : (s.get ms).length ≤ j := Nat.le_of_not_lt hj
        rw [List.getElem?_eq_none_iff.mpr hj', List.getElem?_append_right hj']
        cases j - (s.get ms).length with
        | zero => simp [hnew]
        | succ n => simp

variable {E : Type} (bl : Ledger → List E) (eid : E → Id) (ev : E → Nat) (dv : D → Nat)

/-- `scTot` and its siblings: the value of the base elements the slice does not touch, plus that of its diffs -/
def Slice.tot (s : Slice D) (ms : Mid) : Nat :=
  ((untouched (bl ms.base) eid ((s.get ms).map s.idOf)).map ev).sum + ((s.get ms).map dv).sum

theorem put_tot_fresh {T} {ms : Mid} (hS : Struct T ms) (hd : TDisj T) (s : Slice D) {id : Id} (hT : T s.kind id)
    (f : D → D) (hf : s.idOf (s.new ms id f) = id) (hv : s.diff? ms id = none) (hb : id ∉ (bl ms.base).map eid) :
    s.tot bl eid ev dv (ms.put s id f) = s.tot bl eid ev dv ms + dv (s.new ms id f) := by
  rcases put_cases hS hd s hT f with ⟨_, _, _, _, _, hv', _, _⟩ | ⟨_, _, hg⟩
  · rw [hv] at hv'; cases hv'
  · unfold Slice.tot
    rw [put_base, hg]
    simp only [List.map_append, List.map_cons, List.map_nil, List.sum_append, List.sum_cons, List.sum_nil]
    rw [hf, untouched_append_notin _ _ _ _ hb]
    omega

/-- what `id` counts for in the total of the slice: the value of the diff recorded under it or, if there is none, of
the base element that carries it -/
def Slice.Counts (s : Slice D) (ms : Mid) (id : Id) (a : Nat) : Prop :=
  match s.diff? ms id with
  | some d => dv d = a
  | none => ∃ e ∈ bl ms.base, eid e = id ∧ ev e = a

theorem Slice.counts_some (s : Slice D) {ms : Mid} {id : Id} {d : D} (h : s.diff? ms id = some d) :
    s.Counts bl eid ev dv ms id (dv d) := by
  unfold Slice.Counts; rw [h]

theorem Slice.counts_none (s : Slice D) {ms : Mid} {id : Id} {e : E} (h : s.diff? ms id = none) (he : e ∈ bl ms.base)
    (hid : eid e = id) : s.Counts bl eid ev dv ms id (ev e) := by
  unfold Slice.Counts; rw [h]; exact ⟨e, he, hid, rfl⟩

theorem put_tot {T} {ms : Mid} (hS : Struct T ms) (hd : TDisj T) (s : Slice D) {id : Id} (hT : T s.kind id)
    (f : D → D) (hf : s.idOf (s.new ms id f) = id) (hn : ((bl ms.base).map eid).Nodup) {a : Nat}
    (h : s.Counts bl eid ev dv ms id a) :
    s.tot bl eid ev dv (ms.put s id f) + a = s.tot bl eid ev dv ms + dv (s.new ms id f) := by
  unfold Slice.Counts at h
  unfold Slice.tot
  rcases put_cases hS hd s hT f with ⟨i, d, _, hi, hid, hv, hg, _⟩ | ⟨hl, hv, hg⟩
  · rw [hv] at h; subst h
    rw [put_base, hg, map_set_same _ _ _ _ _ hi (hf.trans hid.symm)]
    have := sum_map_set (s.get ms) dv i (s.new ms id f) d hi
    omega
  · rw [hv] at h
    obtain ⟨e, he, heid, rfl⟩ := h
    rw [put_base, hg]
    simp only [List.map_append, List.map_cons, List.map_nil, List.sum_append, List.sum_cons, List.sum_nil]
    have hni : eid e ∉ (s.get ms).map s.idOf := by
      rw [heid, ← s.ids]; exact hS.not_mem_of_lookup_none hl
    have := untouched_append_in (bl ms.base) eid ev ((s.get ms).map s.idOf) e hn he hni
    rw [hf, ← heid]
    omega

end put

theorem scDiff?_eq (ms : Mid) (id : Id) :
    ms.scDiff? id = (ms.lookup id).bind (fun i => (ms.sces[i]?).bind (fun d => if d.e.id = id then some d else none)) :=
  scSlice.diff?_eq ms id

theorem scDiff?_mem {ms : Mid} {id : Id} {d : ScDiff} (h : ms.scDiff? id = some d) : d ∈ ms.sces ∧ d.e.id = id :=
  scSlice.diff?_mem h

theorem scDiff?_none_of_lookup {ms : Mid} {id : Id} (h : ms.lookup id = none) : ms.scDiff? id = none :=
  scSlice.diff?_none_of_lookup h

theorem Struct.scDiff?_none {T} {ms : Mid} (hS : Struct T ms) (hd : TDisj T) {id : Id}
    (hT : T .sc id) (h : ms.scDiff? id = none) : ms.lookup id = none :=
  hS.diff?_none hd scSlice hT h

theorem Struct.scDiff?_of_mem {T} {ms : Mid} (hS : Struct T ms) {d : ScDiff} (hm : d ∈ ms.sces) :
    ms.scDiff? d.e.id = some d :=
  hS.diff?_of_mem scSlice hm

theorem sfDiff?_mem {ms : Mid} {id : Id} {d : SfDiff} (h : ms.sfDiff? id = some d) : d ∈ ms.sfes ∧ d.e.id = id :=
  sfSlice.diff?_mem h

theorem sfDiff?_none_of_lookup {ms : Mid} {id : Id} (h : ms.lookup id = none) : ms.sfDiff? id = none :=
  sfSlice.diff?_none_of_lookup h

theorem Struct.sfDiff?_none {T} {ms : Mid} (hS : Struct T ms) (hd : TDisj T) {id : Id}
    (hT : T .sf id) (h : ms.sfDiff? id = none) : ms.lookup id = none :=
  hS.diff?_none hd sfSlice hT h

theorem Struct.sfDiff?_of_mem {T} {ms : Mid} (hS : Struct T ms) {d : SfDiff} (hm : d ∈ ms.sfes) :
    ms.sfDiff? d.e.id = some d :=
  hS.diff?_of_mem sfSlice hm

theorem fc1Diff?_mem {ms : Mid} {id : Id} {d : Fc1Diff} (h : ms.fc1Diff? id = some d) : d ∈ ms.fces ∧ d.e.id = id :=
  fc1Slice.diff?_mem h

theorem fc1Diff?_none_of_lookup {ms : Mid} {id : Id} (h : ms.lookup id = none) : ms.fc1Diff? id = none :=
  fc1Slice.diff?_none_of_lookup h

theorem Struct.fc1Diff?_none {T} {ms : Mid} (hS : Struct T ms) (hd : TDisj T) {id : Id}
    (hT : T .fc1 id) (h : ms.fc1Diff? id = none) : ms.lookup id = none :=
  hS.diff?_none hd fc1Slice hT h

theorem Struct.fc1Diff?_of_mem {T} {ms : Mid} (hS : Struct T ms) {d : Fc1Diff} (hm : d ∈ ms.fces) :
    ms.fc1Diff? d.e.id = some d :=
  hS.diff?_of_mem fc1Slice hm

theorem fc2Diff?_mem {ms : Mid} {id : Id} {d : Fc2Diff} (h : ms.fc2Diff? id = some d) : d ∈ ms.v2fces ∧ d.e.id = id :=
  fc2Slice.diff?_mem h

theorem Struct.fc2Diff?_of_lookup {T} {ms : Mid} (hS : Struct T ms) (hd : TDisj T) {id : Id} {i : Nat}
    (hT : T .fc2 id) (hl : ms.lookup id = some i) : ∃ d, ms.v2fces[i]? = some d ∧ d.e.id = id ∧ ms.fc2Diff? id = some d :=
  hS.diff?_of_lookup hd fc2Slice hT hl

theorem Struct.fc2Diff?_none {T} {ms : Mid} (hS : Struct T ms) (hd : TDisj T) {id : Id}
    (hT : T .fc2 id) (h : ms.fc2Diff? id = none) : ms.lookup id = none :=
  hS.diff?_none hd fc2Slice hT h

theorem Struct.fc2Diff?_of_mem {T} {ms : Mid} (hS : Struct T ms) {d : Fc2Diff} (hm : d ∈ ms.v2fces) :
    ms.fc2Diff? d.e.id = some d :=
  hS.diff?_of_mem fc2Slice hm

end Sia.Ledger
