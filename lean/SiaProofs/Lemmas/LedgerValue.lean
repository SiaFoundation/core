import SiaModel.Ledger.Model
/-!
# The value function and the potential of a mid-state

`V L` is the value function of C01.  `Phi ms` is the value of the ledger that
`ms.commit` would produce; it is written as a sum over "untouched base elements" and
"diff contributions" so that the effect of each `Mid.put*` can be computed.
-/
namespace Sia.Ledger

def sumVals (l : List ScOut) : Nat := (l.map (·.value)).sum
def Fc1.val (fc : Fc1) : Nat := sumVals fc.valid
def Fc2.val (fc : Fc2) : Nat := fc.renter.value + fc.host.value

/-- value function of C01: unspent outputs + value locked in v1 and v2 contracts + the siafund tax revenue collected so
far (`L.pool`, Go's `SiafundTaxRevenue`: a claim does not lower it, which is why claims stand on the right of C01) -/
def V (L : Ledger) : Nat :=
  (L.sc.map (·.value)).sum + (L.fc1.map (·.fc.val)).sum + (L.fc2.map (·.fc.val)).sum + L.pool

/-- number of siafunds in unspent outputs -/
def SFtot (L : Ledger) : Nat := (L.sf.map (·.value)).sum

/-- base elements whose id is not among `ids` -/
def untouched {E : Type} (base : List E) (eid : E → Id) (ids : List Id) : List E :=
  base.filter (fun e => !ids.contains (eid e))

theorem untouched_nil {E : Type} (base : List E) (eid : E → Id) : untouched base eid [] = base := by
  unfold untouched; simp

theorem sum_filter_map {α : Type} (l : List α) (p : α → Bool) (g : α → Nat) :
    ((l.filter p).map g).sum = (l.map (fun x => if p x then g x else 0)).sum := by
  induction l with
  | nil => rfl
  | cons a l ih =>
    simp only [List.filter_cons, List.map_cons, List.sum_cons]
    cases p a <;> simp [ih]

theorem untouched_append_notin {E : Type} (base : List E) (eid : E → Id) (ids : List Id) (id : Id)
    (h : id ∉ base.map eid) : untouched base eid (ids ++ [id]) = untouched base eid ids := by
  unfold untouched
  apply List.filter_congr
  intro e he
  have : eid e ≠ id := fun hh => h (hh ▸ List.mem_map_of_mem he)
  simp [this]

theorem untouched_append_in {E : Type} (base : List E) (eid : E → Id) (ev : E → Nat) (ids : List Id) (e : E)
    (hn : (base.map eid).Nodup) (he : e ∈ base) (hid : eid e ∉ ids) :
    ((untouched base eid (ids ++ [eid e])).map ev).sum + ev e = ((untouched base eid ids).map ev).sum := by
  unfold untouched
  induction base with
  | nil => cases he
  | cons a base ih =>
    simp only [List.map_cons, List.nodup_cons] at hn
    rcases List.mem_cons.mp he with rfl | he'
    · -- e is the head; it is dropped on the left, kept on the right, tail is unaffected
      have htail : base.filter (fun x => !(ids ++ [eid e]).contains (eid x)) = base.filter (fun x => !ids.contains (eid x)) := by
        apply List.filter_congr
        intro x hx
        have : eid x ≠ eid e := fun hh => hn.1 (hh ▸ List.mem_map_of_mem hx)
        simp [this]
      have h1 : (!(ids ++ [eid e]).contains (eid e)) = false := by simp
      have h2 : (!ids.contains (eid e)) = true := by simp [hid]
      rw [List.filter_cons, List.filter_cons, h1, h2, htail]
      simp only [Bool.false_eq_true, if_false, if_true, List.map_cons, List.sum_cons]
      omega
    · have hne : eid a ≠ eid e := fun hh => hn.1 (hh ▸ List.mem_map_of_mem he')
      have hc : (!(ids ++ [eid e]).contains (eid a)) = (!ids.contains (eid a)) := by
        simp [hne]
      rw [List.filter_cons, List.filter_cons, hc]
      have := ih hn.2 he'
      cases (!ids.contains (eid a))
      · simpa using this
      · simp only [List.map_cons, List.sum_cons, if_true]; omega

theorem sum_map_set {α : Type} (l : List α) (g : α → Nat) (i : Nat) (x y : α) (h : l[i]? = some y) :
    ((l.set i x).map g).sum + g y = (l.map g).sum + g x := by
  induction l generalizing i with
  | nil => simp at h
  | cons a l ih =>
    cases i with
    | zero => simp only [List.getElem?_cons_zero, Option.some.injEq] at h; subst h
              simp only [List.set_cons_zero, List.map_cons, List.sum_cons]; omega
    | succ i => simp only [List.getElem?_cons_succ] at h
                have := ih i h
                simp only [List.set_cons_succ, List.map_cons, List.sum_cons]; omega

theorem map_set_same_w {D β : Type} (l : List D) (i : Nat) (x : D) (g : D → β)
    (h : ∀ d, l[i]? = some d → g x = g d) : (l.set i x).map g = l.map g := by
  induction l generalizing i with
  | nil => rfl
  | cons a l ih =>
    cases i with
    | zero => rw [List.set_cons_zero, List.map_cons, List.map_cons, h a rfl]
    | succ i => rw [List.set_cons_succ, List.map_cons, List.map_cons, ih i (fun d hd => h d (by simpa using hd))]

theorem map_set_same {α β : Type} (l : List α) (g : α → β) (i : Nat) (x y : α) (h : l[i]? = some y) (hg : g x = g y) :
    (l.set i x).map g = l.map g :=
  map_set_same_w l i x g (fun d hd => by rw [h] at hd; cases hd; exact hg)

/-- ids of one kind after a commit: distinct, and each is a base id or the id of a live diff; only the live
diffs need distinct ids -/
theorem commit_ids_live {E D : Type} (base : List E) (eid : E → Id) (diffs : List D) (did : D → Id)
    (live : D → Bool) (cur : D → E) (hcur : ∀ d, eid (cur d) = did d)
    (hb : (base.map eid).Nodup) (hd : ((diffs.filter live).map did).Nodup) :
    ((untouched base eid (diffs.map did) ++ (diffs.filter live).map cur).map eid).Nodup ∧
    ∀ x ∈ (untouched base eid (diffs.map did) ++ (diffs.filter live).map cur).map eid,
      x ∈ base.map eid ∨ x ∈ (diffs.filter live).map did := by
  have e2 : ((diffs.filter live).map cur).map eid = (diffs.filter live).map did := by
    rw [List.map_map]; apply List.map_congr_left; intro d _; exact hcur d
  rw [List.map_append, e2]
  have s1 : ((untouched base eid (diffs.map did)).map eid).Sublist (base.map eid) :=
    (List.filter_sublist (l := base)).map eid
  have s2 : ((diffs.filter live).map did).Sublist (diffs.map did) :=
    (List.filter_sublist (l := diffs)).map did
  constructor
  · rw [List.nodup_append]
    refine ⟨s1.nodup hb, hd, ?_⟩
    intro a ha b hb' hab
    subst hab
    obtain ⟨e, he, rfl⟩ := List.mem_map.mp ha
    unfold untouched at he
    have := (List.mem_filter.mp he).2
    have hnc : (diffs.map did).contains (eid e) = false := by simpa using this
    have hc : (diffs.map did).contains (eid e) = true := List.contains_iff_mem.mpr (s2.subset hb')
    rw [hnc] at hc; cases hc
  · intro x hx
    rcases List.mem_append.mp hx with h | h
    · exact Or.inl (s1.subset h)
    · exact Or.inr h

def scDv (d : ScDiff) : Nat := if d.spent then 0 else d.e.value
def sfDv (d : SfDiff) : Nat := if d.spent then 0 else d.e.value
def fc1Dv (d : Fc1Diff) : Nat := if d.resolved then 0 else d.current.fc.val
def Fc2Diff.current (d : Fc2Diff) : Fc2Elem :=
  match d.revision with
  | some r => { d.e with fc := r }
  | none => d.e
def fc2Dv (d : Fc2Diff) : Nat := if d.resolution.isNone then d.current.fc.val else 0

def Mid.scIds (ms : Mid) : List Id := ms.sces.map (·.e.id)
def Mid.sfIds (ms : Mid) : List Id := ms.sfes.map (·.e.id)
def Mid.fc1Ids (ms : Mid) : List Id := ms.fces.map (·.e.id)
def Mid.fc2Ids (ms : Mid) : List Id := ms.v2fces.map (·.e.id)

def scTot (ms : Mid) : Nat :=
  ((untouched ms.base.sc (·.id) ms.scIds).map (·.value)).sum + (ms.sces.map scDv).sum
def sfTot (ms : Mid) : Nat :=
  ((untouched ms.base.sf (·.id) ms.sfIds).map (·.value)).sum + (ms.sfes.map sfDv).sum
def fc1Tot (ms : Mid) : Nat :=
  ((untouched ms.base.fc1 (·.id) ms.fc1Ids).map (·.fc.val)).sum + (ms.fces.map fc1Dv).sum
def fc2Tot (ms : Mid) : Nat :=
  ((untouched ms.base.fc2 (·.id) ms.fc2Ids).map (·.fc.val)).sum + (ms.v2fces.map fc2Dv).sum

/-- the potential: value of the ledger this mid-state commits to -/
def Phi (ms : Mid) : Nat := scTot ms + fc1Tot ms + fc2Tot ms + ms.pool

theorem filter_any_eq {E D : Type} (base : List E) (eid : E → Id) (diffs : List D) (did : D → Id) :
    base.filter (fun e => decide (¬ (diffs.any (fun d => decide (did d = eid e))) = true)) =
      untouched base eid (diffs.map did) := by
  unfold untouched
  apply List.filter_congr
  intro e _
  have : (diffs.any (fun d => decide (did d = eid e))) = (diffs.map did).contains (eid e) := by
    induction diffs with
    | nil => rfl
    | cons d ds ih =>
      simp only [List.any_cons, List.map_cons, List.contains_cons, ih]
      congr 1
      by_cases h : did d = eid e
      · simp [h]
      · have h' : ¬ eid e = did d := fun hh => h hh.symm
        simp [h, h']
  rw [this]
  cases (diffs.map did).contains (eid e) <;> simp

theorem sum_live {D E : Type} (l : List D) (p : D → Bool) (cur : D → E) (ev : E → Nat) (dv : D → Nat)
    (h : ∀ d, dv d = if p d then ev (cur d) else 0) :
    (((l.filter p).map cur).map ev).sum = (l.map dv).sum := by
  rw [List.map_map, sum_filter_map]
  congr 1; apply List.map_congr_left; intro d _; rw [h]; rfl

theorem V_commit (ms : Mid) (bid : Id) : V (ms.commit bid) = Phi ms := by
  unfold V Phi Mid.commit scTot fc1Tot fc2Tot
  simp only [List.map_append, List.sum_append]
  rw [filter_any_eq ms.base.sc (·.id) ms.sces (·.e.id), filter_any_eq ms.base.fc1 (·.id) ms.fces (·.e.id),
    filter_any_eq ms.base.fc2 (·.id) ms.v2fces (·.e.id)]
  rw [sum_live ms.sces _ _ _ scDv (by intro d; unfold scDv; cases d.spent <;> simp),
    sum_live ms.fces _ _ _ fc1Dv (by intro d; unfold fc1Dv; cases d.resolved <;> simp),
    sum_live ms.v2fces _ _ _ fc2Dv (by intro d; unfold fc2Dv Fc2Diff.current; cases d.resolution.isNone <;> cases d.revision <;> simp)]
  rfl

end Sia.Ledger
