import SiaProofs.Lemmas.LedgerValue
/-!
# `Mid.putSc`, `putSf`, `putFc1`, `putFc2` as one operation on a slice

The four operations differ only in the slice of diffs they write.  `Slice D` names one slice, `Mid.put s` is the
operation they share, and what holds of all four whatever the type of the diffs is proved here, once.
-/
namespace Sia.Ledger

theorem lookup_snoc (l : List (Id × Nat)) (id x : Id) (n : Nat) :
    (l ++ [(id, n)]).lookup x = (l.lookup x).or (if x = id then some n else none) := by
  rw [List.lookup_append]
  congr 1
  simp only [List.lookup_cons, List.lookup_nil]
  by_cases h : x = id
  · simp [h]
  · have hb : (x == id) = false := beq_false_of_ne h
    simp [h, hb]

theorem getD_of_getElem? {D : Type} [Inhabited D] {l : List D} {i : Nat} {d : D} (h : l[i]? = some d) :
    l.getD i default = d := by
  rw [List.getD_eq_getElem?_getD, h]; rfl

theorem lt_length_of_getElem? {D : Type} {l : List D} {i : Nat} {d : D} (h : l[i]? = some d) : i < l.length :=
  (List.getElem?_eq_some_iff.1 h).1

theorem isSpent_false_iff (ms : Mid) (id : Id) : ms.isSpent id = false ↔ id ∉ ms.spends := by
  simp [Mid.isSpent]

theorem isSpent_true_iff (ms : Mid) (id : Id) : ms.isSpent id = true ↔ id ∈ ms.spends := by
  simp [Mid.isSpent]

/-- a condition on the diffs, kind by kind -/
structure Clauses where
  sc : ScDiff → Prop
  sf : SfDiff → Prop
  fc1 : Fc1Diff → Prop
  fc2 : Fc2Diff → Prop

/-- every diff of the mid-state satisfies the condition of its kind -/
structure Clauses.On (C : Clauses) (ms : Mid) : Prop where
  sc : ∀ d ∈ ms.sces, C.sc d
  sf : ∀ d ∈ ms.sfes, C.sf d
  fc1 : ∀ d ∈ ms.fces, C.fc1 d
  fc2 : ∀ d ∈ ms.v2fces, C.fc2 d

theorem Clauses.On.congr {C : Clauses} {ms ms' : Mid} (h : C.On ms) (h1 : ms'.sces = ms.sces) (h2 : ms'.sfes = ms.sfes)
    (h3 : ms'.fces = ms.fces) (h4 : ms'.v2fces = ms.v2fces) : C.On ms' :=
  ⟨h1 ▸ h.sc, h2 ▸ h.sf, h3 ▸ h.fc1, h4 ▸ h.fc2⟩

/-- the ids carried by the diffs of one kind, in order -/
def Mid.idsOf (ms : Mid) : Kind → List Id
  | .sc => ms.scIds
  | .sf => ms.sfIds
  | .fc1 => ms.fc1Ids
  | .fc2 => ms.fc2Ids
  | .att => []

/-- ids of the diffs that `commit` turns into ledger elements -/
def Mid.liveIds (ms : Mid) : Kind → List Id
  | .sc => (ms.sces.filter (fun d => ¬ d.spent)).map (·.e.id)
  | .sf => (ms.sfes.filter (fun d => ¬ d.spent)).map (·.e.id)
  | .fc1 => (ms.fces.filter (fun d => ¬ d.resolved)).map (·.e.id)
  | .fc2 => (ms.v2fces.filter (fun d => d.resolution.isNone)).map (·.e.id)
  | .att => []

/-- One of the four slices of diffs of a `Mid`, as a lens: `set` replaces that slice and no other field.
`idOf` is the id a diff carries, `created` its mark "created in this block", `live` says that `commit` turns it into
an element of the ledger, `pick C` is the condition `C` makes on the diffs of this slice; `ids` and `lives` say that
`Mid.idsOf` and `Mid.liveIds` list, for the kind of the slice, the ids of its diffs and of its live diffs. -/
structure Slice (D : Type) where
  kind : Kind
  get : Mid → List D
  set : Mid → List D → Mid
  idOf : D → Id
  created : D → Bool
  live : D → Bool
  pick : Clauses → D → Prop
  ids : ∀ ms, ms.idsOf kind = (get ms).map idOf
  lives : ∀ ms, ms.liveIds kind = ((get ms).filter live).map idOf
  on_get : ∀ {C ms}, C.On ms → ∀ d ∈ get ms, pick C d
  on_set : ∀ {C ms l}, C.On ms → (∀ d ∈ l, pick C d) → C.On (set ms l)
  get_set : ∀ ms l, get (set ms l) = l
  get_spends : ∀ ms sp, get { ms with spends := sp } = get ms
  elements_set : ∀ ms l, (set ms l).elements = ms.elements
  base_set : ∀ ms l, (set ms l).base = ms.base
  spends_set : ∀ ms l, (set ms l).spends = ms.spends
  pool_set : ∀ ms l, (set ms l).pool = ms.pool
  sces_set : kind ≠ .sc → ∀ ms l, (set ms l).sces = ms.sces
  sfes_set : kind ≠ .sf → ∀ ms l, (set ms l).sfes = ms.sfes
  fces_set : kind ≠ .fc1 → ∀ ms l, (set ms l).fces = ms.fces
  v2fces_set : kind ≠ .fc2 → ∀ ms l, (set ms l).v2fces = ms.v2fces

def scSlice : Slice ScDiff where
  kind := .sc
  get ms := ms.sces
  set ms l := { ms with sces := l }
  idOf d := d.e.id
  created d := d.created
  live d := ¬ d.spent
  pick C := C.sc
  ids _ := rfl
  lives _ := rfl
  on_get h := h.sc
  on_set h hl := ⟨hl, h.sf, h.fc1, h.fc2⟩
  get_set _ _ := rfl
  get_spends _ _ := rfl
  elements_set _ _ := rfl
  base_set _ _ := rfl
  spends_set _ _ := rfl
  pool_set _ _ := rfl
  sces_set h := absurd rfl h
  sfes_set _ _ _ := rfl
  fces_set _ _ _ := rfl
  v2fces_set _ _ _ := rfl

def sfSlice : Slice SfDiff where
  kind := .sf
  get ms := ms.sfes
  set ms l := { ms with sfes := l }
  idOf d := d.e.id
  created d := d.created
  live d := ¬ d.spent
  pick C := C.sf
  ids _ := rfl
  lives _ := rfl
  on_get h := h.sf
  on_set h hl := ⟨h.sc, hl, h.fc1, h.fc2⟩
  get_set _ _ := rfl
  get_spends _ _ := rfl
  elements_set _ _ := rfl
  base_set _ _ := rfl
  spends_set _ _ := rfl
  pool_set _ _ := rfl
  sces_set _ _ _ := rfl
  sfes_set h := absurd rfl h
  fces_set _ _ _ := rfl
  v2fces_set _ _ _ := rfl

def fc1Slice : Slice Fc1Diff where
  kind := .fc1
  get ms := ms.fces
  set ms l := { ms with fces := l }
  idOf d := d.e.id
  created d := d.created
  live d := ¬ d.resolved
  pick C := C.fc1
  ids _ := rfl
  lives _ := rfl
  on_get h := h.fc1
  on_set h hl := ⟨h.sc, h.sf, hl, h.fc2⟩
  get_set _ _ := rfl
  get_spends _ _ := rfl
  elements_set _ _ := rfl
  base_set _ _ := rfl
  spends_set _ _ := rfl
  pool_set _ _ := rfl
  sces_set _ _ _ := rfl
  sfes_set _ _ _ := rfl
  fces_set h := absurd rfl h
  v2fces_set _ _ _ := rfl

def fc2Slice : Slice Fc2Diff where
  kind := .fc2
  get ms := ms.v2fces
  set ms l := { ms with v2fces := l }
  idOf d := d.e.id
  created d := d.created
  live d := d.resolution.isNone
  pick C := C.fc2
  ids _ := rfl
  lives _ := rfl
  on_get h := h.fc2
  on_set h hl := ⟨h.sc, h.sf, h.fc1, hl⟩
  get_set _ _ := rfl
  get_spends _ _ := rfl
  elements_set _ _ := rfl
  base_set _ _ := rfl
  spends_set _ _ := rfl
  pool_set _ _ := rfl
  sces_set _ _ _ := rfl
  sfes_set _ _ _ := rfl
  fces_set _ _ _ := rfl
  v2fces_set h := absurd rfl h

variable {D : Type} [Inhabited D]

/-- `Mid.putSc` and its three siblings, on the slice `s`: the diff recorded under `id` is replaced by its image
under `f`, or `f default` is appended and indexed if there is none. -/
def Mid.put (s : Slice D) (ms : Mid) (id : Id) (f : D → D) : Mid :=
  match ms.lookup id with
  | some i => s.set ms (listSet (s.get ms) i (f ((s.get ms).getD i default)))
  | none => s.set { ms with elements := ms.elements ++ [(id, (s.get ms).length)] } (s.get ms ++ [f default])

/-- `f` rewrites the diff recorded under `id` where it stands: the diff keeps the id it carries or takes `id` (a new
diff takes `id`), and a diff marked as created stays marked.  The update function of every element and contract
operation of the model is of this kind (`Mid.Puts.ops`). -/
structure Slice.Keeps (s : Slice D) (id : Id) (f : D → D) : Prop where
  same : ∀ d, s.idOf (f d) = id ∨ s.idOf (f d) = s.idOf d
  new : s.idOf (f default) = id
  created : ∀ d, s.created d = true → s.created (f d) = true

theorem putSc_eq (ms : Mid) (id : Id) (f : ScDiff → ScDiff) : ms.putSc id f = ms.put scSlice id f := rfl
theorem putSf_eq (ms : Mid) (id : Id) (f : SfDiff → SfDiff) : ms.putSf id f = ms.put sfSlice id f := rfl
theorem putFc1_eq (ms : Mid) (id : Id) (f : Fc1Diff → Fc1Diff) : ms.putFc1 id f = ms.put fc1Slice id f := rfl
theorem putFc2_eq (ms : Mid) (id : Id) (f : Fc2Diff → Fc2Diff) : ms.putFc2 id f = ms.put fc2Slice id f := rfl

theorem put_raw (s : Slice D) (ms : Mid) (id : Id) (f : D → D) :
    (∃ i, ms.lookup id = some i ∧ s.get (ms.put s id f) = (s.get ms).set i (f ((s.get ms).getD i default)) ∧
      (ms.put s id f).elements = ms.elements) ∨
    (ms.lookup id = none ∧ s.get (ms.put s id f) = s.get ms ++ [f default] ∧
      (ms.put s id f).elements = ms.elements ++ [(id, (s.get ms).length)]) := by
  unfold Mid.put
  cases ms.lookup id with
  | some i => exact .inl ⟨i, rfl, s.get_set _ _, s.elements_set _ _⟩
  | none => exact .inr ⟨rfl, s.get_set _ _, s.elements_set _ _⟩

theorem put_base (s : Slice D) (ms : Mid) (id : Id) (f : D → D) : (ms.put s id f).base = ms.base := by
  unfold Mid.put; split <;> exact s.base_set _ _
theorem put_spends (s : Slice D) (ms : Mid) (id : Id) (f : D → D) : (ms.put s id f).spends = ms.spends := by
  unfold Mid.put; split <;> exact s.spends_set _ _
theorem put_pool (s : Slice D) (ms : Mid) (id : Id) (f : D → D) : (ms.put s id f).pool = ms.pool := by
  unfold Mid.put; split <;> exact s.pool_set _ _
theorem put_sces (s : Slice D) (hk : s.kind ≠ .sc) (ms : Mid) (id : Id) (f : D → D) : (ms.put s id f).sces = ms.sces := by
  unfold Mid.put; split <;> exact s.sces_set hk _ _
theorem put_sfes (s : Slice D) (hk : s.kind ≠ .sf) (ms : Mid) (id : Id) (f : D → D) : (ms.put s id f).sfes = ms.sfes := by
  unfold Mid.put; split <;> exact s.sfes_set hk _ _
theorem put_fces (s : Slice D) (hk : s.kind ≠ .fc1) (ms : Mid) (id : Id) (f : D → D) : (ms.put s id f).fces = ms.fces := by
  unfold Mid.put; split <;> exact s.fces_set hk _ _
theorem put_v2fces (s : Slice D) (hk : s.kind ≠ .fc2) (ms : Mid) (id : Id) (f : D → D) :
    (ms.put s id f).v2fces = ms.v2fces := by
  unfold Mid.put; split <;> exact s.v2fces_set hk _ _

/-- `ms'` has the base ledger of `ms` and its diffs of every kind but `k` -/
structure Mid.SameBut (k : Kind) (ms ms' : Mid) : Prop where
  base : ms'.base = ms.base
  sces : k ≠ .sc → ms'.sces = ms.sces
  sfes : k ≠ .sf → ms'.sfes = ms.sfes
  fces : k ≠ .fc1 → ms'.fces = ms.fces
  v2fces : k ≠ .fc2 → ms'.v2fces = ms.v2fces

theorem put_sameBut (s : Slice D) (ms : Mid) (id : Id) (f : D → D) : Mid.SameBut s.kind ms (ms.put s id f) :=
  ⟨put_base s ms id f, fun h => put_sces s h ms id f, fun h => put_sfes s h ms id f, fun h => put_fces s h ms id f,
    fun h => put_v2fces s h ms id f⟩

theorem Mid.SameBut.spends {k : Kind} {ms ms' : Mid} (h : Mid.SameBut k ms ms') (sp : List Id) :
    Mid.SameBut k ms { ms' with spends := sp } := ⟨h.1, h.2, h.3, h.4, h.5⟩

theorem Mid.SameBut.pool {k : Kind} {ms ms' : Mid} (h : Mid.SameBut k ms ms') (p : Cur) :
    Mid.SameBut k ms { ms' with pool := p } := ⟨h.1, h.2, h.3, h.4, h.5⟩

theorem put_on (s : Slice D) {C : Clauses} {ms : Mid} (h : C.On ms) (id : Id) (f : D → D)
    (hs : ∀ d ∈ s.get (ms.put s id f), s.pick C d) : C.On (ms.put s id f) := by
  unfold Mid.put at hs ⊢
  revert hs
  cases ms.lookup id with
  | some i => exact fun hs => s.on_set h (fun d hd => hs d (by rw [s.get_set]; exact hd))
  | none => exact fun hs => s.on_set ⟨h.sc, h.sf, h.fc1, h.fc2⟩ (fun d hd => hs d (by rw [s.get_set]; exact hd))

theorem putSc_base (ms : Mid) (id : Id) (f : ScDiff → ScDiff) : (ms.putSc id f).base = ms.base :=
  put_base scSlice ms id f
@[simp] theorem putSc_spends (ms : Mid) (id : Id) (f : ScDiff → ScDiff) : (ms.putSc id f).spends = ms.spends :=
  put_spends scSlice ms id f
theorem putSc_pool (ms : Mid) (id : Id) (f : ScDiff → ScDiff) : (ms.putSc id f).pool = ms.pool :=
  put_pool scSlice ms id f
theorem putSc_sfes (ms : Mid) (id : Id) (f : ScDiff → ScDiff) : (ms.putSc id f).sfes = ms.sfes :=
  put_sfes scSlice (by decide) ms id f
theorem putSc_fces (ms : Mid) (id : Id) (f : ScDiff → ScDiff) : (ms.putSc id f).fces = ms.fces :=
  put_fces scSlice (by decide) ms id f
theorem putSc_v2fces (ms : Mid) (id : Id) (f : ScDiff → ScDiff) : (ms.putSc id f).v2fces = ms.v2fces :=
  put_v2fces scSlice (by decide) ms id f
theorem putSf_base (ms : Mid) (id : Id) (f : SfDiff → SfDiff) : (ms.putSf id f).base = ms.base :=
  put_base sfSlice ms id f
@[simp] theorem putSf_spends (ms : Mid) (id : Id) (f : SfDiff → SfDiff) : (ms.putSf id f).spends = ms.spends :=
  put_spends sfSlice ms id f
theorem putSf_pool (ms : Mid) (id : Id) (f : SfDiff → SfDiff) : (ms.putSf id f).pool = ms.pool :=
  put_pool sfSlice ms id f
theorem putSf_sces (ms : Mid) (id : Id) (f : SfDiff → SfDiff) : (ms.putSf id f).sces = ms.sces :=
  put_sces sfSlice (by decide) ms id f
theorem putSf_fces (ms : Mid) (id : Id) (f : SfDiff → SfDiff) : (ms.putSf id f).fces = ms.fces :=
  put_fces sfSlice (by decide) ms id f
theorem putSf_v2fces (ms : Mid) (id : Id) (f : SfDiff → SfDiff) : (ms.putSf id f).v2fces = ms.v2fces :=
  put_v2fces sfSlice (by decide) ms id f
theorem putFc1_base (ms : Mid) (id : Id) (f : Fc1Diff → Fc1Diff) : (ms.putFc1 id f).base = ms.base :=
  put_base fc1Slice ms id f
@[simp] theorem putFc1_spends (ms : Mid) (id : Id) (f : Fc1Diff → Fc1Diff) : (ms.putFc1 id f).spends = ms.spends :=
  put_spends fc1Slice ms id f
theorem putFc1_pool (ms : Mid) (id : Id) (f : Fc1Diff → Fc1Diff) : (ms.putFc1 id f).pool = ms.pool :=
  put_pool fc1Slice ms id f
theorem putFc1_sces (ms : Mid) (id : Id) (f : Fc1Diff → Fc1Diff) : (ms.putFc1 id f).sces = ms.sces :=
  put_sces fc1Slice (by decide) ms id f
theorem putFc1_sfes (ms : Mid) (id : Id) (f : Fc1Diff → Fc1Diff) : (ms.putFc1 id f).sfes = ms.sfes :=
  put_sfes fc1Slice (by decide) ms id f
theorem putFc1_v2fces (ms : Mid) (id : Id) (f : Fc1Diff → Fc1Diff) : (ms.putFc1 id f).v2fces = ms.v2fces :=
  put_v2fces fc1Slice (by decide) ms id f
@[simp] theorem putFc2_base (ms : Mid) (id : Id) (f : Fc2Diff → Fc2Diff) : (ms.putFc2 id f).base = ms.base :=
  put_base fc2Slice ms id f
@[simp] theorem putFc2_spends (ms : Mid) (id : Id) (f : Fc2Diff → Fc2Diff) : (ms.putFc2 id f).spends = ms.spends :=
  put_spends fc2Slice ms id f
theorem putFc2_pool (ms : Mid) (id : Id) (f : Fc2Diff → Fc2Diff) : (ms.putFc2 id f).pool = ms.pool :=
  put_pool fc2Slice ms id f
@[simp] theorem putFc2_sces (ms : Mid) (id : Id) (f : Fc2Diff → Fc2Diff) : (ms.putFc2 id f).sces = ms.sces :=
  put_sces fc2Slice (by decide) ms id f
theorem putFc2_sfes (ms : Mid) (id : Id) (f : Fc2Diff → Fc2Diff) : (ms.putFc2 id f).sfes = ms.sfes :=
  put_sfes fc2Slice (by decide) ms id f
theorem putFc2_fces (ms : Mid) (id : Id) (f : Fc2Diff → Fc2Diff) : (ms.putFc2 id f).fces = ms.fces :=
  put_fces fc2Slice (by decide) ms id f

theorem put_lookup (s : Slice D) (ms : Mid) (id : Id) (f : D → D) (x : Id) :
    (ms.put s id f).lookup x = (ms.lookup x).or (if x = id then some (s.get ms).length else none) := by
  rcases put_raw s ms id f with ⟨i, hi, _, he⟩ | ⟨_, _, he⟩
  · unfold Mid.lookup at *; rw [he]
    by_cases hx : x = id
    · rw [hx, hi]; rfl
    · rw [if_neg hx, Option.or_none]
  · unfold Mid.lookup; rw [he, lookup_snoc]

theorem put_lookup_mono (s : Slice D) {ms : Mid} {id : Id} {f : D → D} {x : Id} {i : Nat} (h : ms.lookup x = some i) :
    (ms.put s id f).lookup x = some i := by
  rw [put_lookup, h]; rfl

theorem put_lookup_cases (s : Slice D) {ms : Mid} {id : Id} {f : D → D} {x : Id} {i : Nat}
    (h : (ms.put s id f).lookup x = some i) :
    ms.lookup x = some i ∨ (ms.lookup id = none ∧ x = id ∧ i = (s.get ms).length) := by
  rw [put_lookup] at h
  cases hl : ms.lookup x with
  | some j => rw [hl] at h; exact .inl h
  | none =>
    rw [hl, Option.none_or] at h
    split at h
    · rename_i hx; cases h; exact .inr ⟨hx ▸ hl, hx, rfl⟩
    · cases h

theorem put_lookup_self (s : Slice D) (ms : Mid) (id : Id) (f : D → D) : (ms.put s id f).lookup id ≠ none := by
  rw [put_lookup, if_pos rfl]; cases ms.lookup id <;> simp

theorem put_lookup_ne (s : Slice D) {ms : Mid} {id : Id} {f : D → D} {x : Id} (hx : x ≠ id) :
    (ms.put s id f).lookup x = ms.lookup x := by
  rw [put_lookup, if_neg hx, Option.or_none]

theorem put_lookup_keeps (s : Slice D) (ms : Mid) (id : Id) (f : D → D) {x : Id} (h : ms.lookup x ≠ none) :
    (ms.put s id f).lookup x ≠ none := by
  cases hlk : ms.lookup x with
  | none => exact absurd hlk h
  | some j => rw [put_lookup_mono s hlk]; simp

theorem put_forall' (s : Slice D) {P : D → Prop} (ms : Mid) (id : Id) (f : D → D) (h : ∀ d ∈ s.get ms, P d)
    (hfound : ∀ i d, ms.lookup id = some i → (s.get ms)[i]? = some d → P d → P (f d))
    (hnew : ms.lookup id = none → P (f default)) : ∀ d ∈ s.get (ms.put s id f), P d := by
  intro d hd
  rcases put_raw s ms id f with ⟨i, hi, hs, _⟩ | ⟨hn, hs, _⟩
  · rw [hs] at hd
    by_cases hlt : i < (s.get ms).length
    · rcases List.mem_or_eq_of_mem_set hd with h1 | h1
      · exact h d h1
      · subst h1
        rw [getD_of_getElem? (List.getElem?_eq_getElem hlt)]
        exact hfound i _ hi (List.getElem?_eq_getElem hlt) (h _ (List.getElem_mem hlt))
    · rw [List.set_eq_of_length_le (by omega)] at hd; exact h d hd
  · rw [hs] at hd
    rcases List.mem_append.mp hd with h1 | h1
    · exact h d h1
    · rw [List.mem_singleton] at h1; subst h1; exact hnew hn

theorem put_forall (s : Slice D) {P : D → Prop} (ms : Mid) (id : Id) (f : D → D) (h : ∀ d ∈ s.get ms, P d)
    (hf : ∀ d, (d ∈ s.get ms ∨ d = default) → P (f d)) : ∀ d ∈ s.get (ms.put s id f), P d :=
  put_forall' s ms id f h (fun _ d _ hd _ => hf d (.inl (List.mem_of_getElem? hd))) (fun _ => hf _ (.inr rfl))

/-- the diff a `put` on the slice rewrites (`default` if `id` is new) -/
def Slice.target (sl : Slice D) (s : Mid) (id : Id) : D :=
  match s.lookup id with | some i => (sl.get s).getD i default | none => default

theorem Slice.target_mem (sl : Slice D) (s : Mid) (id : Id) :
    sl.target s id ∈ sl.get s ∨ sl.target s id = default := by
  unfold Slice.target; split
  · rename_i i _
    by_cases h : i < (sl.get s).length
    · left; simp [List.getD, h]
    · right; simp [List.getD, Nat.not_lt.1 h]
  · exact Or.inr rfl

theorem put_forall_target (sl : Slice D) {P : D → Prop} (s : Mid) (id : Id) (f : D → D)
    (h : ∀ d ∈ sl.get s, P d) (hf : P (f (sl.target s id))) : ∀ d ∈ sl.get (s.put sl id f), P d := by
  refine put_forall' sl s id f h (fun i d hl hd _ => ?_) (fun hn => ?_)
  · have : sl.target s id = d := by unfold Slice.target; rw [hl]; exact getD_of_getElem? hd
    exact this ▸ hf
  · have : sl.target s id = default := by unfold Slice.target; rw [hn]
    exact this ▸ hf

/-- `Mid.scDiff?` and its siblings, on the slice `s` -/
def Slice.diff? (s : Slice D) (ms : Mid) (id : Id) : Option D :=
  match ms.lookup id with
  | some i =>
    if i < (s.get ms).length ∧ s.idOf ((s.get ms).getD i default) = id then some ((s.get ms).getD i default) else none
  | none => none

theorem Slice.diff?_eq (s : Slice D) (ms : Mid) (id : Id) :
    s.diff? ms id = (ms.lookup id).bind (fun i => ((s.get ms)[i]?).bind (fun d => if s.idOf d = id then some d else none)) := by
  unfold Slice.diff?
  cases ms.lookup id with
  | none => rfl
  | some i =>
    simp only [Option.bind_some, List.getD_eq_getElem?_getD]
    by_cases hi : i < (s.get ms).length
    · rw [List.getElem?_eq_getElem hi]; simp [hi]
    · rw [List.getElem?_eq_none_iff.mpr (Nat.le_of_not_lt hi)]; simp [hi]

theorem Slice.diff?_some (s : Slice D) {ms : Mid} {id : Id} {d : D} (h : s.diff? ms id = some d) :
    ∃ i, ms.lookup id = some i ∧ (s.get ms)[i]? = some d ∧ s.idOf d = id := by
  rw [s.diff?_eq] at h
  cases hl : ms.lookup id with
  | none => rw [hl] at h; cases h
  | some i =>
    rw [hl] at h; simp only [Option.bind_some] at h
    cases hd : (s.get ms)[i]? with
    | none => rw [hd] at h; cases h
    | some d' =>
      rw [hd] at h; simp only [Option.bind_some] at h
      split at h
      · cases h; exact ⟨i, rfl, hd, by assumption⟩
      · cases h

theorem Slice.diff?_mem (s : Slice D) {ms : Mid} {id : Id} {d : D} (h : s.diff? ms id = some d) :
    d ∈ s.get ms ∧ s.idOf d = id := by
  obtain ⟨i, _, hd, hid⟩ := s.diff?_some h
  exact ⟨List.mem_of_getElem? hd, hid⟩

theorem Slice.diff?_none_of_lookup (s : Slice D) {ms : Mid} {id : Id} (h : ms.lookup id = none) : s.diff? ms id = none := by
  rw [s.diff?_eq, h]; rfl

theorem Slice.diff?_of_getElem? (s : Slice D) {ms : Mid} {id : Id} {i : Nat} {d : D} (hl : ms.lookup id = some i)
    (hd : (s.get ms)[i]? = some d) (hid : s.idOf d = id) : s.diff? ms id = some d := by
  rw [s.diff?_eq, hl]; simp [hd, hid]

theorem Slice.diff?_congr (s : Slice D) {ms ms' : Mid} {id : Id} (hl : ms'.lookup id = ms.lookup id)
    (hg : s.get ms' = s.get ms) : s.diff? ms' id = s.diff? ms id := by
  unfold Slice.diff?; rw [hl, hg]

theorem Slice.diff?_target (sl : Slice D) {s : Mid} {id : Id} {d : D} (h : sl.diff? s id = some d) :
    sl.target s id = d ∧ d ∈ sl.get s := by
  obtain ⟨i, hl, hd, _⟩ := sl.diff?_some h
  exact ⟨by unfold Slice.target; rw [hl]; exact getD_of_getElem? hd, List.mem_of_getElem? hd⟩

end Sia.Ledger
