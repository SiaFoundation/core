import SiaProofs.Lemmas.TextJson
/-! JSON tree of the accumulator updates: leaf and map round trips. -/
namespace Sia.Text
open Json


open Sia.ElemAcc

section
variable {H : Type} (encH : H → Json) (decH : Json → Option H) (zero : H)

/-- what is needed of the hash codec: decoding undoes encoding, and no hash is written as null -/
structure HashCodec : Prop where
  law : ∀ h, decH (encH h) = some h
  nonnull : ∀ h, encH h ≠ .null

theorem leaf_front (i : Nat) (p : List Json) (rest : List (Txt × Json))
    (h1 : getF (key! "leafIndex") rest = none) (h2 : getF (key! "merkleProof") rest = none) :
    getF (key! "leafIndex") ([(key! "leafIndex", ofNat i)] ++ omitEmpty (key! "merkleProof") p ++ rest) = some (ofNat i)
    ∧ getF (key! "merkleProof") ([(key! "leafIndex", ofNat i)] ++ omitEmpty (key! "merkleProof") p ++ rest)
        = getF (key! "merkleProof") (omitEmpty (key! "merkleProof") p) := by
  constructor
  · rw [getF_append_left h1, getF_append_left (getF_omitEmpty_ne (by decide) p)]
    rfl
  · rw [getF_append_left h2, getF_append]
    cases getF (key! "merkleProof") (omitEmpty (key! "merkleProof") p) <;> rfl

theorem leafOfTree_leafToTree (hc : HashCodec encH decH) (l : Leaf H) (hi : l.index < 2 ^ 64) :
    leafOfTree decH zero (leafToTree encH l) = some l := by
  have nd : [key! "elementHash", key! "spent"].Nodup := by decide
  obtain ⟨f1, f2⟩ := leaf_front l.index (l.proof.map encH) [(key! "elementHash", encH l.elem), (key! "spent", .bool l.spent)] rfl rfl
  unfold leafToTree
  simp only [leafOfTree]
  rw [fieldOr_get _ _ 0 (toNatBits 64) _ f1 rfl, fieldOr_optArr _ _ _ decH (f2 ▸ optArr_omitEmpty _ _),
    fieldOr_hit _ (key! "elementHash") _ _ (encH l.elem) (getF_append_right (getF_nth nd rfl 0 rfl)) (hc.nonnull _),
    fieldOr_get _ (key! "spent") false toBool (.bool l.spent) (getF_append_right (getF_nth nd rfl 1 rfl)) rfl,
    toNatBits_ofNat 64 _ hi, decList_map encH decH _ (fun a _ => hc.law a), hc.law]
  rfl

/-- the old encoding loses the element hash and the spent flag: they come back as zero values -/
theorem leafOfTree_leafToTreeOld (hc : HashCodec encH decH) (l : Leaf H) (hi : l.index < 2 ^ 64) :
    leafOfTree decH zero (leafToTreeOld encH l) = some { l with elem := zero, spent := false } := by
  obtain ⟨f1, f2⟩ := leaf_front l.index (l.proof.map encH) [] rfl rfl
  rw [List.append_nil] at f1 f2
  unfold leafToTreeOld
  simp only [leafOfTree]
  rw [fieldOr_get _ _ 0 (toNatBits 64) _ f1 rfl, fieldOr_optArr _ _ _ decH (f2 ▸ optArr_omitEmpty _ _),
    fieldOr_miss _ (key! "elementHash") _ _ (by rw [getF_append_left (getF_omitEmpty_ne (by decide) _)]; rfl),
    fieldOr_miss _ (key! "spent") _ _ (by rw [getF_append_left (getF_omitEmpty_ne (by decide) _)]; rfl),
    toNatBits_ofNat 64 _ hi, decList_map encH decH _ (fun a _ => hc.law a)]

end

theorem fileEntries_mapEntries {α β : Type} (enc : α → Json) (dec : Json → Option β) (φ : α → β) (f : Nat → List α)
    (hlaw : ∀ k, ∀ a ∈ f k, dec (enc a) = some (φ a)) :
    ∀ (ks : List Nat) (acc : Nat → List β), ks.Nodup → (∀ k ∈ ks, k < 64) →
    ∃ g, fileEntries dec (mapEntries enc f ks) acc = some g ∧
      ∀ k, g k = if k ∈ ks ∧ f k ≠ [] then (f k).map φ else acc k := by
  intro ks
  induction ks with
  | nil => intro acc _ _; exact ⟨acc, rfl, by simp⟩
  | cons k ks ih =>
    intro acc hnd hlt
    have hk : k < 64 := hlt k (by simp)
    have hnd' : ks.Nodup := (List.nodup_cons.mp hnd).2
    have hkn : k ∉ ks := (List.nodup_cons.mp hnd).1
    by_cases he : (f k).isEmpty = true
    · obtain ⟨g, hg, hgk⟩ := ih acc hnd' (fun x hx => hlt x (by simp [hx]))
      refine ⟨g, by simp [mapEntries, he, hg], ?_⟩
      intro j
      rw [hgk j]
      have hfe : f k = [] := by simpa using he
      by_cases hj : j = k
      · subst hj; simp [hkn, hfe]
      · simp [hj]
    · obtain ⟨g, hg, hgk⟩ := ih (setFn acc k ((f k).map φ)) hnd' (fun x hx => hlt x (by simp [hx]))
      have hpk : parseInt64 (natToDec k) = some (k : Int) := parseInt64_natToDec k (by omega)
      have hdl : decList dec ((f k).map enc) = some ((f k).map φ) := decList_map_gen enc dec φ (f k) (hlaw k)
      have hrange : (0 : Int) ≤ (k : Int) ∧ (k : Int) < 64 := ⟨by omega, by exact_mod_cast hk⟩
      refine ⟨g, ?_, ?_⟩
      · simp only [mapEntries, he, Bool.false_eq_true, if_false, fileEntries, hpk, toSlice, hdl, Option.map_some]
        simp only [hrange, and_self, if_true, Int.toNat_natCast, Option.getD_some]
        exact hg
      · intro j
        rw [hgk j]
        have hfe : f k ≠ [] := by simpa using he
        by_cases hj : j = k
        · subst hj; simp [hkn, hfe, setFn]
        · simp [hj, setFn]

theorem keyOrder_perm : keyOrder.Perm (List.range 64) := by decide +kernel

/-- `map[int][]T` through its tree, for a `[64][]T` (nothing at heights ≥ 64): each element
    comes back as the decoder reads it -/
theorem mapOfTree_mapToTree_gen {α β : Type} (enc : α → Json) (dec : Json → Option β) (φ : α → β) (f : Nat → List α)
    (hlaw : ∀ k, ∀ a ∈ f k, dec (enc a) = some (φ a)) (h64 : ∀ k, 64 ≤ k → f k = []) :
    mapOfTree dec (mapToTree enc f) = some fun k => (f k).map φ := by
  have hmem : ∀ k, k ∈ keyOrder ↔ k < 64 := fun k => keyOrder_perm.mem_iff.trans List.mem_range
  obtain ⟨g, hg, hgk⟩ := fileEntries_mapEntries enc dec φ f hlaw keyOrder (fun _ => [])
    (keyOrder_perm.nodup_iff.2 List.nodup_range) (fun k => (hmem k).1)
  have : g = fun k => (f k).map φ := by
    funext k
    rw [hgk k]
    simp only [hmem k]
    by_cases hk : k < 64
    · by_cases hf : f k = [] <;> simp [hk, hf]
    · simp [hk, h64 k (Nat.le_of_not_lt hk)]
  simp [mapOfTree, mapToTree, hg, this]

theorem mapOfTree_mapToTree {α : Type} (enc : α → Json) (dec : Json → Option α) (f : Nat → List α)
    (hlaw : ∀ k, ∀ a ∈ f k, dec (enc a) = some a) (h64 : ∀ k, 64 ≤ k → f k = []) :
    mapOfTree dec (mapToTree enc f) = some f := by
  simpa using mapOfTree_mapToTree_gen enc dec id f hlaw h64

end Sia.Text
