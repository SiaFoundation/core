import SiaProofs.Lemmas.MerkleRhpBuildProof
import SiaProofs.Lemmas.StorageProofTree
/-!
  `ConvertProofOrdering` on the tree over `n` roots (the unbalanced shape of `metaRoot`): the
  left-to-right single-leaf proof of `BuildSectorRangeProof` (lefts, then rights) is converted into
  the honest leaf-to-root path `spPath` — also where a node on the path has no sibling (iterations
  of the loop that place nothing). Lefts, rights and path all follow the top split of the tree:
  leaf in the left half ⇒ the root of the right half is the last right hash and the last of the
  path; leaf in the right half ⇒ the root of the left half is the first left hash and the last of
  the path.
-/
set_option linter.unusedSectionVars false
namespace Sia.Rhp
open HashOps Sia.SP

variable {H : Type} [HashOps H]

/-- `Conv sk t idx L R p`: the loop of `ConvertProofOrdering` on index bits `idx`, lefts `L` and
rights `R` emits `p` in `t` iterations and ends with all index bits used. One constructor per
iteration of `convertLoop`: `left` (bit 1: the last left hash is placed), `right` (bit 0: the first
right hash is placed), `skip` (bit 0 and no rights left: nothing is placed, the node has no sibling).
`sk = false` rules `skip` out: every iteration places a hash, as in a balanced tree. -/
inductive Conv : Bool → Nat → Nat → List H → List H → List H → Prop
  | done (sk : Bool) : Conv sk 0 0 [] [] []
  | left {sk : Bool} {t idx : Nat} {L R p : List H} (x : H) :
      idx % 2 = 1 → Conv sk t (idx / 2) L R p → Conv sk (t + 1) idx (L ++ [x]) R (x :: p)
  | right {sk : Bool} {t idx : Nat} {L R p : List H} (x : H) :
      idx % 2 = 0 → Conv sk t (idx / 2) L R p → Conv sk (t + 1) idx L (x :: R) (x :: p)
  | skip {t idx : Nat} {L p : List H} :
      idx % 2 = 0 → L ≠ [] → Conv true t (idx / 2) L [] p → Conv true (t + 1) idx L [] p

theorem Conv.sound {sk : Bool} {t idx : Nat} {L R p : List H} (h : Conv sk t idx L R p) :
    ∀ fuel, t ≤ fuel → convertLoop fuel idx L R = .ok p := by
  induction h with
  | done sk => intro fuel _; cases fuel <;> rfl
  | @left sk t idx L R p x hodd _ ih =>
    intro fuel hf
    obtain ⟨f, rfl⟩ : ∃ f, fuel = f + 1 := ⟨fuel - 1, by omega⟩
    simp only [convertLoop, if_neg (show ¬ (L ++ [x]).length + R.length = 0 by simp), if_pos hodd,
      List.getLast?_append, List.getLast?_singleton, List.dropLast_concat]
    rw [ih f (by omega)]
    rfl
  | @right sk t idx L R p x heven _ ih =>
    intro fuel hf
    obtain ⟨f, rfl⟩ : ∃ f, fuel = f + 1 := ⟨fuel - 1, by omega⟩
    rw [convertLoop, if_neg (by simp), if_neg (by omega)]
    rw [ih f (by omega)]
    rfl
  | @skip t idx L p heven hne _ ih =>
    intro fuel hf
    obtain ⟨f, rfl⟩ : ∃ f, fuel = f + 1 := ⟨fuel - 1, by omega⟩
    rw [convertLoop, if_neg (by simpa using hne), if_neg (by omega)]
    exact ih f (by omega)

/-- a right sibling above a balanced subtree -/
theorem Conv.snoc_right {t idx : Nat} {L R p : List H} (h : Conv false t idx L R p) (Y : H) (sk : Bool) :
    Conv sk (t + 1) idx L (R ++ [Y]) (p ++ [Y]) := by
  generalize hf : false = b at h
  induction h with
  | done _ => exact Conv.right Y rfl (Conv.done sk)
  | left x ho _ ih => exact Conv.left x ho (ih hf)
  | right x he _ ih => exact Conv.right x he (ih hf)
  | skip _ _ _ _ => cases hf

theorem pow_half (T : Nat) (idx : Nat) :
    (idx + 2 ^ (T + 1)) / 2 = idx / 2 + 2 ^ T ∧ (idx + 2 ^ (T + 1)) % 2 = idx % 2 := by
  rw [Nat.pow_succ']
  exact ⟨Nat.add_mul_div_left _ _ (by decide), Nat.add_mul_mod_self_left _ _ _⟩

/-- a lone left sibling `d` levels up: `d` iterations place nothing, the next one places it -/
theorem Conv.top (X : H) {sk : Bool} : ∀ d, (sk = false → d = 0) → Conv sk (d + 1) (2 ^ d) [X] [] [X]
  | 0, _ => Conv.left (L := []) X rfl (Conv.done sk)
  | d + 1, hd => by
    cases sk with
    | false => exact absurd (hd rfl) (Nat.succ_ne_zero d)
    | true =>
      have hh := pow_half d 0
      rw [Nat.zero_add, Nat.zero_div, Nat.zero_add, Nat.zero_mod] at hh
      exact Conv.skip hh.2 (List.cons_ne_nil _ _) (by rw [hh.1]; exact Conv.top X d (fun e => nomatch e))

/-- a left sibling `T` levels up, above a subtree whose loop is finished after `t ≤ T` iterations
(`t = T` if the subtree is balanced) -/
theorem Conv.cons_left {sk : Bool} {t idx : Nat} {L R p : List H} (h : Conv sk t idx L R p) (X : H) :
    ∀ T, t ≤ T → (sk = false → T = t) → Conv sk (T + 1) (idx + 2 ^ T) (X :: L) R (p ++ [X]) := by
  induction h with
  | done sk => intro T _ hT; simpa using Conv.top X T hT
  | @left sk t idx L R p x ho _ ih =>
    intro T hT hsk
    obtain ⟨T', rfl⟩ : ∃ T', T = T' + 1 := ⟨T - 1, by omega⟩
    have hh := pow_half T' idx
    exact Conv.left (L := X :: L) x (by rw [hh.2]; exact ho)
      (by rw [hh.1]; exact ih T' (by omega) (fun e => by have := hsk e; omega))
  | @right sk t idx L R p x he _ ih =>
    intro T hT hsk
    obtain ⟨T', rfl⟩ : ∃ T', T = T' + 1 := ⟨T - 1, by omega⟩
    have hh := pow_half T' idx
    exact Conv.right x (by rw [hh.2]; exact he)
      (by rw [hh.1]; exact ih T' (by omega) (fun e => by have := hsk e; omega))
  | @skip t idx L p he hne _ ih =>
    intro T hT _
    obtain ⟨T', rfl⟩ : ∃ T', T = T' + 1 := ⟨T - 1, by omega⟩
    have hh := pow_half T' idx
    exact Conv.skip (by rw [hh.2]; exact he) (List.cons_ne_nil _ _)
      (by rw [hh.1]; exact ih T' (by omega) (fun e => nomatch e))

theorem buildRange_take (ls : List H) (k i j : Nat) (hj : j ≤ k) (hk : k ≤ ls.length) :
    buildRange (ls.take k) i j = buildRange ls i j :=
  (buildRange_congr ls (ls.take k) j (by omega) (by rw [List.length_take]; omega) i
    (fun x _ hx => by rw [List.getElem?_take, if_pos (by omega)])).symm

theorem buildRange_drop (ls : List H) (c j j' a : Nat)
    (hstep : ∀ y, a ≤ y → c + y < ls.length →
      (c + y < j ↔ y < j') ∧ (y < j' → nextSubtreeSize (c + y) j = nextSubtreeSize y j')) :
    buildRange ls (c + a) j = buildRange (ls.drop c) a j' := by
  induction a using walk_induction (ls.length - c) with
  | step a ih =>
    by_cases hc : c + a < j ∧ c + a < ls.length
    · obtain ⟨hlt, hs⟩ := hstep a (Nat.le_refl a) hc.2
      have hpos := nextSubtreeSize_pos a j'
      rw [buildRange_cons ls _ _ hc,
        buildRange_cons (ls.drop c) a j' ⟨hlt.1 hc.1, by rw [List.length_drop]; omega⟩,
        hs (hlt.1 hc.1), List.drop_drop, Nat.add_assoc,
        ih (by omega) _ (by omega) (fun y hy => hstep y (by omega))]
    · rw [buildRange_done ls _ _ hc, buildRange_done (ls.drop c) a j']
      rw [List.length_drop]
      intro ⟨h1, h2⟩
      exact hc ⟨((hstep a (Nat.le_refl a) (by omega)).1).2 h1, by omega⟩

/-- leaf `x - 1` in the left half (the rights of leaf `i` start at `x = i + 1`): they are those of the left half
followed by the root of the right half -/
theorem rights_left (ls : List H) (T J : Nat) (h1 : 2 ^ T < ls.length) (h2 : ls.length ≤ 2 ^ (T + 1))
    (hJ : 2 * (ls.length - 1) ≤ J) (x : Nat) (hx0 : 0 < x) (hxk : x ≤ 2 ^ T) :
    buildRange ls x J = buildRange (ls.take (2 ^ T)) x J ++ [metaRoot (ls.drop (2 ^ T))] := by
  have hp := Nat.two_pow_pos T
  rw [Nat.pow_succ'] at h2
  have hlenL : (ls.take (2 ^ T)).length = 2 ^ T := by
    rw [List.length_take]; exact Nat.min_eq_left (Nat.le_of_lt h1)
  have hTJ : 2 * 2 ^ T ≤ J := by omega
  -- up to the split point the walk is that of the left half, whatever the bound …
  rw [buildRange_bound_pow2 _ T hlenL J (by rw [hlenL]; omega) x hx0, hlenL,
    buildRange_take ls (2 ^ T) x (2 ^ T) (Nat.le_refl _) (Nat.le_of_lt h1),
    buildRange_split ls (2 ^ T) J (by omega) (Nat.le_of_lt h1) x hxk
      (fun y hy hlt => by rw [nss_big (by omega) (by omega), nss_pow2 (by omega) hlt])]
  congr 1
  -- … and the right half is one (clipped) step
  rw [buildRange_cons ls (2 ^ T) J ⟨by omega, h1⟩, nss_big hp hTJ, tz_two_pow,
    buildRange_done ls _ J (by omega), List.take_of_length_le (by rw [List.length_drop]; omega)]

theorem lefts_right (ls : List H) (T b : Nat) (hb : b < 2 ^ T) (hi : 2 ^ T + b ≤ ls.length) :
    buildRange ls 0 (2 ^ T + b) = metaRoot (ls.take (2 ^ T)) :: buildRange (ls.drop (2 ^ T)) 0 b := by
  have hp := Nat.two_pow_pos T
  have hlog : (2 ^ T + b).log2 = T :=
    (Nat.log2_eq_iff (by omega)).2 ⟨Nat.le_add_right _ _, by rw [Nat.pow_succ']; omega⟩
  rw [buildRange_cons ls 0 _ ⟨by omega, by omega⟩, nss_zero, hlog, Nat.zero_add, List.drop_zero]
  congr 1
  exact buildRange_drop ls (2 ^ T) (2 ^ T + b) b 0
    (fun y _ _ => ⟨by omega, fun hy => nss_add_aligned (Nat.dvd_refl _) hy (Nat.le_of_lt hb)⟩)

/-- leaf `2^T + a - 1` in the right half: the rights are those of `a - 1` in the right half -/
theorem rights_right (ls : List H) (T J : Nat) (h2 : ls.length ≤ 2 ^ (T + 1))
    (hJ : 2 * (ls.length - 1) ≤ J) (a : Nat) (ha0 : 0 < a) :
    buildRange ls (2 ^ T + a) J = buildRange (ls.drop (2 ^ T)) a J := by
  have hp := Nat.two_pow_pos T
  rw [Nat.pow_succ'] at h2
  exact buildRange_drop ls (2 ^ T) J J a (fun y hy hlt => ⟨by omega, fun _ => by
    rw [nss_big (by omega) (by omega), nss_big (by omega) (by omega),
      tz_add_aligned (Nat.dvd_refl _) (by omega) (by omega)]⟩)

/-- by induction on a bound `h` for the height: the loop takes one iteration per level of the tree
over `ls` (so at most `h`, and exactly `h` on a balanced tree of `2^h` leaves, where none skips).
`J` is the builder's right bound, far enough out to clip no step (see `insertRange_buildRange_right`). -/
theorem conv_spPath (J : Nat) : ∀ (h : Nat) (ls : List H) (i : Nat) (sk : Bool), ls.length ≤ 2 ^ h →
    i < ls.length → 2 * (ls.length - 1) ≤ J → (sk = false → ls.length = 2 ^ h) →
    ∃ t, t ≤ h ∧ (sk = false → t = h) ∧
      Conv sk t i (buildRange ls 0 i) (buildRange ls (i + 1) J) (spPath ls i) := by
  intro h
  induction h with
  | zero =>
    intro ls i sk hn hi hJ _
    rw [Nat.pow_zero] at hn
    have hi0 : i = 0 := by omega
    subst hi0
    rw [buildRange_done ls 0 0 (by omega), buildRange_done ls (0 + 1) J (by omega),
      spPath_small ls 0 (by omega)]
    exact ⟨0, Nat.le_refl _, fun _ => rfl, Conv.done sk⟩
  | succ h ih =>
    intro ls i sk hn hi hJ hsk
    have hpow := Nat.pow_succ' (m := 2) (n := h)
    by_cases hsmall : ls.length ≤ 2 ^ h
    · have hne : ls.length ≠ 2 ^ (h + 1) := by have := Nat.two_pow_pos h; omega
      obtain ⟨t, ht, _, hc⟩ := ih ls i sk hsmall hi hJ (fun e => absurd (hsk e) hne)
      exact ⟨t, Nat.le_succ_of_le ht, fun e => absurd (hsk e) hne, hc⟩
    · have h1 : 2 ^ h < ls.length := Nat.lt_of_not_le hsmall
      have hk : splitPoint ls.length = 2 ^ h := splitPoint_eq h1 hn
      have h2 : 2 ≤ ls.length := by omega
      refine ⟨h + 1, Nat.le_refl _, fun _ => rfl, ?_⟩
      by_cases hik : i < 2 ^ h
      · -- leaf in the left, balanced half
        have hlenL : (ls.take (2 ^ h)).length = 2 ^ h := by
          rw [List.length_take]; exact Nat.min_eq_left (Nat.le_of_lt h1)
        obtain ⟨t, _, ht, hc⟩ := ih (ls.take (2 ^ h)) i false (Nat.le_of_eq hlenL) (by rw [hlenL]; exact hik)
          (by rw [hlenL]; omega) (fun _ => hlenL)
        rw [ht rfl] at hc
        have hsp := spPath_left ls i h2 (by rw [hk]; exact hik)
        rw [hk] at hsp
        rw [hsp, ← buildRange_take ls (2 ^ h) 0 i (Nat.le_of_lt hik) (Nat.le_of_lt h1),
          rights_left ls h J h1 hn hJ (i + 1) (Nat.succ_pos i) hik]
        exact hc.snoc_right _ sk
      · -- leaf in the right half
        obtain ⟨b, rfl⟩ : ∃ b, i = 2 ^ h + b := ⟨i - 2 ^ h, by omega⟩
        have hlenR : (ls.drop (2 ^ h)).length = ls.length - 2 ^ h := List.length_drop
        obtain ⟨t, ht, hts, hc⟩ := ih (ls.drop (2 ^ h)) b sk (by omega) (by omega) (by omega)
          (fun e => by rw [hlenR, hsk e]; omega)
        have hsp := spPath_right ls (2 ^ h + b) h2 (by rw [hk]; exact hik)
        rw [hk, Nat.add_sub_cancel_left] at hsp
        rw [hsp, lefts_right ls h b (by omega) (Nat.le_of_lt hi), Nat.add_assoc,
          rights_right ls h J hn hJ (b + 1) (Nat.succ_pos b), Nat.add_comm (2 ^ h) b]
        exact hc.cons_left _ h ht (fun e => (hts e).symm)

/-- `ConvertProofOrdering(BuildSectorRangeProof(roots, i, i+1), i)` is the honest leaf-to-root
path, for every number of roots up to 2^30 -/
theorem convertProofOrdering_spPath (ls : List H) (i : Nat) (hi : i < ls.length) (hn : ls.length ≤ 2 ^ 30) :
    convertProofOrdering (buildRange ls 0 i ++ buildRange ls (i + 1) maxInt32) i = .ok (spPath ls i) := by
  have hn' : ls.length ≤ 1073741824 := hn
  obtain ⟨t, ht, _, hc⟩ := conv_spPath maxInt32 30 ls i true hn hi (by unfold maxInt32; omega)
    (fun e => nomatch e)
  have hL : (buildRange ls 0 i).length = popcount i := buildRange_length_left ls i (by omega)
  unfold convertProofOrdering
  simp only [List.length_append]
  rw [if_neg (by omega), ← hL, List.take_left' rfl, List.drop_left' rfl]
  exact hc.sound _ (by omega)

/-- in a balanced tree the honest path folds to the root along the index bits alone (no merge
height as in `storageProofRoot`) -/
theorem leafToRoot_spPath (ls : List H) (k : Nat) (hlen : ls.length = 2 ^ k) (i : Nat) (hi : i < ls.length) :
    leafToRoot ls[i] i (spPath ls i) = metaRoot ls := by
  have hp := Nat.two_pow_pos k
  have hfold := leafToRoot_eq_chainD i (spPath ls i) 0 ls[i]
  rw [Nat.pow_zero, Nat.div_one] at hfold
  rw [hfold, ← (chainD_spPath (2 ^ k - 1) ls i (by omega) (by omega)).1,
    List.getD_eq_getElem?_getD, List.getElem?_eq_getElem hi, Option.getD_some]
  refine (chainD_congr _ _ _ 0 _ fun j _ hj => ?_).symm
  rw [Nat.zero_add, spPath_length_pow k ls i hlen] at hj
  exact SP.dirOf_perfect hj

end Sia.Rhp
