import SiaProofs.Lemmas.MerkleRhpDiff
/-!
  C16: the pieces of `VerifyDiffProof`'s compressed bookkeeping — sorted
  duplicate-free index lists (`sortDedup`), one swap on the full list against the swap on the
  listed positions, the indices of a trim, and rhp/v4's `convertFreeActions` as swaps then a trim.
-/
set_option linter.unusedSectionVars false
namespace Sia.Rhp
open HashOps

variable {H : Type} [HashOps H]

abbrev Sorted (l : List Nat) : Prop := List.Pairwise (· < ·) l

theorem mem_insertSorted (x a : Nat) : ∀ (l : List Nat), x ∈ insertSorted a l ↔ x = a ∨ x ∈ l := by
  intro l
  induction l with
  | nil => simp [insertSorted]
  | cons y ys ih =>
    simp only [insertSorted]
    by_cases h1 : a < y
    · simp [h1]
    · by_cases h2 : a = y
      · subst h2; simp
      · simp only [h1, h2, if_false, List.mem_cons, ih]
        constructor
        · rintro (h | h | h) <;> simp [h]
        · rintro (h | h | h) <;> simp [h]

theorem sorted_insertSorted (a : Nat) : ∀ (l : List Nat), Sorted l → Sorted (insertSorted a l) := by
  intro l
  induction l with
  | nil => intro _; simp [insertSorted]
  | cons y ys ih =>
    intro hs
    unfold Sorted at hs ih ⊢
    rw [List.pairwise_cons] at hs
    simp only [insertSorted]
    by_cases h1 : a < y
    · simp only [h1, if_true]
      rw [List.pairwise_cons]
      refine ⟨?_, List.pairwise_cons.2 hs⟩
      intro z hz
      cases hz with
      | head => exact h1
      | tail _ hz => have := hs.1 z hz; omega
    · by_cases h2 : a = y
      · subst h2
        have : ¬ (a < a) := by omega
        simp only [this, if_false, if_true]; exact List.pairwise_cons.2 hs
      · simp only [h1, h2, if_false]
        rw [List.pairwise_cons]
        refine ⟨?_, ih hs.2⟩
        intro z hz
        rw [mem_insertSorted] at hz
        cases hz with
        | inl h => omega
        | inr h => exact hs.1 z h

theorem sorted_sortDedup (l : List Nat) : Sorted (sortDedup l) := by
  unfold sortDedup
  induction l with
  | nil => simp
  | cons a l ih => simp only [List.foldr_cons]; exact sorted_insertSorted a _ ih

theorem mem_sortDedup (x : Nat) (l : List Nat) : x ∈ sortDedup l ↔ x ∈ l := by
  unfold sortDedup
  induction l with
  | nil => simp
  | cons a l ih => simp only [List.foldr_cons, mem_insertSorted, ih, List.mem_cons]

theorem Sorted.ext {A B : List Nat} (hA : Sorted A) (hB : Sorted B) (h : ∀ x, x ∈ A ↔ x ∈ B) : A = B :=
  ((List.perm_ext_iff_of_nodup (hA.imp Nat.ne_of_lt) (hB.imp Nat.ne_of_lt)).2 h).eq_of_pairwise
    (fun _ _ _ _ h1 h2 => absurd h2 (Nat.lt_asymm h1)) hA hB

theorem indexOf_getElem : ∀ (S : List Nat) (k p : Nat) (hp : p < S.length), Sorted S →
    indexOf S[p] S k = k + p := by
  intro S
  induction S with
  | nil => intro k p hp; simp at hp
  | cons y ys ih =>
    intro k p hp hS
    unfold Sorted at hS ih
    rw [List.pairwise_cons] at hS
    cases p with
    | zero => simp [indexOf]
    | succ p =>
      simp only [List.getElem_cons_succ, indexOf]
      have hp' : p < ys.length := by simpa using hp
      have : ys[p] ≠ y := by
        have := hS.1 ys[p] (List.getElem_mem hp'); omega
      simp only [this, if_false]
      rw [ih (k + 1) p hp' hS.2]; omega

theorem IdxOK_of_sorted : ∀ (S : List Nat) (start n : Nat), Sorted S → (∀ x ∈ S, start ≤ x ∧ x < n) → start ≤ n →
    IdxOK start S n := by
  intro S
  induction S with
  | nil => intro start n _ _ h; exact h
  | cons e es ih =>
    intro start n hS hb hle
    unfold Sorted at hS ih
    rw [List.pairwise_cons] at hS
    have he := hb e List.mem_cons_self
    refine ⟨he.1, he.2, ih (e + 1) n hS.2 ?_ (by omega)⟩
    intro x hx
    have := hS.1 x hx
    have := hb x (List.mem_cons_of_mem _ hx)
    omega

theorem map_getD_set (S : List Nat) (hS : Sorted S) (l : List H) (p : Nat) (hp : p < S.length)
    (hl : S[p] < l.length) (v : H) :
    (S.map (fun j => l.getD j zero)).set p v = S.map (fun j => (l.set S[p] v).getD j zero) := by
  apply List.ext_getElem (by rw [List.length_set, List.length_map, List.length_map])
  intro q h1 h2
  have hq : q < S.length := (List.length_map (as := S) _) ▸ h2
  rw [List.getElem_set, List.getElem_map, List.getElem_map, List.getD_eq_getElem?_getD,
    List.getD_eq_getElem?_getD, List.getElem?_set]
  by_cases hpq : p = q
  · subst hpq
    rw [if_pos rfl, if_pos rfl, if_pos hl]; rfl
  · rw [if_neg hpq, if_neg (fun h => hpq ((List.getElem_inj (hS.imp Nat.ne_of_lt)).1 h))]

theorem swap_compress (S : List Nat) (hS : Sorted S) (l : List H) (hb : ∀ x ∈ S, x < l.length)
    (a b : Nat) (ha : a ∈ S) (hbm : b ∈ S) :
    ∃ l', swapList l a b = .ok l' ∧ l'.length = l.length ∧
      (∀ j, j ∉ S → l'[j]? = l[j]?) ∧
      swapList (S.map (fun j => l.getD j zero)) (indexOf a S 0) (indexOf b S 0)
        = .ok (S.map (fun j => l'.getD j zero)) := by
  obtain ⟨pa, hpa, rfl⟩ := List.mem_iff_getElem.1 ha
  obtain ⟨pb, hpb, rfl⟩ := List.mem_iff_getElem.1 hbm
  have hal := hb _ ha
  have hbl := hb _ hbm
  have g : ∀ p (hp : p < S.length) (h : S[p] < l.length),
      (S.map (fun j => l.getD j zero))[p]? = some l[S[p]] := by
    intro p hp h
    rw [List.getElem?_map, List.getElem?_eq_getElem hp, Option.map_some, List.getD_eq_getElem?_getD,
      List.getElem?_eq_getElem h, Option.getD_some]
  refine ⟨(l.set S[pa] l[S[pb]]).set S[pb] l[S[pa]], ?_, ?_, fun j hj => ?_, ?_⟩
  · unfold swapList
    rw [List.getElem?_eq_getElem hal, List.getElem?_eq_getElem hbl]
  · rw [List.length_set, List.length_set]
  · rw [List.getElem?_set_ne (fun h : S[pb] = j => hj (h ▸ hbm)),
      List.getElem?_set_ne (fun h : S[pa] = j => hj (h ▸ ha))]
  · rw [indexOf_getElem S 0 pa hpa hS, indexOf_getElem S 0 pb hpb hS, Nat.zero_add, Nat.zero_add]
    unfold swapList
    rw [g pa hpa hal, g pb hpb hbl]
    show Except.ok _ = _
    rw [map_getD_set S hS l pa hpa hal, map_getD_set S hS _ pb hpb (by rw [List.length_set]; exact hbl)]

def swapActs (sw : List (Nat × Nat)) : List (Action H) := sw.map (fun p => Action.swap p.1 p.2)

theorem wrapDec_pos {n : Nat} (h0 : 0 < n) (hn : n < 18446744073709551616) : wrapDec n = n - 1 := by
  have := GoWords.sub_mod_word h0 hn
  rwa [Nat.add_sub_assoc (by decide)] at this

theorem trimIndices_spec : ∀ (k n : Nat), k ≤ n → n < 18446744073709551616 →
    (trimIndices k n).1 = n - k ∧ (∀ x, x ∈ (trimIndices k n).2 ↔ n - k ≤ x ∧ x < n) := by
  intro k
  induction k with
  | zero =>
    intro n _ _
    exact ⟨rfl, fun x => ⟨fun h => absurd h List.not_mem_nil, fun h => absurd h.2 (Nat.not_lt.2 h.1)⟩⟩
  | succ k ih =>
    intro n hk hn
    -- `n = m + 1`, so the wrapping decrement is the plain one
    obtain ⟨m, rfl⟩ : ∃ m, n = m + 1 := ⟨n - 1, (Nat.sub_add_cancel (Nat.le_trans (Nat.le_add_left 1 k) hk)).symm⟩
    have hw : wrapDec (m + 1) = m := wrapDec_pos (Nat.succ_pos m) hn
    obtain ⟨h1, h2⟩ := ih m (Nat.le_of_succ_le_succ hk) (Nat.lt_of_succ_lt hn)
    simp only [trimIndices, hw, Nat.add_sub_add_right]
    refine ⟨h1, fun x => ?_⟩
    rw [List.mem_cons, h2]
    clear hn hw h1 h2 ih
    omega

theorem sorted_prefix_length {P : List Nat} {m k : Nat} : (P ++ List.range' m k).length - k = P.length := by
  simp

theorem gapHashes_range (ls : List H) : ∀ (k m start : Nat), start ≤ m →
    gapHashes ls (List.range' m k) start (m + k) = buildRange ls start m := by
  intro k
  induction k with
  | zero => intro m start _; simp [gapHashes]
  | succ k ih =>
    intro m start hle
    simp only [List.range'_succ, gapHashes]
    have e : m + (k + 1) = (m + 1) + k := by omega
    rw [e, ih (m + 1) (m + 1) (Nat.le_refl _), buildRange_done ls (m + 1) (m + 1) (by omega)]
    simp

theorem gapHashes_append_range (ls : List H) (m k : Nat) : ∀ (P : List Nat) (start : Nat),
    IdxOK start P m →
    gapHashes ls (P ++ List.range' m k) start (m + k) = gapHashes ls P start m := by
  intro P
  induction P with
  | nil =>
    intro start hok
    simp only [List.nil_append, gapHashes]
    exact gapHashes_range ls k m start hok
  | cons e es ih =>
    intro start hok
    obtain ⟨h1, h2, h3⟩ := hok
    simp only [List.cons_append, gapHashes]
    rw [ih (e + 1) h3]

/-- the swaps `convertFreeActions` issues: freed[i] with n-1-i -/
def freeSwaps (freed : List Nat) (n : Nat) : List (Nat × Nat) :=
  freed.zipIdx.map (fun x => (x.1, n - x.2 - 1))

theorem convertFreeActions_eq (freed : List Nat) (n : Nat) (hk : freed.length ≤ n)
    (hn : n < 18446744073709551616) :
    (convertFreeActions freed n : List (Action H)) = swapActs (freeSwaps freed n) ++ [Action.trim freed.length] := by
  unfold convertFreeActions swapActs freeSwaps
  rw [List.map_map]
  congr 1
  apply List.map_congr_left
  intro x hx
  obtain ⟨_, h2, _⟩ := List.mem_zipIdx (x := x.1) (i := x.2) hx
  rw [Nat.zero_add] at h2
  simp only [Function.comp]
  rw [Nat.sub_sub, GoWords.sub_mod_word (Nat.lt_of_lt_of_le h2 hk) hn, Nat.sub_sub]

theorem freeSwaps_lt (freed : List Nat) (n : Nat) (hk : freed.length ≤ n) (hf : ∀ x ∈ freed, x < n) :
    ∀ p ∈ freeSwaps freed n, p.1 < n ∧ p.2 < n := by
  intro p hp
  unfold freeSwaps at hp
  rw [List.mem_map] at hp
  obtain ⟨x, hx, rfl⟩ := hp
  obtain ⟨_, h2, h3⟩ := List.mem_zipIdx (x := x.1) (i := x.2) hx
  refine ⟨?_, by simp only; omega⟩
  simp only
  rw [h3]
  exact hf _ (List.getElem_mem _)

theorem swapList_length (l l' : List H) (a b : Nat) (h : swapList l a b = .ok l') : l'.length = l.length := by
  unfold swapList at h
  cases ha : l[a]? <;> cases hb : l[b]? <;> simp [ha, hb] at h
  rw [← h]; simp

theorem applyActions_swaps (sw : List (Nat × Nat)) (rest : List (Action H)) : ∀ (l : List H),
    applyActions l (swapActs sw ++ rest)
      = (sw.foldlM (fun (l : List H) (p : Nat × Nat) => swapList l p.1 p.2) l) >>= (fun l' => applyActions l' rest) := by
  induction sw with
  | nil => intro l; simp [swapActs, pure, Except.pure, bind, Except.bind]
  | cons p sw ih =>
    intro l
    simp only [swapActs, List.map_cons, List.cons_append, applyActions, List.foldlM_cons] at ih ⊢
    cases h : swapList l p.1 p.2 with
    | error e => simp [bind, Except.bind]
    | ok l1 => simp only [bind, Except.bind] at ih ⊢; exact ih l1

theorem foldlM_swap_length (sw : List (Nat × Nat)) : ∀ (l l' : List H),
    sw.foldlM (fun (l : List H) (p : Nat × Nat) => swapList l p.1 p.2) l = .ok l' → l'.length = l.length := by
  induction sw with
  | nil => intro l l' h; simp [pure, Except.pure] at h; rw [h]
  | cons p sw ih =>
    intro l l' h
    simp only [List.foldlM_cons] at h
    cases h1 : swapList l p.1 p.2 with
    | error e => rw [h1] at h; simp [bind, Except.bind] at h
    | ok l1 =>
      rw [h1] at h
      simp only [bind, Except.bind] at h
      rw [ih l1 l' h, swapList_length l l1 _ _ h1]

theorem applyFree_eq (ls : List H) (freed : List Nat) (hk : freed.length ≤ ls.length)
    (hn : ls.length < 18446744073709551616) :
    applyFree ls freed = applyActions ls (convertFreeActions freed ls.length) := by
  rw [convertFreeActions_eq freed ls.length hk hn, applyActions_swaps]
  unfold applyFree freeSwaps
  rw [List.foldlM_map]
  cases h : freed.zipIdx.foldlM (fun (l : List H) (x : Nat × Nat) => swapList l x.1 (ls.length - x.2 - 1)) ls with
  | error e => simp [bind, Except.bind]
  | ok l' =>
    have hl : l'.length = ls.length := by
      have := foldlM_swap_length (freeSwaps freed ls.length) ls l' (by
        unfold freeSwaps; rw [List.foldlM_map]; exact h)
      exact this
    have h2 : ¬ (freed.length > ls.length) := by omega
    simp [bind, Except.bind, pure, Except.pure, applyActions, hl, h2]

end Sia.Rhp
