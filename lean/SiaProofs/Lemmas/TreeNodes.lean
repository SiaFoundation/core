/-
  `ForEachTreeNode` against the naive forest: every node a walk reports is the naive forest's node at that coordinate
  (`*_sound`), and every coordinate on the path of an updated leaf is reported or was seen before (`*_complete`; `seen` is closed upwards).
-/
import SiaModel.Merkle.TreeNodes
import SiaProofs.Lemmas.Forest
set_option linter.unusedSectionVars false
namespace Sia.ElemAcc

section
variable {H : Type} [Hasher H] [Inhabited H]

theorem walkUp_sound (ls : List H) (p Ht : Nat) :
    ∀ (rest : List H) (row : Nat) (h : H) (seen : List (Nat × Nat)),
      rest = sibs ls p row Ht → h = nodeAt ls row (p / 2 ^ row) →
      ∀ x ∈ (walkUp p row (p / 2 ^ row) h rest seen).1,
        row < x.1 ∧ x.1 ≤ Ht ∧ x.2.1 = p / 2 ^ x.1 ∧ x.2.2 = nodeAt ls x.1 x.2.1 := by
  intro rest
  induction rest with
  | nil => intro row h seen _ _ x hx; simp [walkUp] at hx
  | cons sib rest ih =>
    intro row h seen hrest hh x hx
    have hlt : row < Ht := by
      have := congrArg List.length hrest
      rw [sibs_length, List.length_cons] at this; omega
    rw [sibs_cons ls p hlt] at hrest
    injection hrest with hsib hrest'
    simp only [walkUp, div_succ_pow, hsib, hh, node_step] at hx
    split at hx
    · simp at hx
    · rcases List.mem_cons.1 hx with rfl | hx
      · exact ⟨Nat.lt_succ_self _, hlt, rfl, rfl⟩
      · have := ih (row + 1) _ _ hrest' rfl x hx
        exact ⟨by omega, this.2⟩

/-- an element of the update as `ForEachTreeNode` must find it: a leaf of the forest `ls`
    carrying the naive path of its position (the proof it has AFTER the block) -/
structure ElemValid (ls : List H) (l : Leaf H) : Prop where
  lt : l.index < ls.length
  proof : l.proof = path ls l.index
  hash : ls.getD l.index default = l.hash

/-- a coordinate on the path of leaf `p` in its tree -/
def OnPath (n p : Nat) (x : Nat × Nat) : Prop := x.1 ≤ treeHeight n p ∧ x.2 = p / 2 ^ x.1

theorem nodesOfLeaf_sound (ls : List H) (l : Leaf H) (v : ElemValid ls l) (seen : List (Nat × Nat)) :
    ∀ x ∈ (nodesOfLeaf l seen).1, OnPath ls.length l.index (x.1, x.2.1) ∧ x.2.2 = nodeAt ls x.1 x.2.1 := by
  intro x hx
  simp only [nodesOfLeaf, List.mem_cons] at hx
  rcases hx with rfl | hx
  · exact ⟨⟨Nat.zero_le _, by simp⟩, (nodeAt_zero ..).trans v.hash |>.symm⟩
  · have e : l.index / 2 ^ 0 = l.index := by simp
    have := walkUp_sound ls l.index _ l.proof 0 l.hash ((0, l.index) :: seen)
      (by rw [v.proof, path_eq_sibs ls v.lt]) (by rw [e, nodeAt_zero]; exact v.hash.symm) x (by rw [e]; exact hx)
    exact ⟨⟨this.2.1, this.2.2.1⟩, this.2.2.2⟩

theorem nodesFrom_sound (ls : List H) : ∀ (els : List (Leaf H)) (seen : List (Nat × Nat)),
    (∀ l ∈ els, ElemValid ls l) →
    ∀ x ∈ nodesFrom els seen, x.2.2 = nodeAt ls x.1 x.2.1 ∧ ∃ l ∈ els, OnPath ls.length l.index (x.1, x.2.1) := by
  intro els
  induction els with
  | nil => intro seen _ x hx; simp [nodesFrom] at hx
  | cons l els ih =>
    intro seen hv x hx
    simp only [nodesFrom, List.mem_append] at hx
    rcases hx with hx | hx
    · obtain ⟨a, b⟩ := nodesOfLeaf_sound ls l (hv l (by simp)) seen x hx
      exact ⟨b, l, by simp, a⟩
    · obtain ⟨b, l', hl', a⟩ := ih _ (fun y hy => hv y (List.mem_cons_of_mem _ hy)) x hx
      exact ⟨b, l', List.mem_cons_of_mem _ hl', a⟩

/-- `seen` is closed upwards: with a coordinate on the path of a leaf it holds every coordinate above it on that path.
    What lets the Go loop stop at the first seen coordinate (`// already seen everything above this`). -/
def UpClosed (n : Nat) (seen : List (Nat × Nat)) : Prop :=
  ∀ q r, r ≤ treeHeight n q → (r, q / 2 ^ r) ∈ seen → ∀ r', r ≤ r' → r' ≤ treeHeight n q → (r', q / 2 ^ r') ∈ seen

theorem same_tree {n p q k : Nat} (hp : p < n) (hk : k ≤ treeHeight n p) (h : q / 2 ^ k = p / 2 ^ k) :
    treeHeight n q = treeHeight n p := by
  have hin := treeHeight_spec hp
  rw [inTree_iff, ← div_pow_of_div_pow h hk] at hin
  exact treeHeight_unique ((inTree_iff _ _ _).2 hin)

def coords (out : List (Nat × Nat × H)) : List (Nat × Nat) := out.map (fun x => (x.1, x.2.1))

theorem walkUp_seen (p : Nat) : ∀ (rest : List H) (row col : Nat) (h : H) (seen : List (Nat × Nat)) (y : Nat × Nat),
    y ∈ (walkUp p row col h rest seen).2 ↔ y ∈ coords (walkUp p row col h rest seen).1 ∨ y ∈ seen := by
  intro rest
  induction rest with
  | nil => intro row col h seen y; simp [walkUp, coords]
  | cons sib rest ih =>
    intro row col h seen y
    simp only [walkUp]
    split
    · simp [coords]
    · rw [ih]
      simp only [coords, List.map_cons, List.mem_cons]
      rw [or_left_comm, or_assoc]

/-- a walk stops only at a coordinate already in `seen`: if `seen` holds, with such a coordinate of the path of `p`,
    all of that path above it, then after the walk it holds the whole path -/
theorem walkUp_reaches (p Ht : Nat) : ∀ (rest : List H) (row : Nat) (h : H) (seen : List (Nat × Nat)),
    rest.length + row = Ht →
    (∀ r, r ≤ row → (r, p / 2 ^ r) ∈ seen) →
    (∀ r, row < r → (r, p / 2 ^ r) ∈ seen → ∀ r', r ≤ r' → r' ≤ Ht → (r', p / 2 ^ r') ∈ seen) →
    ∀ r, r ≤ Ht → (r, p / 2 ^ r) ∈ (walkUp p row (p / 2 ^ row) h rest seen).2 := by
  intro rest
  induction rest with
  | nil => intro row h seen hlen hlow _ r hr; exact hlow r (by rw [← hlen, List.length_nil, Nat.zero_add] at hr; exact hr)
  | cons sib rest ih =>
    intro row h seen hlen hlow hup r hr
    simp only [List.length_cons] at hlen
    simp only [walkUp, div_succ_pow]
    split
    · rename_i hs
      rcases Nat.lt_or_ge row r with hl | hl
      · exact hup _ (Nat.lt_succ_self row) hs r hl hr
      · exact hlow r hl
    · refine ih (row + 1) _ _ (by omega) (fun r hr => ?_) (fun r hr hm r' h1 h2 => List.mem_cons_of_mem _ ?_) r hr
      · rcases Nat.lt_or_ge r (row + 1) with hl | hl
        · exact List.mem_cons_of_mem _ (hlow r (by omega))
        · rw [Nat.le_antisymm hr hl]; exact List.mem_cons_self
      · refine hup r (by omega) ((List.mem_cons.1 hm).resolve_left fun e => ?_) r' h1 h2
        have := congrArg Prod.fst e
        simp only at this; omega

theorem nodesOfLeaf_complete (ls : List H) (l : Leaf H) (v : ElemValid ls l) (seen : List (Nat × Nat))
    (hc : UpClosed ls.length seen) :
    UpClosed ls.length (nodesOfLeaf l seen).2 ∧
    (∀ r, r ≤ treeHeight ls.length l.index → (r, l.index / 2 ^ r) ∈ (nodesOfLeaf l seen).2) ∧
    (∀ y, y ∈ (nodesOfLeaf l seen).2 ↔ y ∈ coords (nodesOfLeaf l seen).1 ∨ y ∈ seen) := by
  have e : l.index / 2 ^ 0 = l.index := by simp
  have hmem : ∀ y, y ∈ (nodesOfLeaf l seen).2 ↔ y ∈ coords (nodesOfLeaf l seen).1 ∨ y ∈ seen := fun y => by
    simp only [nodesOfLeaf, walkUp_seen, coords, List.map_cons, List.mem_cons]
    rw [or_left_comm, or_assoc]
  have hall : ∀ r, r ≤ treeHeight ls.length l.index → (r, l.index / 2 ^ r) ∈ (nodesOfLeaf l seen).2 := by
    have := walkUp_reaches l.index (treeHeight ls.length l.index) l.proof 0 l.hash ((0, l.index) :: seen)
      (by rw [v.proof, path_length]; rfl)
      (fun r hr => by rw [Nat.le_zero.1 hr, e]; exact List.mem_cons_self)
      (fun r hr hm r' h1 h2 => List.mem_cons_of_mem _ (hc _ r (by omega) ((List.mem_cons.1 hm).resolve_left fun e => by
        have := congrArg Prod.fst e
        simp only at this; omega) r' h1 h2))
    rwa [e] at this
  refine ⟨fun q r hr hm r' h1 h2 => ?_, hall, hmem⟩
  rcases (hmem _).1 hm with hm | hm
  · -- a coordinate this walk reported: `q` shares it with `l`, so lies in the tree of `l` and shares the path above it
    obtain ⟨x, hx, ex⟩ := List.mem_map.1 hm
    obtain ⟨⟨o1, o2⟩, _⟩ := nodesOfLeaf_sound ls l v seen x hx
    rw [ex] at o1 o2
    simp only at o1 o2
    rw [same_tree v.lt o1 o2] at h2
    rw [div_pow_of_div_pow o2 h1]
    exact hall r' h2
  · exact (hmem _).2 (Or.inr (hc q r hr hm r' h1 h2))

theorem nodesFrom_complete (ls : List H) : ∀ (els : List (Leaf H)) (seen : List (Nat × Nat)),
    (∀ l ∈ els, ElemValid ls l) → UpClosed ls.length seen →
    ∀ l ∈ els, ∀ r, r ≤ treeHeight ls.length l.index →
      (r, l.index / 2 ^ r) ∈ coords (nodesFrom els seen) ∨ (r, l.index / 2 ^ r) ∈ seen := by
  intro els
  induction els with
  | nil => intro seen _ _ l hl; simp at hl
  | cons a els ih =>
    intro seen hv hpre l hl r hr
    obtain ⟨c1, c2, c3⟩ := nodesOfLeaf_complete ls a (hv a (by simp)) seen hpre
    simp only [nodesFrom, coords, List.map_append, List.mem_append]
    rcases List.mem_cons.1 hl with rfl | hl'
    · rcases (c3 _).1 (c2 r hr) with h | h
      · left; left; exact h
      · right; exact h
    · rcases ih _ (fun y hy => hv y (List.mem_cons_of_mem _ hy)) c1 l hl' r hr with h | h
      · left; right; exact h
      · rcases (c3 _).1 h with h' | h'
        · left; left; exact h'
        · right; exact h'

end
end Sia.ElemAcc
