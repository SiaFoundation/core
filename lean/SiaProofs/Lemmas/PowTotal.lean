import SiaProofs.Lemmas.Pow
/-! When the retargeting functions cannot panic: the int64 computations of the block-time clamps do not wrap for an
interval of at most 2^50 ns, and under explicit bounds on the state (those of `C13.Margin`) each of `updateTotalWork`,
`updateOakWork`, `adjustTarget` and `adjustDifficulty` returns. -/

namespace Sia.Pow

theorem toU64_lt (x : Int) : toU64 x < W64 := by
  unfold toU64; omega

theorem toU64_of_range {x : Int} (h0 : 0 ≤ x) (h1 : x < 18446744073709551616) : (toU64 x : Int) = x := by
  unfold toU64; omega

theorem tdiv_nonneg_eq {a b : Int} (ha : 0 ≤ a) : Int.tdiv a b = a / b :=
  Int.tdiv_eq_ediv_of_nonneg ha

theorem i64div_nonneg_eq {a b : Int} (ha : 0 ≤ a) : i64div a b = a / b := tdiv_nonneg_eq ha

theorem i64mul_small {a b : Int} (h1 : -9223372036854775808 ≤ a * b) (h2 : a * b < 9223372036854775808) :
    i64mul a b = a * b := by
  unfold i64mul wrap64; omega

theorem third_triple {b : Int} (h1 : 0 ≤ b) (h2 : b ≤ 1125899906842624) :
    i64div b 3 = b / 3 ∧ i64mul b 3 = b * 3 :=
  ⟨i64div_nonneg_eq h1, i64mul_small (by omega) (by omega)⟩

theorem v2TargetBlockTime_bounds {n : Network} (s : PowState) (ts : Int)
    (h1 : 1 ≤ n.blockInterval) (h2 : n.blockInterval ≤ 1125899906842624) :
    0 ≤ v2TargetBlockTime n s ts ∧ v2TargetBlockTime n s ts ≤ 3377699720527872 := by
  unfold v2TargetBlockTime
  dsimp only
  generalize i64add n.blockInterval _ = x
  obtain ⟨e1, e2⟩ := third_triple (b := n.blockInterval) (by omega) h2
  rw [e1, e2]
  split
  · omega
  · split <;> omega

theorem finalCutTargetInterval_bounds {n : Network} (s : PowState) (ts : Int)
    (h1 : 1 ≤ n.blockInterval) (h2 : n.blockInterval ≤ 1125899906842624) :
    0 ≤ finalCutTargetInterval n s ts ∧ finalCutTargetInterval n s ts ≤ 3377699720527872 := by
  unfold finalCutTargetInterval
  dsimp only
  generalize i64add n.blockInterval _ = x
  obtain ⟨e1, e2⟩ := third_triple (b := n.blockInterval) (by omega) h2
  rw [e1, e2]
  omega

theorem oakTargetBlockTime_bounds {n : Network} (s : PowState)
    (h1 : 1 ≤ n.blockInterval) (h2 : n.blockInterval ≤ 1125899906842624) :
    1 ≤ oakTargetBlockTime n s ∧ oakTargetBlockTime n s ≤ 3377700 := by
  unfold oakTargetBlockTime
  dsimp only
  have e0 : i64div n.blockInterval SECOND = n.blockInterval / SECOND := i64div_nonneg_eq (by omega)
  generalize i64div n.blockInterval SECOND = bi at e0 ⊢
  generalize i64add bi _ = x
  obtain ⟨e1, e2⟩ := third_triple (b := bi) (by omega) (by omega)
  rw [e1, e2]
  split <;> split <;> try split
  all_goals omega

theorem oakTotalTimeSec_pos (s : PowState) : 1 ≤ oakTotalTimeSec s := by
  unfold oakTotalTimeSec; dsimp only; split <;> omega

theorem adjustDifficultyV2_total {n : Network} {s : PowState} (ts : Int)
    (h1 : 1 ≤ n.blockInterval) (h2 : n.blockInterval ≤ 1125899906842624)
    (ht : s.oakTime < 9223372036854775808)
    (hD : s.difficulty < 2 ^ 200)
    (hOW : s.oakWork < 2 ^ 200) :
    ∃ d, adjustDifficultyV2 n s ts = .ok d := by
  unfold adjustDifficultyV2
  obtain ⟨b1, b2⟩ := v2TargetBlockTime_bounds s ts h1 h2
  generalize v2TargetBlockTime n s ts = tbt at b1 b2
  dsimp only
  have hv : toU64 (i64div (if s.oakTime ≤ SECOND then SECOND else s.oakTime) SECOND) ≠ 0 := by
    have : (1:Int) ≤ i64div (if s.oakTime ≤ SECOND then SECOND else s.oakTime) SECOND ∧
        i64div (if s.oakTime ≤ SECOND then SECOND else s.oakTime) SECOND < 18446744073709551616 := by
      rw [i64div_nonneg_eq (by split <;> omega)]
      split <;> omega
    have := toU64_of_range (by omega) this.2
    omega
  generalize toU64 (i64div (if s.oakTime ≤ SECOND then SECOND else s.oakTime) SECOND) = v at hv ⊢
  rw [wdiv64_ok hv, GoLoops.ok_bind]
  have e : i64div tbt SECOND = tbt / SECOND := i64div_nonneg_eq b1
  generalize i64div tbt SECOND = q at e ⊢
  have hu : (toU64 q : Int) = q := toU64_of_range (by omega) (by omega)
  have hu2 : toU64 q < 4194304 := by omega
  generalize toU64 q = u at hu2 ⊢
  have hm : s.oakWork / v * u < W256 := by
    have ha : s.oakWork / v ≤ s.oakWork := Nat.div_le_self _ _
    calc _ ≤ s.oakWork * u := Nat.mul_le_mul_right _ ha
      _ ≤ 2 ^ 200 * 4194304 :=
          Nat.mul_le_mul (by omega) (by omega)
      _ < W256 := by decide
  rw [wmul64_ok hm, GoLoops.ok_bind, wdiv64_ok (by omega), GoLoops.ok_bind, wsub_ok (Nat.div_le_self _ _), GoLoops.ok_bind]
  split
  · exact ⟨_, rfl⟩
  · rw [wadd_ok (by omega), GoLoops.ok_bind]
    split <;> exact ⟨_, rfl⟩

theorem adjustDifficultyFinalCut_total {n : Network} {s : PowState} (ts : Int)
    (h1 : 1 ≤ n.blockInterval) (h2 : n.blockInterval ≤ 1125899906842624)
    (ht : s.oakTime < 9223372036854775808)
    (hD1 : 1 ≤ s.difficulty)
    (hD : s.difficulty < 2 ^ 200)
    (hOW : s.oakWork < 2 ^ 200) :
    ∃ d, adjustDifficultyFinalCut n s ts = .ok d := by
  unfold adjustDifficultyFinalCut
  obtain ⟨b1, b2⟩ := finalCutTargetInterval_bounds s ts h1 h2
  generalize finalCutTargetInterval n s ts = ti at b1 b2
  dsimp only
  have hu : (toU64 ti : Int) = ti := toU64_of_range b1 (by omega)
  have hm : s.oakWork * toU64 ti < 7237005577332262213973186563042994240829374041602535252466099000494570602496 := by
    calc _ ≤ 2 ^ 200 * 3377699720527872 :=
          Nat.mul_le_mul (by omega) (by omega)
      _ < _ := by decide
  rw [wmul64_ok (by omega), GoLoops.ok_bind]
  have hh := toU64_lt (i64div s.oakTime 2)
  rw [wmul64_ok (by omega), GoLoops.ok_bind, wadd_ok (by omega), GoLoops.ok_bind]
  have hv : toU64 (max s.oakTime 1) ≠ 0 := by
    have := toU64_of_range (x := max s.oakTime 1) (by omega) (by omega)
    omega
  rw [wdiv64_ok hv, GoLoops.ok_bind, wdiv64_ok (by omega), GoLoops.ok_bind]
  simp only [wmax_eq, wmin_eq]
  rw [wadd_ok (by omega), GoLoops.ok_bind, wsub_ok (by omega), GoLoops.ok_bind]
  exact ⟨_, rfl⟩

theorem le_capT {k a : Nat} (hk : k ≤ MAXT) (h : k ≤ a) : k ≤ capT a := by
  unfold capT; split <;> omega

theorem addTarget_total {x y : Nat} (hx : x < W256) (hy : y < W256) (hx2 : 2 ≤ x) (hy2 : 2 ≤ y) :
    ∃ r, addTarget x y = .ok r ∧ r ≠ 0 ∧ r < W256 := by
  have h0 : x + y ≠ 0 := by omega
  have hr : addTarget x y = .ok (intToTarget (Int.ofNat (x * y / (x + y)))) := by
    unfold addTarget; rw [if_neg h0]
  obtain ⟨_, e, le1, _⟩ := addTarget_inv hx hy hr
  refine ⟨_, hr, ?_, by omega⟩
  rw [e]
  have h1 : 2 * y ≤ x * y := Nat.mul_le_mul_right y hx2
  have h2 : x * 2 ≤ x * y := Nat.mul_le_mul_left x hy2
  have : 1 ≤ x * y / (x + y) := (Nat.le_div_iff_mul_le (by omega)).2 (by omega)
  omega

theorem updateTotalWork_total {n : Network} {s : PowState}
    (hdp : s.depth < W256) (hct : s.childTarget < W256) (hd1 : 1 ≤ s.difficulty)
    (hpre : s.childHeight < n.v2AllowHeight → 2 ≤ s.depth ∧ 2 ≤ s.childTarget)
    (hv2 : n.v2AllowHeight ≤ s.childHeight → s.totalWork + s.difficulty < W256) :
    ∃ r, updateTotalWork n s = .ok r := by
  unfold updateTotalWork
  split
  · rename_i h
    obtain ⟨r, h1, h2, _⟩ := addTarget_total hdp hct (hpre h).1 (hpre h).2
    rw [h1, GoLoops.ok_bind, invTarget_ok_of_ne h2, GoLoops.ok_bind]
    exact ⟨_, rfl⟩
  · rename_i h
    rw [wadd_ok (hv2 (by omega)), GoLoops.ok_bind, invTarget_ok_of_ne (by omega), GoLoops.ok_bind]
    exact ⟨_, rfl⟩

theorem updateOakWork_total {n : Network} {s : PowState}
    (hct : s.childTarget < W256) (hd1 : 1 ≤ s.difficulty)
    (hasic : n.asicOakTarget ≠ 0)
    (hpre : s.childHeight < n.v2AllowHeight → 2 ≤ s.oakTarget ∧ 2 ≤ s.childTarget)
    (hv2 : n.v2AllowHeight ≤ s.childHeight → s.oakWork + s.difficulty < W256) :
    ∃ r, updateOakWork n s = .ok r := by
  unfold updateOakWork
  split
  · rename_i h
    have : ∃ t, updateOakTarget n s = .ok t ∧ t ≠ 0 := by
      unfold updateOakTarget
      split
      · exact ⟨_, rfl, hasic⟩
      · have e : mulTargetFrac s.oakTarget 1000 995 = .ok (capT (s.oakTarget * 1000 / 995)) :=
          mulTargetFrac_nat s.oakTarget 1000 995 (by omega)
        rw [e, GoLoops.ok_bind]
        have : 2 ≤ s.oakTarget * 1000 / 995 := by have := (hpre h).1; omega
        obtain ⟨r, h1, h2, _⟩ := addTarget_total (capT_lt _) hct (le_capT (by decide) this) (hpre h).2
        exact ⟨r, h1, h2⟩
    obtain ⟨t, h1, h2⟩ := this
    rw [h1, GoLoops.ok_bind, invTarget_ok_of_ne h2, GoLoops.ok_bind]
    exact ⟨_, rfl⟩
  · rename_i h
    have := hv2 (by omega)
    rw [wdiv64_ok (by omega), GoLoops.ok_bind, wsub_ok (Nat.div_le_self _ _), GoLoops.ok_bind, wadd_ok (by omega), GoLoops.ok_bind,
      invTarget_ok_of_ne (by omega), GoLoops.ok_bind]
    exact ⟨_, rfl⟩

theorem intToTarget_ne_zero {i : Int} (h : 1 ≤ i) : intToTarget i ≠ 0 := by
  unfold intToTarget; split <;> omega

theorem oakNewTarget_total {n : Network} {s : PowState}
    (h1 : 1 ≤ n.blockInterval) (h2 : n.blockInterval ≤ 1125899906842624)
    (hot0 : 4294967296 ≤ s.oakTarget) :
    ∃ r, oakNewTarget n s = .ok r ∧ r ≠ 0 := by
  unfold oakNewTarget
  rw [if_neg (by omega)]
  dsimp only
  refine ⟨_, rfl, ?_⟩
  apply intToTarget_ne_zero
  obtain ⟨t1, t2⟩ := oakTargetBlockTime_bounds s h1 h2
  have o1 := oakTotalTimeSec_pos s
  generalize oakTargetBlockTime n s = tbt at t1 t2
  generalize oakTotalTimeSec s = ott at o1
  -- A = MAXT / oakTarget ≤ MAXT / 2^32
  have hA : MAXT / s.oakTarget ≤ 26959946667150639794667015087019630673637144422540572481103610249215 :=
    Nat.le_trans (Nat.div_le_div_left hot0 (by omega)) (by decide)
  generalize MAXT / s.oakTarget = A at hA
  have hq0 : 0 ≤ Int.ediv (Int.ofNat A) ott := Int.ediv_nonneg (by simp) (by omega)
  have hq1 : Int.ediv (Int.ofNat A) ott ≤ Int.ofNat A := Int.ediv_le_self _ (by simp)
  generalize Int.ediv (Int.ofNat A) ott = q at hq0 hq1
  have hqA : q ≤ 26959946667150639794667015087019630673637144422540572481103610249215 := by
    have : Int.ofNat A ≤ 26959946667150639794667015087019630673637144422540572481103610249215 := by
      simp only [Int.ofNat_eq_natCast]; omega
    omega
  have he0 : 0 ≤ q * tbt := Int.mul_nonneg hq0 (by omega)
  have he1 : q * tbt ≤ 26959946667150639794667015087019630673637144422540572481103610249215 * 3377700 :=
    Int.mul_le_mul hqA t2 (by omega) (by omega)
  generalize q * tbt = e at he0 he1
  have hest : 1 ≤ (if e = 0 then 1 else e) ∧ (if e = 0 then 1 else e) ≤ Int.ofNat MAXT := by
    simp only [Int.ofNat_eq_natCast]
    split <;> omega
  generalize (if e = 0 then 1 else e) = est at hest
  exact Int.le_ediv_of_mul_le (by omega) (by omega)

theorem mul_div_le_mul_div (c : Nat) {e x p q : Nat} (hx : 0 < x) (hq : 0 < q) (h : e * q ≤ p * x) :
    c * e / x ≤ c * p / q := by
  rw [Nat.le_div_iff_mul_le hq]
  apply Nat.le_of_mul_le_mul_right _ hx
  calc c * e / x * q * x = c * e / x * x * q := Nat.mul_right_comm _ _ _
    _ ≤ c * e * q := Nat.mul_le_mul_right _ (Nat.div_mul_le_self _ _)
    _ = c * (e * q) := Nat.mul_assoc _ _ _
    _ ≤ c * (p * x) := Nat.mul_le_mul_left _ h
    _ = c * p * x := (Nat.mul_assoc _ _ _).symm

/-- `expected` is positive because the interval is whole seconds (`hsec`), so the third branch
    divides by a positive number and the two float comparisons bound its ratio. -/
theorem preOakAdjust_clamp {n : Network} {s : PowState} (ts tt : Int)
    (h2 : n.blockInterval ≤ 1125899906842624)
    (hsec : SECOND ≤ n.blockInterval ∨ n.oakHeight < 500)
    (hch : s.childHeight ≤ n.oakHeight) (hch0 : s.childHeight ≠ 0) :
    ∃ r, preOakAdjust n s ts tt = .ok r ∧
      (s.childHeight % 500 ≠ 0 → r = s.childTarget) ∧
      (s.childHeight % 500 = 0 →
        capT (s.childTarget * 10 / 25) ≤ r ∧ r ≤ capT (s.childTarget * 25 / 10)) := by
  unfold preOakAdjust
  dsimp only
  by_cases hm : s.childHeight % 500 ≠ 0
  · rw [if_pos hm]; exact ⟨_, rfl, fun _ => rfl, fun c => absurd c hm⟩
  · rw [if_neg hm]
    have hbi : SECOND ≤ n.blockInterval := hsec.elim id (fun h => by omega)
    have e0 : i64div n.blockInterval SECOND = n.blockInterval / SECOND := i64div_nonneg_eq (by omega)
    generalize i64div n.blockInterval SECOND = bi at e0 ⊢
    have hd : (if 1000 > s.childHeight then s.childHeight else 1000) = 500 ∨
              (if 1000 > s.childHeight then s.childHeight else 1000) = 1000 := by
      split <;> omega
    generalize (if 1000 > s.childHeight then s.childHeight else 1000) = depth at hd
    have hbi2 : 1 ≤ bi ∧ bi ≤ 1125899 := by omega
    have hexp : 1 ≤ i64mul bi (ofU64 depth) := by
      clear e0 hbi hsec h2 hch hch0 hm
      rcases hd with rfl | rfl
      · rw [show ofU64 500 = 500 by decide, i64mul_small (by omega) (by omega)]; omega
      · rw [show ofU64 1000 = 1000 by decide, i64mul_small (by omega) (by omega)]; omega
    generalize i64mul bi (ofU64 depth) = expected at hexp
    generalize i64div (timeSub ts tt) SECOND = elapsed
    clear hbi2 hd e0 hbi hsec h2 hch hch0
    have c1 : mulTargetFrac s.childTarget 10 25 = .ok (capT (s.childTarget * 10 / 25)) :=
      mulTargetFrac_nat s.childTarget 10 25 (by omega)
    have c2 : mulTargetFrac s.childTarget 25 10 = .ok (capT (s.childTarget * 25 / 10)) :=
      mulTargetFrac_nat s.childTarget 25 10 (by omega)
    have hmono : capT (s.childTarget * 10 / 25) ≤ capT (s.childTarget * 25 / 10) := capT_mono (by omega)
    refine (?_ : ∃ r, _ ∧ _).imp fun r h => ⟨h.1, fun c => absurd c hm, fun _ => h.2⟩
    by_cases hg : ratioGt25 expected elapsed
    · rw [if_pos hg, c1]; exact ⟨_, rfl, Nat.le_refl _, hmono⟩
    · rw [if_neg hg]
      by_cases hl : ratioLt04 expected elapsed
      · rw [if_pos hl, c2]; exact ⟨_, rfl, hmono, Nat.le_refl _⟩
      · rw [if_neg hl]
        have hel : 0 < elapsed ∧ 2 * expected ≤ 5 * elapsed ∧ 2 * elapsed ≤ 5 * expected := by
          unfold ratioGt25 at hg
          unfold ratioLt04 at hl
          by_cases z : elapsed = 0
          · simp [z] at hg; omega
          · by_cases pz : elapsed > 0
            · simp [z, pz] at hg hl; omega
            · simp [z, pz] at hl; omega
        refine ⟨_, mulTargetFrac_eq_ok.2 ⟨by omega, rfl⟩, ?_⟩
        rw [ediv_cast_nat _ _ _ (by omega) (by omega), intToTarget_ofNat]
        exact ⟨capT_mono (mul_div_le_mul_div _ (by omega) (by omega) (by omega)),
          capT_mono (mul_div_le_mul_div _ (by omega) (by omega) (by omega))⟩

theorem adjustTarget_total {n : Network} {s : PowState} (ts tt : Int)
    (h1 : 1 ≤ n.blockInterval) (h2 : n.blockInterval ≤ 1125899906842624)
    (hsec : SECOND ≤ n.blockInterval ∨ n.oakHeight < 500)
    (hch0 : s.childHeight ≠ 0)
    (hct : 4294967296 ≤ s.childTarget) (hot : 4294967296 ≤ s.oakTarget) :
    ∃ r, adjustTarget n s ts tt = .ok r ∧ r ≠ 0 := by
  -- either clamp leaves at least `capT` of a positive fraction of the old target
  have pos : ∀ {r a : Nat}, 1 ≤ a → capT a ≤ r → r ≠ 0 := fun ha hr => by
    have := le_capT (k := 1) (by decide) ha; omega
  unfold adjustTarget
  split
  · rename_i h
    obtain ⟨r, e, keep, clamp⟩ := preOakAdjust_clamp ts tt h2 hsec h hch0
    refine ⟨r, e, ?_⟩
    by_cases hm : s.childHeight % 500 = 0
    · exact pos (by omega) (clamp hm).1
    · rw [keep hm]; omega
  · obtain ⟨nt, e1, e2⟩ := oakNewTarget_total (s := s) h1 h2 hot
    rw [e1, GoLoops.ok_bind]
    split
    · exact ⟨_, rfl, e2⟩
    · obtain ⟨r, e, lo, -, -⟩ := oakClamp_inv s nt
      exact ⟨r, e, pos (by omega) lo⟩

theorem adjustDifficulty_total {n : Network} {s : PowState} (ts tt : Int)
    (h1 : 1 ≤ n.blockInterval) (h2 : n.blockInterval ≤ 1125899906842624)
    (hsec : SECOND ≤ n.blockInterval ∨ n.oakHeight < 500)
    (hch0 : s.childHeight ≠ 0)
    (ht : s.oakTime < 9223372036854775808)
    (hD1 : 1 ≤ s.difficulty)
    (hpre : s.childHeight < n.v2AllowHeight → 4294967296 ≤ s.childTarget ∧ 4294967296 ≤ s.oakTarget)
    (hv2 : n.v2AllowHeight ≤ s.childHeight →
      s.difficulty < 2 ^ 200 ∧
      s.oakWork < 2 ^ 200) :
    ∃ r, adjustDifficulty n s ts tt = .ok r := by
  unfold adjustDifficulty
  split
  · rename_i h
    obtain ⟨r, e1, e2⟩ := adjustTarget_total (s := s) ts tt h1 h2 hsec hch0 (hpre h).1 (hpre h).2
    rw [e1, GoLoops.ok_bind, invTarget_ok_of_ne e2, GoLoops.ok_bind]
    exact ⟨_, rfl⟩
  · rename_i h
    have hv := hv2 (by omega)
    split
    · obtain ⟨d, e⟩ := adjustDifficultyV2_total (s := s) ts h1 h2 ht hv.1 hv.2
      have := (adjustDifficultyV2_inv e).1
      rw [e, GoLoops.ok_bind, invTarget_ok_of_ne (by omega), GoLoops.ok_bind]
      exact ⟨_, rfl⟩
    · obtain ⟨d, e⟩ := adjustDifficultyFinalCut_total (s := s) ts h1 h2 ht hD1 hv.1 hv.2
      have := (adjustDifficultyFinalCut_inv e).2.2.1
      rw [e, GoLoops.ok_bind, invTarget_ok_of_ne (by omega), GoLoops.ok_bind]
      exact ⟨_, rfl⟩

end Sia.Pow
