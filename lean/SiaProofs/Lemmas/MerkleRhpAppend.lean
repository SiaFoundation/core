import SiaProofs.Lemmas.MerkleRhp
/-!
  C16: append proofs (`fillTrees`/`collectTrees`).
-/
set_option linter.unusedSectionVars false
namespace Sia.Rhp
open HashOps

variable {H : Type} [HashOps H]

theorem fillTrees_zero (t : Nat → H) (i : Nat) (hs : List H) : fillTrees t 0 i hs = t := by
  rw [fillTrees.eq_def]; simp

theorem fillTrees_odd_cons (t : Nat → H) (m i : Nat) (x : H) (hs : List H) (h : m % 2 = 1) :
    fillTrees t m i (x :: hs) = fillTrees (setTree t i x) (m / 2) (i + 1) hs := by
  rw [fillTrees]
  have : m ≠ 0 := by omega
  simp [this, h]

theorem fillTrees_odd_nil (t : Nat → H) (m i : Nat) (h : m % 2 = 1) :
    fillTrees t m i [] = fillTrees t (m / 2) (i + 1) [] := by
  rw [fillTrees]
  have : m ≠ 0 := by omega
  simp [this, h]

theorem fillTrees_even (t : Nat → H) (m i : Nat) (hs : List H) (h0 : m ≠ 0) (h : m % 2 = 0) :
    fillTrees t m i hs = fillTrees t (m / 2) (i + 1) hs := by
  rw [fillTrees.eq_def]
  have : ¬ (m % 2 = 1) := by omega
  simp [h0, this]

theorem fillTrees_frame (t : Nat → H) (m i : Nat) (hs : List H) (j : Nat) (hj : j < i) :
    fillTrees t m i hs j = t j := by
  induction m using halving_induction generalizing t i hs with
  | zero => rw [fillTrees_zero]
  | odd m h1 ih =>
    cases hs with
    | nil => rw [fillTrees_odd_nil t m i h1]; exact ih t (i + 1) [] (by omega)
    | cons x xs =>
      rw [fillTrees_odd_cons t m i x xs h1, ih _ (i + 1) xs (by omega)]
      exact setTree_ne t x (by omega)
  | even m h0 h ih => rw [fillTrees_even t m i hs h0 h]; exact ih t (i + 1) hs (by omega)

theorem collectTrees_zero (t : Nat → H) (i : Nat) : collectTrees t 0 i = [] := by
  rw [collectTrees]; simp

theorem collectTrees_odd (t : Nat → H) (m i : Nat) (h : m % 2 = 1) :
    collectTrees t m i = t i :: collectTrees t (m / 2) (i + 1) := by
  rw [collectTrees]
  have : m ≠ 0 := by omega
  simp [this, h]

theorem collectTrees_even (t : Nat → H) (m i : Nat) (h0 : m ≠ 0) (h : m % 2 = 0) :
    collectTrees t m i = collectTrees t (m / 2) (i + 1) := by
  rw [collectTrees]
  have : ¬ (m % 2 = 1) := by omega
  simp [h0, this]

theorem toStack_fill_collect (t : Nat → H) (m : Nat) (t0 : Nat → H) (i : Nat) (extra : List H) :
    toStack (fillTrees t0 m i (collectTrees t m i ++ extra)) m i = toStack t m i := by
  induction m using halving_induction generalizing t0 i with
  | zero => rw [toStack_zero, toStack_zero]
  | odd m h1 ih =>
    rw [collectTrees_odd t m i h1, List.cons_append, fillTrees_odd_cons _ m i _ _ h1,
      toStack_odd _ m i h1, toStack_odd t m i h1, ih,
      fillTrees_frame _ (m / 2) (i + 1) _ i (by omega), setTree_self]
  | even m h0 h ih =>
    rw [collectTrees_even t m i h0 h, fillTrees_even _ m i _ h0 h, toStack_even _ m i h,
      toStack_even t m i h]
    exact ih t0 (i + 1)

theorem Inv.of_stack {a b : Acc H} {ls : List H} (hi : Inv a ls) (hs : b.stack = a.stack) (hn : b.n = a.n) :
    Inv b ls := ⟨by rw [hs]; exact hi.1, by rw [hn]; exact hi.2⟩

end Sia.Rhp
