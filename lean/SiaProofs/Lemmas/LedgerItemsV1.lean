import SiaProofs.Lemmas.LedgerOps
/-!
# The items of a v1 transaction

A v1 input, revision or storage proof names its parent by id; the element is looked up when the item is applied.
An item carries the element the lookup is expected to return: `step` does not read it, `Pre` says the lookup returns
it, and the effect on the census is stated with it.
-/
namespace Sia.Ledger

theorem element_agree {ms ms' : Mid} {P : Id → Prop} (ha : Agree ms ms' P) (supp : Supp1) {id : Id} (hp : ¬ P id) :
    ms'.scElement supp id = ms.scElement supp id ∧ ms'.sfElement supp id = ms.sfElement supp id ∧
    ms'.fc1Element supp id = ms.fc1Element supp id := by
  unfold Mid.scElement Mid.sfElement Mid.fc1Element
  rw [(ha.2 id hp).2.1, (ha.2 id hp).2.2.1, (ha.2 id hp).2.2.2.1]
  exact ⟨rfl, rfl, rfl⟩

theorem zip_fst_sum (a : List ScOut) (b : List Id) (h : a.length ≤ b.length) :
    ((a.zip b).map (·.1.value)).sum = sumVals a :=
  (congrArg List.sum (List.map_map (f := Prod.fst) (g := ScOut.value) (l := a.zip b)).symm).trans
    (congrArg sumVals (List.map_fst_zip h))

theorem zip_snd_sublist (a : List ScOut) (b : List Id) : ((a.zip b).map (·.2)).Sublist b := by
  induction a generalizing b with
  | nil => simp
  | cons x a ih =>
    cases b with
    | nil => simp
    | cons y b =>
      simp only [List.zip_cons_cons, List.map_cons]
      exact (ih b).cons_cons y

def Proof1.created (sp : Proof1) : List (Kind × Id) := sp.outIds.map (fun i => (Kind.sc, i))

/-- the immature outputs a resolved contract pays -/
def payOps (l : List (ScOut × Id)) : List Op := l.map (fun x => .createSc x.2 x.1 true)

theorem payOps_run (l : List (ScOut × Id)) (ms : Mid) : (payOps l).foldlM Op.step ms = l.foldlM a1Payout ms :=
  List.foldlM_map

/-- a v1 contract is resolved and its outputs (valid or missed, as far as there are ids for them) are paid -/
theorem resolve_pay {T} {ms ms' : Mid} (hc : Ctx T ms.base) (hI : Inv T ms) {e : Fc1Elem} (hs : ResolvableFc1 T ms e)
    (hsp : ms.isSpent e.id = false) {v : Bool}
    {outs : List ScOut} {ids : List Id} {R : List (Kind × Id)} (hF : Fresh T ms (ids.map (Prod.mk Kind.sc) ++ R))
    (h : (outs.zip ids).foldlM a1Payout (ms.resolveFc1 e v) = .ok ms') :
    Inv T ms' ∧ Agree ms ms' (· ∈ e.id :: ids) ∧ Fresh T ms' R ∧ ms'.base = ms.base ∧ ms'.pool = ms.pool ∧
    ∀ W, census W ms' + W.fc * e.fc.val = census W ms +
      ((outs.zip ids).map (fun x => W.sc ⟨x.2, x.1.value, x.1.addr, maturityHeight ms.base, none⟩)).sum := by
  obtain ⟨hI1, hA1, hW1⟩ := resolveFc1_spec hc hI hs hsp v
  obtain ⟨⟨hb1, _⟩, hp1⟩ := Op.step_frame (ms := ms) (o := .resolveFc1 e v) rfl
  have hF1 : Fresh T (ms.resolveFc1 e v) ((((outs.zip ids).map (fun x => (x.2, x.1))).map (fun x => (Kind.sc, x.1))) ++ R) := by
    refine (hF.agree hA1 (hF.ne_of_known hs.known)).sublist (List.Sublist.append_right ?_ R)
    rw [List.map_map]
    exact (List.map_map ▸ (zip_snd_sublist outs ids).map (Prod.mk Kind.sc) :)
  obtain ⟨h1, h2, h3, h4, h5, h6⟩ := creates_run (hb1 ▸ hc) hI1 ((outs.zip ids).map (fun x => (x.2, x.1))) true hF1
    (by rw [List.map_map]; exact (payOps_run _ _).trans h)
  refine ⟨h1, (hA1.mono ?_).trans (h2.mono ?_), h3, h4.trans hb1, h5.trans hp1, fun W => ?_⟩
  · intro x hx; exact hx ▸ List.mem_cons_self
  · intro x hx
    rw [List.map_map] at hx
    exact List.mem_cons_of_mem _ ((zip_snd_sublist outs ids).subset hx)
  · have e1 := hW1 W
    have e2 := h6 W
    rw [List.map_map, hb1] at e2
    simp only [Function.comp_def, if_true] at e2
    omega

inductive Item1 where
  | scIn (sci : ScIn1) (e : ScElem)
  | sfIn (sfi : SfIn1) (e : SfElem)
  | rev (r : Rev1) (e : Fc1Elem)
  | proof (sp : Proof1) (e : Fc1Elem)
  | op (o : Op)

def Item1.step (t : Txn1) (ms : Mid) : Item1 → VM Mid
  | .scIn sci _ => a1ScIn t ms sci
  | .sfIn sfi _ => a1SfIn t ms sfi
  | .rev r _ => a1Rev t ms r
  | .proof sp _ => a1Proof t ms sp
  | .op o => o.step ms

def Item1.keys : Item1 → List (Kind × Id)
  | .scIn _ e => [(.sc, e.id)]
  | .sfIn _ e => [(.sf, e.id)]
  | .rev _ e => [(.fc1, e.id)]
  | .proof _ e => [(.fc1, e.id)]
  | .op o => o.keys

def Item1.created : Item1 → List (Kind × Id)
  | .sfIn sfi _ => [(.sc, sfi.claimId)]
  | .proof sp _ => sp.created
  | .op o => o.created
  | _ => []

def Item1.tax (L : Ledger) : Item1 → Nat
  | .op o => o.tax L
  | _ => 0

/-- the lookup returns the element the item carries, and that element can be spent, revised, resolved -/
def Item1.Pre (supp : Supp1) (T : Kind → Id → Prop) (ms : Mid) : Item1 → Prop
  | .scIn sci e => ms.scElement supp sci.parent = some e ∧ e.id = sci.parent ∧ SpendableSc T ms e
  | .sfIn sfi e => ms.sfElement supp sfi.parent = some e ∧ e.id = sfi.parent ∧ SpendableSf T ms e
  | .rev r e => ms.fc1Element supp r.parent = some e ∧ e.id = r.parent ∧ LiveFc1 T ms e ∧
      sumVals r.fc.valid = sumVals e.fc.valid ∧ sumVals r.fc.missed = sumVals e.fc.missed
  | .proof sp e => ms.fc1Element supp sp.parent = some e ∧ e.id = sp.parent ∧ LiveFc1 T ms e
  | .op o => o.Pre T ms

def Item1.out (L : Ledger) (p : Cur) (a : Item1) (W : Wt) : Nat :=
  match a with
  | .scIn _ e => W.sc e
  | .sfIn _ e => W.sf e
  | .proof _ e => W.fc * e.fc.val
  | .op o => o.out L p W
  | _ => 0

def Item1.inn (L : Ledger) (p : Cur) (a : Item1) (W : Wt) : Nat :=
  match a with
  | .sfIn sfi e => W.sc ⟨sfi.claimId, claimVal p e.claimStart e.value, sfi.claimAddr, maturityHeight L, none⟩
  | .proof sp e => ((e.fc.valid.zip sp.outIds).map (fun x => W.sc ⟨x.2, x.1.value, x.1.addr, maturityHeight L, none⟩)).sum
  | .op o => o.inn L p W
  | _ => 0

def items1 (t : Txn1) : Items Item1 :=
  ⟨Item1.step t, Item1.keys, Item1.created, Item1.tax, Item1.Pre t.supp, Item1.out, Item1.inn⟩

theorem items1_ok (t : Txn1) : (items1 t).Ok where
  typed {T ms a} h q hq := by
    cases a with
    | op o => exact ops_ok.typed h q hq
    | _ => simp only [items1, Item1.keys, List.mem_singleton] at hq; subst hq; first | exact h.2.2.1 | exact h.2.2.1.1
  agree {T ms ms' a P} h hA hk := by
    cases a with
    | scIn sci e =>
      have hn := hk _ List.mem_cons_self
      exact ⟨(element_agree hA t.supp (h.2.1 ▸ hn)).1.trans h.1, h.2.1, h.2.2.agree hA hn⟩
    | sfIn sfi e =>
      have hn := hk _ List.mem_cons_self
      exact ⟨(element_agree hA t.supp (h.2.1 ▸ hn)).2.1.trans h.1, h.2.1, h.2.2.agree hA hn⟩
    | rev r e =>
      have hn := hk _ List.mem_cons_self
      exact ⟨(element_agree hA t.supp (h.2.1 ▸ hn)).2.2.trans h.1, h.2.1, h.2.2.1.agree hA hn, h.2.2.2⟩
    | proof sp e =>
      have hn := hk _ List.mem_cons_self
      exact ⟨(element_agree hA t.supp (h.2.1 ▸ hn)).2.2.trans h.1, h.2.1, h.2.2.agree hA hn⟩
    | op o => exact ops_ok.agree h hA hk
  known {T ms a} h q hq := by
    cases a with
    | op o => exact ops_ok.known h q hq
    | _ =>
      simp only [items1, Item1.keys, List.mem_singleton] at hq; subst hq
      first | exact h.2.2.known | exact h.2.2.1.known
  spec {T ms ms' a R} hc hI hp hF h := by
    cases a with
    | scIn sci e =>
      have h : Op.step ms (.spendSc e) = .ok ms' := by
        simp only [items1, Item1.step, a1ScIn] at h; rw [hp.1] at h; exact h
      exact ops_ok.spec (a := .spendSc e) hc hI hp.2.2 hF h
    | sfIn sfi e =>
      simp only [items1, Item1.step, a1SfIn] at h
      rw [hp.1] at h
      obtain ⟨c, hcl, h⟩ := bind_ok_iff.1 h
      obtain ⟨hI1, hA1, hF1, hb1, hp1, hW1⟩ := ops_ok.spec (a := .spendSf e) (ms' := ms.spendSf e) hc hI hp.2.2 hF rfl
      obtain ⟨hI2, hA2, hF2, hb2, hp2, hW2⟩ := ops_ok.spec (a := .claim sfi.claimId e sfi.claimAddr) (hb1 ▸ hc) hI1 trivial hF1
        (by show (claimPortion (ms.spendSf e).pool _ _ >>= _) = _; rw [hp1]; exact bind_ok_iff.2 ⟨c, hcl, h⟩)
      refine ⟨hI2, (hA1.mono ?_).trans (hA2.mono ?_), hF2, hb2.trans hb1, hp2.trans hp1, fun W => ?_⟩
      · intro x hx; exact List.mem_cons.2 (.inl (List.mem_singleton.1 hx))
      · intro x hx; exact List.mem_cons.2 (.inr hx)
      · have e1 := hW1 W
        have e2 := hW2 W
        rw [hb1, show (ms.spendSf e).pool = ms.pool from hp1] at e2
        simp only [ops, Op.out, Op.inn, Nat.add_zero] at e1 e2
        show census W ms' + W.sf e = census W ms + _
        simp only [items1, Item1.inn]
        omega
    | rev r e =>
      have h : Op.step ms (.reviseFc1 e r.fc) = .ok ms' := by
        simp only [items1, Item1.step, a1Rev] at h; rw [hp.1] at h; exact h
      exact ops_ok.spec (a := .reviseFc1 e r.fc) hc hI hp.2.2 hF h
    | proof sp e =>
      simp only [items1, Item1.step, a1Proof] at h
      rw [hp.1] at h
      obtain ⟨h1, h2, h3, h4, h5, h6⟩ := resolve_pay hc hI (hp.2.2.resolvable hI) hp.2.2.2.1
        (by simpa only [items1, Item1.created, Proof1.created] using hF) h
      refine ⟨h1, h2.mono (fun x hx => ?_), h3, h4, h5, h6⟩
      simpa [Items.ids, items1, Item1.keys, Item1.created, Proof1.created, List.map_map, Function.comp_def] using hx
    | op o => exact ops_ok.spec hc hI hp hF h

end Sia.Ledger
