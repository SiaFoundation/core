import SiaProofs.Lemmas.LedgerPayout
/-!
# The index invariant of mid-states

`ms.elements` maps an id to the index of its diff.  For every slice of diffs, the diff at index `i`
carries an id that `elements` maps to `i`.  This holds for `newMid` and is preserved by every
operation of the model (even if ids of different kinds collide), and it implies that the ids of the
diffs of one kind are pairwise distinct.
-/
namespace Sia.Ledger

def IdxOK (el : List (Id × Nat)) (ids : List Id) : Prop :=
  ∀ i (h : i < ids.length), el.lookup ids[i] = some i

theorem IdxOK.nodup {el : List (Id × Nat)} {ids : List Id} (h : IdxOK el ids) : ids.Nodup := by
  rw [List.Nodup, List.pairwise_iff_getElem]
  intro i j hi hj hij heq
  have h1 := h i hi
  have h2 := h j hj
  rw [heq, h2] at h1
  cases h1
  omega

theorem lookup_append_some {el : List (Id × Nat)} {k : Id} {v : Nat} (x : List (Id × Nat))
    (h : el.lookup k = some v) : (el ++ x).lookup k = some v := by
  rw [List.lookup_append, h]; rfl

theorem lookup_append_none {el : List (Id × Nat)} {k : Id} (n : Nat) (h : el.lookup k = none) :
    (el ++ [(k, n)]).lookup k = some n := by
  rw [lookup_snoc, h, if_pos rfl]; rfl

theorem idxOK_put_some {δ} (eid : δ → Id) (el : List (Id × Nat)) (l : List δ) (i : Nat) (id : Id) (f : δ → δ)
    (dflt : δ) (h : IdxOK el (l.map eid)) (hl : el.lookup id = some i)
    (hf : eid (f (l.getD i dflt)) = id ∨ eid (f (l.getD i dflt)) = eid (l.getD i dflt)) :
    IdxOK el ((l.set i (f (l.getD i dflt))).map eid) := by
  intro j hj
  simp only [List.length_map, List.length_set] at hj
  simp only [List.getElem_map, List.getElem_set]
  split
  · rename_i hij
    subst hij
    rcases hf with hf | hf
    · rw [hf]; exact hl
    · rw [hf]
      have : l.getD i dflt = l[i] := by simp [List.getD, hj]
      rw [this]
      have := h i (by simpa using hj)
      simpa using this
  · have := h j (by simpa using hj)
    simpa using this

theorem idxOK_put_none {δ} (eid : δ → Id) (el : List (Id × Nat)) (l : List δ) (id : Id) (x : δ)
    (h : IdxOK el (l.map eid)) (hl : el.lookup id = none) (hx : eid x = id) :
    IdxOK (el ++ [(id, l.length)]) ((l ++ [x]).map eid) := by
  intro j hj
  simp only [List.length_map, List.length_append, List.length_cons, List.length_nil] at hj
  simp only [List.getElem_map]
  by_cases hlt : j < l.length
  · rw [List.getElem_append_left hlt]
    have := h j (by simpa using hlt)
    exact lookup_append_some _ (by simpa using this)
  · have hj' : j = l.length := by omega
    subst hj'
    rw [List.getElem_append_right (by omega)]
    simp only [Nat.sub_self, List.getElem_cons_zero, hx]
    exact lookup_append_none _ hl

/-- the index invariant, kind by kind: the `idx` clause of `Struct` (LedgerStruct) without kinds and typing. -/
structure MidJ (ms : Mid) : Prop where
  sc : IdxOK ms.elements (ms.sces.map (·.e.id))
  sf : IdxOK ms.elements (ms.sfes.map (·.e.id))
  fc1 : IdxOK ms.elements (ms.fces.map (·.e.id))
  fc2 : IdxOK ms.elements (ms.v2fces.map (·.e.id))

theorem newMid_J (L : Ledger) : MidJ (newMid L) :=
  { sc := fun _ h => absurd h (Nat.not_lt_zero _), sf := fun _ h => absurd h (Nat.not_lt_zero _),
    fc1 := fun _ h => absurd h (Nat.not_lt_zero _), fc2 := fun _ h => absurd h (Nat.not_lt_zero _) }

theorem put_idx {D} [Inhabited D] (sl : Slice D) (ms : Mid) (id : Id) (f : D → D) (hf : sl.Keeps id f)
    (h : IdxOK ms.elements ((sl.get ms).map sl.idOf)) :
    IdxOK (ms.put sl id f).elements ((sl.get (ms.put sl id f)).map sl.idOf) := by
  rcases put_raw sl ms id f with ⟨i, hl, hs, he⟩ | ⟨hl, hs, he⟩ <;> rw [hs, he]
  · exact idxOK_put_some sl.idOf _ _ i id f default h hl (hf.same _)
  · exact idxOK_put_none sl.idOf _ _ id _ h hl hf.new

theorem put_idx_other {D} [Inhabited D] (sl : Slice D) (ms : Mid) (id : Id) (f : D → D) {ids : List Id}
    (h : IdxOK ms.elements ids) : IdxOK (ms.put sl id f).elements ids :=
  fun i hi => put_lookup_mono sl (h i hi)

theorem MidJ.of_same {ms ms' : Mid} (h : MidJ ms) (e0 : ms'.elements = ms.elements) (e1 : ms'.sces = ms.sces)
    (e2 : ms'.sfes = ms.sfes) (e3 : ms'.fces = ms.fces) (e4 : ms'.v2fces = ms.v2fces) : MidJ ms' :=
  { sc := by rw [e0, e1]; exact h.sc, sf := by rw [e0, e2]; exact h.sf,
    fc1 := by rw [e0, e3]; exact h.fc1, fc2 := by rw [e0, e4]; exact h.fc2 }

theorem puts_J : Mid.Puts MidJ where
  putSc ms id f hf hJ :=
    ⟨put_idx scSlice ms id f hf hJ.sc,
      by rw [putSc_eq, put_sfes _ (by decide)]; exact put_idx_other scSlice ms id f hJ.sf,
      by rw [putSc_eq, put_fces _ (by decide)]; exact put_idx_other scSlice ms id f hJ.fc1,
      by rw [putSc_eq, put_v2fces _ (by decide)]; exact put_idx_other scSlice ms id f hJ.fc2⟩
  putSf ms id f hf hJ :=
    ⟨by rw [putSf_eq, put_sces _ (by decide)]; exact put_idx_other sfSlice ms id f hJ.sc,
      put_idx sfSlice ms id f hf hJ.sf,
      by rw [putSf_eq, put_fces _ (by decide)]; exact put_idx_other sfSlice ms id f hJ.fc1,
      by rw [putSf_eq, put_v2fces _ (by decide)]; exact put_idx_other sfSlice ms id f hJ.fc2⟩
  putFc1 ms id f hf hJ :=
    ⟨by rw [putFc1_eq, put_sces _ (by decide)]; exact put_idx_other fc1Slice ms id f hJ.sc,
      by rw [putFc1_eq, put_sfes _ (by decide)]; exact put_idx_other fc1Slice ms id f hJ.sf,
      put_idx fc1Slice ms id f hf hJ.fc1,
      by rw [putFc1_eq, put_v2fces _ (by decide)]; exact put_idx_other fc1Slice ms id f hJ.fc2⟩
  putFc2 ms id f hf hJ :=
    ⟨by rw [putFc2_eq, put_sces _ (by decide)]; exact put_idx_other fc2Slice ms id f hJ.sc,
      by rw [putFc2_eq, put_sfes _ (by decide)]; exact put_idx_other fc2Slice ms id f hJ.sf,
      by rw [putFc2_eq, put_fces _ (by decide)]; exact put_idx_other fc2Slice ms id f hJ.fc1,
      put_idx fc2Slice ms id f hf hJ.fc2⟩
  spends _ _ h := h.of_same rfl rfl rfl rfl rfl
  pool _ _ h := h.of_same rfl rfl rfl rfl rfl

theorem stable_J : Mid.Stable MidJ := ⟨puts_J.ops, fun _ _ _ _ h => h.of_same rfl rfl rfl rfl rfl⟩

theorem midApplyBlock_J {L : Ledger} {b : Block} {ms : Mid} (h : midApplyBlock (newMid L) b = .ok ms) : MidJ ms :=
  stable_J.midApplyBlock (newMid_J L) h

theorem validateBlock_J {L : Ledger} {b : Block} {pid : Id} {ms : Mid} (h : validateBlock L b pid = .ok ms) : MidJ ms :=
  stable_J.validateBlock (newMid_J L) h

end Sia.Ledger
