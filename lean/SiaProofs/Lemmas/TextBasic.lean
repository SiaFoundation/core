import SiaModel.Text.Ident
/-! Hex and decimal round trips; the splitters and scanners (`splitFirst`, `splitSep`, `takeNum`,
`scanSkip`) on printed text; one altered hex character changes the decoding (`hexDec_set_ne`). -/
namespace Sia.Text

theorem hexDigit_toNat (n : Nat) (h : n < 16) :
    (hexDigit n).toNat = if n < 10 then 48 + n else 87 + n := by
  unfold hexDigit
  split <;> simp [UInt8.toNat_ofNat'] <;> omega

theorem hexVal_hexDigit (n : Nat) (h : n < 16) : hexVal (hexDigit n) = some n := by
  have := hexDigit_toNat n h
  unfold hexVal
  simp only [this]
  split
  · rename_i h10
    simp; omega
  · rename_i h10
    have h1 : ¬ (48 ≤ 87 + n ∧ 87 + n ≤ 57) := by omega
    have h2 : (97 ≤ 87 + n ∧ 87 + n ≤ 102) := by omega
    simp [h1, h2]

theorem byte_split' (b : UInt8) : UInt8.ofNat (b.toNat / 16) * 16 + UInt8.ofNat (b.toNat % 16) = b := by
  have : UInt8.ofNat (b.toNat / 16 * 16 + b.toNat % 16) = b := by
    rw [Nat.div_add_mod']
    exact UInt8.ofNat_toNat
  simpa using this

theorem hexVal_nibbles (b : UInt8) : hexVal (hexDigit (b.toNat / 16)) = some (b.toNat / 16)
    ∧ hexVal (hexDigit (b.toNat % 16)) = some (b.toNat % 16) := by
  have hb := b.toNat_lt
  exact ⟨hexVal_hexDigit _ (by omega), hexVal_hexDigit _ (by omega)⟩

theorem hexDec_append_enc (a : List UInt8) (y : Txt) :
    hexDec (hexEnc a ++ y) = (hexDec y).map (a ++ ·) := by
  induction a with
  | nil => simp [hexEnc]
  | cons b bs ih =>
    simp only [hexEnc, List.cons_append, hexDec, (hexVal_nibbles b).1, (hexVal_nibbles b).2, ih]
    cases hexDec y <;> simp [byte_split']

theorem hexDec_hexEnc (bs : List UInt8) : hexDec (hexEnc bs) = some bs := by
  simpa [hexDec] using hexDec_append_enc bs []

theorem hexEnc_length (bs : List UInt8) : (hexEnc bs).length = 2 * bs.length := by
  induction bs with
  | nil => rfl
  | cons b bs ih => simp [hexEnc, ih]; omega

theorem hexEnc_append (a b : List UInt8) : hexEnc (a ++ b) = hexEnc a ++ hexEnc b := by
  induction a with
  | nil => rfl
  | cons x xs ih => simp [hexEnc, ih]

def valLSD : List Nat → Nat
  | [] => 0
  | d :: ds => d + 10 * valLSD ds

theorem revDigits_spec : ∀ f n, n < f →
    valLSD (revDigits f n) = n ∧ (∀ d ∈ revDigits f n, d < 10) ∧ revDigits f n ≠ [] := by
  intro f
  induction f with
  | zero => intro n h; omega
  | succ f ih =>
    intro n h
    unfold revDigits
    split
    · rename_i h10
      simp [valLSD]; exact h10
    · rename_i h10
      have hlt : n / 10 < f := by omega
      obtain ⟨h1, h2, _⟩ := ih (n / 10) hlt
      refine ⟨?_, ?_, by simp⟩
      · simp [valLSD, h1]; omega
      · intro d hd
        simp at hd
        rcases hd with rfl | hd
        · omega
        · exact h2 d hd

theorem foldr_val (l : List Nat) : l.foldr (fun d a => a * 10 + d) 0 = valLSD l := by
  induction l with
  | nil => rfl
  | cons d ds ih => simp [List.foldr, valLSD, ih]; omega

theorem digitChar_toNat (d : Nat) (h : d < 10) : (digitChar d).toNat = 48 + d := by
  unfold digitChar; simp [UInt8.toNat_ofNat']; omega

theorem isDigit_digitChar (d : Nat) (h : d < 10) : isDigit (digitChar d) = true := by
  simp [isDigit, digitChar_toNat d h]; omega

theorem parseDigits_map (ds : List Nat) (h : ∀ d ∈ ds, d < 10) (acc : Nat) :
    parseDigits (ds.map digitChar) acc = some (ds.foldl (fun a d => a * 10 + d) acc) := by
  induction ds generalizing acc with
  | nil => rfl
  | cons d ds ih =>
    have hd : d < 10 := h d (by simp)
    simp only [List.map, parseDigits, isDigit_digitChar d hd, if_true, List.foldl]
    rw [digitChar_toNat d hd]
    have : 48 + d - 48 = d := by omega
    rw [this]
    exact ih (fun x hx => h x (by simp [hx])) _

theorem natToDec_ne_nil (n : Nat) : natToDec n ≠ [] := by
  have := (revDigits_spec (n + 1) n (by omega)).2.2
  simp [natToDec, this]

theorem natToDec_digits (n : Nat) : ∀ c ∈ natToDec n, isDigit c = true := by
  intro c hc
  obtain ⟨_, h2, _⟩ := revDigits_spec (n + 1) n (by omega)
  simp [natToDec] at hc
  obtain ⟨d, hd, rfl⟩ := hc
  exact isDigit_digitChar d (h2 d hd)

theorem parseDigits_natToDec (n : Nat) : parseDigits (natToDec n) 0 = some n := by
  obtain ⟨h1, h2, _⟩ := revDigits_spec (n + 1) n (by omega)
  unfold natToDec
  rw [parseDigits_map _ (by intro d hd; exact h2 d (by simpa using hd))]
  rw [List.foldl_reverse, foldr_val, h1]

theorem parseUint_natToDec (bits n : Nat) (h : n < 2 ^ bits) : parseUint bits (natToDec n) = some n := by
  simp [parseUint, natToDec_ne_nil, parseDigits_natToDec, h]

theorem parseUint_bound {bits : Nat} {t : Txt} {n : Nat} (h : parseUint bits t = some n) : n < 2 ^ bits := by
  unfold parseUint at h
  split at h
  · simp at h
  · split at h
    · split at h
      · simp at h; omega
      · simp at h
    · simp at h

theorem parseInt64_intToDec (t : Int) (h1 : -(2 ^ 63 : Int) ≤ t) (h2 : t < 2 ^ 63) :
    parseInt64 (intToDec t) = some t := by
  unfold intToDec
  split
  · rename_i hneg
    have hb : t.natAbs < 2 ^ 64 := by omega
    simp only [parseInt64]
    simp [parseUint_natToDec 64 _ hb]
    omega
  · rename_i hpos
    have hb : t.natAbs < 2 ^ 64 := by omega
    have hne := natToDec_ne_nil t.natAbs
    have hd := natToDec_digits t.natAbs
    match hq : natToDec t.natAbs with
    | [] => exact absurd hq hne
    | c :: cs =>
      have hc : isDigit c = true := hd c (by simp [hq])
      have hc' : 48 ≤ c.toNat ∧ c.toNat ≤ 57 := by simpa [isDigit] using hc
      have n43 : (c == 43) = false := by
        simp; intro h; rw [h] at hc'; simp at hc'
      have n45 : (c == 45) = false := by
        simp; intro h; rw [h] at hc'; simp at hc'
      simp only [parseInt64, n43, n45]
      simp
      rw [← hq, parseUint_natToDec 64 _ hb]
      simp
      omega

theorem splitFirst_append (c : UInt8) (a rest : Txt) (h : ∀ x ∈ a, x ≠ c) :
    splitFirst c (a ++ c :: rest) = some (a, rest) := by
  induction a with
  | nil => simp [splitFirst]
  | cons x xs ih =>
    have hx : x ≠ c := h x (by simp)
    have := ih (fun y hy => h y (by simp [hy]))
    simp [splitFirst, hx, this]

theorem splitFirst_some {c : UInt8} {t a b : Txt} (h : splitFirst c t = some (a, b)) :
    t = a ++ c :: b ∧ ∀ x ∈ a, x ≠ c := by
  induction t generalizing a b with
  | nil => simp [splitFirst] at h
  | cons x xs ih =>
    simp only [splitFirst] at h
    split at h
    · rename_i hx
      simp at h; obtain ⟨rfl, rfl⟩ := h
      simp at hx; simp [hx]
    · rename_i hx
      split at h
      · rename_i a' b' hq
        simp at h; obtain ⟨rfl, rfl⟩ := h
        obtain ⟨h1, h2⟩ := ih hq
        refine ⟨by simp [h1], ?_⟩
        intro y hy
        simp at hy
        rcases hy with rfl | hy
        · simpa using hx
        · exact h2 y hy
      · simp at h

theorem stripPrefix_append (p x : Txt) : stripPrefix p (p ++ x) = some x := by
  induction p with
  | nil => simp [stripPrefix]
  | cons a p ih => simp [stripPrefix, ih]

theorem hexDecodeInto_hexEnc (k : List UInt8) : ∀ (room : Nat) (acc : List UInt8), k.length ≤ room →
    hexDecodeInto room (hexEnc k) acc = .ok (acc.reverse ++ k) := by
  induction k with
  | nil => intro room acc _; simp [hexEnc, hexDecodeInto]
  | cons b bs ih =>
    intro room acc h
    match room, h with
    | room + 1, h =>
      simp only [hexEnc, hexDecodeInto, (hexVal_nibbles b).1, (hexVal_nibbles b).2]
      rw [ih room _ (by simpa using h)]
      simp [byte_split']

theorem hexEnc_isHex (bs : List UInt8) : ∀ c ∈ hexEnc bs, isHex c = true := by
  induction bs with
  | nil => simp [hexEnc]
  | cons b bs ih =>
    intro c hc
    simp [hexEnc] at hc
    rcases hc with rfl | rfl | hc
    · simp [isHex, (hexVal_nibbles b).1]
    · simp [isHex, (hexVal_nibbles b).2]
    · exact ih c hc

theorem isHex_range {c : UInt8} (h : isHex c = true) :
    (48 ≤ c.toNat ∧ c.toNat ≤ 57) ∨ (97 ≤ c.toNat ∧ c.toNat ≤ 102) ∨ (65 ≤ c.toNat ∧ c.toNat ≤ 70) := by
  unfold isHex hexVal at h
  simp only at h
  split at h
  · left; assumption
  · split at h
    · right; left; assumption
    · split at h
      · right; right; assumption
      · simp at h

theorem isDigit_range {c : UInt8} (h : isDigit c = true) : 48 ≤ c.toNat ∧ c.toNat ≤ 57 := by
  simpa [isDigit] using h

theorem ne_of_toNat_ne {a b : UInt8} (h : a.toNat ≠ b.toNat) : a ≠ b := by
  intro e; exact h (by rw [e])

theorem digits_ne_colon (n : Nat) : ∀ x ∈ natToDec n, x ≠ 58 := by
  intro x hx
  have := isDigit_range (natToDec_digits n x hx)
  exact ne_of_toNat_ne (by simp; omega)

theorem hex_ne_colon (b : List UInt8) : ∀ x ∈ hexEnc b, x ≠ 58 := by
  intro x hx
  have := isHex_range (hexEnc_isHex b x hx)
  exact ne_of_toNat_ne (by simp; omega)

theorem splitSep_append (a b : Txt) (h : ∀ x ∈ a, x ≠ 58) :
    splitSep (a ++ 58 :: 58 :: b) = some (a, b) := by
  induction a with
  | nil => simp [splitSep]
  | cons x xs ih =>
    have hx : x ≠ 58 := h x (by simp)
    have ih' := ih (fun y hy => h y (by simp [hy]))
    match xs, ih' with
    | [], ih' => simp [splitSep, hx] at ih' ⊢
    | y :: ys, ih' =>
      simp only [List.cons_append] at ih' ⊢
      simp [splitSep, hx, ih']

theorem splitSep_none (t : Txt) (h : ∀ x ∈ t, x ≠ 58) : splitSep t = none := by
  induction t using splitSep.induct with
  | case1 => rfl
  | case2 c => rfl
  | case3 a b rest hab =>
    have : a ≠ 58 := h a (by simp)
    simp at hab; exact absurd hab.1 this
  | case4 a b rest hab x y hq ih =>
    have := ih (fun z hz => h z (by simp at hz ⊢; right; exact hz))
    rw [hq] at this; simp at this
  | case5 a b rest hab hq ih =>
    have ha : a ≠ 58 := h a (by simp)
    simp [splitSep, ha, hq]

theorem takeNum_append (ds rest : Txt) (hd : ∀ c ∈ ds, isDigit c = true)
    (hr : rest = [] ∨ ∃ c r, rest = c :: r ∧ isDigit c = false) : takeNum (ds ++ rest) = (ds, rest) := by
  induction ds with
  | nil =>
    rcases hr with rfl | ⟨c, r, rfl, hc⟩
    · rfl
    · simp [takeNum, hc]
  | cons d ds ih =>
    have h1 : isDigit d = true := hd d (by simp)
    have := ih (fun c hc => hd c (by simp [hc]))
    simp [takeNum, h1, this]

theorem scanSkip_digit (c : UInt8) (cs : Txt) (h : isDigit c = true) : scanSkip (c :: cs) = some (c :: cs) := by
  have := isDigit_range h
  have h10 : (c == 10) = false := by
    simp; intro e; rw [e] at this; simp at this
  have hs : isSpace c = false := by
    simp [isSpace]
    constructor
    · intro e; rw [e] at this; simp at this
    · omega
  simp [scanSkip, h10, hs]

theorem hexVal_lt {c : UInt8} {v : Nat} (h : hexVal c = some v) : v < 16 := by
  unfold hexVal at h
  simp only at h
  split at h
  · simp at h; omega
  · split at h
    · simp at h; omega
    · split at h
      · simp at h; omega
      · simp at h

theorem hexDec_vals {t : Txt} {bs : List UInt8} (h : hexDec t = some bs) : t.map hexVal = (hexEnc bs).map hexVal := by
  induction t using hexDec.induct generalizing bs with
  | case1 => cases h; rfl
  | case2 c => cases h
  | case3 hc lc rest a b ha hb out hrest ih =>
    simp only [hexDec, ha, hb, hrest, Option.some.injEq] at h
    subst h
    have la := hexVal_lt ha
    have lb := hexVal_lt hb
    have e : (UInt8.ofNat (a * 16 + b)).toNat = a * 16 + b := by simp [UInt8.toNat_ofNat']; omega
    have n := hexVal_nibbles (UInt8.ofNat (a * 16 + b))
    rw [e] at n
    simp only [hexEnc, List.map_cons, ha, hb, n.1, n.2, ih hrest, e]
    congr <;> omega
  | case4 hc lc rest a b ha hb hrest ih => simp [hexDec, ha, hb, hrest] at h
  | case5 hc lc rest hno => simp [hexDec] at h

theorem hexDec_some {t : Txt} {bs : List UInt8} (h : hexDec t = some bs) :
    t.length = 2 * bs.length ∧ ∀ c ∈ t, isHex c = true := by
  have hv := hexDec_vals h
  refine ⟨by simpa [hexEnc_length] using congrArg List.length hv, fun c hc => ?_⟩
  obtain ⟨c', hc', e⟩ := List.mem_map.1 (hv ▸ List.mem_map_of_mem (f := hexVal) hc)
  have := hexEnc_isHex bs c' hc'
  rwa [isHex, e] at this

theorem hexDec_set_ne (u : Txt) (x : List UInt8) (hu : hexDec u = some x) (j : Nat) (old c' : UInt8)
    (hj : u[j]? = some old) (hne : hexVal c' ≠ hexVal old) : hexDec (u.set j c') ≠ some x := by
  intro h
  have e := (hexDec_vals h).trans (hexDec_vals hu).symm
  rw [List.map_set] at e
  have := congrArg (·[j]?) e
  simp only [List.getElem?_map, hj, Option.map_some] at this
  have hlt : j < (u.map hexVal).length := by
    rw [List.length_map]; exact (List.getElem?_eq_some_iff.1 hj).1
  rw [List.getElem?_set_self hlt] at this
  exact hne (Option.some.inj this)

end Sia.Text
