import SiaProofs.Props.C15
import SiaProofs.Lemmas.GoLoops
import SiaModel.Gen.CodeRhp4
import SiaModel.Ledger.ContractRules
/-!
What the C17 proofs need beside the `Checked` rules and the value readings of `Cmp`, `IsZero`, `Equals` in `Props/C15`:
the rollover selection as a minimum, the `uint64` arithmetic of filesize and capacity over a variable modulus, and the
sums of `validateRenewal` as a lemma about natural-number variables.
-/
namespace C17
open Gen.Types C15

/-- `if a.Cmp b > 0 then b else a`, the rollover selection of the renewal constructors, is the smaller of
the two: with the operands denoting `x` and `y` it denotes `min x y`.  Which of the two it is comes as an equation
between currencies, which `omega` does not look at. -/
theorem cmp_gt_min {a b : Currency} {x y : Nat} (ha : Is a x) (hb : Is b y) :
    ∃ m, (if decide (a.Cmp b > 0) then b else a) = m ∧ Is m (min x y) ∧ m = if val b < val a then b else a := by
  obtain ⟨wa, rfl⟩ := ha
  obtain ⟨wb, rfl⟩ := hb
  by_cases h : val b < val a
  · have := (cmp_gt wa wb).mpr h
    exact ⟨b, by simp only [this, decide_true, if_true], ⟨wb, (Nat.min_eq_right (Nat.le_of_lt h)).symm⟩, (if_pos h).symm⟩
  · have := mt (cmp_gt wa wb).mp h
    exact ⟨a, by simp only [this, decide_false, Bool.false_eq_true, if_false],
      ⟨wa, (Nat.min_eq_left (Nat.not_lt.mp h)).symm⟩, (if_neg h).symm⟩

/-- `(a + b % B) % B`, the translation of `a + b` with `b` itself a wrapped product, is the true sum when it fits. -/
theorem wadd_eq {B a b : Nat} (h : a + b < B) : (a + b % B) % B = a + b := by
  rw [Nat.add_mod_mod, Nat.mod_eq_of_lt h]

/-- Capacity growth of `ReviseForAppendSectors`, with sector size `s`: of `n` appended sectors, those that do
not fit into the free capacity `cap - fs` are added to the capacity, so the new filesize fits with less
than a sector to spare. -/
theorem growth_spec {s cap fs n : Nat} (hs : 0 < s) :
    n - min n ((cap - fs) / s) ≤ n ∧
    (fs ≤ cap → fs + s * n ≤ cap + s * (n - min n ((cap - fs) / s))) ∧
    (fs + s * n ≤ cap → n - min n ((cap - fs) / s) = 0) ∧
    (cap < fs + s * n → cap + s * (n - min n ((cap - fs) / s)) < fs + s * n + s) := by
  generalize hk : (cap - fs) / s = k
  have lo : s * k ≤ cap - fs := by rw [← hk]; exact Nat.mul_div_le _ _
  have hi : cap - fs < s * k + s := by rw [← hk]; exact Nat.lt_mul_div_succ _ hs
  by_cases h : n ≤ k
  · have : s * n ≤ s * k := Nat.mul_le_mul_left s h
    rw [Nat.min_eq_left h, Nat.sub_self, Nat.mul_zero]
    omega
  · have e : s * n = s * k + s * (n - k) := by rw [← Nat.mul_add]; congr 1; omega
    have : s * k + s ≤ s * n := Nat.mul_le_mul_left s (Nat.lt_of_not_le h)
    rw [Nat.min_eq_right (by omega)]
    omega

/-- The sums `validateRenewal` forms (final outputs and rollovers against the old contract, rollovers against
the new contract and its tax) all fit below `M` when the old total and the new total with tax do. -/
theorem renewal_sums {fr rr fh hr R H nR nH tx M : Nat} (sr : fr + rr = R) (sh : fh + hr = H)
    (rl : rr + hr ≤ nR + nH) (fo : R + H < M) (fn : nR + nH + tx < M) :
    fr + rr < M ∧ fr + rr + fh < M ∧ fr + rr + fh + hr < M ∧ fr + rr + fh + hr = R + H ∧
    nR + nH < M ∧ rr + hr < M ∧ rr + hr ≤ nR + nH + tx := by
  omega

end C17
