/-
  SiaProofs.Lemmas.Revert — `revertBlock` / `elementRevertUpdate.updateElementProof`
  (consensus/merkle.go:448, 514) against the naive forest.
-/
import SiaProofs.Lemmas.ApplyBlock
namespace Sia.ElemAcc

section
variable {H : Type} [Hasher H] [Inhabited H]

/-- `elementRevertUpdate.updateElementProof` on the child's path of a leaf `j` of the parent:
    truncation to the height of its tree in the parent, then `updateProof` inside that tree -/
theorem RevertUpdate.updateElementProof_spec (ru : RevertUpdate H) {ls ls1 ext : List H} {j : Nat}
    (hnum : ru.numLeaves = ls.length) (hsz : ls.length ≤ unassignedLeafIndex) (hlen1 : ls1.length = ls.length)
    (hj : j < ls.length)
    (hgok : GroupOK ls1 ls (treeHeight ls.length j) (j / 2 ^ treeHeight ls.length j) (ru.updated (treeHeight ls.length j))) :
    ru.updateElementProof j (path (ls1 ++ ext) j) = .ok (path ls j) := by
  have hj1 : j < ls1.length := by omega
  have hup := updateProof_spec ls1 ls _ _ ru.updated hgok j rfl
  have htake := path_append_take ls1 ext hj1
  have hmono := treeHeight_mono hj1 (show ls1.length ≤ (ls1 ++ ext).length by simp)
  have hplen := path_length (ls1 ++ ext) j
  have hmh := mergeHeight_eq hj
  rw [hlen1] at htake hmono
  have hfin : (if treeHeight ls.length j + 1 ≤ treeHeight (ls1 ++ ext).length j
      then (path (ls1 ++ ext) j).take (treeHeight ls.length j + 1 - 1) else path (ls1 ++ ext) j) =
      sibs ls1 j 0 (treeHeight ls.length j) := by
    rw [← hlen1, ← path_eq_sibs ls1 hj1, hlen1, ← htake, Nat.add_sub_cancel]
    split
    · rfl
    · rw [List.take_of_length_le (by rw [hplen]; omega)]
  simp only [RevertUpdate.updateElementProof, hnum]
  rw [if_neg (by unfold unassignedLeafIndex at *; omega), if_neg (by omega), hmh, hplen]
  simp only [hfin, hup]
  rw [path_eq_sibs ls hj]

/-- **revertBlock against the naive forest.** `ls` is the parent's leaf list, `ls1 ++ ext`
    the child's (`ls1` = `ls` with the block's rewrites, `ext` whatever the child appended: `added` is only
    renumbered by `revertBlock` and the returned update does not depend on it, so the two are not related here);
    `updated` are the block's elements in their parent form with their parent proofs.
    Every holder of a child proof of an element that exists in the parent obtains the
    parent's naive path. -/
theorem revertBlock_spec (acc : Acc H) (ls : List H) (hnum : acc.numLeaves = ls.length)
    (updated : List (Leaf H)) (ok : UpdOK ls updated)
    (hhash : ∀ l ∈ updated, ls.getD l.index default = l.hash)
    (added : List (Leaf H))
    (ls1 ext : List H) (hlen1 : ls1.length = ls.length)
    (hsame : ∀ q, (∀ l ∈ updated, l.index ≠ q) → ls1.getD q default = ls.getD q default)
    (hsz : ls.length ≤ unassignedLeafIndex) :
    ∃ ru added', acc.revertBlock updated added = .ok (ru, added') ∧
      ∀ j, j < ls.length → ru.updateElementProof j (path (ls1 ++ ext) j) = .ok (path ls j) := by
  have hult : unassignedLeafIndex < 2 ^ 64 := by unfold unassignedLeafIndex; omega
  have hn : ls.length < 2 ^ 64 := by omega
  obtain ⟨upd, hupd, hspec⟩ := updateLeaves_spec ls updated ok hn
  have hself : writeLeaves ls updated = ls := writeLeaves_self updated ls ok.lt hhash
  rw [hself] at hspec
  have hwp : ∀ l ∈ updated, withPath ls l = l := by
    intro l hl
    have := ok.proof l hl
    cases l with
    | mk e s i p => simp only [withPath] at this ⊢; rw [← this]
  have hmem : ∀ h l', l' ∈ upd h ↔ l' ∈ updated ∧ l'.proof.length = h := by
    intro h l'
    rw [hspec]
    constructor
    · rintro ⟨l, hl, hlh, rfl⟩; rw [hwp l hl]; exact ⟨hl, hlh⟩
    · rintro ⟨hl, hlh⟩; exact ⟨l', hl, hlh, (hwp l' hl).symm⟩
  refine ⟨{ updated := upd, numLeaves := acc.numLeaves },
    added.mapIdx fun i l => { l with index := acc.numLeaves + i }, ?_, ?_⟩
  · simp only [Acc.revertBlock, hupd, bind, Except.bind, pure, Except.pure]
  · intro j hj
    have hin := treeHeight_spec hj
    refine RevertUpdate.updateElementProof_spec _ hnum hsz hlen1 hj ⟨?_, ?_, ?_, ?_⟩
    · intro u hu
      obtain ⟨hu1, hu2⟩ := (hmem _ u).1 hu
      exact hin.col_iff.1 (hu2 ▸ ok.inTree hu1)
    · intro u hu
      obtain ⟨hu1, hu2⟩ := (hmem _ u).1 hu
      exact ⟨[], by rw [List.append_nil, ← hu2]; exact (ok.proof u hu1).trans (ok.path_eq_sibs hu1 rfl)⟩
    · exact fun u hu => hhash u ((hmem _ u).1 hu).1
    · intro q hq h3
      exact (hsame q fun u hu hqu =>
        h3 u ((hmem _ u).2 ⟨hu, ok.length_eq hu (hqu ▸ hin.col_iff.2 hq)⟩) hqu).symm

end
end Sia.ElemAcc
