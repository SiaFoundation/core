import SiaProofs.Lemmas.MerkleRhpLeaf
/-!
  C16: `BuildProof`'s recursive halving emits the same hashes as the
  left-to-right walk of `BuildSectorRangeProof`.
-/
set_option linter.unusedSectionVars false
namespace Sia.Rhp
open HashOps

variable {H : Type} [HashOps H]

theorem buildRange_single (ls : List H) {f i : Nat} (hal : 2 ^ f ∣ i) (hn : i + 2 ^ f ≤ ls.length) :
    buildRange ls i (i + 2 ^ f) = [metaRoot ((ls.drop i).take (2 ^ f))] := by
  have hp := Nat.two_pow_pos f
  rw [buildRange_cons ls i (i + 2 ^ f) ⟨by omega, by omega⟩, nss_block_start hal,
    buildRange_done ls (i + 2 ^ f) (i + 2 ^ f) (by omega)]

/-- below the midpoint of the aligned block `[i, i + 2^(f+1))` a step is the same whether the walk
ends at the midpoint or anywhere beyond it; only the whole block is a single step from `i` -/
theorem nss_below_mid {f i y j : Nat} (hal : 2 ^ (f + 1) ∣ i) (hy : i ≤ y) (hym : y < i + 2 ^ f)
    (hmj : i + 2 ^ f ≤ j) (hne : y = i → j < i + 2 ^ (f + 1)) :
    nextSubtreeSize y j = nextSubtreeSize y (i + 2 ^ f) := by
  have half : 2 ^ f ∣ i := Nat.dvd_trans (Nat.pow_dvd_pow 2 (Nat.le_succ f)) hal
  by_cases hyi : y = i
  · subst hyi
    obtain ⟨b, rfl⟩ : ∃ b, j = y + b := ⟨j - y, by omega⟩
    rw [nss_block_start half]
    by_cases hjm : b = 2 ^ f
    · rw [hjm, nss_block_start half]
    · exact nss_block_lower hal (by omega) (by have := hne rfl; omega)
  · have hfit := block_step half (by omega) hym
    rw [nss_of_fits (by omega) (by omega), nss_of_fits (by omega) hfit]

/-- a walk can be cut at any point it is guaranteed to stop at -/
theorem buildRange_split (ls : List H) (m j : Nat) (hmj : m ≤ j) (hm : m ≤ ls.length) (x : Nat) (hxm : x ≤ m)
    (hsame : ∀ y, x ≤ y → y < m → nextSubtreeSize y j = nextSubtreeSize y m) :
    buildRange ls x j = buildRange ls x m ++ buildRange ls m j := by
  induction x using walk_induction m with
  | step x ih =>
    by_cases hlt : x < m
    · obtain ⟨k, hk, hdvd, hle⟩ := nss_spec hlt
      have hp := Nat.two_pow_pos k
      rw [buildRange_cons ls x j ⟨by omega, by omega⟩, buildRange_cons ls x m ⟨hlt, by omega⟩,
        hsame x (Nat.le_refl x) hlt, hk, List.cons_append,
        ih hlt (x + 2 ^ k) (by omega) hle (fun y hy => hsame y (by omega))]
    · have : x = m := by omega
      subst this
      rw [buildRange_done ls x x (by omega), List.nil_append]

theorem buildRange_bound_pow2 (ls : List H) (k : Nat) (hlen : ls.length = 2 ^ k) (J : Nat)
    (hJ : 2 * (ls.length - 1) ≤ J) (x : Nat) (hx0 : 0 < x) :
    buildRange ls x J = buildRange ls x ls.length := by
  by_cases hx : x < ls.length
  · rw [buildRange_split ls ls.length J (by omega) (Nat.le_refl _) x (Nat.le_of_lt hx) (fun y hy hlt => ?_),
      buildRange_done ls ls.length J (by omega), List.append_nil]
    rw [nss_big (by omega) (by omega), hlen, nss_pow2 (by omega) (by rw [← hlen]; exact hlt)]
  · rw [buildRange_done ls x J (by omega), buildRange_done ls x ls.length (by omega)]

theorem buildProofRec_unfold (ls : List H) (s e fuel i j : Nat) :
    buildProofRec ls s e fuel i j =
      if i ≥ s ∧ j ≤ e then []
      else if j ≤ s ∨ i ≥ e then [metaRoot ((ls.drop i).take (j - i))]
      else match fuel with
        | 0 => []
        | f + 1 => buildProofRec ls s e f i ((i + j) / 2) ++ buildProofRec ls s e f ((i + j) / 2) j := by
  cases fuel <;> rw [buildProofRec]

/-- an aligned block that neither end of the range cuts: nothing if it lies inside the range, its
root if outside -/
theorem buildProofRec_uncut (ls : List H) {s e f i : Nat} (hse : s < e) (hal : 2 ^ f ∣ i)
    (hn : i + 2 ^ f ≤ ls.length) (h : (s ≤ i ∧ i + 2 ^ f ≤ e) ∨ i + 2 ^ f ≤ s ∨ e ≤ i) :
    buildProofRec ls s e f i (i + 2 ^ f) =
      buildRange ls i (min s (i + 2 ^ f)) ++ buildRange ls (max e i) (i + 2 ^ f) := by
  have hp := Nat.two_pow_pos f
  rw [buildProofRec_unfold]
  rcases h with hA | hl | hr
  · rw [if_pos hA, buildRange_done ls i _ (by omega), buildRange_done ls (max e i) _ (by omega)]; rfl
  · rw [if_neg (by omega), if_pos (Or.inl hl), Nat.add_sub_cancel_left, Nat.min_eq_right hl,
      buildRange_single ls hal hn, buildRange_done ls (max e i) _ (by omega)]; rfl
  · rw [if_neg (by omega), if_pos (Or.inr hr), Nat.add_sub_cancel_left, Nat.max_eq_right hr,
      buildRange_single ls hal hn, buildRange_done ls i _ (by omega)]; rfl

theorem buildProofRec_eq (ls : List H) (s e : Nat) (hse : s < e) :
    ∀ (f i : Nat), 2 ^ f ∣ i → i + 2 ^ f ≤ ls.length →
      buildProofRec ls s e f i (i + 2 ^ f) =
        buildRange ls i (min s (i + 2 ^ f)) ++ buildRange ls (max e i) (i + 2 ^ f) := by
  intro f
  induction f with
  | zero =>
    intro i hal hn
    exact buildProofRec_uncut ls hse hal hn (by simp only [Nat.pow_zero]; omega)
  | succ f ih =>
    intro i hal hn
    by_cases hu : (s ≤ i ∧ i + 2 ^ (f + 1) ≤ e) ∨ i + 2 ^ (f + 1) ≤ s ∨ e ≤ i
    · exact buildProofRec_uncut ls hse hal hn hu
    · -- the block is cut: both halves by induction, then the walks are glued at the midpoint
      have hp := Nat.two_pow_pos f
      have h2 : i + 2 ^ (f + 1) = i + 2 ^ f + 2 ^ f := by rw [Nat.pow_succ']; omega
      have half : 2 ^ f ∣ i := Nat.dvd_trans (Nat.pow_dvd_pow 2 (Nat.le_succ f)) hal
      have emid : (i + (i + 2 ^ (f + 1))) / 2 = i + 2 ^ f := by omega
      obtain ⟨hA, hs, he⟩ : ¬ (s ≤ i ∧ i + 2 ^ (f + 1) ≤ e) ∧ s < i + 2 ^ f + 2 ^ f ∧ i < e := by omega
      rw [buildProofRec_unfold, if_neg hA, if_neg (by omega)]
      simp only [emid]
      rw [h2] at hn ⊢
      clear hu hA emid
      rw [ih i half (by omega), ih (i + 2 ^ f) (Nat.dvd_add half (Nat.dvd_refl _)) hn,
        Nat.min_eq_left (Nat.le_of_lt hs), Nat.max_eq_left (Nat.le_of_lt he)]
      by_cases hsm : s ≤ i + 2 ^ f
      · rw [Nat.min_eq_left hsm, buildRange_done ls (i + 2 ^ f) s (by omega), List.nil_append,
          List.append_assoc]
        congr 1
        by_cases hem : e < i + 2 ^ f
        · rw [Nat.max_eq_right (Nat.le_of_lt hem)]
          exact (buildRange_split ls _ _ (by omega) (by omega) e (Nat.le_of_lt hem)
            (fun y hy hym => nss_below_mid hal (by omega) hym (by omega) (by omega))).symm
        · rw [Nat.max_eq_left (by omega), buildRange_done ls e (i + 2 ^ f) (by omega)]; rfl
      · rw [Nat.min_eq_right (by omega), Nat.max_eq_left (by omega : i + 2 ^ f ≤ e),
          buildRange_done ls e (i + 2 ^ f) (by omega), List.append_nil, ← List.append_assoc]
        congr 1
        exact (buildRange_split ls _ s (by omega) (by omega) i (by omega)
          (fun y hy hym => nss_below_mid hal hy hym (by omega) (fun _ => by omega))).symm

end Sia.Rhp
