/-
  `Complete` on a fresh outline (gateway/outline.go), under collision-free transaction hashes (`EnvOK`): the pool
  lookup finds exactly the transaction asked for, so `complete_spec` can say which transactions come back and which
  hashes are reported missing, in block order.
-/
import SiaModel.Gateway.Outline
namespace Sia.Outline

section
variable {Tx1 Tx2 H Addr : Type} [DecidableEq H] (env : Env Tx1 Tx2 H Addr)

/-- collision freedom of the transaction leaf hashes, in symbolic form (a hypothesis):
    `hashAll(leafHashPrefix, txn)` is injective on v1 and on v2 transactions and never
    coincides across the two kinds -/
structure EnvOK : Prop where
  inj1 : ∀ a b : Tx1, env.leaf1 a = env.leaf1 b → a = b
  inj2 : ∀ a b : Tx2, env.leaf2 a = env.leaf2 b → a = b
  disj : ∀ (a : Tx1) (b : Tx2), env.leaf1 a ≠ env.leaf2 b

theorem lookupLast_none {T : Type} (hashOf : T → H) (pool : List T) (h : H)
    (hn : ∀ t ∈ pool, hashOf t ≠ h) : lookupLast hashOf pool h = none :=
  List.find?_eq_none.2 fun t ht => by simpa using hn t (List.mem_reverse.1 ht)

theorem lookupLast_self {T : Type} (hashOf : T → H) (hinj : ∀ a b, hashOf a = hashOf b → a = b) (pool : List T) (t : T) :
    lookupLast hashOf pool (hashOf t) = if hashOf t ∈ pool.map hashOf then some t else none := by
  split
  · rename_i hm
    obtain ⟨t0, ht0, e⟩ := List.mem_map.1 hm
    cases hinj _ _ e
    unfold lookupLast
    cases hf : pool.reverse.find? (fun t' => hashOf t' = hashOf t) with
    | none => have := List.find?_eq_none.1 hf t (List.mem_reverse.2 ht0); simp at this
    | some t' =>
      have := List.find?_some hf
      rw [hinj t' t (of_decide_eq_true this)]
  · rename_i hm
    exact lookupLast_none _ _ _ fun t' ht' e => hm (List.mem_map.2 ⟨t', ht', e⟩)

/-- a v1 transaction of the block is available after completion: it was not omitted, or
    the pool has it -/
def present1 (om1 : List Tx1) (om2 : List Tx2) (pool1 : List Tx1) (t : Tx1) : Bool :=
  !(decide (env.leaf1 t ∈ om1.map env.leaf1 ++ om2.map env.leaf2)) || decide (env.leaf1 t ∈ pool1.map env.leaf1)

def present2 (om1 : List Tx1) (om2 : List Tx2) (pool2 : List Tx2) (t : Tx2) : Bool :=
  !(decide (env.leaf2 t ∈ om1.map env.leaf1 ++ om2.map env.leaf2)) || decide (env.leaf2 t ∈ pool2.map env.leaf2)

/-- the outline entry of a v1 block transaction after OutlineBlock and the fill step of Complete -/
theorem fill1 (ok : EnvOK env) (om1 : List Tx1) (om2 : List Tx2) (pool1 : List Tx1) (pool2 : List Tx2) (t : Tx1) :
    fillOne env pool1 pool2
      (if env.leaf1 t ∈ om1.map env.leaf1 ++ om2.map env.leaf2 then ⟨env.leaf1 t, none, none⟩ else ⟨env.leaf1 t, some t, none⟩) =
    ⟨env.leaf1 t, if present1 env om1 om2 pool1 t then some t else none, none⟩ := by
  unfold present1
  by_cases hr : env.leaf1 t ∈ om1.map env.leaf1 ++ om2.map env.leaf2
  · simp [hr, fillOne, lookupLast_self env.leaf1 ok.inj1,
      lookupLast_none env.leaf2 pool2 (env.leaf1 t) fun t' _ e => ok.disj t t' e.symm]
  · simp [hr, fillOne]

theorem fill2 (ok : EnvOK env) (om1 : List Tx1) (om2 : List Tx2) (pool1 : List Tx1) (pool2 : List Tx2) (t : Tx2) :
    fillOne env pool1 pool2
      (if env.leaf2 t ∈ om1.map env.leaf1 ++ om2.map env.leaf2 then ⟨env.leaf2 t, none, none⟩ else ⟨env.leaf2 t, none, some t⟩) =
    ⟨env.leaf2 t, none, if present2 env om1 om2 pool2 t then some t else none⟩ := by
  unfold present2
  by_cases hr : env.leaf2 t ∈ om1.map env.leaf1 ++ om2.map env.leaf2
  · simp [hr, fillOne, lookupLast_self env.leaf2 ok.inj2,
      lookupLast_none env.leaf1 pool1 (env.leaf2 t) fun t' _ e => ok.disj t' t e]
  · simp [hr, fillOne]

theorem filled_eq (ok : EnvOK env) (b : Block Tx1 Tx2 H Addr) (om1 : List Tx1) (om2 : List Tx2) (pool1 : List Tx1) (pool2 : List Tx2) :
    (outlineBlock env b om1 om2).transactions.map (fillOne env pool1 pool2) =
      b.txns.map (fun t => ⟨env.leaf1 t, if present1 env om1 om2 pool1 t then some t else none, none⟩) ++
      b.v2txns.map (fun t => ⟨env.leaf2 t, none, if present2 env om1 om2 pool2 t then some t else none⟩) := by
  simp only [outlineBlock, BlockOutline.removeTransactions, List.map_append, List.map_map]
  congr 1
  · refine List.map_congr_left fun t _ => (congrArg (fillOne env pool1 pool2) ?_).trans (fill1 env ok om1 om2 pool1 pool2 t)
    simp only [Function.comp]
  · refine List.map_congr_left fun t _ => (congrArg (fillOne env pool1 pool2) ?_).trans (fill2 env ok om1 om2 pool1 pool2 t)
    simp only [Function.comp]

/-- **What Complete returns on a fresh outline**: the block's transactions that were not
    omitted or are in the pool, in block order; and as missing exactly the hashes of the
    others, in block order. -/
theorem complete_spec (ok : EnvOK env) (b : Block Tx1 Tx2 H Addr) (om1 : List Tx1) (om2 : List Tx2)
    (pool1 : List Tx1) (pool2 : List Tx2) :
    ((outlineBlock env b om1 om2).complete env pool1 pool2).2.1 =
      (b.txns.filter (fun t => !present1 env om1 om2 pool1 t)).map env.leaf1 ++
      (b.v2txns.filter (fun t => !present2 env om1 om2 pool2 t)).map env.leaf2 ∧
    ((outlineBlock env b om1 om2).complete env pool1 pool2).1.txns = b.txns.filter (present1 env om1 om2 pool1) ∧
    ((outlineBlock env b om1 om2).complete env pool1 pool2).1.v2txns = b.v2txns.filter (present2 env om1 om2 pool2) := by
  simp only [BlockOutline.complete, BlockOutline.missing, filled_eq env ok, List.filterMap_append, List.filterMap_map,
    List.filter_append, List.filter_map, List.map_append, List.map_map]
  -- what `Complete` reads off a v1 entry `⟨_, if p then some t else none, none⟩` …
  have v1 : ∀ (p : Bool) (h : H) (t : Tx1), let e : OTx Tx1 Tx2 H := ⟨h, if p then some t else none, none⟩
      (if e.txn.isNone then e.v2txn else none) = none ∧ (e.txn.isNone && e.v2txn.isNone) = !p := by
    intro p h t; cases p <;> exact ⟨rfl, rfl⟩
  -- … and off a v2 entry `⟨_, none, if p then some t else none⟩`
  have v2 : ∀ (p : Bool) (h : H) (t : Tx2), let e : OTx Tx1 Tx2 H := ⟨h, none, if p then some t else none⟩
      (e.txn.isNone && e.v2txn.isNone) = !p := by
    intro p h t; cases p <;> rfl
  refine ⟨?_, ?_, ?_⟩
  · congr 2
    · exact List.filter_congr fun t _ => (v1 _ _ t).2
    · exact List.filter_congr fun t _ => v2 _ _ t
  · rw [← List.append_nil (b.txns.filter _)]
    congr 1
    · exact congrFun List.filterMap_eq_filter _
    · exact List.filterMap_eq_nil_iff.2 fun t _ => rfl
  · rw [← List.nil_append (b.v2txns.filter _)]
    congr 1
    · exact List.filterMap_eq_nil_iff.2 fun t _ => (v1 _ _ t).1
    · exact congrFun List.filterMap_eq_filter _

theorem outline_hashes (b : Block Tx1 Tx2 H Addr) (om1 : List Tx1) (om2 : List Tx2) :
    (outlineBlock env b om1 om2).transactions.map (·.hash) = b.txns.map env.leaf1 ++ b.v2txns.map env.leaf2 := by
  simp only [outlineBlock, BlockOutline.removeTransactions, List.map_append, List.map_map]
  congr 1 <;> (apply List.map_congr_left; intro t _; simp only [Function.comp]; split <;> rfl)

end
end Sia.Outline
