import SiaProofs.Lemmas.MerkleRhpBits
/-!
  C16: the range-proof builder and verifier walk the same subtrees (completeness of range proofs).
-/
set_option linter.unusedSectionVars false
namespace Sia.Rhp
open HashOps

variable {H : Type} [HashOps H]

theorem buildRange_done (ls : List H) (i j : Nat) (h : ¬ (i < j ∧ i < ls.length)) :
    buildRange ls i j = [] := by
  rw [buildRange]; simp [h]

/-- one step of the builder. The model clips the last subtree to the end of the list; stated
without that distinction, since beyond the end `take` clips by itself and the walk has stopped -/
theorem buildRange_cons (ls : List H) (i j : Nat) (h : i < j ∧ i < ls.length) :
    buildRange ls i j = metaRoot ((ls.drop i).take (nextSubtreeSize i j))
      :: buildRange ls (i + nextSubtreeSize i j) j := by
  rw [buildRange, dif_pos h]
  by_cases hc : i + nextSubtreeSize i j > ls.length
  · simp only [if_pos hc]
    rw [buildRange_done ls (i + (ls.length - i)) j (by omega),
      buildRange_done ls (i + nextSubtreeSize i j) j (by omega),
      List.take_of_length_le (l := ls.drop i) (i := ls.length - i) (Nat.le_of_eq List.length_drop),
      List.take_of_length_le (l := ls.drop i) (by rw [List.length_drop]; omega)]
  · simp only [if_neg hc]

theorem rangeSubtreeRoots_done (l : List H) (i j : Nat) (h : ¬ i < j) : rangeSubtreeRoots l i j = [] := by
  rw [rangeSubtreeRoots]; simp [h]

theorem rangeSubtreeRoots_step (l : List H) (i j : Nat) (h : i < j) :
    rangeSubtreeRoots l i j = metaRoot (l.take (nextSubtreeSize i j))
      :: rangeSubtreeRoots (l.drop (nextSubtreeSize i j)) (i + nextSubtreeSize i j) j := by
  rw [rangeSubtreeRoots]; simp [h]

theorem rangeSubtreeRoots_eq_buildRange (ls : List H) (e : Nat) (he : e ≤ ls.length) (i : Nat) :
    rangeSubtreeRoots ((ls.drop i).take (e - i)) i e = buildRange ls i e := by
  induction i using walk_induction e with
  | step i ih =>
    by_cases hlt : i < e
    · obtain ⟨k, hk, hdvd, hle⟩ := nss_spec hlt
      have hp := Nat.two_pow_pos k
      rw [rangeSubtreeRoots_step _ i e hlt, buildRange_cons ls i e ⟨hlt, by omega⟩, hk,
        List.take_take, Nat.min_eq_left (by omega), List.drop_take, List.drop_drop,
        show e - i - 2 ^ k = e - (i + 2 ^ k) by omega, ih hlt (i + 2 ^ k) (by omega)]
    · rw [rangeSubtreeRoots_done _ i e hlt, buildRange_done ls i e (by omega)]

theorem seg_eq_of_agree (l l' : List H) (a b : Nat)
    (hag : ∀ j, a ≤ j → j < b → l'[j]? = l[j]?) :
    (l.drop a).take (b - a) = (l'.drop a).take (b - a) := by
  apply List.ext_getElem?
  intro i
  simp only [List.getElem?_take, List.getElem?_drop]
  by_cases hi : i < b - a
  · simp only [hi, if_true]
    exact (hag (a + i) (by omega) (by omega)).symm
  · simp [hi]

theorem buildRange_congr (l1 l2 : List H) (j : Nat) (h1 : j ≤ l1.length) (h2 : j ≤ l2.length) (i : Nat)
    (hag : ∀ x, i ≤ x → x < j → l2[x]? = l1[x]?) : buildRange l1 i j = buildRange l2 i j := by
  rw [← rangeSubtreeRoots_eq_buildRange l1 j h1 i, ← rangeSubtreeRoots_eq_buildRange l2 j h2 i,
    seg_eq_of_agree l1 l2 i j hag]

theorem insertRange_done (a : Acc H) (l : List H) (i j : Nat) (h : ¬ i < j) :
    insertRange a l i j = (a, l) := by
  cases l with
  | nil => simp [insertRange]
  | cons p ps => simp [insertRange, h]

theorem insertRange_cons (a : Acc H) (p : H) (ps : List H) (i j : Nat) (h : i < j) :
    insertRange a (p :: ps) i j =
      insertRange (a.insertNode p (tz (nextSubtreeSize i j))) ps (i + nextSubtreeSize i j) j := by
  simp [insertRange, h]

theorem insertRange_buildRange_seg (ls : List H) (j : Nat) (hj : j ≤ ls.length) (i : Nat) (a : Acc H)
    (pre rest : List H) (hpre : pre.length = i) (hinv : Inv a pre) :
    ∃ a', insertRange a (buildRange ls i j ++ rest) i j = (a', rest) ∧
      Inv a' (pre ++ (ls.drop i).take (j - i)) := by
  induction i using walk_induction j generalizing a pre with
  | step i ih =>
    by_cases hlt : i < j
    · obtain ⟨k, hk, hdvd, hle⟩ := nss_spec hlt
      have hp := Nat.two_pow_pos k
      rw [buildRange_cons ls i j ⟨hlt, by omega⟩, List.cons_append, insertRange_cons a _ _ i j hlt,
        hk, tz_two_pow]
      have hB : ((ls.drop i).take (2 ^ k)).length = 2 ^ k := by
        simp [List.length_take, List.length_drop]; omega
      have hinv' := hinv.insertNode ((ls.drop i).take (2 ^ k)) k hB (by rw [hpre]; exact hdvd)
      obtain ⟨a', h1, h2⟩ := ih hlt (i + 2 ^ k) (by omega) _
        (pre ++ (ls.drop i).take (2 ^ k)) (by simp [hpre, hB]) hinv'
      refine ⟨a', h1, ?_⟩
      have e1 : j - i = 2 ^ k + (j - (i + 2 ^ k)) := by omega
      rw [e1, List.take_add, List.drop_drop, ← List.append_assoc]
      exact h2
    · rw [buildRange_done ls i j (fun h => hlt h.1), Nat.sub_eq_zero_of_le (Nat.le_of_not_lt hlt)]
      exact ⟨a, insertRange_done a rest i j hlt, by simpa using hinv⟩

theorem insertRange_buildRange_exact (ls : List H) (j : Nat) (hj : j ≤ ls.length) (i : Nat) (a : Acc H)
    (rest : List H) (hij : i ≤ j) (hinv : Inv a (ls.take i)) :
    ∃ a', insertRange a (buildRange ls i j ++ rest) i j = (a', rest) ∧ Inv a' (ls.take j) := by
  obtain ⟨a', h1, h2⟩ := insertRange_buildRange_seg ls j hj i a (ls.take i) rest
    (by simp [List.length_take]; omega) hinv
  refine ⟨a', h1, ?_⟩
  rw [← List.take_add] at h2
  have : i + (j - i) = j := by omega
  rwa [this] at h2

/-- right of the range the builder (bound `J1`) and the verifier (bound `J2`) walk the same
aligned subtrees up to the end of the list, where the last subtree may be clipped.
`hJ1`, in this form wherever a builder's walk runs to the end of `ls`: the bound is at least twice
every position `0 < i < |ls|`, so it cuts no step short, `nextSubtreeSize i J1 = 2^tz i` (`nss_big`);
the end of the list does the clipping. Go's bound `math.MaxInt32` is such a `J1` up to `2^30` leaves. -/
theorem insertRange_buildRange_right (ls : List H) (J1 J2 : Nat)
    (hJ1 : 2 * (ls.length - 1) ≤ J1)
    (hJ2 : ∀ i, 0 < i → i < ls.length → nextSubtreeSize i J2 = 2 ^ tz i ∧ i < J2)
    (i : Nat) (a : Acc H) (hi0 : 0 < i) (hin : i ≤ ls.length) (hinv : Inv a (ls.take i)) :
    ∃ a', insertRange a (buildRange ls i J1) i J2 = (a', []) ∧ InvC a' ls := by
  induction i using walk_induction ls.length generalizing a with
  | step i ih =>
    by_cases hlt : i < ls.length
    · have hdvd : 2 ^ tz i ∣ (ls.take i).length := by
        rw [List.length_take, Nat.min_eq_left hin]; exact tz_dvd (by omega)
      have hp := Nat.two_pow_pos (tz i)
      rw [buildRange_cons ls i J1 ⟨by omega, hlt⟩, nss_big hi0 (by omega),
        insertRange_cons a _ _ i J2 (hJ2 i hi0 hlt).2, (hJ2 i hi0 hlt).1, tz_two_pow]
      have hB : ((ls.drop i).take (2 ^ tz i)).length = min (2 ^ tz i) (ls.length - i) := by
        rw [List.length_take, List.length_drop]
      by_cases hc : i + 2 ^ tz i < ls.length
      · have hinv' := hinv.insertNode ((ls.drop i).take (2 ^ tz i)) (tz i) (by omega) hdvd
        rw [← List.take_add] at hinv'
        exact ih hlt (i + 2 ^ tz i) (by omega) _ (by omega) (by omega) hinv'
      · -- the last subtree
        rw [buildRange_done ls _ J1 (by omega)]
        refine ⟨_, rfl, ?_⟩
        have := hinv.insertNodeC ((ls.drop i).take (2 ^ tz i)) (tz i) (by omega) (by omega) hdvd
        rw [List.take_of_length_le (l := ls.drop i) (by rw [List.length_drop]; omega)] at this ⊢
        rwa [List.take_append_drop] at this
    · rw [buildRange_done ls _ J1 (by omega)]
      refine ⟨a, rfl, ?_⟩
      rw [← List.take_of_length_le (show ls.length ≤ i by omega)]; exact hinv.toC

theorem Inv.foldl_range {a : Acc H} (ls : List H) (s e : Nat) (hse : s ≤ e)
    (hinv : Inv a (ls.take s)) :
    Inv (((ls.drop s).take (e - s)).foldl (fun a h => a.insertNode h 0) a) (ls.take e) := by
  have := hinv.foldl_insertLeaf ((ls.drop s).take (e - s))
  rw [← List.take_add] at this
  have e1 : s + (e - s) = e := by omega
  rwa [e1] at this

end Sia.Rhp
