import SiaProofs.Lemmas.LedgerStruct
/-!
# The mid-state invariant and its preservation by `Mid.put`

`Slice.Rule s` bundles, for one slice, what the `SpentView` clause of `Inv` reads of it (`gone`, `spent`, `view`) with
a frame fact (`agree`); `put_keep`, `put_consume` and `put_create` are the three ways the primitives of `LedgerPrim`
use `Mid.put`.
-/
namespace Sia.Ledger

def baseIds (L : Ledger) : Kind → List Id
  | .sc => L.sc.map (·.id)
  | .sf => L.sf.map (·.id)
  | .fc1 => L.fc1.map (·.id)
  | .fc2 => L.fc2.map (·.id)
  | .att => []

/-- what the proofs need of the ledger a block is applied to: its ids are typed by `T`, kinds are disjoint, ids
are distinct within a kind, unresolved v1 contracts are balanced -/
structure Ctx (T : Kind → Id → Prop) (L : Ledger) : Prop where
  disj : TDisj T
  base : ∀ k id, id ∈ baseIds L k → T k id
  nodup : ∀ k, (baseIds L k).Nodup
  fc1_bal : ∀ e ∈ L.fc1, sumVals e.fc.valid = sumVals e.fc.missed

/-- a siacoin diff is either created in the block (fresh id) or the spending of a ledger element; spent ones
are in `spends` -/
def ScOk (L : Ledger) (sp : List Id) (d : ScDiff) : Prop :=
  (d.created = true → d.e.id ∉ baseIds L .sc) ∧
  (d.created = false → d.spent = true ∧ d.e ∈ L.sc) ∧
  (d.spent = true → d.e.id ∈ sp)

def SfOk (L : Ledger) (sp : List Id) (d : SfDiff) : Prop :=
  (d.created = true → d.e.id ∉ baseIds L .sf) ∧
  (d.created = false → d.spent = true ∧ d.e ∈ L.sf) ∧
  (d.spent = true → d.e.id ∈ sp)

/-- a v1 contract diff is created (fresh id) or carries a ledger contract; resolved ones are in `spends`; an
unresolved one, as currently revised, keeps the value of its element and stays balanced -/
def Fc1Ok (L : Ledger) (sp : List Id) (d : Fc1Diff) : Prop :=
  (d.created = true → d.e.id ∉ baseIds L .fc1) ∧
  (d.created = false → d.e ∈ L.fc1) ∧
  (d.resolved = true → d.e.id ∈ sp) ∧
  (d.resolved = false → d.current.fc.val = d.e.fc.val ∧
    sumVals d.current.fc.valid = sumVals d.current.fc.missed)

/-- a v2 contract diff is created (fresh id) or carries a ledger contract; resolved ones are in `spends`; as
currently revised it keeps the value of its element and `missedHost ≤ host` -/
def Fc2Ok (L : Ledger) (sp : List Id) (d : Fc2Diff) : Prop :=
  (d.created = true → d.e.id ∉ baseIds L .fc2) ∧
  (d.created = false → d.e ∈ L.fc2) ∧
  (d.resolution.isSome = true → d.e.id ∈ sp) ∧
  d.current.fc.val = d.e.fc.val ∧
  d.current.fc.missedHost ≤ d.current.fc.host.value

/-- the id is recorded as consumed by a diff of some kind -/
def SpentView (ms : Mid) (id : Id) : Prop :=
  (∃ d, ms.scDiff? id = some d ∧ d.spent = true) ∨ (∃ d, ms.sfDiff? id = some d ∧ d.spent = true) ∨
  (∃ d, ms.fc1Diff? id = some d ∧ d.resolved = true) ∨ (∃ d, ms.fc2Diff? id = some d ∧ d.resolution.isSome = true)

theorem SpentView.agree {ms ms' : Mid} {x : Id} {P : Id → Prop} (h : SpentView ms x) (ha : Agree ms ms' P) (hp : ¬ P x) :
    SpentView ms' x := by
  obtain ⟨_, a1, a2, a3, a4, _⟩ := ha.2 x hp
  unfold SpentView; rw [a1, a2, a3, a4]; exact h

/-- the invariant of the mid-state while a block is applied (C01): index structure, the per-diff conditions
above, and `spends` as the duplicate-free record of what the diffs consumed -/
structure Inv (T : Kind → Id → Prop) (ms : Mid) : Prop where
  struct : Struct T ms
  sc : ∀ d ∈ ms.sces, ScOk ms.base ms.spends d
  sf : ∀ d ∈ ms.sfes, SfOk ms.base ms.spends d
  fc1 : ∀ d ∈ ms.fces, Fc1Ok ms.base ms.spends d
  fc2 : ∀ d ∈ ms.v2fces, Fc2Ok ms.base ms.spends d
  /-- no id is consumed twice in the block -/
  nodup : ms.spends.Nodup
  /-- every consumed id has a diff saying so -/
  spent : ∀ id ∈ ms.spends, SpentView ms id

theorem Inv.not_spent_of_lookup_none {T} {ms : Mid} (hI : Inv T ms) {x : Id} (h : ms.lookup x = none) : x ∉ ms.spends := by
  intro hx
  rcases hI.spent x hx with ⟨d, hd, _⟩ | ⟨d, hd, _⟩ | ⟨d, hd, _⟩ | ⟨d, hd, _⟩
  · obtain ⟨i, hi, _⟩ := scSlice.diff?_some hd; rw [h] at hi; cases hi
  · obtain ⟨i, hi, _⟩ := sfSlice.diff?_some hd; rw [h] at hi; cases hi
  · obtain ⟨i, hi, _⟩ := fc1Slice.diff?_some hd; rw [h] at hi; cases hi
  · obtain ⟨i, hi, _⟩ := fc2Slice.diff?_some hd; rw [h] at hi; cases hi

theorem Inv.kind_of {T} {ms : Mid} (hI : Inv T ms) {D : Type} [Inhabited D] (s : Slice D) {x : Id} {d : D}
    (h : s.diff? ms x = some d) : T s.kind x := by
  obtain ⟨hm, hid⟩ := s.diff?_mem h
  rw [← hid]; exact hI.struct.typed s.kind _ (s.ids ms ▸ List.mem_map_of_mem hm)

theorem ScOk.mono {L sp sp'} {d : ScDiff} (h : ScOk L sp d) (hs : ∀ x ∈ sp, x ∈ sp') : ScOk L sp' d :=
  ⟨h.1, h.2.1, fun hh => hs _ (h.2.2 hh)⟩
theorem SfOk.mono {L sp sp'} {d : SfDiff} (h : SfOk L sp d) (hs : ∀ x ∈ sp, x ∈ sp') : SfOk L sp' d :=
  ⟨h.1, h.2.1, fun hh => hs _ (h.2.2 hh)⟩
theorem Fc1Ok.mono {L sp sp'} {d : Fc1Diff} (h : Fc1Ok L sp d) (hs : ∀ x ∈ sp, x ∈ sp') : Fc1Ok L sp' d :=
  ⟨h.1, h.2.1, fun hh => hs _ (h.2.2.1 hh), h.2.2.2⟩
theorem Fc2Ok.mono {L sp sp'} {d : Fc2Diff} (h : Fc2Ok L sp d) (hs : ∀ x ∈ sp, x ∈ sp') : Fc2Ok L sp' d :=
  ⟨h.1, h.2.1, fun hh => hs _ (h.2.2.1 hh), h.2.2.2⟩

/-- ids still to be created: pairwise distinct, typed, unused so far and absent from the base ledger -/
def Fresh (T : Kind → Id → Prop) (ms : Mid) (R : List (Kind × Id)) : Prop :=
  (R.map (·.2)).Nodup ∧ ∀ p ∈ R, T p.1 p.2 ∧ ms.lookup p.2 = none ∧ ∀ k, p.2 ∉ baseIds ms.base k

theorem Fresh.sublist {T ms R R'} (h : Fresh T ms R) (hs : R'.Sublist R) : Fresh T ms R' :=
  ⟨(hs.map _).nodup h.1, fun q hq => h.2 q (hs.subset hq)⟩

theorem Fresh.tail {T ms p R} (h : Fresh T ms (p :: R)) : Fresh T ms R :=
  h.sublist (List.sublist_cons_self p R)

theorem Fresh.head_not_mem {T ms k id R} (h : Fresh T ms ((k, id) :: R)) : ∀ q ∈ R, q.2 ≠ id := by
  intro q hq he
  have := h.1; simp only [List.map_cons, List.nodup_cons] at this
  exact this.1 (he ▸ List.mem_map_of_mem hq)

/-- an id that is not a key of the index yet is the id of an element of the ledger: what the parents of accepted
inputs, revisions and resolutions have in common, forged ones included -/
def Known (ms : Mid) (k : Kind) (id : Id) : Prop := ms.lookup id = none → id ∈ baseIds ms.base k

theorem Fresh.ne_of_known {T ms R} (h : Fresh T ms R) {k : Kind} {id : Id} (hk : Known ms k id) : ∀ p ∈ R, p.2 ≠ id :=
  fun p hp he => (h.2 p hp).2.2 k (he ▸ hk (he ▸ (h.2 p hp).2.1))

theorem Fresh.agree {T ms ms' R} {P : Id → Prop} (h : Fresh T ms R) (ha : Agree ms ms' P)
    (hp : ∀ q ∈ R, ¬ P q.2) : Fresh T ms' R := by
  refine ⟨h.1, fun q hq => ?_⟩
  obtain ⟨h1, h2, h3⟩ := h.2 q hq
  refine ⟨h1, ?_, ?_⟩
  · rw [(ha.2 q.2 (hp q hq)).1]; exact h2
  · rw [ha.1]; exact h3

theorem sfTot_congr {ms ms' : Mid} (hb : ms'.base = ms.base) (hs : ms'.sfes = ms.sfes) : sfTot ms' = sfTot ms := by
  unfold sfTot Mid.sfIds; rw [hb, hs]
theorem fc1Tot_congr {ms ms' : Mid} (hb : ms'.base = ms.base) (hs : ms'.fces = ms.fces) : fc1Tot ms' = fc1Tot ms := by
  unfold fc1Tot Mid.fc1Ids; rw [hb, hs]
theorem fc2Tot_congr {ms ms' : Mid} (hb : ms'.base = ms.base) (hs : ms'.v2fces = ms.v2fces) : fc2Tot ms' = fc2Tot ms := by
  unfold fc2Tot Mid.fc2Ids; rw [hb, hs]

/-- updating scalar fields (pool, Foundation addresses, attestation count) keeps the invariant -/
theorem Inv.scalars {T} {ms ms' : Mid} (hI : Inv T ms) (h1 : ms'.base = ms.base) (h2 : ms'.elements = ms.elements)
    (h3 : ms'.spends = ms.spends) (h4 : ms'.sces = ms.sces) (h5 : ms'.sfes = ms.sfes) (h6 : ms'.fces = ms.fces)
    (h7 : ms'.v2fces = ms.v2fces) : Inv T ms' := by
  constructor
  · exact hI.struct.same h2 (fun k => by cases k <;> simp [Mid.idsOf, Mid.scIds, Mid.sfIds, Mid.fc1Ids, Mid.fc2Ids, h4, h5, h6, h7])
  · rw [h1, h3, h4]; exact hI.sc
  · rw [h1, h3, h5]; exact hI.sf
  · rw [h1, h3, h6]; exact hI.fc1
  · rw [h1, h3, h7]; exact hI.fc2
  · rw [h3]; exact hI.nodup
  · intro y hy
    rw [h3] at hy
    have hl : ms'.lookup y = ms.lookup y := by unfold Mid.lookup; rw [h2]
    have := hI.spent y hy
    unfold SpentView at this ⊢
    unfold Mid.scDiff? Mid.sfDiff? Mid.fc1Diff? Mid.fc2Diff? at this ⊢
    rw [hl, h4, h5, h6, h7]; exact this

theorem agree_scalars {ms ms' : Mid} (h1 : ms'.base = ms.base) (h2 : ms'.elements = ms.elements)
    (h3 : ms'.spends = ms.spends) (h4 : ms'.sces = ms.sces) (h5 : ms'.sfes = ms.sfes) (h6 : ms'.fces = ms.fces)
    (h7 : ms'.v2fces = ms.v2fces) (P : Id → Prop) : Agree ms ms' P := by
  refine ⟨h1, fun x _ => ?_⟩
  have hl : ms'.lookup x = ms.lookup x := by unfold Mid.lookup; rw [h2]
  refine ⟨hl, ?_, ?_, ?_, ?_, ?_⟩
  · unfold Mid.scDiff?; rw [hl, h4]
  · unfold Mid.sfDiff?; rw [hl, h5]
  · unfold Mid.fc1Diff?; rw [hl, h6]
  · unfold Mid.fc2Diff?; rw [hl, h7]
  · unfold Mid.isSpent; rw [h3]

theorem agree_addSpend (ms : Mid) (id : Id) : Agree ms { ms with spends := id :: ms.spends } (· = id) :=
  ⟨rfl, fun x hx => ⟨rfl, rfl, rfl, rfl, rfl, isSpent_cons ms id x hx⟩⟩

/-- the conditions `Inv` makes on the diffs, kind by kind -/
abbrev okC (L : Ledger) (sp : List Id) : Clauses := ⟨ScOk L sp, SfOk L sp, Fc1Ok L sp, Fc2Ok L sp⟩

theorem Inv.ok {T} {ms : Mid} (hI : Inv T ms) : (okC ms.base ms.spends).On ms := ⟨hI.sc, hI.sf, hI.fc1, hI.fc2⟩

theorem okC_mono {L sp sp'} {ms : Mid} (h : (okC L sp).On ms) (hs : ∀ x ∈ sp, x ∈ sp') : (okC L sp').On ms :=
  ⟨fun d hd => (h.sc d hd).mono hs, fun d hd => (h.sf d hd).mono hs, fun d hd => (h.fc1 d hd).mono hs,
    fun d hd => (h.fc2 d hd).mono hs⟩

/-- What `SpentView` looks for in the slice `s`: `gone` marks the diffs that record a consumed id, which `Inv` then lists in
`spends` (`spent`).  `agree` lets a state
that differs from `ms` in this slice only (`Mid.SameBut`) inherit the diffs of the other kinds from `ms`. -/
structure Slice.Rule {D : Type} [Inhabited D] (s : Slice D) where
  gone : D → Prop
  spent : ∀ {L sp d}, s.pick (okC L sp) d → gone d → s.idOf d ∈ sp
  view : ∀ {ms id d}, s.diff? ms id = some d → gone d → SpentView ms id
  agree : ∀ {ms ms' : Mid} {x : Id}, ms'.lookup x = ms.lookup x → s.diff? ms' x = s.diff? ms x → Mid.SameBut s.kind ms ms' →
    ms'.scDiff? x = ms.scDiff? x ∧ ms'.sfDiff? x = ms.sfDiff? x ∧ ms'.fc1Diff? x = ms.fc1Diff? x ∧
      ms'.fc2Diff? x = ms.fc2Diff? x

def scRule : scSlice.Rule where
  gone d := d.spent = true
  spent h := h.2.2
  view hv hg := .inl ⟨_, hv, hg⟩
  agree hl h hs := ⟨h, sfSlice.diff?_congr hl (hs.sfes (by decide)), fc1Slice.diff?_congr hl (hs.fces (by decide)),
    fc2Slice.diff?_congr hl (hs.v2fces (by decide))⟩

def sfRule : sfSlice.Rule where
  gone d := d.spent = true
  spent h := h.2.2
  view hv hg := .inr (.inl ⟨_, hv, hg⟩)
  agree hl h hs := ⟨scSlice.diff?_congr hl (hs.sces (by decide)), h, fc1Slice.diff?_congr hl (hs.fces (by decide)),
    fc2Slice.diff?_congr hl (hs.v2fces (by decide))⟩

def fc1Rule : fc1Slice.Rule where
  gone d := d.resolved = true
  spent h := h.2.2.1
  view hv hg := .inr (.inr (.inl ⟨_, hv, hg⟩))
  agree hl h hs := ⟨scSlice.diff?_congr hl (hs.sces (by decide)), sfSlice.diff?_congr hl (hs.sfes (by decide)), h,
    fc2Slice.diff?_congr hl (hs.v2fces (by decide))⟩

def fc2Rule : fc2Slice.Rule where
  gone d := d.resolution.isSome = true
  spent h := h.2.2.1
  view hv hg := .inr (.inr (.inr ⟨_, hv, hg⟩))
  agree hl h hs := ⟨scSlice.diff?_congr hl (hs.sces (by decide)), sfSlice.diff?_congr hl (hs.sfes (by decide)),
    fc1Slice.diff?_congr hl (hs.fces (by decide)), h⟩

section put
variable {D : Type} [Inhabited D]

theorem Inv.live {T} {ms : Mid} (hI : Inv T ms) {s : Slice D} (r : s.Rule) {id : Id} {d : D}
    (hv : s.diff? ms id = some d) (hns : id ∉ ms.spends) : ¬ r.gone d :=
  fun hg => hns ((s.diff?_mem hv).2 ▸ r.spent (s.on_get hI.ok d (s.diff?_mem hv).1) hg)

theorem put_agree {T} {ms : Mid} (s : Slice D) (r : s.Rule) (hS : Struct T ms) (hd : TDisj T) {id : Id} (hT : T s.kind id)
    (f : D → D) (hf : s.idOf (s.new ms id f) = id) : Agree ms (ms.put s id f) (· = id) := by
  refine ⟨put_base s ms id f, fun x hx => ?_⟩
  have hl : (ms.put s id f).lookup x = ms.lookup x := put_lookup_ne s hx
  obtain ⟨a1, a2, a3, a4⟩ := r.agree hl (put_diff?_ne hS hd s hT f hf hx) (put_sameBut s ms id f)
  exact ⟨hl, a1, a2, a3, a4, congrArg (·.contains x) (put_spends s ms id f)⟩

/-- `put` keeps the invariant when the diff it writes is `Ok`. The ids recorded as consumed may grow to `sp'`
at the same time; if `id` itself is among them the new diff must say so. -/
theorem put_inv {T} {ms : Mid} (s : Slice D) (r : s.Rule) (hI : Inv T ms) (hd : TDisj T) {id : Id} (hT : T s.kind id)
    (f : D → D) (hf : s.idOf (s.new ms id f) = id) (sp' : List Id) (hsub : ∀ x ∈ ms.spends, x ∈ sp')
    (hok : s.pick (okC ms.base sp') (s.new ms id f)) (hnd : sp'.Nodup) (hmem : ∀ y ∈ sp', y = id ∨ y ∈ ms.spends)
    (hsp : id ∈ sp' → r.gone (s.new ms id f)) : Inv T { ms.put s id f with spends := sp' } := by
  have hS := put_struct hI.struct hd s hT f hf
  have hA := put_agree s r hI.struct hd hT f hf
  have hon : (okC (ms.put s id f).base sp').On (ms.put s id f) := by
    rw [put_base]
    exact put_on s (okC_mono hI.ok hsub) id f (fun d hm => (put_mem hI.struct hd s hT f hm).elim
      (s.on_get (okC_mono hI.ok hsub) d) (fun h => h ▸ hok))
  refine ⟨hS.same rfl (fun k => by cases k <;> rfl), hon.sc, hon.sf, hon.fc1, hon.fc2, hnd, fun y hy => ?_⟩
  by_cases hyi : y = id
  · subst hyi
    have hv : s.diff? { ms.put s y f with spends := sp' } y = s.diff? (ms.put s y f) y :=
      s.diff?_congr rfl (s.get_spends (ms.put s y f) sp')
    exact r.view (hv.trans (put_view hI.struct hd s hT f hf)) (hsp hy)
  · have h' : SpentView (ms.put s id f) y := (hI.spent y ((hmem y hy).resolve_left hyi)).agree hA hyi
    exact h'

theorem put_keep {T} {ms : Mid} (s : Slice D) (r : s.Rule) (hI : Inv T ms) (hd : TDisj T) {id : Id} (hT : T s.kind id)
    (f : D → D) (hf : s.idOf (s.new ms id f) = id) (hok : s.pick (okC ms.base ms.spends) (s.new ms id f)) (hns : id ∉ ms.spends) :
    Inv T (ms.put s id f) ∧ Agree ms (ms.put s id f) (· = id) :=
  ⟨(put_inv s r hI hd hT f hf ms.spends (fun _ h => h) hok hI.nodup (fun _ hy => .inr hy) (fun h => absurd h hns)).scalars
      rfl rfl (put_spends s ms id f) rfl rfl rfl rfl,
    put_agree s r hI.struct hd hT f hf⟩

theorem put_consume {T} {ms : Mid} (s : Slice D) (r : s.Rule) (hI : Inv T ms) (hd : TDisj T) {id : Id} (hT : T s.kind id)
    (f : D → D) (hf : s.idOf (s.new ms id f) = id) (hok : s.pick (okC ms.base (id :: ms.spends)) (s.new ms id f))
    (hg : r.gone (s.new ms id f)) (hns : id ∉ ms.spends) :
    Inv T { ms.put s id f with spends := id :: ms.spends } ∧
      Agree ms { ms.put s id f with spends := id :: ms.spends } (· = id) := by
  refine ⟨put_inv s r hI hd hT f hf _ (fun _ h => List.mem_cons_of_mem _ h) hok (List.nodup_cons.mpr ⟨hns, hI.nodup⟩)
    (fun _ hy => List.mem_cons.mp hy) (fun _ => hg), (put_agree s r hI.struct hd hT f hf).trans ?_⟩
  have := agree_addSpend (ms.put s id f) id
  rw [put_spends] at this
  exact this

/-- `put`, at a fresh id, of a function that makes an `Ok` diff of the default one: the shape of the four `create*`
primitives.  The total of the slice, under any weights, grows by the weight of the new diff. -/
theorem put_create {T} {ms : Mid} (s : Slice D) (r : s.Rule) (hc : Ctx T ms.base) (hI : Inv T ms) {id : Id}
    {R : List (Kind × Id)} (hF : Fresh T ms ((s.kind, id) :: R)) (f : D → D) (hid : s.idOf (f default) = id)
    (hok : s.pick (okC ms.base ms.spends) (f default)) :
    Inv T (ms.put s id f) ∧ Agree ms (ms.put s id f) (· = id) ∧ Fresh T (ms.put s id f) R ∧
    ∀ {E : Type} (bl : Ledger → List E) (eid : E → Id) (ev : E → Nat) (dv : D → Nat), id ∉ (bl ms.base).map eid →
      s.tot bl eid ev dv (ms.put s id f) = s.tot bl eid ev dv ms + dv (f default) := by
  obtain ⟨hT, hl, _⟩ := hF.2 (s.kind, id) List.mem_cons_self
  have hv : s.diff? ms id = none := s.diff?_none_of_lookup hl
  have hnew : s.new ms id f = f default := by unfold Slice.new; rw [hv]; rfl
  obtain ⟨hI', hA⟩ := put_keep s r hI hc.disj hT f (hnew ▸ hid) (hnew ▸ hok) (hI.not_spent_of_lookup_none hl)
  exact ⟨hI', hA, hF.tail.agree hA (fun q hq => hF.head_not_mem q hq), fun bl eid ev dv hb =>
    hnew ▸ put_tot_fresh bl eid ev dv hI.struct hc.disj s hT f (hnew ▸ hid) hv hb⟩

end put

end Sia.Ledger
