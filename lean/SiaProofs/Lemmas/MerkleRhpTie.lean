import SiaProofs.Lemmas.MerkleRhpSize
import SiaModel.Gen.CodeRhp2
import SiaModel.Merkle.StorageProof
/-!
  C16: the `math/bits` functions of `Go.*` (fuel 64) equal the hand
  models (`tz`, `popcount`, `Sia.SP.bitLen`, `diffLen`, `zerosBelow`) on words of any width.
-/

namespace Sia.SP

theorem bitLen_le_iff (x j : Nat) : bitLen x ≤ j ↔ x < 2 ^ j := GoWords.len_le_iff x j

theorem bitLen_half {y : Nat} (hy : y ≠ 0) : bitLen y = bitLen (y / 2) + 1 := by
  by_cases h2 : 2 ≤ y
  · rw [bitLen, bitLen, if_neg hy, if_neg (by omega), Nat.log2_def y, if_pos h2]
  · obtain rfl : y = 1 := by omega
    rfl

end Sia.SP

namespace Sia.Rhp
open Sia.SP (bitLen bitLen_half)

theorem toNat_add_emod {p q M : Nat} (h : p + q < M) : (((p : Int) + (q : Int)) % (M : Int)).toNat = p + q := by
  rw [← Int.natCast_add, ← Int.natCast_emod, Int.toNat_natCast, Nat.mod_eq_of_lt h]

theorem trailingZerosAux_eq : ∀ (fuel x : Nat), 0 < x → x < 2 ^ fuel → Go.trailingZerosAux fuel x = tz x := by
  intro fuel
  induction fuel with
  | zero => intro x h0 h1; exact absurd h1 (by rw [Nat.pow_zero]; omega)
  | succ f ih =>
    intro x h0 h1
    rw [Nat.pow_succ'] at h1
    rw [Go.trailingZerosAux]
    by_cases h : x % 2 = 1
    · rw [if_pos h, tz_odd h]
    · rw [if_neg h, tz_even (by omega) (by omega), ih (x / 2) (by omega) (by omega)]

theorem popAux_eq : ∀ (fuel x : Nat), x < 2 ^ fuel → Go.popAux fuel x = popcount x := by
  intro fuel
  induction fuel with
  | zero => intro x h; have : x = 0 := by simpa using h
            subst this; simp [Go.popAux, popcount_zero]
  | succ f ih =>
    intro x h
    rw [Nat.pow_succ'] at h
    simp only [Go.popAux]
    rw [popcount_unfold x, ih (x / 2) (by omega)]

theorem popAux_le : ∀ (fuel x : Nat), Go.popAux fuel x ≤ fuel := by
  intro fuel
  induction fuel with
  | zero => intro x; simp [Go.popAux]
  | succ f ih => intro x; simp only [Go.popAux]; have := ih (x / 2); omega

theorem bits_TrailingZeros64_eq {x : Nat} (h0 : x ≠ 0) (hx : x < 2 ^ 64) : Go.bits_TrailingZeros64 x = (tz x : Int) := by
  rw [Go.bits_TrailingZeros64, if_neg h0, trailingZerosAux_eq 64 x (Nat.pos_of_ne_zero h0) hx]; rfl

theorem bits_OnesCount64_eq {x : Nat} (hx : x < 2 ^ 64) : Go.bits_OnesCount64 x = (popcount x : Int) := by
  rw [Go.bits_OnesCount64, popAux_eq 64 x hx]; rfl

theorem bits_Len64_sub_one {x : Nat} (hx : x ≠ 0) : Go.bits_Len64 x - 1 = (x.log2 : Int) := by
  rw [Go.bits_Len64, if_neg hx]; exact Int.add_sub_cancel (x.log2 : Int) 1

theorem bits_Len64_eq (x : Nat) : Go.bits_Len64 x = (bitLen x : Int) := GoWords.bits_Len64_eq x

theorem bitLen_xor (a b : Nat) : bitLen (a ^^^ b) = diffLen a b := by
  induction a, b using diffLen.induct with
  | case1 a => simp [Nat.xor_self, bitLen, diffLen_self]
  | case2 a b hab ih =>
    have hne : a ^^^ b ≠ 0 := fun h => hab (GoWords.xor_eq_zero h)
    rw [bitLen_half hne, diffLen_ne hab, Nat.xor_div_two, ih]

theorem zerosBelow_le : ∀ (x L : Nat), zerosBelow x L ≤ L := by
  intro x L
  induction L generalizing x with
  | zero => simp [zerosBelow]
  | succ L ih => simp only [zerosBelow]; have := ih (x / 2); omega

theorem popcount_of_testBit_not : ∀ (L x y : Nat), y < 2 ^ L → (∀ j, j < L → y.testBit j = !x.testBit j) →
    popcount y = zerosBelow x L := by
  intro L
  induction L with
  | zero => intro x y hy _; rw [Nat.lt_one_iff.1 hy, popcount_zero]; rfl
  | succ L ih =>
    intro x y hy h
    have h0 := h 0 (Nat.succ_pos L)
    rw [Nat.testBit_zero, Nat.testBit_zero] at h0
    have hlow : y % 2 = 1 - x % 2 := by
      rcases Nat.mod_two_eq_zero_or_one x with hx | hx <;>
        rcases Nat.mod_two_eq_zero_or_one y with hy | hy <;> simp [hx, hy] at h0 ⊢
    rw [popcount_unfold, zerosBelow, hlow,
      ih (x / 2) (y / 2) (Nat.div_lt_of_lt_mul (by rw [← Nat.pow_succ']; exact hy))
        (fun j hj => by rw [Nat.testBit_div_two, Nat.testBit_div_two]; exact h (j + 1) (Nat.succ_lt_succ hj))]

/-- zero bits of `x` below `L`, as Go computes them: popcount(^x & (2^L - 1)) on `W`-bit words -/
theorem popcount_andNot_mask (L W x : Nat) (hLW : L ≤ W) (hx : x < 2 ^ W) :
    popcount ((2 ^ W - 1 - x) &&& (2 ^ L - 1)) = zerosBelow x L := by
  apply popcount_of_testBit_not L x _ (Nat.and_lt_two_pow _ (Nat.sub_one_lt (Nat.ne_of_gt (Nat.two_pow_pos L))))
  intro j hj
  rw [Nat.testBit_and, Nat.sub_sub, Nat.add_comm 1 x, Nat.testBit_two_pow_sub_succ hx,
    Nat.testBit_two_pow_sub_one, decide_eq_true hj, decide_eq_true (Nat.lt_of_lt_of_le hj hLW),
    Bool.and_true, Bool.true_and]

end Sia.Rhp
