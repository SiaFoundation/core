import SiaProofs.Lemmas.LedgerRulesV1
import SiaProofs.Lemmas.LedgerRulesV2
/-!
# What an accepted transaction establishes, item by item

`validateTransaction_ok_iff` / `validateV2Transaction_ok_iff` give acceptance as the conjunction of the verdicts of the
sub-validators, most of which have their own `…_ok_iff` (`validateArbitraryData`, `validateFoundationUpdate`: the
direction `…_ok` only; `validateMinimumValues`: none).  A property that starts from an accepted transaction (or block) and
speaks of one input, revision, proof or resolution reads the rules of that item off the records below.
-/
namespace Sia.Ledger

structure Txn1Rules (ms : Mid) (t : Txn1) (pid : Id) : Prop where
  allowed : ms.base.child < ms.base.P.v2Require
  scIn : ∀ sci ∈ t.scIns, ∃ p, ms.scElement t.supp sci.parent = some p ∧ ScIn1Rules ms sci p
  sfIn : ∀ sfi ∈ t.sfIns, ∃ p, ms.sfElement t.supp sfi.parent = some p ∧ SfIn1Rules ms sfi p
  rev : ∀ r ∈ t.revs, ∃ p, ms.fc1Element t.supp r.parent = some p ∧ Rev1Rules ms r p
  proofAlone : ¬ (t.proofs.length > 0 ∧ (t.scOuts.length > 0 ∨ t.sfOuts.length > 0 ∨ t.fcs.length > 0 ∨ t.revs.length > 0))
  proofNodup : (t.proofs.map (·.parent)).Nodup
  proof : ∀ sp ∈ t.proofs, Proof1Rules ms t pid sp
  arbitrary : validateArbitraryData ms t = .ok ()
  nodup : (t.scIns.map (·.parent) ++ t.sfIns.map (·.parent) ++ t.revs.map (·.parent)).Nodup
  sigsOk : t.sigsOk = true
  fc : ∀ x ∈ t.fcs, fc1FormStep ms x.2 = .ok ()
  scBalance : v1ScBalance t (t.scIns.foldl (fun s sci => s + scIn1Value ms t sci) 0) = .ok ()
  sfBalance : v1SfBalance t (t.sfIns.foldl (fun s sfi => (s + sfIn1Value ms t sfi) % u64Limit) 0) = .ok ()

theorem validateTransaction_ok_rules {ms : Mid} {t : Txn1} {pid : Id} {mw : Nat}
    (h : validateTransaction ms t pid mw = .ok ()) : Txn1Rules ms t pid := by
  obtain ⟨a, _, _, _, hsc, hsf, hfc, harb, hsig⟩ := (validateTransaction_ok_iff ms t pid mw).1 h
  obtain ⟨hf, hr, hmix, hnd, hp⟩ := (validateFileContracts_ok_iff ms t pid).1 hfc
  obtain ⟨n, s⟩ := (validateSignatures_ok_iff t).1 hsig
  exact ⟨a, validateSiacoins_ok_rules hsc, ((validateSiafunds_ok_iff ms t).1 hsf).1, hr, hmix, hnd, hp, harb, n, s, hf,
    ((validateSiacoins_ok_iff ms t).1 hsc).2, ((validateSiafunds_ok_iff ms t).1 hsf).2⟩

structure Txn2Rules (ms : Mid) (t : Txn2) : Prop where
  allowed : ms.base.P.v2Allow ≤ ms.base.child
  scIn : ∀ sci ∈ t.scIns, ScIn2Rules ms sci
  scNodup : (t.scIns.map (·.parent.id)).Nodup
  sfIn : ∀ sfi ∈ t.sfIns, SfIn2Rules ms sfi
  sfNodup : (t.sfIns.map (·.parent.id)).Nodup
  fc : ∀ x ∈ t.fcs, Contract2Rules ms.base.child x.2.1 x.2.2
  rev : ∀ r ∈ t.revs, Rev2Rules ms r
  revNodup : (t.revs.map (·.parent.id)).Nodup
  res : ∀ r ∈ t.ress, Res2Rules ms (t.revs.map (·.parent.id)).reverse r
  resNodup : (t.ress.map (·.parent.id)).Nodup
  attsOk : t.attsOk = true
  foundation : validateFoundationUpdate ms t = .ok ()
  scBalance : v2ScBalance t = .ok ()
  sfBalance : v2SfBalance t = .ok ()

theorem validateV2Transaction_ok_rules {ms : Mid} {t : Txn2} {mw : Nat}
    (h : validateV2Transaction ms t mw = .ok ()) : Txn2Rules ms t := by
  obtain ⟨a, _, _, _, hsc, hsf, hfc, hatt, hfu⟩ := (validateV2Transaction_ok_iff ms t mw).1 h
  obtain ⟨c1, c2, c3⟩ := (validateV2Siacoins_ok_iff ms t).1 hsc
  obtain ⟨f1, f2, f3⟩ := (validateV2Siafunds_ok_iff ms t).1 hsf
  obtain ⟨k0, k1, k2, k3, k4⟩ := (validateV2FileContracts_ok_iff ms t).1 hfc
  exact ⟨a, c1, c2, f1, f2, k0, k1, k2, k3, k4, hatt, hfu, c3, f3⟩

end Sia.Ledger
