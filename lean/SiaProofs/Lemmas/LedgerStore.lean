import SiaProofs.Lemmas.LedgerIndex
import SiaProofs.Lemmas.LedgerCommit
/-!
# A client store driven by the element diffs of a block (spec for C06)

Written from the doc comments of `ApplyUpdate` / `RevertUpdate` and the `*ElementDiff` types
(`consensus/state.go`, `consensus/application.go`) — the same reading as
`harness/internal/chain/store.go` for the four element kinds: the store holds every live element, keyed by id
(the Go store also keeps the chain-index elements and every element's Merkle proof, `UpdateElementProof`; neither
is modelled here).
A map is a function `Id → Option α`, so that "same store" is plain equality.
-/
namespace Sia.Ledger

abbrev Map (α : Type) := Id → Option α

def Map.insert {α} (m : Map α) (k : Id) (v : α) : Map α := fun i => if i = k then some v else m i
def Map.erase {α} (m : Map α) (k : Id) : Map α := fun i => if i = k then none else m i
/-- the map holding the elements of a list (first match wins) -/
def Map.ofList {α} (key : α → Id) (l : List α) : Map α := fun i => l.find? (fun e => key e = i)

/-- what one diff does to the entry of its id -/
inductive Act (α : Type) where
  | keep | del | put (v : α)

def Act.run {α} (a : Act α) (m : Map α) (k : Id) : Map α :=
  match a with
  | .keep => m
  | .del => m.erase k
  | .put v => m.insert k v

def Act.at {α} (a : Act α) (old : Option α) : Option α :=
  match a with
  | .keep => old
  | .del => none
  | .put v => some v

theorem Act.run_same {α} (a : Act α) (m : Map α) (k : Id) : a.run m k k = a.at (m k) := by
  cases a <;> simp [Act.run, Act.at, Map.erase, Map.insert]

theorem Act.run_other {α} (a : Act α) (m : Map α) (k i : Id) (h : i ≠ k) : a.run m k i = m i := by
  cases a <;> simp [Act.run, Map.erase, Map.insert, h]

theorem foldl_act_not_mem {δ α} (key : δ → Id) (act : δ → Act α) (l : List δ) (m : Map α) (i : Id)
    (h : ∀ d ∈ l, key d ≠ i) : (l.foldl (fun m d => (act d).run m (key d)) m) i = m i := by
  induction l generalizing m with
  | nil => rfl
  | cons d l ih =>
    rw [List.foldl_cons, ih _ (fun x hx => h x (List.mem_cons_of_mem _ hx))]
    exact Act.run_other _ _ _ _ (fun hh => h d List.mem_cons_self hh.symm)

theorem foldl_act_mem {δ α} (key : δ → Id) (act : δ → Act α) (l : List δ) (hnd : (l.map key).Nodup)
    (m : Map α) (d : δ) (hd : d ∈ l) :
    (l.foldl (fun m d => (act d).run m (key d)) m) (key d) = (act d).at (m (key d)) := by
  induction l generalizing m with
  | nil => cases hd
  | cons x l ih =>
    rw [List.map_cons, List.nodup_cons] at hnd
    rw [List.foldl_cons]
    rcases List.mem_cons.1 hd with rfl | hd'
    · rw [foldl_act_not_mem]
      · exact Act.run_same _ _ _
      · intro y hy heq
        exact hnd.1 (List.mem_map.2 ⟨y, hy, heq⟩)
    · rw [ih hnd.2 _ hd']
      rw [Act.run_other]
      intro heq
      exact hnd.1 (List.mem_map.2 ⟨d, hd', heq⟩)

theorem ofList_mem {α} (key : α → Id) (l : List α) (hnd : (l.map key).Nodup) (e : α) (he : e ∈ l) :
    Map.ofList key l (key e) = some e := by
  unfold Map.ofList
  induction l with
  | nil => cases he
  | cons x l ih =>
    rw [List.map_cons, List.nodup_cons] at hnd
    rw [List.find?_cons]
    rcases List.mem_cons.1 he with rfl | he'
    · simp
    · have : key x ≠ key e := fun heq => hnd.1 (List.mem_map.2 ⟨e, he', heq.symm⟩)
      simp only [this, decide_false]
      exact ih hnd.2 he'

theorem ofList_not_mem {α} (key : α → Id) (l : List α) (i : Id) (h : ∀ e ∈ l, key e ≠ i) :
    Map.ofList key l i = none := by
  unfold Map.ofList
  rw [List.find?_eq_none]
  intro e he
  simpa using h e he

theorem inverse_generic {δ α} (dkey : δ → Id) (aAct rAct : δ → Act α) (m : Map α) (ds : List δ)
    (hds : (ds.map dkey).Nodup)
    (h : ∀ d ∈ ds, (rAct d).at ((aAct d).at (m (dkey d))) = m (dkey d)) :
    ds.reverse.foldl (fun m d => (rAct d).run m (dkey d)) (ds.foldl (fun m d => (aAct d).run m (dkey d)) m) = m := by
  funext i
  have hrev : (ds.reverse.map dkey).Nodup := by
    rw [List.map_reverse, List.Nodup, List.pairwise_reverse]
    exact List.Pairwise.imp Ne.symm hds
  by_cases hex : ∃ d ∈ ds, dkey d = i
  · obtain ⟨d, hd, rfl⟩ := hex
    rw [foldl_act_mem dkey rAct _ hrev _ d (List.mem_reverse.2 hd), foldl_act_mem dkey aAct _ hds _ d hd]
    exact h d hd
  · have hno : ∀ d ∈ ds, dkey d ≠ i := fun d hd heq => hex ⟨d, hd, heq⟩
    rw [foldl_act_not_mem dkey rAct _ _ _ (fun d hd => hno d (List.mem_reverse.1 hd)),
      foldl_act_not_mem dkey aAct _ _ _ hno]

theorem find?_filter_of_imp {α} (p q : α → Bool) (l : List α) (h : ∀ e ∈ l, q e = true → p e = true) :
    (l.filter p).find? q = l.find? q := by
  induction l with
  | nil => rfl
  | cons x l ih =>
    have ih' := ih (fun e he => h e (List.mem_cons_of_mem _ he))
    by_cases hp : p x = true
    · rw [List.filter_cons_of_pos hp, List.find?_cons, List.find?_cons, ih']
    · have hq : q x = false := by
        cases hqx : q x with
        | false => rfl
        | true => exact absurd (h x List.mem_cons_self hqx) hp
      rw [List.filter_cons_of_neg hp, List.find?_cons, hq, ih']

/-- folding the apply actions over the store of a ledger gives the store of the committed ledger -/
theorem tracks_generic {α δ} (key : α → Id) (dkey : δ → Id) (act : δ → Act α) (keep : δ → Bool) (out : δ → α)
    (l : List α) (ds : List δ) (hds : (ds.map dkey).Nodup)
    (hout : ∀ d ∈ ds, key (out d) = dkey d)
    (hact : ∀ d ∈ ds, (act d).at (Map.ofList key l (dkey d)) = if keep d = true then some (out d) else none) :
    ds.foldl (fun m d => (act d).run m (dkey d)) (Map.ofList key l) =
      Map.ofList key (l.filter (fun e => ¬ ds.any (fun d => dkey d = key e)) ++ (ds.filter keep).map out) := by
  generalize hp' : (fun e : α => decide (¬ (ds.any fun d => decide (dkey d = key e)) = true)) = p
  have hp : ∀ e, p e = true ↔ ∀ d ∈ ds, dkey d ≠ key e := fun e => by subst hp'; simp
  funext i
  have hkeys : ((ds.filter keep).map out).map key = (ds.filter keep).map dkey := by
    rw [List.map_map]
    apply List.map_congr_left
    intro d hd
    exact hout d (List.mem_filter.1 hd).1
  have hnd2 : (((ds.filter keep).map out).map key).Nodup := by
    rw [hkeys]
    exact (List.Sublist.map dkey List.filter_sublist).nodup hds
  show _ = (l.filter p ++ (ds.filter keep).map out).find? (fun e => key e = i)
  rw [List.find?_append]
  by_cases hex : ∃ d ∈ ds, dkey d = i
  · obtain ⟨d, hd, rfl⟩ := hex
    rw [foldl_act_mem dkey act _ hds _ d hd, hact d hd]
    have h1 : (l.filter p).find? (fun e => decide (key e = dkey d)) = none := by
      rw [List.find?_eq_none]
      intro e he
      have := (hp e).1 (List.mem_filter.1 he).2 d hd
      simpa using fun h => this h.symm
    rw [h1, Option.none_or]
    by_cases hk : keep d = true
    · rw [if_pos hk]
      have := ofList_mem key _ hnd2 (out d) (List.mem_map.2 ⟨d, List.mem_filter.2 ⟨hd, hk⟩, rfl⟩)
      rw [hout d hd] at this
      exact this.symm
    · rw [if_neg hk]
      symm
      rw [List.find?_eq_none]
      intro e he
      obtain ⟨d', hd', rfl⟩ := List.mem_map.1 he
      have hd'' := List.mem_filter.1 hd'
      simp only [decide_eq_true_eq]
      intro heq
      rw [hout d' hd''.1] at heq
      have := eq_of_nodup_map dkey hds hd''.1 hd heq
      subst this
      exact hk hd''.2
  · have hno : ∀ d ∈ ds, dkey d ≠ i := fun d hd heq => hex ⟨d, hd, heq⟩
    rw [foldl_act_not_mem dkey act _ _ _ hno]
    have h2 : ((ds.filter keep).map out).find? (fun e => decide (key e = i)) = none := by
      rw [List.find?_eq_none]
      intro e he
      obtain ⟨d', hd', rfl⟩ := List.mem_map.1 he
      have hd'' := List.mem_filter.1 hd'
      simp only [decide_eq_true_eq]
      rw [hout d' hd''.1]
      exact hno d' hd''.1
    rw [h2, Option.or_none, find?_filter_of_imp]
    · rfl
    · intro e _ hq
      rw [hp]
      intro d hd heq
      simp only [decide_eq_true_eq] at hq
      exact hno d hd (heq.trans hq)

structure Store where
  sc : Map ScElem
  sf : Map SfElem
  fc1 : Map Fc1Elem
  fc2 : Map Fc2Elem

/-- the store of a full node that is in sync with ledger `L` -/
def Store.ofLedger (L : Ledger) : Store :=
  { sc := Map.ofList (·.id) L.sc, sf := Map.ofList (·.id) L.sf,
    fc1 := Map.ofList (·.id) L.fc1, fc2 := Map.ofList (·.id) L.fc2 }

/-- apply: a spent element is deleted, else a created one is inserted -/
def ScDiff.applyAct (d : ScDiff) : Act ScElem := if d.spent then .del else if d.created then .put d.e else .keep
/-- revert: a created element is deleted, else a spent one is restored -/
def ScDiff.revertAct (d : ScDiff) : Act ScElem := if d.created then .del else if d.spent then .put d.e else .keep
def SfDiff.applyAct (d : SfDiff) : Act SfElem := if d.spent then .del else if d.created then .put d.e else .keep
def SfDiff.revertAct (d : SfDiff) : Act SfElem := if d.created then .del else if d.spent then .put d.e else .keep
/-- apply: resolved ⇒ delete; revised ⇒ store the revision; created ⇒ insert -/
def Fc1Diff.applyAct (d : Fc1Diff) : Act Fc1Elem :=
  if d.resolved then .del
  else match d.revision with
    | some r => .put { d.e with fc := r }
    | none => if d.created then .put d.e else .keep
/-- revert: created ⇒ delete; otherwise back to the element as it was before the block -/
def Fc1Diff.revertAct (d : Fc1Diff) : Act Fc1Elem := if d.created then .del else .put d.e
def Fc2Diff.applyAct (d : Fc2Diff) : Act Fc2Elem :=
  if d.resolution.isSome then .del
  else match d.revision with
    | some r => .put { d.e with fc := r }
    | none => if d.created then .put d.e else .keep
def Fc2Diff.revertAct (d : Fc2Diff) : Act Fc2Elem := if d.created then .del else .put d.e

/-- `Store.Apply` with the four diff lists of an apply update -/
def applyStore (S : Store) (ms : Mid) : Store :=
  { sc := ms.sces.foldl (fun m d => d.applyAct.run m d.e.id) S.sc,
    sf := ms.sfes.foldl (fun m d => d.applyAct.run m d.e.id) S.sf,
    fc1 := ms.fces.foldl (fun m d => d.applyAct.run m d.e.id) S.fc1,
    fc2 := ms.v2fces.foldl (fun m d => d.applyAct.run m d.e.id) S.fc2 }

/-- `Store.Revert` with the four diff lists of a revert update (each the apply list reversed, see
`C06.revertDiffs`) -/
def revertStore (S : Store) (sces : List ScDiff) (sfes : List SfDiff) (fces : List Fc1Diff) (v2fces : List Fc2Diff) : Store :=
  { sc := sces.foldl (fun m d => d.revertAct.run m d.e.id) S.sc,
    sf := sfes.foldl (fun m d => d.revertAct.run m d.e.id) S.sf,
    fc1 := fces.foldl (fun m d => d.revertAct.run m d.e.id) S.fc1,
    fc2 := v2fces.foldl (fun m d => d.revertAct.run m d.e.id) S.fc2 }

structure LedgerIds (L : Ledger) : Prop where
  sc : (L.sc.map (·.id)).Nodup
  sf : (L.sf.map (·.id)).Nodup
  fc1 : (L.fc1.map (·.id)).Nodup
  fc2 : (L.fc2.map (·.id)).Nodup

/-- every diff that was not created in the block carries an element of the ledger the block was
applied to (true for validated blocks: `LedgerGenuine.lean`) -/
structure Genuine (L : Ledger) (ms : Mid) : Prop where
  sc : ∀ d ∈ ms.sces, d.created = false → d.e ∈ L.sc
  sf : ∀ d ∈ ms.sfes, d.created = false → d.e ∈ L.sf
  fc1 : ∀ d ∈ ms.fces, d.created = false → d.e ∈ L.fc1
  fc2 : ∀ d ∈ ms.v2fces, d.created = false → d.e ∈ L.fc2

/-- ids created by the block are not ids of live elements (ids are hashes of fresh content) -/
structure FreshCreated (L : Ledger) (ms : Mid) : Prop where
  sc : ∀ d ∈ ms.sces, d.created = true → ∀ e ∈ L.sc, e.id ≠ d.e.id
  sf : ∀ d ∈ ms.sfes, d.created = true → ∀ e ∈ L.sf, e.id ≠ d.e.id
  fc1 : ∀ d ∈ ms.fces, d.created = true → ∀ e ∈ L.fc1, e.id ≠ d.e.id
  fc2 : ∀ d ∈ ms.v2fces, d.created = true → ∀ e ∈ L.fc2, e.id ≠ d.e.id

end Sia.Ledger
