import SiaProofs.Lemmas.LedgerVM
/-!
# The v1 validators of the ledger model as conjunctions of named rules
-/
namespace Sia.Ledger

/-- per-input body of the loop of `validateSiacoins` (copied verbatim from the model) -/
def scIn1Step (ms : Mid) (t : Txn1) (sum : Cur) (sci : ScIn1) : VM Cur := do
    if sci.timelock > ms.base.child then reject "siacoin input has timelocked parent"
    else if ms.isSpent sci.parent then reject "siacoin input double-spends parent output"
    else match ms.scElement t.supp sci.parent with
      | none => reject "siacoin input spends nonexistent siacoin output"
      | some p =>
        if sci.ucAddr ≠ p.addr then reject "siacoin input claims incorrect unlock conditions"
        else if p.maturity > ms.base.child then reject "siacoin input has immature parent"
        else if sum + p.value < curLimit then pure (sum + p.value) else reject "siacoin inputs overflow"

def v1ScBalance (t : Txn1) (inputSum : Cur) : VM Unit := do
  let o1 ← t.scOuts.foldlM (fun s o => addC s o.2.value) 0
  let o2 ← t.fcs.foldlM (fun s f => addC s f.2.payout) o1
  let outputSum ← t.fees.foldlM (fun (s : Cur) f => if s + f < curLimit then pure (s + f) else reject "transaction outputs exceed inputs") o2
  if inputSum ≠ outputSum then reject "siacoin inputs do not equal outputs" else pure ()

theorem validateSiacoins_eq (ms : Mid) (t : Txn1) :
    validateSiacoins ms t = (do let s ← t.scIns.foldlM (scIn1Step ms t) 0; v1ScBalance t s) := rfl

structure ScIn1Rules (ms : Mid) (sci : ScIn1) (p : ScElem) : Prop where
  timelock : sci.timelock ≤ ms.base.child
  notSpent : ms.isSpent sci.parent = false
  addr : sci.ucAddr = p.addr
  mature : p.maturity ≤ ms.base.child

/-- value contributed by an input (0 if its parent does not resolve) -/
def scIn1Value (ms : Mid) (t : Txn1) (sci : ScIn1) : Cur :=
  ((ms.scElement t.supp sci.parent).map (·.value)).getD 0

def ScIn1Ok (ms : Mid) (t : Txn1) (sum : Cur) (sci : ScIn1) : Prop :=
  ∃ p, ms.scElement t.supp sci.parent = some p ∧ ScIn1Rules ms sci p ∧ sum + p.value < curLimit

theorem scIn1Step_ok_iff (ms : Mid) (t : Txn1) (sum : Cur) (sci : ScIn1) (s' : Cur) :
    scIn1Step ms t sum sci = .ok s' ↔ (s' = sum + scIn1Value ms t sci ∧ ScIn1Ok ms t sum sci) := by
  simp only [scIn1Step, scIn1Value, ScIn1Ok, ite_reject_ok_iff, gt_iff_lt, Nat.not_lt, Bool.not_eq_true]
  cases ms.scElement t.supp sci.parent with
  | none => simp only [reject_ne_ok, and_false, reduceCtorEq, false_and, exists_false]
  | some p =>
    simp only [ite_reject_ok_iff, ite_else_reject_ok_iff, pure_eq_ok, Option.map_some, Option.getD_some,
      Option.some.injEq, exists_eq_left', ne_eq, Decidable.not_not, Nat.not_lt]
    exact ⟨fun ⟨h1, h2, h3, h4, h5, h6⟩ => ⟨h6, ⟨h1, h2, h3, h4⟩, h5⟩,
      fun ⟨h6, ⟨h1, h2, h3, h4⟩, h5⟩ => ⟨h1, h2, h3, h4, h5, h6⟩⟩

theorem scIn1Step_noPanic (ms : Mid) (t : Txn1) (sum : Cur) (sci : ScIn1) : NoPanic (scIn1Step ms t sum sci) := by
  simp only [scIn1Step, noPanic_ite, noPanic_reject, implies_true, true_and]
  intro _ _
  split <;> simp only [noPanic_ite, noPanic_reject, noPanic_pure, implies_true, and_self]

theorem validateSiacoins_ok_iff (ms : Mid) (t : Txn1) :
    validateSiacoins ms t = .ok () ↔
      (FoldAll (ScIn1Ok ms t) (fun s sci => s + scIn1Value ms t sci) 0 t.scIns ∧
        v1ScBalance t (t.scIns.foldl (fun s sci => s + scIn1Value ms t sci) 0) = .ok ()) := by
  rw [validateSiacoins_eq, bind_ok_iff]
  simp only [foldlM_ok_iff (scIn1Step_ok_iff ms t), and_assoc, exists_eq_left]

theorem validateSiacoins_ok_rules {ms : Mid} {t : Txn1} (h : validateSiacoins ms t = .ok ()) :
    ∀ sci ∈ t.scIns, ∃ p, ms.scElement t.supp sci.parent = some p ∧ ScIn1Rules ms sci p := by
  have := ((validateSiacoins_ok_iff ms t).1 h).1
  exact this.forall_of_imp (fun s x ⟨p, hp, hr, _⟩ => ⟨p, hp, hr⟩)

def sfIn1Step (ms : Mid) (t : Txn1) (sum : Nat) (sfi : SfIn1) : VM Nat := do
    if sfi.timelock > ms.base.child then reject "siafund input has timelocked parent"
    else if ms.isSpent sfi.parent then reject "siafund input double-spends parent output"
    else match ms.sfElement t.supp sfi.parent with
      | none => reject "siafund input spends nonexistent siafund output"
      | some p =>
        if sfi.ucAddr ≠ p.addr ∧
            ¬ (ms.base.child ≥ ms.base.P.hfDevAddr ∧ p.addr = ms.base.P.devOldAddr ∧ sfi.ucAddr = ms.base.P.devNewAddr) then
          reject "siafund input claims incorrect unlock conditions"
        else pure ((sum + p.value) % u64Limit)

def v1SfBalance (t : Txn1) (inputSum : Nat) : VM Unit :=
  let outputSum := t.sfOuts.foldl (fun s (_, v, _) => (s + v) % u64Limit) 0
  if inputSum ≠ outputSum then reject "siafund inputs do not equal outputs" else pure ()

theorem validateSiafunds_eq (ms : Mid) (t : Txn1) :
    validateSiafunds ms t = (do let s ← t.sfIns.foldlM (sfIn1Step ms t) 0; v1SfBalance t s) := rfl

structure SfIn1Rules (ms : Mid) (sfi : SfIn1) (p : SfElem) : Prop where
  timelock : sfi.timelock ≤ ms.base.child
  notSpent : ms.isSpent sfi.parent = false
  addr : sfi.ucAddr = p.addr ∨
    (ms.base.child ≥ ms.base.P.hfDevAddr ∧ p.addr = ms.base.P.devOldAddr ∧ sfi.ucAddr = ms.base.P.devNewAddr)

def sfIn1Value (ms : Mid) (t : Txn1) (sfi : SfIn1) : Nat :=
  ((ms.sfElement t.supp sfi.parent).map (·.value)).getD 0

def SfIn1Ok (ms : Mid) (t : Txn1) (sfi : SfIn1) : Prop :=
  ∃ p, ms.sfElement t.supp sfi.parent = some p ∧ SfIn1Rules ms sfi p

theorem sfIn1Step_ok_iff (ms : Mid) (t : Txn1) (sum : Nat) (sfi : SfIn1) (s' : Nat) :
    sfIn1Step ms t sum sfi = .ok s' ↔ (s' = (sum + sfIn1Value ms t sfi) % u64Limit ∧ SfIn1Ok ms t sfi) := by
  simp only [sfIn1Step, sfIn1Value, SfIn1Ok, ite_reject_ok_iff, gt_iff_lt, Nat.not_lt, Bool.not_eq_true]
  cases ms.sfElement t.supp sfi.parent with
  | none => simp only [reject_ne_ok, and_false, reduceCtorEq, false_and, exists_false]
  | some p =>
    simp only [ite_reject_ok_iff, pure_eq_ok, Option.map_some, Option.getD_some, Option.some.injEq,
      exists_eq_left', ne_eq, Decidable.not_and_not_right, ← Decidable.or_iff_not_imp_left]
    exact ⟨fun ⟨h1, h2, h3, h4⟩ => ⟨h4, h1, h2, h3⟩, fun ⟨h4, h1, h2, h3⟩ => ⟨h1, h2, h3, h4⟩⟩

theorem sfIn1Step_noPanic (ms : Mid) (t : Txn1) (sum : Nat) (sfi : SfIn1) : NoPanic (sfIn1Step ms t sum sfi) := by
  simp only [sfIn1Step, noPanic_ite, noPanic_reject, implies_true, true_and]
  intro _ _
  split <;> simp only [noPanic_ite, noPanic_reject, noPanic_pure, implies_true, and_self]

theorem validateSiafunds_ok_iff (ms : Mid) (t : Txn1) :
    validateSiafunds ms t = .ok () ↔
      ((∀ sfi ∈ t.sfIns, SfIn1Ok ms t sfi) ∧
        v1SfBalance t (t.sfIns.foldl (fun s sfi => (s + sfIn1Value ms t sfi) % u64Limit) 0) = .ok ()) := by
  rw [validateSiafunds_eq, bind_ok_iff]
  simp only [foldlM_ok_iff (sfIn1Step_ok_iff ms t), foldAll_const_iff, and_assoc, exists_eq_left]

theorem validateSiafunds_noPanic (ms : Mid) (t : Txn1) : NoPanic (validateSiafunds ms t) := by
  rw [validateSiafunds_eq]
  refine bind_noPanic (foldlM_noPanic (sfIn1Step_noPanic ms t) _ _) ?_
  intro s _
  simp only [v1SfBalance, noPanic_ite, noPanic_reject, noPanic_pure, implies_true, and_self]

/-- body of the formation loop of `validateFileContracts` -/
def fc1FormStep (ms : Mid) (fc : Fc1) : VM Unit :=
    if fc.windowStart < ms.base.child then reject "file contract has window that starts in the past"
    else if fc.windowEnd ≤ fc.windowStart then reject "file contract has window that ends before it begins"
    else do
      let validSum ← sumOuts fc.valid
      let missedSum ← sumOuts fc.missed
      if validSum ≠ missedSum then reject "file contract has valid payout that does not equal missed payout"
      else
        let want ← addC validSum (fileContractTax ms.base fc.payout)
        if fc.payout ≠ want then reject "file contract has payout with incorrect tax" else pure ()

/-- the checks of a revision against the contract `p` it resolves to -/
def rev1ParentCheck (ms : Mid) (r : Rev1) (p : Fc1Elem) : VM Unit :=
        if p.fc.windowStart < ms.base.child then reject "file contract revision revises contract after its proof window has opened"
        else if r.fc.revNum ≤ p.fc.revNum then reject "file contract revision does not have a higher revision number than its parent"
        else if r.ucAddr ≠ p.fc.unlockHash then reject "file contract revision claims incorrect unlock conditions"
        else do
          let a ← sumOuts r.fc.valid
          let b ← sumOuts p.fc.valid
          if a ≠ b then reject "file contract revision changes valid payout sum"
          else
            let c ← sumOuts r.fc.missed
            let d ← sumOuts p.fc.missed
            if c ≠ d then reject "file contract revision changes missed payout sum" else pure ()

/-- body of the revision loop -/
def rev1Step (ms : Mid) (t : Txn1) (r : Rev1) : VM Unit :=
    if r.timelock > ms.base.child then reject "file contract revision has timelocked parent"
    else if r.fc.windowStart < ms.base.child then reject "file contract revision has window that starts in the past"
    else if r.fc.windowEnd ≤ r.fc.windowStart then reject "file contract revision has window that ends before it begins"
    else if ms.isSpent r.parent then reject "file contract revision conflicts with previous proof or revision"
    else match ms.fc1Element t.supp r.parent with
      | none => reject "file contract revision revises nonexistent file contract"
      | some p => rev1ParentCheck ms r p

/-- body of the storage proof loop -/
def proof1Step (ms : Mid) (t : Txn1) (parentBlockId : Id) (sp : Proof1) : VM Unit :=
      if ms.isSpent sp.parent then reject "storage proof conflicts with previous proof"
      else match ms.fc1Element t.supp sp.parent with
        | none => reject "storage proof references nonexistent file contract"
        | some _ =>
          match ms.windowId t.supp sp.parent parentBlockId with
          | none => reject "storage proof cannot be submitted until after window start"
          | some _ => if sp.proofOk then pure () else reject "storage proof has root that does not match contract Merkle root"

def yieldU : PUnit → VM (ForInStep PUnit) := fun _ => pure (ForInStep.yield PUnit.unit)

theorem validateFileContracts_eq (ms : Mid) (t : Txn1) (parentBlockId : Id) :
    validateFileContracts ms t parentBlockId = (do
      forIn t.fcs PUnit.unit (fun x _ => fc1FormStep ms x.2 >>= fun _ => pure (ForInStep.yield PUnit.unit))
      forIn t.revs PUnit.unit (fun r _ => rev1Step ms t r >>= fun _ => pure (ForInStep.yield PUnit.unit))
      if t.proofs.length > 0 ∧ (t.scOuts.length > 0 ∨ t.sfOuts.length > 0 ∨ t.fcs.length > 0 ∨ t.revs.length > 0) then
        reject "transaction contains both a storage proof and other outputs"
      else if ¬ (t.proofs.map (·.parent)).Nodup then reject "storage proof resolves contract already resolved"
      else do
        forIn t.proofs PUnit.unit (fun sp _ => proof1Step ms t parentBlockId sp >>= fun _ => pure (ForInStep.yield PUnit.unit))
        pure ()) := by
  unfold validateFileContracts
  congr 1
  · congr 1; funext x _
    unfold fc1FormStep
    simp only [ite_bind', reject_bind, bind_assoc, pure_bind]
  · funext _
    congr 1
    · congr 1; funext r _
      unfold rev1Step rev1ParentCheck
      cases ms.fc1Element t.supp r.parent with
      | none => simp only [ite_bind', reject_bind]
      | some p => simp only [ite_bind', reject_bind, bind_assoc, pure_bind]
    · funext _
      congr 1; congr 1; congr 1; congr 1; funext sp _
      unfold proof1Step
      cases ms.fc1Element t.supp sp.parent with
      | none => simp only [ite_bind', reject_bind]
      | some p =>
        cases ms.windowId t.supp sp.parent parentBlockId with
        | none => simp only [ite_bind', reject_bind]
        | some w => simp only [ite_bind', reject_bind, pure_bind]

/-- rules of a v1 revision `r` of the contract `p` (the contract as it currently stands) -/
structure Rev1Rules (ms : Mid) (r : Rev1) (p : Fc1Elem) : Prop where
  timelock : r.timelock ≤ ms.base.child
  windowStart : ms.base.child ≤ r.fc.windowStart
  windowEnd : r.fc.windowStart < r.fc.windowEnd
  notSpent : ms.isSpent r.parent = false
  parentWindow : ms.base.child ≤ p.fc.windowStart
  revNum : p.fc.revNum < r.fc.revNum
  addr : r.ucAddr = p.fc.unlockHash
  validSum : ∃ a, sumOuts r.fc.valid = .ok a ∧ sumOuts p.fc.valid = .ok a
  missedSum : ∃ c, sumOuts r.fc.missed = .ok c ∧ sumOuts p.fc.missed = .ok c

theorem rev1ParentCheck_ok_iff (ms : Mid) (r : Rev1) (p : Fc1Elem) :
    rev1ParentCheck ms r p = .ok () ↔
      (ms.base.child ≤ p.fc.windowStart ∧ p.fc.revNum < r.fc.revNum ∧ r.ucAddr = p.fc.unlockHash ∧
        (∃ a, sumOuts r.fc.valid = .ok a ∧ sumOuts p.fc.valid = .ok a) ∧
        (∃ c, sumOuts r.fc.missed = .ok c ∧ sumOuts p.fc.missed = .ok c)) := by
  unfold rev1ParentCheck
  simp only [ite_reject_ok_iff, bind_ok_iff, Nat.not_lt, Nat.not_le, Decidable.not_not, pure_eq_ok, and_true]
  constructor
  · rintro ⟨h1, h2, h3, a, ha, b, hb, hab, c, hc, d, hd, hcd⟩
    subst hab; subst hcd
    exact ⟨h1, h2, h3, ⟨a, ha, hb⟩, ⟨c, hc, hd⟩⟩
  · rintro ⟨h1, h2, h3, ⟨a, ha, hb⟩, ⟨c, hc, hd⟩⟩
    exact ⟨h1, h2, h3, a, ha, a, hb, rfl, c, hc, c, hd, rfl⟩

theorem rev1Step_ok_iff (ms : Mid) (t : Txn1) (r : Rev1) :
    rev1Step ms t r = .ok () ↔ ∃ p, ms.fc1Element t.supp r.parent = some p ∧ Rev1Rules ms r p := by
  unfold rev1Step
  simp only [ite_reject_ok_iff, Nat.not_lt, Nat.not_le, Bool.not_eq_true]
  cases h : ms.fc1Element t.supp r.parent with
  | none => simp
  | some p =>
    simp only [rev1ParentCheck_ok_iff, Option.some.injEq, exists_eq_left']
    constructor
    · rintro ⟨h1, h2, h3, h4, h5, h6, h7, h8, h9⟩
      exact ⟨h1, h2, h3, h4, h5, h6, h7, h8, h9⟩
    · rintro ⟨h1, h2, h3, h4, h5, h6, h7, h8, h9⟩
      exact ⟨h1, h2, h3, h4, h5, h6, h7, h8, h9⟩

structure Proof1Rules (ms : Mid) (t : Txn1) (parentBlockId : Id) (sp : Proof1) : Prop where
  notSpent : ms.isSpent sp.parent = false
  contract : ∃ e, ms.fc1Element t.supp sp.parent = some e
  window : ∃ w, ms.windowId t.supp sp.parent parentBlockId = some w
  proofOk : sp.proofOk = true

theorem proof1Step_ok_iff (ms : Mid) (t : Txn1) (pid : Id) (sp : Proof1) :
    proof1Step ms t pid sp = .ok () ↔ Proof1Rules ms t pid sp := by
  have hr : Proof1Rules ms t pid sp ↔ (ms.isSpent sp.parent = false ∧ (∃ e, ms.fc1Element t.supp sp.parent = some e) ∧
      (∃ w, ms.windowId t.supp sp.parent pid = some w) ∧ sp.proofOk = true) :=
    ⟨fun ⟨a, b, c, d⟩ => ⟨a, b, c, d⟩, fun ⟨a, b, c, d⟩ => ⟨a, b, c, d⟩⟩
  simp only [proof1Step, hr, ite_reject_ok_iff, Bool.not_eq_true]
  cases ms.fc1Element t.supp sp.parent with
  | none => simp only [reject_ne_ok, reduceCtorEq, exists_false, false_and, and_false]
  | some e =>
    cases ms.windowId t.supp sp.parent pid with
    | none => simp only [reject_ne_ok, reduceCtorEq, exists_false, false_and, and_false]
    | some w => simp only [ite_else_reject_ok_iff, pure_eq_ok, and_true, Option.some.injEq, exists_eq', true_and]

theorem validateFileContracts_ok_iff (ms : Mid) (t : Txn1) (pid : Id) :
    validateFileContracts ms t pid = .ok () ↔
      ((∀ x ∈ t.fcs, fc1FormStep ms x.2 = .ok ()) ∧
       (∀ r ∈ t.revs, ∃ p, ms.fc1Element t.supp r.parent = some p ∧ Rev1Rules ms r p) ∧
       ¬ (t.proofs.length > 0 ∧ (t.scOuts.length > 0 ∨ t.sfOuts.length > 0 ∨ t.fcs.length > 0 ∨ t.revs.length > 0)) ∧
       (t.proofs.map (·.parent)).Nodup ∧
       (∀ sp ∈ t.proofs, Proof1Rules ms t pid sp)) := by
  rw [validateFileContracts_eq, bind_unit_ok_iff, forIn_step_ok_iff, bind_unit_ok_iff, forIn_step_ok_iff,
    ite_reject_ok_iff, ite_reject_ok_iff, bind_unit_ok_iff, forIn_step_ok_iff]
  simp only [rev1Step_ok_iff, proof1Step_ok_iff, Decidable.not_not, pure_eq_ok, and_true]

theorem validateSignatures_ok_iff (t : Txn1) :
    validateSignatures t = .ok () ↔
      ((t.scIns.map (·.parent) ++ t.sfIns.map (·.parent) ++ t.revs.map (·.parent)).Nodup ∧ t.sigsOk = true) := by
  simp only [validateSignatures, ite_reject_ok_iff, ite_else_reject_ok_iff, Decidable.not_not, pure_eq_ok, and_true]

theorem validateSignatures_noPanic (t : Txn1) : NoPanic (validateSignatures t) := by
  simp only [validateSignatures, noPanic_ite, noPanic_reject, noPanic_pure, implies_true, and_self]

theorem validateArbitraryData_ok {ms : Mid} {t : Txn1} (h : validateArbitraryData ms t = .ok ())
    (hf : ms.base.child ≥ ms.base.P.hfFoundation) : ∀ u signed, t.foundation = some (u, signed) → signed = true := by
  intro u signed ht
  unfold validateArbitraryData at h
  rw [if_neg (by omega), ht] at h
  cases u with
  | none => exact absurd h (reject_ne_ok _ _)
  | some pf =>
    obtain ⟨p, f⟩ := pf
    simp only at h
    split at h
    · exact absurd h (reject_ne_ok _ _)
    · split at h
      · assumption
      · exact absurd h (reject_ne_ok _ _)

theorem validateArbitraryData_noPanic (ms : Mid) (t : Txn1) : NoPanic (validateArbitraryData ms t) := by
  simp only [validateArbitraryData, noPanic_ite, noPanic_pure, implies_true, true_and]
  intro _
  split <;> simp only [noPanic_ite, noPanic_reject, noPanic_pure, implies_true, and_self]

theorem validateMinimumValues_noPanic (t : Txn1) : NoPanic (validateMinimumValues t) := by
  simp only [validateMinimumValues, noPanic_ite, noPanic_reject, noPanic_pure, implies_true, and_self]

/-- `validateTransaction` without the join points of the `do` elaboration -/
def v1TxnChecks (ms : Mid) (t : Txn1) (parentBlockId : Id) (maxWeight : Nat) : VM Unit :=
  if ms.base.child ≥ ms.base.P.v2Require then reject "v1 transactions are not allowed after v2 hardfork is complete"
  else do
    validateCurrencyOverflow t
    validateTaxPool ms t
    if t.weight > maxWeight then reject "transaction exceeds maximum block weight"
    else do
      validateMinimumValues t
      validateSiacoins ms t
      validateSiafunds ms t
      validateFileContracts ms t parentBlockId
      validateArbitraryData ms t
      validateSignatures t

theorem validateTransaction_eq (ms : Mid) (t : Txn1) (pid : Id) (maxWeight : Nat) :
    validateTransaction ms t pid maxWeight = v1TxnChecks ms t pid maxWeight := by
  unfold validateTransaction v1TxnChecks
  simp only [reject_bind]

theorem validateTransaction_ok_iff (ms : Mid) (t : Txn1) (pid : Id) (maxWeight : Nat) :
    validateTransaction ms t pid maxWeight = .ok () ↔
      (ms.base.child < ms.base.P.v2Require ∧ (validateCurrencyOverflow t = .ok () ∧ validateTaxPool ms t = .ok ()) ∧ t.weight ≤ maxWeight ∧
       validateMinimumValues t = .ok () ∧ validateSiacoins ms t = .ok () ∧ validateSiafunds ms t = .ok () ∧
       validateFileContracts ms t pid = .ok () ∧ validateArbitraryData ms t = .ok () ∧
       validateSignatures t = .ok ()) := by
  rw [validateTransaction_eq]
  unfold v1TxnChecks
  simp only [ite_reject_ok_iff, bind_unit_ok_iff, Nat.not_lt, Nat.not_le, ge_iff_le, gt_iff_lt, and_assoc]

end Sia.Ledger
