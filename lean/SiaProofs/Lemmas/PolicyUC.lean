import SiaModel.Policy.Meaning
/-! Lemmas about the legacy-unlock-conditions loop and the time comparison (C14). -/
namespace Sia.Policy

theorem spec_ed_ne_entropy : specEd25519 ≠ specEntropy := by decide

/-- timestamps for which `time.Time` arithmetic does not wrap (±2^62 s ≈ ±146 billion years) -/
def InRange (x : Int) : Prop := -4611686018427387904 ≤ x ∧ x < 4611686018427387904

theorem timeAfter_iff {a b : Int} (ha : InRange a) (hb : InRange b) :
    timeAfter a b = true ↔ b < a := by
  unfold InRange at *
  simp only [timeAfter, goTimeSec, wrap64, decide_eq_true_eq, gt_iff_lt]
  -- 62135596800 s from year 1 to the Unix epoch (`goTimeSec`); 2^63 and 2^64 are `wrap64` unfolded
  have e1 : (a + 62135596800 + 9223372036854775808) % 18446744073709551616
      = a + 62135596800 + 9223372036854775808 := Int.emod_eq_of_lt (by omega) (by omega)
  have e2 : (b + 62135596800 + 9223372036854775808) % 18446744073709551616
      = b + 62135596800 + 9223372036854775808 := Int.emod_eq_of_lt (by omega) (by omega)
  rw [e1, e2]; omega

namespace UCMatch

theorem length_le {E : Env} {ks ss} (h : UCMatch E ks ss) : ss.length ≤ ks.length := by
  induction h with
  | done ks => simp
  | use _ _ _ ih => simp; omega
  | skip _ _ ih => simp at *; omega

theorem weaken {E : Env} {k ks ss} (hk : ¬ keyBlocked k) (h : UCMatch E ks ss) : UCMatch E (k :: ks) ss := by
  cases ss with
  | nil => exact .done _
  | cons s ss => exact .skip hk h

theorem drop {E : Env} {ks s ss} (h : UCMatch E ks (s :: ss)) : UCMatch E ks ss := by
  generalize hx : s :: ss = x at h
  induction h generalizing s ss with
  | done ks => cases hx
  | use hk _ h _ => cases hx; exact weaken hk h
  | skip hk _ ih => cases hx; exact weaken hk (ih rfl)

end UCMatch

/-- The loop of the `uc` branch ends with no signature outstanding exactly when the first
    `req` signatures can be assigned, in order, to distinct listed keys. -/
theorem ucLoop_ok_iff (E : Env) (ks : List UnlockKey) (req : Nat) (sigs sigs' : List ByteArray) :
    ucLoop E ks req sigs = .ok (0, sigs') ↔
      ∃ used, sigs = used ++ sigs' ∧ used.length = req ∧ UCMatch E ks used := by
  induction ks generalizing req sigs with
  | nil =>
    simp only [ucLoop, Except.ok.injEq, Prod.mk.injEq]
    constructor
    · rintro ⟨rfl, rfl⟩; exact ⟨[], rfl, rfl, .done _⟩
    · rintro ⟨used, rfl, rfl, h⟩
      cases h; simp
  | cons k ks ih =>
    unfold ucLoop
    split
    · rename_i hb
      simp only [Except.ok.injEq, Prod.mk.injEq]
      constructor
      · rintro ⟨rfl, rfl⟩; exact ⟨[], rfl, rfl, .done _⟩
      · rintro ⟨used, rfl, hl, h⟩
        have hle := h.length_le
        rcases hb with hb | hb | hb
        · subst hb; cases used with
          | nil => simp
          | cons _ _ => simp at hl
        · omega
        · simp at hb; omega
    · rename_i hb
      have hb : req ≠ 0 ∧ req ≤ (k :: ks).length ∧ req ≤ sigs.length := by
        simp only [not_or] at hb; omega
      cases sigs with
      | nil => simp at hb; omega
      | cons s rest =>
        simp only
        have used_cons : ∀ used : List ByteArray, s :: rest = used ++ sigs' → used.length = req →
            ∃ us, used = s :: us ∧ rest = us ++ sigs' := by
          intro used h1 h2
          cases used with
          | nil => simp at h2; omega
          | cons u us => simp at h1; exact ⟨us, by rw [h1.1], h1.2⟩
        by_cases hent : k.algorithm = specEntropy
        · simp only [hent, if_true]
          constructor
          · intro h; cases h
          · rintro ⟨used, h1, h2, h3⟩
            obtain ⟨us, rfl, -⟩ := used_cons used h1 h2
            cases h3 with
            | use hk _ _ => exact absurd hent hk
            | skip hk _ => exact absurd hent hk
        · simp only [hent, if_false]
          have use_case : keyAccepts E k s →
              ((ucLoop E ks (req - 1) rest = .ok (0, sigs')) ↔
                ∃ used, s :: rest = used ++ sigs' ∧ used.length = req ∧ UCMatch E (k :: ks) used) := by
            intro hacc
            rw [ih]
            constructor
            · rintro ⟨us, rfl, hl, hm⟩
              exact ⟨s :: us, rfl, by simp; omega, .use hent hacc hm⟩
            · rintro ⟨used, h1, h2, h3⟩
              obtain ⟨us, rfl, rfl⟩ := used_cons used h1 h2
              refine ⟨us, rfl, by simp at h2; omega, ?_⟩
              cases h3 with
              | use _ _ h => exact h
              | skip _ h => exact h.drop
          by_cases hed : k.algorithm = specEd25519
          · simp only [hed, if_true]
            by_cases hv : E.verifySig (pad32 k.key) E.sigHash s = true
            · simp only [hv, if_true]
              exact use_case (fun _ => hv)
            · have hv' : E.verifySig (pad32 k.key) E.sigHash s = false := by
                cases h : E.verifySig (pad32 k.key) E.sigHash s <;> simp_all
              simp only [hv', Bool.false_eq_true, if_false]
              rw [ih]
              constructor
              · rintro ⟨used, h1, h2, h3⟩
                obtain ⟨us, rfl, -⟩ := used_cons used h1 h2
                exact ⟨s :: us, h1, h2, .skip hent h3⟩
              · rintro ⟨used, h1, h2, h3⟩
                obtain ⟨us, rfl, -⟩ := used_cons used h1 h2
                refine ⟨s :: us, h1, h2, ?_⟩
                cases h3 with
                | use _ ha _ => exact absurd (ha hed) hv
                | skip _ h => exact h
          · simp only [hed, if_false]
            exact use_case (fun h => absurd h hed)

end Sia.Policy
