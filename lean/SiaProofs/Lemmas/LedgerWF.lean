import SiaProofs.Lemmas.LedgerBlock
import SiaProofs.Lemmas.LedgerIndex
import SiaProofs.Lemmas.LedgerCommit
/-!
# The shape of the committed ledger, slice by slice (`commit_sc` … `commit_fc2`); ids of four typed kinds are distinct
-/
namespace Sia.Ledger

theorem Struct.nodup_ids {T} {ms : Mid} (h : Struct T ms) (k : Kind) : (ms.idsOf k).Nodup :=
  IdxOK.nodup (el := ms.elements) (fun i hi => h.idx k i _ (List.getElem?_eq_getElem hi))

theorem nodup_four {T : Kind → Id → Prop} (hd : TDisj T) (l1 l2 l3 l4 : List Id)
    (n1 : l1.Nodup) (n2 : l2.Nodup) (n3 : l3.Nodup) (n4 : l4.Nodup)
    (t1 : ∀ x ∈ l1, T Kind.sc x) (t2 : ∀ x ∈ l2, T Kind.sf x) (t3 : ∀ x ∈ l3, T Kind.fc1 x) (t4 : ∀ x ∈ l4, T Kind.fc2 x) :
    (l1 ++ l2 ++ l3 ++ l4).Nodup := by
  have ne : ∀ {k k' : Kind} {a b : Id}, T k a → T k' b → k ≠ k' → a ≠ b := by
    intro k k' a b ha hb hk hab
    subst hab; exact hk (hd _ _ _ ha hb)
  rw [List.nodup_append]
  refine ⟨?_, n4, ?_⟩
  · rw [List.nodup_append]
    refine ⟨?_, n3, ?_⟩
    · rw [List.nodup_append]
      exact ⟨n1, n2, fun a ha b hb => ne (t1 a ha) (t2 b hb) (by decide)⟩
    · intro a ha b hb
      rcases List.mem_append.mp ha with h | h
      · exact ne (t1 a h) (t3 b hb) (by decide)
      · exact ne (t2 a h) (t3 b hb) (by decide)
  · intro a ha b hb
    rcases List.mem_append.mp ha with h | h
    · rcases List.mem_append.mp h with h | h
      · exact ne (t1 a h) (t4 b hb) (by decide)
      · exact ne (t2 a h) (t4 b hb) (by decide)
    · exact ne (t3 a h) (t4 b hb) (by decide)

theorem commit_sc (ms : Mid) (bid : Id) :
    (ms.commit bid).sc = untouched ms.base.sc (·.id) (ms.sces.map (·.e.id)) ++ (ms.sces.filter (fun d => ¬ d.spent)).map (·.e) := by
  unfold Mid.commit; simp only []; rw [filter_any_eq ms.base.sc (·.id) ms.sces (·.e.id)]
theorem commit_sf (ms : Mid) (bid : Id) :
    (ms.commit bid).sf = untouched ms.base.sf (·.id) (ms.sfes.map (·.e.id)) ++ (ms.sfes.filter (fun d => ¬ d.spent)).map (·.e) := by
  unfold Mid.commit; simp only []; rw [filter_any_eq ms.base.sf (·.id) ms.sfes (·.e.id)]
theorem commit_fc1 (ms : Mid) (bid : Id) :
    (ms.commit bid).fc1 = untouched ms.base.fc1 (·.id) (ms.fces.map (·.e.id)) ++ (ms.fces.filter (fun d => ¬ d.resolved)).map (·.current) := by
  unfold Mid.commit; simp only []; rw [filter_any_eq ms.base.fc1 (·.id) ms.fces (·.e.id)]
theorem commit_fc2 (ms : Mid) (bid : Id) :
    (ms.commit bid).fc2 = untouched ms.base.fc2 (·.id) (ms.v2fces.map (·.e.id)) ++
      (ms.v2fces.filter (fun d => d.resolution.isNone)).map (·.current) := by
  unfold Mid.commit; simp only []; rw [filter_any_eq ms.base.fc2 (·.id) ms.v2fces (·.e.id)]
  congr 1

theorem Fc2Diff.current_id (d : Fc2Diff) : d.current.id = d.e.id := by
  unfold Fc2Diff.current; split <;> rfl

end Sia.Ledger
