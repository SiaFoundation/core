import SiaProofs.Lemmas.LedgerAcceptedV2
import SiaProofs.Lemmas.LedgerTxnRules
import SiaProofs.Lemmas.LedgerOps
import SiaProofs.Lemmas.LedgerSfWeights
/-!
# One v2 transaction conserves value
-/
namespace Sia.Ledger

theorem scDiff?_none_of_base {T} {ms : Mid} (hI : Inv T ms) {e : ScElem} (he : e ∈ ms.base.sc)
    (hs : ms.isSpent e.id = false) : ms.scDiff? e.id = none := by
  cases hv : ms.scDiff? e.id with
  | none => rfl
  | some d =>
    obtain ⟨hm, hid⟩ := scDiff?_mem hv
    cases hcd : d.created with
    | true => exact absurd (hid ▸ List.mem_map_of_mem he) ((hI.sc d hm).1 hcd)
    | false => exact absurd ((hI.sc d hm).2.1 hcd).1 (hI.live scRule hv ((isSpent_false_iff _ _).1 hs))

theorem sfDiff?_none_of_base {T} {ms : Mid} (hI : Inv T ms) {e : SfElem} (he : e ∈ ms.base.sf)
    (hs : ms.isSpent e.id = false) : ms.sfDiff? e.id = none := by
  cases hv : ms.sfDiff? e.id with
  | none => rfl
  | some d =>
    obtain ⟨hm, hid⟩ := sfDiff?_mem hv
    cases hcd : d.created with
    | true => exact absurd (hid ▸ List.mem_map_of_mem he) ((hI.sf d hm).1 hcd)
    | false => exact absurd ((hI.sf d hm).2.1 hcd).1 (hI.live sfRule hv ((isSpent_false_iff _ _).1 hs))

/-- with the fix active, an accepted ephemeral input names a created diff and claims its id, value and maturity -/
theorem validateEphemeralSc_ok {ms : Mid} {sci : ScIn2} (hfix : ms.base.child ≥ ms.base.P.ephemeralFix)
    (h : validateEphemeralSc ms sci = .ok ()) :
    ∃ j, ms.lookup sci.parent.id = some j ∧ j < ms.sces.length ∧ (ms.sces.getD j default).created = true ∧
      sci.parent.id = (ms.sces.getD j default).e.id ∧ sci.parent.value = (ms.sces.getD j default).e.value ∧
      sci.parent.maturity = (ms.sces.getD j default).e.maturity := by
  unfold validateEphemeralSc at h
  cases hj : ms.lookup sci.parent.id with
  | none => rw [hj] at h; exact absurd h (reject_ne_ok _ _)
  | some j =>
    rw [hj] at h
    simp only [ite_reject_ok_iff, if_neg (Nat.not_lt.mpr hfix), not_or, Nat.not_le, Decidable.not_not] at h
    exact ⟨j, rfl, h.1.1, h.1.2, h.2.1, h.2.2.1.1, h.2.2.2.1⟩

theorem spendable_of_ScIn2Rules {T} {ms : Mid} (hc : Ctx T ms.base) (hI : Inv T ms)
    (hfix : ms.base.child ≥ ms.base.P.ephemeralFix) {sci : ScIn2} (h : ScIn2Rules ms sci) :
    SpendableSc T ms sci.parent := by
  obtain ⟨hs, _, hl, _, _⟩ := h
  unfold ScIn2Present at hl
  cases hleaf : sci.parent.leaf with
  | some v =>
    rw [hleaf] at hl; simp only [] at hl
    have he : sci.parent ∈ ms.base.sc := by unfold Ledger.hasSc at hl; exact List.contains_iff_mem.mp hl
    refine ⟨hc.base Kind.sc _ (List.mem_map_of_mem he), hs, ?_⟩
    rw [scDiff?_none_of_base hI he hs]; exact he
  | none =>
    rw [hleaf] at hl; simp only [] at hl
    obtain ⟨j, hj, hjlt, _, hid, hval, hmat⟩ := validateEphemeralSc_ok hfix hl
    have hgd : ms.sces.getD j default = ms.sces[j] := by
      rw [List.getD_eq_getElem?_getD, List.getElem?_eq_getElem hjlt]; rfl
    rw [hgd] at hid hval hmat
    have hmem : ms.sces[j] ∈ ms.sces := List.getElem_mem hjlt
    have hv : ms.scDiff? sci.parent.id = some ms.sces[j] := by
      rw [scDiff?_eq, hj]; simp [hjlt, hid]
    have hT : T Kind.sc sci.parent.id := by
      apply hI.struct.typed Kind.sc
      show sci.parent.id ∈ ms.sces.map (·.e.id)
      rw [hid]; exact List.mem_map_of_mem hmem
    refine ⟨hT, hs, ?_⟩
    rw [hv]; exact ⟨hval.symm, hmat.symm⟩

theorem spendable_of_SfIn2Rules {T} {ms : Mid} (hc : Ctx T ms.base) (hI : Inv T ms)
    (hfix : ms.base.child ≥ ms.base.P.ephemeralFix) {sfi : SfIn2} (h : SfIn2Rules ms sfi) :
    SpendableSf T ms sfi.parent := by
  obtain ⟨hs, hl, _, _⟩ := h
  unfold SfIn2Present at hl
  cases hleaf : sfi.parent.leaf with
  | some v =>
    rw [hleaf] at hl; simp only [] at hl
    have he : sfi.parent ∈ ms.base.sf := by unfold Ledger.hasSf at hl; exact List.contains_iff_mem.mp hl
    refine ⟨hc.base Kind.sf _ (List.mem_map_of_mem he), hs, ?_⟩
    rw [sfDiff?_none_of_base hI he hs]; exact he
  | none =>
    rw [hleaf] at hl; simp only [] at hl
    exact absurd hfix (Nat.not_le.2 (validateEphemeralSf_ok hl).2.1)

theorem live_of_base {T} {ms : Mid} (hc : Ctx T ms.base) {e : Fc2Elem}
    (hs : ms.isSpent e.id = false) (hb : ms.base.hasFc2 e = true) : LiveFc2 T ms e :=
  have he : e ∈ ms.base.fc2 := by unfold Ledger.hasFc2 at hb; exact List.contains_iff_mem.mp hb
  ⟨hc.base Kind.fc2 _ (List.mem_map_of_mem he), he, hs⟩

theorem rev_of_Rev2Rules {T} {ms : Mid} (hc : Ctx T ms.base) (hI : Inv T ms)
    (hfix : ms.base.child ≥ ms.base.P.ephemeralFix) {r : Rev2} (h : Rev2Rules ms r) :
    LiveFc2 T ms r.parent ∧ r.rev.val = r.parent.fc.val ∧ r.rev.missedHost ≤ r.rev.host.value := by
  have hl := live_of_base hc h.notSpent h.present
  refine ⟨hl, ?_, h.revision.missedFix hfix⟩
  refine Eq.trans h.revision.sum ?_
  show (ms.curFc2 r.parent).val = r.parent.fc.val
  unfold Mid.curFc2
  cases hlk : ms.lookup r.parent.id with
  | none => rfl
  | some i =>
    obtain ⟨d, hd1, hd2, hd3⟩ := hI.struct.fc2Diff?_of_lookup hc.disj hl.1 hlk
    have hgd : ms.v2fces.getD i default = d := by rw [List.getD_eq_getElem?_getD, hd1]; rfl
    simp only [hgd]
    obtain ⟨_, hde, _⟩ := hl.diff hc hI hd3
    have hok := (hI.fc2 d (fc2Diff?_mem hd3).1).2.2.2.1
    unfold Fc2Diff.current at hok
    cases hr : d.revision with
    | none => rfl
    | some rv => rw [hr] at hok; simp only [] at hok ⊢; rw [hde] at hok; exact hok

theorem res_of_Res2Rules {T} {ms : Mid} (hc : Ctx T ms.base)
    (hm2 : ∀ e ∈ ms.base.fc2, e.fc.missedHost ≤ e.fc.host.value) {revised : List Id} {r : Resolution2}
    (h : Res2Rules ms revised r) : LiveFc2 T ms r.parent ∧ r.parent.fc.missedHost ≤ r.parent.fc.host.value :=
  have hlv := live_of_base hc h.notSpent h.present
  ⟨hlv, hm2 _ hlv.2.1⟩

def Resolution2.created (r : Resolution2) : List (Kind × Id) :=
  match r.res with
  | .renewal rn => [(Kind.fc2, rn.newId), (Kind.sc, r.renterOutId), (Kind.sc, r.hostOutId)]
  | _ => [(Kind.sc, r.renterOutId), (Kind.sc, r.hostOutId)]

def resTax (r : Resolution2) : Nat :=
  match r.res with
  | .renewal rn => rn.newContract.val / 25
  | _ => 0

/-- ids created by a v2 transaction, in creation order, with their kinds -/
def Txn2.created (t : Txn2) : List (Kind × Id) :=
  t.scOuts.map (fun x => (Kind.sc, x.1)) ++ (t.sfIns.map (fun i => (Kind.sc, i.claimId)) ++
  (t.sfOuts.map (fun x => (Kind.sf, x.1)) ++ (t.fcs.map (fun x => (Kind.fc2, x.1)) ++
  t.ress.flatMap Resolution2.created)))

/-- sum of the claim outputs a v2 transaction creates when the pool stands at `pool` -/
def Txn2.claims (pool : Cur) (t : Txn2) : Nat :=
  (t.sfIns.map (fun i => claimVal pool i.parent.claimStart i.parent.value)).sum

/-- siafund tax collected by a v2 transaction (formations and renewals) -/
def Txn2.taxes (t : Txn2) : Nat := (t.fcs.map (fun x => x.2.1.val / 25)).sum + (t.ress.map resTax).sum

/-- value forfeited by the missed-expiration resolutions of a v2 transaction -/
def Txn2.forfeits (t : Txn2) : Nat :=
  (t.ress.map (fun r => match r.res with
    | .expiration => r.parent.fc.host.value - r.parent.fc.missedHost
    | _ => 0)).sum

theorem a2Final_fields (ms : Mid) (t : Txn2) :
    (a2Final ms t).base = ms.base ∧ (a2Final ms t).elements = ms.elements ∧ (a2Final ms t).spends = ms.spends ∧
    (a2Final ms t).sces = ms.sces ∧ (a2Final ms t).sfes = ms.sfes ∧ (a2Final ms t).fces = ms.fces ∧
    (a2Final ms t).v2fces = ms.v2fces ∧ (a2Final ms t).pool = ms.pool := by
  unfold a2Final
  cases t.newFoundation with
  | none => exact ⟨rfl, rfl, rfl, rfl, rfl, rfl, rfl, rfl⟩
  | some a => simp only []; split <;> exact ⟨rfl, rfl, rfl, rfl, rfl, rfl, rfl, rfl⟩

/-- the operations of one resolution: the contract is resolved, a renewal forms the new contract, the renter and the
host are paid -/
def Resolution2.ops (r : Resolution2) : List Op :=
  .resolveFc2 r.parent r.res.kind :: ((match r.res with
    | .renewal rn => [Op.createFc2 rn.newId rn.newContract]
    | _ => []) ++ [.createSc r.renterOutId r.payouts.1 true, .createSc r.hostOutId r.payouts.2 true])

theorem Resolution2.mem_ops {r : Resolution2} {o : Op} (h : o ∈ r.ops) :
    o = .resolveFc2 r.parent r.res.kind ∨ (∃ rn, r.res = .renewal rn ∧ o = .createFc2 rn.newId rn.newContract) ∨
    ∃ id x, o = .createSc id x true := by
  unfold Resolution2.ops at h
  cases hres : r.res <;> rw [hres] at h <;>
    simp only [List.cons_append, List.nil_append, List.mem_cons, List.not_mem_nil, or_false] at h
  · rcases h with h | h | h | h
    · exact .inl h
    · exact .inr (.inl ⟨_, rfl, h⟩)
    · exact .inr (.inr ⟨_, _, h⟩)
    · exact .inr (.inr ⟨_, _, h⟩)
  all_goals
    rcases h with h | h | h
    · exact .inl h
    · exact .inr (.inr ⟨_, _, h⟩)
    · exact .inr (.inr ⟨_, _, h⟩)

/-- inputs and outputs: the pool stands still -/
def Txn2.ops1 (t : Txn2) : List Op :=
  t.scIns.map (fun i => .spendSc i.parent) ++ (t.scOuts.map (fun x => .createSc x.1 x.2 false) ++
  (t.sfIns.flatMap (fun i => [.spendSf i.parent, .claim i.claimId i.parent i.claimAddr]) ++
  t.sfOuts.map (fun x => .createSf x.1 x.2.1 x.2.2)))

/-- contracts: nothing reads the pool -/
def Txn2.ops2 (t : Txn2) : List Op :=
  t.fcs.map (fun x => .createFc2 x.1 x.2.1) ++ (t.revs.map (fun r => .reviseFc2 r.parent r.rev) ++
  t.ress.flatMap Resolution2.ops)

def Txn2.ops (t : Txn2) : List Op := t.ops1 ++ t.ops2

theorem applyV2Transaction_ops (ms : Mid) (t : Txn2) :
    applyV2Transaction ms t = t.ops.foldlM Op.step ms >>= fun s => pure (a2Final s t) := by
  have hsf : (fun s (i : SfIn2) => [Op.spendSf i.parent, Op.claim i.claimId i.parent i.claimAddr].foldlM Op.step s) = a2SfIn := by
    funext s i
    simp only [List.foldlM_cons, List.foldlM_nil, Op.step, pure_bind, bind_pure]
    rfl
  have hres : (fun s r => (Resolution2.ops r).foldlM Op.step s) = a2Res := by
    funext s r
    unfold Resolution2.ops a2Res a2ResNew
    cases r.res <;>
      simp only [List.foldlM_cons, List.foldlM_nil, List.nil_append, List.cons_append, Op.step, pure_bind, bind_pure,
        if_true] <;> rfl
  rw [applyV2Transaction_eq]
  unfold Txn2.ops Txn2.ops1 Txn2.ops2
  simp only [List.foldlM_append, List.foldlM_map, foldlM_flatMap, bind_assoc, hsf, hres]
  rfl

theorem Txn2.ops_created (t : Txn2) : t.ops.flatMap Op.created = t.created := by
  have hres : ∀ r : Resolution2, r.ops.flatMap Op.created = r.created := by
    intro r; unfold Resolution2.ops Resolution2.created; cases r.res <;> rfl
  unfold Txn2.ops Txn2.ops1 Txn2.ops2 Txn2.created
  simp only [List.flatMap_append, List.flatMap_map, List.flatMap_assoc, hres, Op.created, List.flatMap_cons,
    List.flatMap_nil, List.append_nil, List.nil_append, flatMap_nil_fun, ← List.map_eq_flatMap, List.append_assoc]

theorem Txn2.ops_keys (t : Txn2) : t.ops.flatMap Op.keys =
    (t.scIns.map (·.parent.id)).map (Prod.mk Kind.sc) ++ ((t.sfIns.map (·.parent.id)).map (Prod.mk Kind.sf) ++
    ((t.revs.map (·.parent.id)).map (Prod.mk Kind.fc2) ++ (t.ress.map (·.parent.id)).map (Prod.mk Kind.fc2))) := by
  have hres : ∀ r : Resolution2, r.ops.flatMap Op.keys = [(Kind.fc2, r.parent.id)] := by
    intro r; unfold Resolution2.ops; cases r.res <;> rfl
  unfold Txn2.ops Txn2.ops1 Txn2.ops2
  simp only [List.flatMap_append, List.flatMap_map, List.flatMap_assoc, hres, Op.keys, List.flatMap_cons,
    List.flatMap_nil, List.append_nil, List.nil_append, flatMap_nil_fun, ← List.map_eq_flatMap, List.append_assoc, List.map_map, Function.comp_def]

theorem Txn2.ops_tax (t : Txn2) (L : Ledger) : (t.ops.map (Op.tax L)).sum = t.taxes := by
  have hres : ∀ r : Resolution2, (r.ops.map (Op.tax L)).sum = resTax r := by
    intro r; unfold Resolution2.ops resTax; cases r.res <;> simp [Op.tax]
  unfold Txn2.ops Txn2.ops1 Txn2.ops2 Txn2.taxes
  simp only [List.map_append, List.sum_append, List.map_map, sum_map_flatMap, hres, Function.comp_def,
    List.map_cons, List.map_nil, List.sum_cons, List.sum_nil]
  simp only [Op.tax, sum_const_zero, Nat.add_zero, Nat.zero_add]

theorem Txn2.ops_out (t : Txn2) (L : Ledger) (p : Cur) (W : Wt) : (t.ops.map (Op.out L p · W)).sum =
    (t.scIns.map (fun i => W.sc i.parent)).sum + ((t.sfIns.map (fun i => W.sf i.parent)).sum +
    (t.ress.map (fun r => W.fc * r.parent.fc.val)).sum) := by
  have hres : ∀ r : Resolution2, (r.ops.map (Op.out L p · W)).sum = W.fc * r.parent.fc.val := by
    intro r; unfold Resolution2.ops; cases r.res <;> rfl
  unfold Txn2.ops Txn2.ops1 Txn2.ops2
  simp only [List.map_append, List.sum_append, List.map_map, sum_map_flatMap, hres, Function.comp_def,
    List.map_cons, List.map_nil, List.sum_cons, List.sum_nil]
  simp only [Op.out, sum_const_zero, Nat.add_zero, Nat.zero_add, Nat.add_assoc]

/-- value of the contract a renewal forms -/
def resNew (r : Resolution2) : Nat :=
  match r.res with
  | .renewal rn => rn.newContract.val
  | _ => 0

theorem Resolution2.ops_inn (r : Resolution2) (L : Ledger) (p : Cur) (W : Wt) : (r.ops.map (Op.inn L p · W)).sum =
    W.fc * resNew r + (W.sc ⟨r.renterOutId, r.payouts.1.value, r.payouts.1.addr, maturityHeight L, none⟩ +
      W.sc ⟨r.hostOutId, r.payouts.2.value, r.payouts.2.addr, maturityHeight L, none⟩) := by
  unfold Resolution2.ops resNew
  cases r.res <;> simp [Op.inn]

theorem Txn2.ops_inn (t : Txn2) (L : Ledger) (p : Cur) (W : Wt) : (t.ops.map (Op.inn L p · W)).sum =
    (t.scOuts.map (fun x => W.sc ⟨x.1, x.2.value, x.2.addr, 0, none⟩)).sum +
    ((t.sfIns.map (fun i => W.sc ⟨i.claimId, claimVal p i.parent.claimStart i.parent.value, i.claimAddr,
      maturityHeight L, none⟩)).sum +
    ((t.sfOuts.map (fun x => W.sf ⟨x.1, x.2.1, x.2.2, p, none⟩)).sum +
    ((t.fcs.map (fun x => W.fc * x.2.1.val)).sum +
    (t.ress.map (fun r => W.fc * resNew r + (W.sc ⟨r.renterOutId, r.payouts.1.value, r.payouts.1.addr, maturityHeight L, none⟩ +
      W.sc ⟨r.hostOutId, r.payouts.2.value, r.payouts.2.addr, maturityHeight L, none⟩))).sum))) := by
  unfold Txn2.ops Txn2.ops1 Txn2.ops2
  simp only [List.map_append, List.sum_append, List.map_map, sum_map_flatMap, Function.comp_def,
    List.map_cons, List.map_nil, List.sum_cons, List.sum_nil, Resolution2.ops_inn]
  simp only [Op.inn, sum_const_zero, Nat.add_zero, Nat.zero_add, Nat.add_assoc, Bool.false_eq_true, if_false]

def resForf (r : Resolution2) : Nat :=
  match r.res with
  | .expiration => r.parent.fc.host.value - r.parent.fc.missedHost
  | _ => 0

theorem Txn2.forfeits_eq (t : Txn2) : t.forfeits = (t.ress.map resForf).sum := rfl

theorem res_sums (r : Resolution2) (hm : r.parent.fc.missedHost ≤ r.parent.fc.host.value)
    (h : ∀ rn, r.res = .renewal rn →
      rn.finalRenter.value + rn.renterRollover + rn.finalHost.value + rn.hostRollover = r.parent.fc.val) :
    r.parent.fc.val + resCost r = resNew r + (r.payouts.1.value + r.payouts.2.value) + resTax r + resRoll r + resForf r := by
  unfold resCost resTax resRoll resForf resNew Resolution2.payouts
  cases hres : r.res with
  | renewal rn => have := h rn hres; simp only []; cur_omega
  | proof a b c d => simp only []; unfold Fc2.val; omega
  | expiration => simp only []; unfold Fc2.val; cur_omega

theorem sum_map_add4 {α : Type} (l : List α) (f g1 g2 g3 g4 h : α → Nat) (hp : ∀ x ∈ l, f x + h x = g1 x + g2 x + g3 x + g4 x) :
    (l.map f).sum + (l.map h).sum = (l.map g1).sum + (l.map g2).sum + (l.map g3).sum + (l.map g4).sum := by
  induction l with
  | nil => rfl
  | cons a l ih =>
    have := hp a List.mem_cons_self
    have := ih (fun x hx => hp x (List.mem_cons_of_mem _ hx))
    simp only [List.map_cons, List.sum_cons]; omega

theorem v2txn_conserves {T} {ms ms' : Mid} {t : Txn2} {mw : Nat} {R : List (Kind × Id)}
    (hc : Ctx T ms.base) (hfix : ms.base.child ≥ ms.base.P.ephemeralFix) (hI : Inv T ms)
    (hm2 : ∀ e ∈ ms.base.fc2, e.fc.missedHost ≤ e.fc.host.value)
    (hF : Fresh T ms (t.created ++ R))
    (hnw : (t.sfOuts.map (·.2.1)).sum < u64Limit) (hsfb : sfTot ms < u64Limit)
    (hv : validateV2Transaction ms t mw = .ok ()) (ha : applyV2Transaction ms t = .ok ms') :
    Inv T ms' ∧ Fresh T ms' R ∧ ms'.base = ms.base ∧
    Phi ms' + t.fee + t.forfeits = Phi ms + t.claims ms.pool ∧ sfTot ms' = sfTot ms ∧ ms.pool ≤ ms'.pool ∧
    (CsOk ms → CsOk ms' ∧ Psi ms' + 10000 * t.claims ms.pool ≤ Psi ms + (ms'.pool - ms.pool) * sfTot ms) ∧
    ms'.pool = ms.pool + t.taxes ∧
    (1 ≤ ms.base.P.maturityDelay →
      scW (wImm ms.base.child) ms + t.claims ms.pool ≤ scW (wImm ms.base.child) ms') := by
  obtain ⟨_, hsc, hscn, hsf, hsfn, hfcs, hrevs, hrevn, hress, hresn, _, _, hbal, hsfbal⟩ := validateV2Transaction_ok_rules hv
  have hbal := v2ScBalance_ok hbal
  have hsfbal := v2SfBalance_ok hsfbal
  rw [applyV2Transaction_ops, bind_ok_iff] at ha
  obtain ⟨ms7, a, ha⟩ := ha
  cases ha
  have pRes := fun r h => res_of_Res2Rules hc hm2 (hress r h)
  have hpre : ∀ o ∈ t.ops, Op.Pre T ms o := by
    intro o ho
    simp only [Txn2.ops, Txn2.ops1, Txn2.ops2, List.mem_append, List.mem_map, List.mem_flatMap, List.mem_cons,
      List.not_mem_nil, or_false] at ho
    rcases ho with (⟨i, hi, rfl⟩ | ⟨x, _, rfl⟩ | ⟨i, hi, rfl | rfl⟩ | ⟨x, _, rfl⟩) | ⟨x, hx, rfl⟩ | ⟨r, hr, rfl⟩ | ⟨r, hr, ho⟩
    · exact spendable_of_ScIn2Rules hc hI hfix (hsc i hi)
    · trivial
    · exact spendable_of_SfIn2Rules hc hI hfix (hsf i hi)
    · trivial
    · trivial
    · exact (hfcs x hx).missed
    · exact rev_of_Rev2Rules hc hI hfix (hrevs r hr)
    · rcases r.mem_ops ho with rfl | ⟨rn, hres, rfl⟩ | ⟨_, _, rfl⟩
      · exact pRes r hr
      · exact ((hress r hr).kind.renewal hres).2
      · trivial
  have hkeys : (t.ops.flatMap Op.keys).Nodup := by
    rw [Txn2.ops_keys]
    refine nodup_tag_append hscn (nodup_tag_append hsfn (nodup_tag_append hrevn
      (List.pairwise_map.2 (hresn.imp (fun hne e => hne (Prod.mk.inj e).2))) ?_) ?_) ?_
    · intro x hx hm
      obtain ⟨y, hy, he⟩ := List.mem_map.1 hm
      obtain ⟨r, hr, rfl⟩ := List.mem_map.1 hy
      exact (hress r hr).notRevised (List.mem_reverse.2 ((Prod.mk.inj he).2 ▸ hx))
    · intro x _ hm; simp at hm
    · intro x _ hm; simp at hm
  have hq : ops.Quiet t.ops := by
    refine ops.quiet_append (fun o ho _ => ?_) (fun o ho _ _ _ => ?_)
    · simp only [Txn2.ops1, List.mem_append, List.mem_map, List.mem_flatMap, List.mem_cons, List.not_mem_nil, or_false] at ho
      rcases ho with ⟨_, _, rfl⟩ | ⟨_, _, rfl⟩ | ⟨_, _, rfl | rfl⟩ | ⟨_, _, rfl⟩ <;> rfl
    · simp only [Txn2.ops2, List.mem_append, List.mem_map, List.mem_flatMap] at ho
      rcases ho with ⟨_, _, rfl⟩ | ⟨_, _, rfl⟩ | ⟨r, _, ho⟩
      · exact ⟨rfl, rfl⟩
      · exact ⟨rfl, rfl⟩
      · rcases r.mem_ops ho with rfl | ⟨_, _, rfl⟩ | ⟨_, _, rfl⟩ <;> exact ⟨rfl, rfl⟩
  obtain ⟨hI7, _, hF7, hb7, hp7, hM⟩ := ops_ok.fold t.ops ms ms7 R hc hI hpre hkeys hq (t.ops_created.symm ▸ hF) a
  have hp7 : ms7.pool = ms.pool + t.taxes := hp7.trans (congrArg _ (t.ops_tax _))
  have hM : ∀ W, census W ms7 + _ = census W ms + _ := fun W => (congrArg _ (t.ops_out ms.base ms.pool W).symm).trans
    ((hM W).trans (congrArg _ (t.ops_inn ms.base ms.pool W)))
  obtain ⟨f1, f2, f3, f4, f5, f6, f7, f8⟩ := a2Final_fields ms7 t
  have hcen : ∀ W, census W (a2Final ms7 t) = census W ms7 := fun W =>
    census_congr W f1 f4 f5 f6 f7
  have hw : ∀ w : SfElem → Nat, sfW w ms7 + ((t.sfIns.map (·.parent)).map w).sum =
      sfW w ms + ((t.sfOuts.map (fun x => (⟨x.1, x.2.1, x.2.2, ms.pool, none⟩ : SfElem))).map w).sum := by
    intro w
    have := hM (Wt.ofSf w)
    simp only [census_ofSf, Wt.ofSf_sc, Wt.ofSf_sf, Wt.ofSf_fc, sum_const_zero, Nat.zero_mul, Nat.add_zero,
      Nat.zero_add] at this
    rw [List.map_map, List.map_map]; exact this
  have hS7 : sfTot ms7 = sfTot ms := by
    have := hw (·.value)
    rw [List.map_map, List.map_map, ← sfTot_eq_sfW, ← sfTot_eq_sfW] at this
    exact sfTot_balanced this hsfb hnw hsfbal
  refine ⟨hI7.scalars f1 f2 f3 f4 f5 f6 f7, hF7.agree (agree_scalars f1 f2 f3 f4 f5 f6 f7 (fun _ => False)) (fun _ _ h => h),
    f1.trans hb7, ?_, (sfTot_congr f1 f5).trans hS7, by rw [f8, hp7]; exact Nat.le_add_right _ _, ?_, by rw [f8, hp7], ?_⟩
  · have hV := hM Wt.value
    rw [← census_value, ← census_value, hcen, f8, hp7]
    have hrs := sum_map_add4 t.ress (·.parent.fc.val) _ resTax resRoll resForf resCost (fun r hr =>
      res_sums r (pRes r hr).2 (fun rn hres => ((hress r hr).kind.renewal hres).1))
    have hfc := sum_map_add t.fcs (fun x => x.2.1.val + x.2.1.val / 25) (fun x => x.2.1.val) (fun x => x.2.1.val / 25) (fun _ _ => rfl)
    unfold Txn2.claims Txn2.taxes
    rw [Txn2.forfeits_eq]
    simp only [Wt.value_sc, Wt.value_sf, Wt.value_fc, sum_const_zero, Nat.one_mul, Nat.zero_add] at hV
    cur_omega
  · exact psi_txn _ _ (fun w => by rw [sfW_congr w f1 f5]; exact hw w)
      (fun o ho => by obtain ⟨_, _, rfl⟩ := List.mem_map.1 ho; rfl) (f8.trans hp7) ((sfTot_congr f1 f5).trans hS7)
      (by rw [List.map_map]; exact sum_scaled_le _ _ _ _ (fun i _ => claimVal_le_psiW _ _ _))
  · -- claim outputs are immature, spent outputs are not
    intro hmd
    have h := hM (Wt.ofSc (wImm ms.base.child) (wImm_congr _))
    simp only [census_ofSc, Wt.ofSc_sc, Wt.ofSc_sf, Wt.ofSc_fc, sum_const_zero, Nat.zero_mul, Nat.add_zero,
      Nat.zero_add] at h
    rw [sum_map_zero t.scIns _ (fun sci hm => by unfold wImm; rw [if_pos (hsc sci hm).mature]),
      sum_map_zero t.scOuts _ (fun x _ => by unfold wImm; rw [if_pos (Nat.zero_le _)])] at h
    have z3 : (t.sfIns.map (fun i => wImm ms.base.child ⟨i.claimId,
        claimVal ms.pool i.parent.claimStart i.parent.value, i.claimAddr, maturityHeight ms.base, none⟩)).sum =
        t.claims ms.pool := by
      unfold Txn2.claims
      congr 1; apply List.map_congr_left; intro i _
      unfold wImm maturityHeight
      simp only []
      exact if_neg (by omega)
    rw [scW_congr _ f1 f4]
    omega

end Sia.Ledger
