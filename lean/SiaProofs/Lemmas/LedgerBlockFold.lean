import SiaProofs.Lemmas.LedgerApply
/-!
# `validateBlock` as a fold over the block's transactions (`validateBlock_eq`, `validateBlock_ok_iff`);
`validateSupplement` as rules; ids consumed along a fold (`Consumes`, `foldlM_keys_nodup`).
-/
namespace Sia.Ledger

def Block.txns2 (b : Block) : List Txn2 := match b.v2 with | some (_, _, txns) => txns | none => []
def Block.commitOk (b : Block) : Bool := match b.v2 with | some (_, c, _) => c | none => true

def vb1Step (pid mw : Nat) (s : Mid) (t : Txn1) : VM Mid :=
  validateTransaction s t pid mw >>= fun _ => applyTransaction s t
def vb2Step (mw : Nat) (s : Mid) (t : Txn2) : VM Mid :=
  validateV2Transaction s t mw >>= fun _ => applyV2Transaction s t

theorem validateBlock_eq (L : Ledger) (b : Block) (pid : Id) :
    validateBlock L b pid = (do
      validateOrphan L b
      validateSupplement L b
      if ¬ b.commitOk then reject "commitment hash mismatch"
      else do
        let s ← b.txns1.foldlM (vb1Step pid b.maxWeight) (newMid L)
        b.txns2.foldlM (vb2Step b.maxWeight) s) := by
  unfold validateBlock Block.txns2 Block.commitOk
  simp only [← forIn_eq_foldlM]
  refine bind_congr' rfl (fun _ => bind_congr' rfl (fun _ => ?_))
  rcases hb : b.v2 with _ | ⟨h, c, txns⟩
  · simp only [vb1Step, vb2Step, bind_assoc, not_true_eq_false, if_false, List.forIn_nil, bind_pure]
  · cases c
    · simp [reject_bind]
    · simp only [vb1Step, vb2Step, bind_assoc, not_true_eq_false, if_false, bind_pure]

/-- the per-transaction body of `validateSupplement` -/
def suppStep (L : Ledger) (t : Txn1) : VM Unit :=
  if ¬ t.supp.scIns.all L.hasSc then reject "siacoin element is not present in the accumulator"
  else if ¬ t.supp.sfIns.all L.hasSf then reject "siafund element is not present in the accumulator"
  else if ¬ t.supp.revised.all L.hasFc1 then reject "revised file contract is not present in the accumulator"
  else if ¬ t.supp.proofs.all (fun p => L.hasFc1 p.1) then reject "valid file contract is not present in the accumulator"
  else pure ()

theorem validateSupplement_eq (L : Ledger) (b : Block) :
    validateSupplement L b =
      (if L.child ≥ L.P.v2Require ∧ (b.txns1.length ≠ 0 ∨ b.expiring.length ≠ 0) then
        reject "v1 block supplements are not allowed after v2 hardfork is complete"
      else if ¬ b.suppLenOk then reject "incorrect number of transactions"
      else do
        forIn b.txns1 PUnit.unit (fun t _ => suppStep L t >>= fun _ => pure (ForInStep.yield PUnit.unit))
        if ¬ b.expiring.all (fun p => L.hasFc1 p.1) then reject "expiring file contract is not present in the accumulator"
        else pure ()) := by
  unfold validateSupplement
  simp only [reject_bind]
  congr 1
  congr 1
  refine bind_congr' ?_ (fun _ => rfl)
  congr 1; funext t _
  unfold suppStep
  simp only [ite_bind', reject_bind, pure_bind]

/-- every element record of an accepted supplement is an element of the ledger -/
structure SuppRules (L : Ledger) (b : Block) : Prop where
  era : ¬ (L.child ≥ L.P.v2Require ∧ (b.txns1.length ≠ 0 ∨ b.expiring.length ≠ 0))
  len : b.suppLenOk = true
  sc : ∀ t ∈ b.txns1, ∀ e ∈ t.supp.scIns, e ∈ L.sc
  sf : ∀ t ∈ b.txns1, ∀ e ∈ t.supp.sfIns, e ∈ L.sf
  revised : ∀ t ∈ b.txns1, ∀ e ∈ t.supp.revised, e ∈ L.fc1
  proofs : ∀ t ∈ b.txns1, ∀ p ∈ t.supp.proofs, p.1 ∈ L.fc1
  expiring : ∀ p ∈ b.expiring, p.1 ∈ L.fc1

theorem suppStep_ok_iff (L : Ledger) (t : Txn1) : suppStep L t = .ok () ↔
    ((∀ e ∈ t.supp.scIns, e ∈ L.sc) ∧ (∀ e ∈ t.supp.sfIns, e ∈ L.sf) ∧ (∀ e ∈ t.supp.revised, e ∈ L.fc1) ∧
      (∀ p ∈ t.supp.proofs, p.1 ∈ L.fc1)) := by
  unfold suppStep
  simp only [ite_reject_ok_iff, Decidable.not_not, pure_eq_ok, and_true, List.all_eq_true,
    Ledger.hasSc, Ledger.hasSf, Ledger.hasFc1, List.contains_iff_mem]

theorem validateSupplement_ok_iff (L : Ledger) (b : Block) : validateSupplement L b = .ok () ↔ SuppRules L b := by
  rw [validateSupplement_eq, ite_reject_ok_iff, ite_reject_ok_iff, bind_unit_ok_iff, forIn_step_ok_iff, ite_reject_ok_iff]
  simp only [suppStep_ok_iff, Decidable.not_not, pure_eq_ok, and_true, List.all_eq_true, Ledger.hasFc1,
    List.contains_iff_mem]
  constructor
  · rintro ⟨h0, hl, h1, h2⟩
    exact ⟨h0, hl, fun t ht => (h1 t ht).1, fun t ht => (h1 t ht).2.1, fun t ht => (h1 t ht).2.2.1,
      fun t ht => (h1 t ht).2.2.2, h2⟩
  · rintro ⟨h0, hl, h1, h2, h3, h4, h5⟩
    exact ⟨h0, hl, fun t ht => ⟨h1 t ht, h2 t ht, h3 t ht, h4 t ht⟩, h5⟩

theorem validateSupplement_noPanic (L : Ledger) (b : Block) : NoPanic (validateSupplement L b) := by
  rw [validateSupplement_eq]
  simp only [noPanic_ite, noPanic_reject, implies_true, true_and]
  intro _ _
  refine bind_noPanic (forIn_step_noPanic _ (fun t => ?_) _) (fun _ _ => ?_) <;>
    simp only [suppStep, noPanic_ite, noPanic_reject, noPanic_pure, implies_true, and_self]

theorem validateBlock_ok_iff {L : Ledger} {b : Block} {pid : Id} {ms : Mid} : validateBlock L b pid = .ok ms ↔
    (validateOrphan L b = .ok () ∧ SuppRules L b ∧ b.commitOk = true ∧
      ∃ s, b.txns1.foldlM (vb1Step pid b.maxWeight) (newMid L) = .ok s ∧ b.txns2.foldlM (vb2Step b.maxWeight) s = .ok ms) := by
  simp only [validateBlock_eq, ite_reject_ok_iff, Decidable.not_not, bind_ok_iff]
  exact ⟨fun ⟨_, h1, _, h2, h3⟩ => ⟨h1, (validateSupplement_ok_iff L b).1 h2, h3⟩,
    fun ⟨h1, h2, h3⟩ => ⟨(), h1, (), (validateSupplement_ok_iff L b).2 h2, h3⟩⟩

theorem foldlM_of_bind {α β} {v : β → α → VM Unit} {g : β → α → VM β} (l : List α) (s s' : β)
    (h : l.foldlM (fun s x => v s x >>= fun _ => g s x) s = .ok s') : l.foldlM g s = .ok s' := by
  induction l generalizing s with
  | nil => exact h
  | cons t l ih =>
    rw [List.foldlM_cons] at h ⊢
    obtain ⟨s1, h1, h2⟩ := bind_ok_iff.1 h
    obtain ⟨_, _, ha⟩ := bind_ok_iff.1 h1
    rw [ha]; exact ih s1 h2

/-- a step from `s` to `s'` consumes `keys`: pairwise distinct ids, none of them recorded in `spends` before, all of
them afterwards, and nothing recorded is forgotten -/
def Consumes (s s' : Mid) (keys : List Id) : Prop :=
  keys.Nodup ∧ (∀ k ∈ keys, k ∉ s.spends) ∧ (∀ k ∈ s.spends, k ∈ s'.spends) ∧ (∀ k ∈ keys, k ∈ s'.spends)

theorem foldlM_keys_nodup {α} {step : Mid → α → VM Mid} (keys : α → List Id)
    (h : ∀ s x s', step s x = .ok s' → Consumes s s' (keys x))
    (l : List α) (s s' : Mid) (prev : List Id) (hprev : prev.Nodup ∧ ∀ k ∈ prev, k ∈ s.spends)
    (hf : l.foldlM step s = .ok s') :
    (prev ++ (l.map keys).flatten).Nodup ∧ (∀ k ∈ prev ++ (l.map keys).flatten, k ∈ s'.spends) ∧
      (∀ k ∈ s.spends, k ∈ s'.spends) := by
  induction l generalizing s prev with
  | nil =>
    simp at hf; subst hf
    simpa using ⟨hprev.1, hprev.2⟩
  | cons a l ih =>
    rw [List.foldlM_cons] at hf
    obtain ⟨s1, h1, h2⟩ := bind_ok_iff.1 hf
    obtain ⟨k1, k2, k3, k4⟩ := h s a s1 h1
    have hprev' : (prev ++ keys a).Nodup ∧ ∀ k ∈ prev ++ keys a, k ∈ s1.spends := by
      refine ⟨List.nodup_append.2 ⟨hprev.1, k1, ?_⟩, ?_⟩
      · intro x hx y hy hxy
        subst hxy
        exact k2 x hy (hprev.2 x hx)
      · intro k hk
        rcases List.mem_append.1 hk with hk | hk
        · exact k3 k (hprev.2 k hk)
        · exact k4 k hk
    obtain ⟨r1, r2, r3⟩ := ih s1 (prev ++ keys a) hprev' h2
    simp only [List.map_cons, List.flatten_cons, ← List.append_assoc]
    exact ⟨r1, r2, fun k hk => r3 k (k3 k hk)⟩

end Sia.Ledger
