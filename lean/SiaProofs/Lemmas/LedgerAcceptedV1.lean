import SiaProofs.Lemmas.LedgerTxnRules
/-!
# What an accepted `validateTransaction` (v1) establishes

Acceptance is characterised in `LedgerRulesV1`; here the sums behind the balance checks are read off.
-/
namespace Sia.Ledger

def Txn1.payouts (t : Txn1) : Nat := (t.fcs.map (·.2.payout)).sum

theorem v1ScBalance_ok {t : Txn1} {inS : Cur} (h : v1ScBalance t inS = .ok ()) :
    inS = (t.scOuts.map (·.2.value)).sum + t.payouts + t.fees.sum := by
  unfold v1ScBalance at h
  simp only [bind_ok_iff, ite_reject_ok_iff, Decidable.not_not] at h
  obtain ⟨o1, ho1, o2, ho2, outS, ho3, hfin, _⟩ := h
  have e1 := foldlM_addC (fun o : Id × ScOut => o.2.value) t.scOuts 0 o1 ho1
  have e2 := foldlM_addC (fun f : Id × Fc1 => f.2.payout) t.fcs o1 o2 ho2
  have e3 := foldlM_sum _ (fun f : Cur => f)
    (fun s x r hh => (pure_eq_ok _ _).1 ((ite_else_reject_ok_iff _ _ _ _).1 hh).2) _ _ _ ho3
  unfold Txn1.payouts
  simp only [List.map_id'] at e3
  clear ho1 ho2 ho3
  cur_omega

theorem sc1_balance {ms : Mid} {t : Txn1} (h : v1ScBalance t (t.scIns.foldl (fun s sci => s + scIn1Value ms t sci) 0) = .ok ()) :
    (t.scIns.map (scIn1Value ms t)).sum = (t.scOuts.map (·.2.value)).sum + t.payouts + t.fees.sum := by
  rw [← v1ScBalance_ok h, foldl_add_sum, Nat.zero_add]

/-- the siafund balance, modulo 2^64 as the model (and Go) compute it -/
theorem sf1_balance {ms : Mid} {t : Txn1}
    (h : v1SfBalance t (t.sfIns.foldl (fun s sfi => (s + sfIn1Value ms t sfi) % u64Limit) 0) = .ok ()) :
    (t.sfIns.map (sfIn1Value ms t)).sum % u64Limit = (t.sfOuts.map (·.2.1)).sum % u64Limit := by
  unfold v1SfBalance at h
  simp only [ite_reject_ok_iff, Decidable.not_not] at h
  have e0 := foldl_modsum (sfIn1Value ms t) u64Limit t.sfIns 0
  have e1 := foldl_modsum (fun x : Id × Nat × Addr => x.2.1) u64Limit t.sfOuts 0
  rw [h.1] at e0
  simp only [Nat.zero_add] at e0 e1
  rw [← e0]
  exact e1

def Fc1FormOk (ms : Mid) (x : Id × Fc1) : Prop :=
  sumVals x.2.valid = sumVals x.2.missed ∧ x.2.payout = sumVals x.2.valid + fileContractTax ms.base x.2.payout

theorem sumOuts_eq_sumVals {l : List ScOut} {r : Cur} (h : sumOuts l = .ok r) : sumVals l = r :=
  ((sumOuts_ok_iff l r).1 h).1.symm

theorem fc1FormStep_ok {ms : Mid} {x : Id × Fc1} (h : fc1FormStep ms x.2 = .ok ()) : Fc1FormOk ms x := by
  unfold fc1FormStep at h
  simp only [ite_reject_ok_iff, bind_ok_iff, addC_ok_iff, Decidable.not_not] at h
  obtain ⟨_, _, vs, hvs, msum, hms, rfl, want, ⟨rfl, _⟩, hpay, _⟩ := h
  exact ⟨(sumOuts_eq_sumVals hvs).trans (sumOuts_eq_sumVals hms).symm, by rw [sumOuts_eq_sumVals hvs]; exact hpay⟩

theorem Rev1Rules.sums {ms : Mid} {r : Rev1} {p : Fc1Elem} (h : Rev1Rules ms r p) :
    sumVals r.fc.valid = sumVals p.fc.valid ∧ sumVals r.fc.missed = sumVals p.fc.missed := by
  obtain ⟨a, ha, hb⟩ := h.validSum
  obtain ⟨c, hc, hd⟩ := h.missedSum
  exact ⟨(sumOuts_eq_sumVals ha).trans (sumOuts_eq_sumVals hb).symm, (sumOuts_eq_sumVals hc).trans (sumOuts_eq_sumVals hd).symm⟩

end Sia.Ledger
