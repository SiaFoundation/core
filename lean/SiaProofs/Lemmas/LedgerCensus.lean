import SiaProofs.Lemmas.LedgerInv
import SiaProofs.Lemmas.LedgerSums
/-!
# The census of a mid-state

Every quantity the C01 proofs follow through a block (`Phi`, `sfTot`, `scW w`, `sfW w` and with them `Psi`, `CsOk` of
`LedgerSfWeights`)
is a weighted count of the elements the mid-state commits to.  `census W ms` is that count for a weight `W`;
each primitive moves it by the weight of the elements that leave and enter (`LedgerPrim`).
-/
namespace Sia.Ledger

def scDvW (w : ScElem → Nat) (d : ScDiff) : Nat := if d.spent then 0 else w d.e

/-- a weight `w` summed over the siacoin elements the mid-state commits to; `scTot` is `w = value` -/
def scW (w : ScElem → Nat) (ms : Mid) : Nat :=
  ((untouched ms.base.sc (·.id) ms.scIds).map w).sum + (ms.sces.map (scDvW w)).sum

def sfDvW (w : SfElem → Nat) (d : SfDiff) : Nat := if d.spent then 0 else w d.e

/-- a weight `w` summed over the siafund elements the mid-state commits to; `sfTot` is `w = value` -/
def sfW (w : SfElem → Nat) (ms : Mid) : Nat :=
  ((untouched ms.base.sf (·.id) ms.sfIds).map w).sum + (ms.sfes.map (sfDvW w)).sum

theorem scTot_eq_scW (ms : Mid) : scTot ms = scW (·.value) ms := by
  unfold scTot scW
  congr 2

theorem sfTot_eq_sfW (ms : Mid) : sfTot ms = sfW (·.value) ms := by
  unfold sfTot sfW
  congr 2

theorem sfW_newMid (w : SfElem → Nat) (L : Ledger) : sfW w (newMid L) = (L.sf.map w).sum := by
  unfold sfW Mid.sfIds newMid
  simp [untouched_nil]

theorem sfW_commit (w : SfElem → Nat) (ms : Mid) (bid : Id) : ((ms.commit bid).sf.map w).sum = sfW w ms := by
  unfold Mid.commit sfW Mid.sfIds
  simp only [List.map_append, List.sum_append]
  rw [filter_any_eq ms.base.sf (·.id) ms.sfes (·.e.id),
    sum_live ms.sfes _ _ _ (sfDvW w) (by intro d; unfold sfDvW; cases d.spent <;> simp)]

theorem sfTot_newMid (L : Ledger) : sfTot (newMid L) = SFtot L := (sfTot_eq_sfW _).trans (sfW_newMid _ L)

theorem SF_commit (ms : Mid) (bid : Id) : SFtot (ms.commit bid) = sfTot ms :=
  (sfW_commit _ ms bid).trans (sfTot_eq_sfW ms).symm

theorem scW_congr {ms ms' : Mid} (w : ScElem → Nat) (hb : ms'.base = ms.base) (hs : ms'.sces = ms.sces) :
    scW w ms' = scW w ms := by
  unfold scW Mid.scIds; rw [hb, hs]

theorem sfW_congr {ms ms' : Mid} (w : SfElem → Nat) (hb : ms'.base = ms.base) (hs : ms'.sfes = ms.sfes) :
    sfW w ms' = sfW w ms := by
  unfold sfW Mid.sfIds; rw [hb, hs]

theorem scW_zero (ms : Mid) : scW (fun _ => 0) ms = 0 := by
  unfold scW
  rw [sum_const_zero, sum_map_zero _ _ (fun d _ => by unfold scDvW; split <;> rfl)]

theorem sfW_zero (ms : Mid) : sfW (fun _ => 0) ms = 0 := by
  unfold sfW
  rw [sum_const_zero, sum_map_zero _ _ (fun d _ => by unfold sfDvW; split <;> rfl)]

/-- a weight on ledger elements: siacoin and siafund elements by `sc`, `sf` (the siacoin weight may look at value
and maturity only, which is all an accepted ephemeral parent is compared by); a contract counts `fc` times its value -/
structure Wt where
  sc : ScElem → Nat
  sf : SfElem → Nat
  fc : Nat
  resp : ∀ a b : ScElem, a.value = b.value → a.maturity = b.maturity → sc a = sc b

def census (W : Wt) (ms : Mid) : Nat := scW W.sc ms + sfW W.sf ms + W.fc * fc1Tot ms + W.fc * fc2Tot ms

/-- value: what `Phi` counts besides the pool -/
def Wt.value : Wt := ⟨(·.value), fun _ => 0, 1, fun _ _ h _ => h⟩
def Wt.ofSc (w : ScElem → Nat) (h : ∀ a b : ScElem, a.value = b.value → a.maturity = b.maturity → w a = w b) : Wt :=
  ⟨w, fun _ => 0, 0, h⟩
def Wt.ofSf (w : SfElem → Nat) : Wt := ⟨fun _ => 0, w, 0, fun _ _ _ _ => rfl⟩

theorem Wt.value_sc : Wt.value.sc = (·.value) := rfl
theorem Wt.value_sf : Wt.value.sf = fun _ => 0 := rfl
theorem Wt.value_fc : Wt.value.fc = 1 := rfl
theorem Wt.ofSc_sc (w h) : (Wt.ofSc w h).sc = w := rfl
theorem Wt.ofSc_sf (w h) : (Wt.ofSc w h).sf = fun _ => 0 := rfl
theorem Wt.ofSc_fc (w h) : (Wt.ofSc w h).fc = 0 := rfl
theorem Wt.ofSf_sc (w) : (Wt.ofSf w).sc = fun _ => 0 := rfl
theorem Wt.ofSf_sf (w) : (Wt.ofSf w).sf = w := rfl
theorem Wt.ofSf_fc (w) : (Wt.ofSf w).fc = 0 := rfl

theorem census_value (ms : Mid) : census Wt.value ms + ms.pool = Phi ms := by
  unfold census Wt.value Phi
  simp only [sfW_zero, Nat.one_mul, ← scTot_eq_scW]; omega

theorem census_ofSc (w : ScElem → Nat) (h) (ms : Mid) : census (Wt.ofSc w h) ms = scW w ms := by
  unfold census Wt.ofSc
  simp only [sfW_zero, Nat.zero_mul, Nat.add_zero]

theorem census_ofSf (w : SfElem → Nat) (ms : Mid) : census (Wt.ofSf w) ms = sfW w ms := by
  unfold census Wt.ofSf
  simp only [scW_zero, Nat.zero_mul, Nat.add_zero, Nat.zero_add]

/-- value weight of immature elements (not spendable in the block built on a ledger whose child height is `child`) -/
def wImm (child : Nat) : ScElem → Nat := fun e => if e.maturity ≤ child then 0 else e.value

theorem wImm_congr (child : Nat) : ∀ a b : ScElem, a.value = b.value → a.maturity = b.maturity → wImm child a = wImm child b := by
  intro a b h1 h2; unfold wImm; rw [h1, h2]

theorem census_congr {ms ms' : Mid} (W : Wt) (hb : ms'.base = ms.base) (h4 : ms'.sces = ms.sces) (h5 : ms'.sfes = ms.sfes)
    (h6 : ms'.fces = ms.fces) (h7 : ms'.v2fces = ms.v2fces) : census W ms' = census W ms := by
  unfold census; rw [scW_congr _ hb h4, sfW_congr _ hb h5, fc1Tot_congr hb h6, fc2Tot_congr hb h7]

/-! The census of a state that differs from `ms` in one slice, from what `LedgerStruct` says of that slice's total. -/

theorem census_sc {ms ms' : Mid} (W : Wt) {a b : Nat}
    (h : scSlice.tot (·.sc) (·.id) W.sc (scDvW W.sc) ms' + a = scSlice.tot (·.sc) (·.id) W.sc (scDvW W.sc) ms + b)
    (hs : Mid.SameBut .sc ms ms') :
    census W ms' + a = census W ms + b := by
  have h : scW W.sc ms' + a = scW W.sc ms + b := h
  unfold census
  rw [sfW_congr _ hs.base (hs.sfes (by decide)), fc1Tot_congr hs.base (hs.fces (by decide)),
    fc2Tot_congr hs.base (hs.v2fces (by decide))]
  omega

theorem census_sf {ms ms' : Mid} (W : Wt) {a b : Nat}
    (h : sfSlice.tot (·.sf) (·.id) W.sf (sfDvW W.sf) ms' + a = sfSlice.tot (·.sf) (·.id) W.sf (sfDvW W.sf) ms + b)
    (hs : Mid.SameBut .sf ms ms') :
    census W ms' + a = census W ms + b := by
  have h : sfW W.sf ms' + a = sfW W.sf ms + b := h
  unfold census
  rw [scW_congr _ hs.base (hs.sces (by decide)), fc1Tot_congr hs.base (hs.fces (by decide)),
    fc2Tot_congr hs.base (hs.v2fces (by decide))]
  omega

theorem census_fc1 {ms ms' : Mid} (W : Wt) {a b : Nat}
    (h : fc1Slice.tot (·.fc1) (·.id) (·.fc.val) fc1Dv ms' + a = fc1Slice.tot (·.fc1) (·.id) (·.fc.val) fc1Dv ms + b)
    (hs : Mid.SameBut .fc1 ms ms') :
    census W ms' + W.fc * a = census W ms + W.fc * b := by
  have h : W.fc * (fc1Tot ms' + a) = W.fc * (fc1Tot ms + b) := congrArg _ h
  rw [Nat.mul_add, Nat.mul_add] at h
  unfold census
  rw [scW_congr _ hs.base (hs.sces (by decide)), sfW_congr _ hs.base (hs.sfes (by decide)),
    fc2Tot_congr hs.base (hs.v2fces (by decide))]
  omega

theorem census_fc2 {ms ms' : Mid} (W : Wt) {a b : Nat}
    (h : fc2Slice.tot (·.fc2) (·.id) (·.fc.val) fc2Dv ms' + a = fc2Slice.tot (·.fc2) (·.id) (·.fc.val) fc2Dv ms + b)
    (hs : Mid.SameBut .fc2 ms ms') :
    census W ms' + W.fc * a = census W ms + W.fc * b := by
  have h : W.fc * (fc2Tot ms' + a) = W.fc * (fc2Tot ms + b) := congrArg _ h
  rw [Nat.mul_add, Nat.mul_add] at h
  unfold census
  rw [scW_congr _ hs.base (hs.sces (by decide)), sfW_congr _ hs.base (hs.sfes (by decide)),
    fc1Tot_congr hs.base (hs.fces (by decide))]
  omega

end Sia.Ledger
