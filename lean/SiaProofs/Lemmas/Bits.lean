/-
  SiaProofs.Lemmas.Bits — bit-level facts behind the element accumulator. Everything about
  the tree of height `h` in a forest of `n` leaves is read off the quotient `n / 2 ^ h`:
  bit `h` of `n` is its parity, `treeStart n h` is `(n / 2 ^ h / 2 * 2) * 2 ^ h`, and leaf `i`
  lies in that tree iff `n / 2 ^ h` is odd and `i / 2 ^ h + 1 = n / 2 ^ h` (`inTree_iff`).
  Vocabulary used here and in `Forest`, `AddLeaves`, `UpdateProof`, `Multiproof`: row `r` = height `r` above the leaves,
  column `c` of row `r` = the aligned block of `2 ^ r` leaves starting at `c * 2 ^ r` (leaf `p` lies in column `p / 2 ^ r`);
  block `(k, S)` = the block of height `k` whose first leaf is `S`; `sibCol c` = the column next to `c` under the same parent;
  the ancestor ("anc") of `p` in row `k` starts at `p / 2 ^ k * 2 ^ k`.
  In this order: powers of two and `mergeHeight`; aligned blocks and `sibCol`; trees (`InTree`, `treeHeight`); the binary
  counter `LowOnes`, which only `AddLeaves` uses.
-/
import SiaModel.Merkle.Accumulator
import SiaProofs.Lemmas.GoWords
import Mathlib.Tactic.Ring  -- with Mathlib, `x ^ n` on `Nat` is the monoid power: the statements downstream (C04, C05, C18) are in that form
namespace Sia.ElemAcc

theorem two_pow_pos' (k : Nat) : 0 < 2 ^ k := Nat.two_pow_pos k

theorem pow_succ2 (h : Nat) : 2 ^ (h + 1) = 2 * 2 ^ h := by rw [Nat.pow_succ, Nat.mul_comm]

theorem div_succ_pow (p k : Nat) : p / 2 ^ k / 2 = p / 2 ^ (k + 1) := by
  rw [Nat.div_div_eq_div_mul, ← Nat.pow_succ]

theorem testBit_iff (n h : Nat) : n.testBit h = true ↔ n / 2 ^ h % 2 = 1 := by
  rw [Nat.testBit_eq_decide_div_mod_eq]; simp

theorem testBit_lt_64 {n b : Nat} (hn : n < 2 ^ 64) (hb : n.testBit b = true) : b < 64 := by
  rcases Nat.lt_or_ge b 64 with h | h
  · exact h
  · rw [Nat.testBit_lt_two_pow (Nat.lt_of_lt_of_le hn (Nat.pow_le_pow_right (by omega) h))] at hb
    cases hb

theorem mod_succ_testBit (idx k : Nat) :
    idx % 2 ^ (k + 1) = idx % 2 ^ k + (if idx.testBit k then 2 ^ k else 0) := by
  rw [Nat.mod_pow_succ, Nat.testBit_eq_decide_div_mod_eq]
  rcases Nat.mod_two_eq_zero_or_one (idx / 2 ^ k) with h | h <;> simp [h]

theorem digits (n h : Nat) :
    ∃ c r, r < 2 ^ h ∧
      ((n.testBit h = true ∧ n = 2 * (c * 2 ^ h) + 2 ^ h + r) ∨
       (n.testBit h = false ∧ n = 2 * (c * 2 ^ h) + r)) ∧
      n / 2 ^ (h + 1) = c ∧ n % 2 ^ h = r := by
  refine ⟨n / 2 ^ (h + 1), n % 2 ^ h, Nat.mod_lt _ (Nat.two_pow_pos h), ?_, rfl, rfl⟩
  have h1 := Nat.div_add_mod n (2 ^ (h + 1))
  have h2 := mod_succ_testBit n h
  have e : 2 ^ (h + 1) * (n / 2 ^ (h + 1)) = 2 * (n / 2 ^ (h + 1) * 2 ^ h) := by
    rw [pow_succ2, Nat.mul_assoc, Nat.mul_comm (2 ^ h)]
  cases hb : n.testBit h with
  | true => rw [hb, if_pos rfl] at h2; exact Or.inl ⟨rfl, by omega⟩
  | false => rw [hb, if_neg Bool.false_ne_true] at h2; exact Or.inr ⟨rfl, by omega⟩

theorem bitLen_le_iff (x k : Nat) : bitLen x ≤ k ↔ x < 2 ^ k := GoWords.len_le_iff x k

theorem mergeHeight_le_iff (x y k : Nat) : mergeHeight x y ≤ k ↔ x / 2 ^ k = y / 2 ^ k := by
  unfold mergeHeight
  rw [bitLen_le_iff, ← Nat.div_eq_zero_iff_lt (Nat.two_pow_pos k), Nat.xor_div_two_pow]
  constructor
  · exact GoWords.xor_eq_zero
  · intro h; rw [h, Nat.xor_self]

theorem mergeHeight_pos {n i : Nat} (hi : i ≠ n) : 0 < mergeHeight n i := by
  rcases Nat.eq_zero_or_pos (mergeHeight n i) with h | h
  · have : mergeHeight n i ≤ 0 := by omega
    rw [mergeHeight_le_iff] at this
    simp at this; omega
  · exact h

theorem dvd_of_dvd_succ {S k : Nat} (hS : 2 ^ (k + 1) ∣ S) : 2 ^ k ∣ S :=
  Nat.dvd_trans ⟨2, by rw [Nat.pow_succ]⟩ hS

theorem dvd_add_pow {S k : Nat} (hS : 2 ^ (k + 1) ∣ S) : 2 ^ k ∣ S + 2 ^ k :=
  (Nat.dvd_add_right (dvd_of_dvd_succ hS)).2 (Nat.dvd_refl _)

theorem div_eq_of_block {S k p : Nat} (hS : 2 ^ k ∣ S) (h1 : S ≤ p) (h2 : p < S + 2 ^ k) : p / 2 ^ k = S / 2 ^ k := by
  obtain ⟨c, rfl⟩ := hS
  rw [Nat.mul_div_cancel_left _ (Nat.two_pow_pos k), Nat.div_eq_iff (Nat.two_pow_pos k), Nat.mul_comm]
  omega

theorem anc_eq {S k p : Nat} (hS : 2 ^ k ∣ S) (h1 : S ≤ p) (h2 : p < S + 2 ^ k) : p / 2 ^ k * 2 ^ k = S := by
  rw [div_eq_of_block hS h1 h2, Nat.div_mul_cancel hS]

/-- column of the sibling of the node in column `c` (of any row) -/
def sibCol (c : Nat) : Nat := if c % 2 = 0 then c + 1 else c - 1

theorem sibCol_div (c : Nat) : sibCol c / 2 = c / 2 := by unfold sibCol; split <;> omega

theorem sibCol_of_fork {a b : Nat} (h : a / 2 = b / 2) (hne : a ≠ b) : sibCol a = b := by
  unfold sibCol; split <;> omega

theorem div_pow_of_div_pow {p q k r : Nat} (h : q / 2 ^ k = p / 2 ^ k) (hr : k ≤ r) : q / 2 ^ r = p / 2 ^ r := by
  obtain ⟨d, rfl⟩ : ∃ d, r = k + d := ⟨r - k, by omega⟩
  rw [Nat.pow_add, ← Nat.div_div_eq_div_mul, ← Nat.div_div_eq_div_mul, h]

theorem div_of_col {q r c : Nat} (h1 : c * 2 ^ r ≤ q) (h2 : q < c * 2 ^ r + 2 ^ r) : q / 2 ^ r = c := by
  rw [div_eq_of_block (Nat.dvd_mul_left _ _) h1 h2, Nat.mul_div_cancel _ (Nat.two_pow_pos r)]

theorem sibCol_half {S k p : Nat} (hS : 2 ^ (k + 1) ∣ S) (h1 : S ≤ p) (h2 : p < S + 2 ^ (k + 1)) :
    sibCol (p / 2 ^ k) * 2 ^ k = if p < S + 2 ^ k then S + 2 ^ k else S := by
  have hd := dvd_of_dvd_succ hS
  have hS' : S / 2 ^ k * 2 ^ k = S := Nat.div_mul_cancel hd
  have he : S / 2 ^ k % 2 = 0 := by
    obtain ⟨c, rfl⟩ := hS
    rw [pow_succ2, Nat.mul_comm 2, Nat.mul_assoc, Nat.mul_div_cancel_left _ (Nat.two_pow_pos k)]; omega
  have hp := pow_succ2 k
  split
  · rename_i hl
    rw [div_eq_of_block hd h1 hl, sibCol, if_pos he, Nat.succ_mul, hS']
  · rw [div_eq_of_block (dvd_add_pow hS) (by omega) (by omega), Nat.add_div_right _ (Nat.two_pow_pos k), sibCol,
      if_neg (by omega), Nat.add_sub_cancel, hS']

theorem treeStart_dvd (n h : Nat) : 2 ^ (h + 1) ∣ treeStart n h := Nat.dvd_mul_left _ _

theorem treeStart_eq_div (n h : Nat) : treeStart n h = n / 2 ^ h / 2 * 2 * 2 ^ h := by
  unfold treeStart; rw [div_succ_pow, pow_succ2, Nat.mul_assoc]

theorem clearBits_eq_anc (x k : Nat) : clearBits x k = x / 2 ^ k * 2 ^ k := by
  unfold clearBits
  have := Nat.div_add_mod x (2 ^ k)
  rw [Nat.mul_comm] at this
  omega

theorem clearBits_eq_treeStart (n b : Nat) : clearBits n (b + 1) = treeStart n b := clearBits_eq_anc n (b + 1)

/-- leaf `i` lies in the tree of height `h` of a forest of `n` leaves. The lemmas speak of this one form. The model's
    `hasTree n h` / `Acc.hasTreeAtHeight` are its first conjunct as a `Bool`, unfolded where a model function tests it
    (`toForest_eq_iff`, `containsLeaf_iff`, the loop of `addLeaves`); `TreeAt n i h S` (`AddLeaves`) is `InTree n h i`
    with `S = treeStart n h` as a fourth argument; `h = treeHeight n i` is the only such height (`treeHeight_spec`,
    `treeHeight_unique`). -/
def InTree (n h i : Nat) : Prop :=
  n.testBit h = true ∧ treeStart n h ≤ i ∧ i < treeStart n h + 2 ^ h

theorem inTree_iff (n h i : Nat) : InTree n h i ↔ n / 2 ^ h % 2 = 1 ∧ i / 2 ^ h + 1 = n / 2 ^ h := by
  unfold InTree
  rw [testBit_iff, treeStart_eq_div]
  have hdiv := Nat.div_eq_iff (x := i) (y := n / 2 ^ h / 2 * 2) (Nat.two_pow_pos h)
  have hpos := Nat.two_pow_pos h
  constructor
  · rintro ⟨hb, h1, h2⟩
    have := hdiv.2 ⟨h1, by omega⟩
    exact ⟨hb, by omega⟩
  · rintro ⟨hb, he⟩
    have := hdiv.1 (by omega)
    exact ⟨hb, this.1, by omega⟩

theorem InTree.col_iff {n h i q : Nat} (ht : InTree n h i) : InTree n h q ↔ q / 2 ^ h = i / 2 ^ h := by
  rw [inTree_iff] at ht
  rw [inTree_iff]; omega

theorem treeStart_add_of_testBit {n h : Nat} (hb : n.testBit h = true) : treeStart n h + 2 ^ h = n / 2 ^ h * 2 ^ h := by
  rw [testBit_iff] at hb
  rw [treeStart_eq_div, ← Nat.succ_mul]; congr 1; omega

theorem tree_end_le {n h : Nat} (hb : n.testBit h = true) : treeStart n h + 2 ^ h ≤ n := by
  rw [treeStart_add_of_testBit hb]; exact Nat.div_mul_le_self n (2 ^ h)

theorem clearBits_of_testBit {N h : Nat} (hb : N.testBit h = true) : clearBits N h = treeStart N h + 2 ^ h := by
  rw [clearBits_eq_anc, treeStart_add_of_testBit hb]

theorem testBit_clearBits (N h j : Nat) : (clearBits N h).testBit j = (decide (h ≤ j) && N.testBit j) := by
  rw [clearBits_eq_anc, Nat.mul_comm, Nat.testBit_two_pow_mul, Nat.testBit_div_two_pow]
  by_cases hj : h ≤ j
  · rw [Nat.sub_add_cancel hj]
  · rw [decide_eq_false hj]; rfl

theorem inTree_lt {n h i : Nat} (ht : InTree n h i) : i < n := by
  have := tree_end_le ht.1; have := ht.2.2; omega

theorem treeHeight_spec {n i : Nat} (hi : i < n) : InTree n (treeHeight n i) i := by
  have hpos := mergeHeight_pos (n := n) (i := i) (by omega)
  have hth : treeHeight n i = mergeHeight n i - 1 := rfl
  generalize treeHeight n i = h at *
  have hle : mergeHeight n i ≤ h + 1 := by omega
  have hnle : ¬ mergeHeight n i ≤ h := by omega
  rw [mergeHeight_le_iff] at hle hnle
  rw [← div_succ_pow, ← div_succ_pow] at hle
  have := Nat.div_le_div_right (c := 2 ^ h) (Nat.le_of_lt hi)
  rw [inTree_iff]; omega

theorem treeHeight_unique {n h i : Nat} (ht : InTree n h i) : treeHeight n i = h := by
  rw [inTree_iff] at ht
  have hle : mergeHeight n i ≤ h + 1 := by
    rw [mergeHeight_le_iff, ← div_succ_pow, ← div_succ_pow]; omega
  have hnle : ¬ mergeHeight n i ≤ h := by rw [mergeHeight_le_iff]; omega
  unfold treeHeight; unfold mergeHeight at hle hnle; omega

theorem mergeHeight_eq {n i : Nat} (hi : i < n) : mergeHeight n i = treeHeight n i + 1 := by
  have := mergeHeight_pos (n := n) (i := i) (by omega)
  unfold treeHeight; unfold mergeHeight at *; omega

theorem treeHeight_mono {n n' j : Nat} (hj : j < n) (hn : n ≤ n') : treeHeight n j ≤ treeHeight n' j := by
  have hin := (inTree_iff _ _ _).1 (treeHeight_spec hj)
  have hmh := mergeHeight_eq (n := n') (i := j) (by omega)
  have := Nat.div_le_div_right (c := 2 ^ treeHeight n j) hn
  have hnle : ¬ mergeHeight n' j ≤ treeHeight n j := by rw [mergeHeight_le_iff]; omega
  omega

theorem treeStart_mono {n n' j : Nat} (hj : j < n) (hn : n ≤ n') :
    treeStart n' (treeHeight n' j) ≤ treeStart n (treeHeight n j) := by
  obtain ⟨_, hlo, hhi⟩ := treeHeight_spec hj
  obtain ⟨_, hlo', hhi'⟩ := treeHeight_spec (Nat.lt_of_lt_of_le hj hn)
  have hmono := treeHeight_mono hj hn
  rcases Nat.lt_or_ge (treeStart n (treeHeight n j)) (treeStart n' (treeHeight n' j)) with h | h
  · -- distinct multiples of `2 ^ treeHeight n j` are at least that far apart
    have := Nat.le_of_lt_add_of_dvd (Nat.add_lt_add_right h (2 ^ treeHeight n j)) (dvd_add_pow (treeStart_dvd n _))
      (Nat.dvd_trans (Nat.pow_dvd_pow 2 hmono) (dvd_of_dvd_succ (treeStart_dvd n' _)))
    omega
  · exact h

theorem tree_order {m h1 h2 : Nat} (hlt : h1 < h2) (hb : m.testBit h2 = true) :
    treeStart m h2 + 2 ^ h2 ≤ treeStart m h1 := by
  rw [← clearBits_eq_treeStart, ← clearBits_eq_treeStart]
  unfold clearBits
  have hm := mod_succ_testBit m h2
  rw [hb, if_pos rfl] at hm
  have : m % 2 ^ (h1 + 1) ≤ m % 2 ^ h2 := by
    rw [← Nat.mod_mod_of_dvd m (Nat.pow_dvd_pow 2 (show h1 + 1 ≤ h2 by omega))]; exact Nat.mod_le _ _
  have := Nat.mod_le m (2 ^ (h2 + 1))
  omega

/-- the low `k` bits of `m` are all set -/
def LowOnes (m k : Nat) : Prop := m % 2 ^ k = 2 ^ k - 1

theorem lowOnes_zero (m : Nat) : LowOnes m 0 := by simp [LowOnes, Nat.mod_one]

theorem lowOnes_le {m k : Nat} (h : LowOnes m k) : 2 ^ k ≤ m + 1 := by
  unfold LowOnes at h
  have := Nat.mod_le m (2 ^ k)
  have := Nat.two_pow_pos k
  omega

theorem lowOnes_step {m k : Nat} (h : LowOnes m k) (hb : m.testBit k = true) :
    LowOnes m (k + 1) ∧ treeStart m k + 2 ^ (k + 1) = m + 1 := by
  unfold LowOnes at *
  have hm := mod_succ_testBit m k
  rw [hb, if_pos rfl] at hm
  have ht := clearBits_eq_treeStart m k
  unfold clearBits at ht
  have := Nat.mod_le m (2 ^ (k + 1))
  have := pow_succ2 k
  have := Nat.two_pow_pos k
  omega

theorem lowOnes_succ {m k : Nat} (h : LowOnes m k) : m + 1 = 2 ^ k * (m / 2 ^ k + 1) := by
  unfold LowOnes at h
  have := Nat.div_add_mod m (2 ^ k)
  have := Nat.two_pow_pos k
  rw [Nat.mul_add, Nat.mul_one]; omega

theorem succ_div_pow_of_lt {m k h : Nat} (hl : LowOnes m k) (hb : m.testBit k = false) (hk : k < h) :
    (m + 1) / 2 ^ h = m / 2 ^ h := by
  obtain ⟨d, rfl⟩ : ∃ d, h = k + 1 + d := ⟨h - (k + 1), by omega⟩
  have hq : (m + 1) / 2 ^ k = m / 2 ^ k + 1 := by
    rw [lowOnes_succ hl, Nat.mul_div_cancel_left _ (Nat.two_pow_pos k)]
  have hb' : ¬ (m / 2 ^ k % 2 = 1) := by rw [← testBit_iff, hb]; exact Bool.false_ne_true
  rw [Nat.pow_add, ← Nat.div_div_eq_div_mul, ← Nat.div_div_eq_div_mul, ← div_succ_pow, ← div_succ_pow, hq]
  congr 1; omega

theorem lowOnes_stop {m k : Nat} (h : LowOnes m k) (hb : m.testBit k = false) :
    treeStart (m + 1) k + 2 ^ k = m + 1 ∧
    (∀ j, k < j → (m + 1).testBit j = m.testBit j ∧ treeStart (m + 1) j = treeStart m j) ∧
    (∀ j, j < k → (m + 1).testBit j = false) := by
  have hs := lowOnes_succ h
  have hq : (m + 1) / 2 ^ k = m / 2 ^ k + 1 := by rw [hs, Nat.mul_div_cancel_left _ (Nat.two_pow_pos k)]
  have hb' : ¬ (m / 2 ^ k % 2 = 1) := by rw [← testBit_iff, hb]; exact Bool.false_ne_true
  have hbit : (m + 1).testBit k = true := by rw [testBit_iff, hq]; omega
  refine ⟨?_, ?_, ?_⟩
  · rw [treeStart_add_of_testBit hbit, hq, Nat.mul_comm, ← hs]
  · intro j hj
    constructor
    · rw [Nat.testBit_eq_decide_div_mod_eq, Nat.testBit_eq_decide_div_mod_eq, succ_div_pow_of_lt h hb hj]
    · unfold treeStart
      rw [succ_div_pow_of_lt h hb (by omega : k < j + 1)]
  · intro j hj
    rw [hs, Nat.testBit_two_pow_mul]
    have : ¬ (j ≥ k) := by omega
    simp [this]

end Sia.ElemAcc
