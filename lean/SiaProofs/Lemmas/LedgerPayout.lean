import SiaProofs.Lemmas.LedgerBlockFold
/-!
# `midApplyBlock` as a fold (`midApplyBlock_eq`) and what whole blocks keep

An accepted block is applied from the mid-state its validation reached, by the part after the transactions
(`midApplyBlock_of_validated`, `blockTail`).  So a fact about the mid-state of an accepted, applied block is an induction
over the validated transactions (`validateBlock_inv`) followed by the tail (`blockTail_walk`); `Mid.Stable.validateBlock`
and `Mid.Stable.midApplyBlock` are the cases that need nothing of validation.  Also: what `createImmatureSc` records
(payouts, C07).
-/
namespace Sia.Ledger

/-- the diff recorded for an output created in the block -/
def createdDiff (id : Id) (o : ScOut) (maturity : Nat) : ScDiff :=
  { e := { id := id, value := o.value, addr := o.addr, maturity := maturity, leaf := none }, created := true, spent := false }

theorem createSc_fresh (ms : Mid) (id : Id) (o : ScOut) (m : Nat) (h : ms.lookup id = none) :
    ms.createSc id o m =
      { ms with sces := ms.sces ++ [createdDiff id o m], elements := ms.elements ++ [(id, ms.sces.length)] } := by
  unfold Mid.createSc Mid.putSc
  rw [h]
  rfl

theorem createImmatureSc_fresh (ms : Mid) (id : Id) (o : ScOut) (h : ms.lookup id = none) :
    ms.createImmatureSc id o =
      { ms with sces := ms.sces ++ [createdDiff id o (maturityHeight ms.base)],
                elements := ms.elements ++ [(id, ms.sces.length)] } := by
  unfold Mid.createImmatureSc
  exact createSc_fresh ms id o _ h

theorem createImmatureSc_list_fresh (l : List (ScOut × Id)) (s : Mid)
    (hfresh : ∀ x ∈ l, s.lookup x.2 = none) (hnd : (l.map (·.2)).Nodup) :
    (l.foldl (fun s x => s.createImmatureSc x.2 x.1) s).sces =
      s.sces ++ l.map (fun x => createdDiff x.2 x.1 (maturityHeight s.base)) := by
  induction l generalizing s with
  | nil => simp
  | cons a l ih =>
    simp only [List.foldl_cons, List.map_cons]
    have hnd' := List.nodup_cons.1 hnd
    rw [ih]
    · rw [createImmatureSc_fresh s a.2 a.1 (hfresh a List.mem_cons_self)]
      simp
    · intro x hx
      unfold Mid.createImmatureSc Mid.createSc
      rw [putSc_eq, put_lookup_ne scSlice fun heq => hnd'.1 (List.mem_map.2 ⟨x, hx, heq⟩)]
      exact hfresh x (List.mem_cons_of_mem _ hx)
    · exact hnd'.2

theorem createImmatureSc_two_fresh (ms : Mid) (id1 id2 : Id) (o1 o2 : ScOut)
    (h1 : ms.lookup id1 = none) (h2 : ms.lookup id2 = none) (hne : id2 ≠ id1) :
    ((ms.createImmatureSc id1 o1).createImmatureSc id2 o2).sces =
      ms.sces ++ [createdDiff id1 o1 (maturityHeight ms.base), createdDiff id2 o2 (maturityHeight ms.base)] :=
  createImmatureSc_list_fresh [(o1, id1), (o2, id2)] ms (by simp [h1, h2]) (by simp [hne.symm])

@[simp] theorem resolveFc1_sces (ms : Mid) (e : Fc1Elem) (v : Bool) : (ms.resolveFc1 e v).sces = ms.sces := by
  simp only [Mid.resolveFc1, putFc1_eq, put_sces fc1Slice (by decide)]
@[simp] theorem resolveFc1_base (ms : Mid) (e : Fc1Elem) (v : Bool) : (ms.resolveFc1 e v).base = ms.base := by
  simp only [Mid.resolveFc1, putFc1_eq, put_base]

theorem resolveFc2_sces_base {ms ms' : Mid} {e : Fc2Elem} {k : ResKind} (h : ms.resolveFc2 e k = .ok ms') :
    ms'.sces = ms.sces ∧ ms'.base = ms.base := by
  obtain ⟨_, rfl⟩ := resolveFc2_ok_iff.1 h; simp

theorem createFc2_sces_base {ms ms' : Mid} {id : Id} {fc : Fc2} (h : ms.createFc2 id fc = .ok ms') :
    ms'.sces = ms.sces ∧ ms'.base = ms.base := by
  obtain ⟨_, _, rfl⟩ := createFc2_ok_iff.1 h; simp

theorem a2ResNew_sces_base {s1 s2 : Mid} {r : Resolution2} (h : a2ResNew s1 r = .ok s2) :
    s2.sces = s1.sces ∧ s2.base = s1.base := by
  unfold a2ResNew at h
  split at h
  · exact createFc2_sces_base h
  · cases h; exact ⟨rfl, rfl⟩

/-- one iteration of the expiry loop of `midApplyBlock` -/
def mbExpire (s : Mid) (x : Fc1Elem × List Id) : VM Mid :=
  if s.isSpent x.1.id then pure s
  else (x.1.fc.missed.zip x.2).foldlM a1Payout (s.resolveFc1 x.1 false)

def mbPayout (s : Mid) (x : Id × ScOut) : VM Mid := pure (s.createImmatureSc x.1 x.2)

theorem midApplyBlock_eq (ms : Mid) (b : Block) :
    midApplyBlock ms b = (do
      if ms.base.child ≥ ms.base.P.v2Require ∧ (b.txns1.length ≠ 0 ∨ b.expiring.length ≠ 0) then
        gopanic "consensus: block supplement must be empty after v2 hardfork"
      else do
        let s ← b.txns1.foldlM applyTransaction ms
        let s ← b.txns2.foldlM applyV2Transaction s
        let s ← b.payouts.foldlM mbPayout s
        let sub ← foundationSubsidy s.base
        b.expiring.foldlM mbExpire (match sub with | some o => s.createImmatureSc b.foundationOutId o | none => s)) := by
  unfold midApplyBlock Block.txns2
  simp only [← forIn_eq_foldlM, gopanic_bind]
  split
  · rfl
  refine bind_congr' rfl (fun s => ?_)
  have hexp : ∀ s0 : Mid,
      (forIn b.expiring s0 fun x __s =>
          if __s.isSpent x.fst.id = true then pure (ForInStep.yield __s)
          else do
            let ms ← forIn (x.fst.fc.missed.zip x.snd) (__s.resolveFc1 x.fst false) fun x __s =>
                pure (ForInStep.yield (__s.createImmatureSc x.snd x.fst))
            pure (ForInStep.yield ms)) =
      forIn b.expiring s0 fun x s => mbExpire s x >>= fun s' => pure (ForInStep.yield s') := by
    intro s0
    congr 1; funext x s
    unfold mbExpire
    split
    · simp only [pure_bind]
    · rw [← forIn_eq_foldlM]
      rfl
  rcases hb : b.v2 with _ | ⟨h, c, txns⟩
  · simp only [List.forIn_nil, pure_bind]
    refine bind_congr' rfl (fun s => ?_)
    refine bind_congr' rfl (fun sub => ?_)
    cases sub <;> simp only [hexp, bind_pure]
  · simp only []
    refine bind_congr' rfl (fun s => ?_)
    refine bind_congr' rfl (fun s => ?_)
    refine bind_congr' rfl (fun sub => ?_)
    cases sub <;> simp only [hexp, bind_pure]

theorem puts_base (b : Ledger) : Mid.Puts (fun s => s.base = b) where
  putSc s id f _ h := by rw [putSc_eq, put_base]; exact h
  putSf s id f _ h := by rw [putSf_eq, put_base]; exact h
  putFc1 s id f _ h := by rw [putFc1_eq, put_base]; exact h
  putFc2 s id f _ h := by rw [putFc2_eq, put_base]; exact h
  spends _ _ h := h
  pool _ _ h := h

theorem stable_base (b : Ledger) : Mid.Stable (fun s => s.base = b) := ⟨(puts_base b).ops, fun _ _ _ _ h => h⟩

theorem applyV2Transaction_base {ms ms' : Mid} {t : Txn2} (h : applyV2Transaction ms t = .ok ms') :
    ms'.base = ms.base :=
  (stable_base ms.base).applyV2Transaction rfl h

theorem applyTransaction_base {ms ms' : Mid} {t : Txn1} (h : applyTransaction ms t = .ok ms') :
    ms'.base = ms.base :=
  (stable_base ms.base).applyTransaction rfl h

/-- what `midApplyBlock` does after the transactions: miner payouts, Foundation subsidy, expiring contracts -/
def blockTail (s : Mid) (b : Block) : VM Mid := do
  let s ← b.payouts.foldlM mbPayout s
  let sub ← foundationSubsidy s.base
  b.expiring.foldlM mbExpire (match sub with | some o => s.createImmatureSc b.foundationOutId o | none => s)

theorem blockTail_walk {I : Mid → Prop} {s s' : Mid} {b : Block} (h : blockTail s b = .ok s') (h0 : I s)
    (create : ∀ x id o m, I x → I (x.createSc id o m))
    (expire : ∀ x, ∀ e ∈ b.expiring, I x → I (x.resolveFc1 e.1 false)) : I s' := by
  obtain ⟨s3, h3, h⟩ := bind_ok_iff.1 h
  obtain ⟨sub, _, h⟩ := bind_ok_iff.1 h
  have e3 := foldlM_inv I (fun s x s' hs hx => by cases hx; exact create _ _ _ _ hs) _ _ _ h0 h3
  refine foldlM_inv_on (f := mbExpire) I _ (fun s x s' hm hs hx => ?_) _ _ ?_ h
  · unfold mbExpire at hx
    split at hx
    · cases hx; exact hs
    · exact foldlM_inv I (fun s x s' hs hx => by cases hx; exact create _ _ _ _ hs) _ _ _ (expire _ _ hm hs) hx
  · cases sub with
    | none => exact e3
    | some o => exact create _ _ _ _ e3

theorem mbExpire_total (s : Mid) (x : Fc1Elem × List Id) : ∃ s', mbExpire s x = .ok s' := by
  unfold mbExpire
  split
  · exact ⟨s, rfl⟩
  · exact foldlM_total (fun _ _ => ⟨_, rfl⟩) _ _

theorem blockTail_total (s : Mid) (b : Block) (hsub : ∃ o, foundationSubsidy s.base = .ok o) :
    ∃ s', blockTail s b = .ok s' := by
  obtain ⟨s3, h3⟩ : ∃ s3, b.payouts.foldlM mbPayout s = .ok s3 := foldlM_total (fun s x => ⟨_, rfl⟩) _ _
  obtain ⟨o, ho⟩ := hsub
  rw [← foldlM_same (·.base) (fun s x s' hs => by cases hs; exact (stable_base _).createSc _ _ _ _ rfl) _ _ _ h3] at ho
  unfold blockTail
  rw [h3, ok_bind, ho, ok_bind]
  exact foldlM_total mbExpire_total b.expiring _

theorem validateBlock_inv {I : Mid → Prop} {L : Ledger} {b : Block} {pid : Id} {ms : Mid}
    (h : validateBlock L b pid = .ok ms) (h0 : I (newMid L))
    (h1 : ∀ s s', ∀ t ∈ b.txns1, s.base = L → I s → validateTransaction s t pid b.maxWeight = .ok () →
      applyTransaction s t = .ok s' → I s')
    (h2 : ∀ s s', ∀ t ∈ b.txns2, s.base = L → I s → validateV2Transaction s t b.maxWeight = .ok () →
      applyV2Transaction s t = .ok s' → I s') : I ms ∧ ms.base = L := by
  obtain ⟨_, _, _, s, f1, f2⟩ := validateBlock_ok_iff.1 h
  have e1 := foldlM_inv_on (fun s => I s ∧ s.base = L) _ (fun s t s' hm hs hx => by
      obtain ⟨_, hv, ha⟩ := bind_ok_iff.1 hx
      exact ⟨h1 _ _ _ hm hs.2 hs.1 hv ha, (applyTransaction_base ha).trans hs.2⟩) _ _ ⟨h0, rfl⟩ f1
  exact foldlM_inv_on (fun s => I s ∧ s.base = L) _ (fun s t s' hm hs hx => by
      obtain ⟨_, hv, ha⟩ := bind_ok_iff.1 hx
      exact ⟨h2 _ _ _ hm hs.2 hs.1 hv ha, (applyV2Transaction_base ha).trans hs.2⟩) _ _ e1 f2

theorem midApplyBlock_of_validated {L : Ledger} {b : Block} {pid : Id} {ms : Mid} (h : validateBlock L b pid = .ok ms) :
    midApplyBlock (newMid L) b = blockTail ms b := by
  obtain ⟨_, hS, _, s, f1, f2⟩ := validateBlock_ok_iff.1 h
  have hera : ¬ ((newMid L).base.child ≥ (newMid L).base.P.v2Require ∧ (b.txns1.length ≠ 0 ∨ b.expiring.length ≠ 0)) :=
    hS.era
  rw [midApplyBlock_eq, if_neg hera, foldlM_of_bind _ _ _ f1, ok_bind, foldlM_of_bind _ _ _ f2]
  rfl

namespace Mid.Stable
variable {I : Mid → Prop} (hI : Mid.Stable I)
include hI

theorem midApplyBlock {ms ms' : Mid} {b : Block} (h0 : I ms) (h : midApplyBlock ms b = .ok ms') : I ms' := by
  rw [midApplyBlock_eq] at h
  split at h
  · cases h
  obtain ⟨s1, h1, h⟩ := bind_ok_iff.1 h
  obtain ⟨s2, h2, h⟩ := bind_ok_iff.1 h
  exact blockTail_walk h (foldlM_inv I (fun _ _ _ hs hx => hI.applyV2Transaction hs hx) _ _ _
    (foldlM_inv I (fun _ _ _ hs hx => hI.applyTransaction hs hx) _ _ _ h0 h1) h2) hI.createSc
    (fun _ _ _ => hI.resolveFc1 _ _ _)

theorem validateBlock {L : Ledger} {b : Block} {pid : Id} {ms : Mid} (h0 : I (newMid L))
    (h : validateBlock L b pid = .ok ms) : I ms :=
  (validateBlock_inv h h0 (fun _ _ _ _ _ hs _ ha => hI.applyTransaction hs ha)
    (fun _ _ _ _ _ hs _ ha => hI.applyV2Transaction hs ha)).1

end Mid.Stable

theorem midApplyBlock_base {L : Ledger} {b : Block} {ms : Mid} (hm : midApplyBlock (newMid L) b = .ok ms) :
    ms.base = L :=
  (stable_base L).midApplyBlock rfl hm

end Sia.Ledger
