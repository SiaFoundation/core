/-
  SiaProofs.Lemmas.UpdateLeaves — `recompute` / `updateLeaves` (consensus/merkle.go:350)
  against the naive forest.
-/
import SiaProofs.Lemmas.Forest
set_option linter.unusedSectionVars false
namespace Sia.ElemAcc
section
variable {H : Type} [Hasher H] [Inhabited H]

theorem dropWhile_sorted {α : Type} (key : α → Nat) (mid : Nat) :
    ∀ (l : List α), l.Pairwise (fun a b => key a ≤ key b) →
      ∀ x ∈ l.dropWhile (fun a => decide (key a < mid)), mid ≤ key x := by
  intro l
  induction l with
  | nil => intro _ x hx; simp at hx
  | cons a l ih =>
    intro hp x hx
    rw [List.pairwise_cons] at hp
    by_cases ha : key a < mid
    · rw [List.dropWhile_cons_of_pos (by simpa using ha)] at hx
      exact ih hp.2 x hx
    · rw [List.dropWhile_cons_of_neg (by simpa using ha)] at hx
      rcases List.mem_cons.1 hx with rfl | hx'
      · omega
      · have := hp.1 x hx'; omega

/-- the proof rewrite `recompute` performs on a leaf of the block `(height, i)` -/
def fixPath (ls' : List H) (height i : Nat) (l : Leaf H) : Leaf H :=
  { l with proof := subPath ls' 0 l.index height i ++ l.proof.drop height }

theorem fixPath_hash (ls' : List H) (height i : Nat) (l : Leaf H) : (fixPath ls' height i l).hash = l.hash := rfl
theorem setProofAt_hash (l : Leaf H) (k : Nat) (x : H) : (l.setProofAt k x).hash = l.hash := rfl

theorem setProofAt_getD (l : Leaf H) {k : Nat} (hk : k < l.proof.length) : l.setProofAt k (l.proof.getD k default) = l := by
  cases l with
  | mk e s i p =>
    simp only [Leaf.setProofAt, List.getD, List.getElem?_eq_getElem hk, Option.getD_some, List.set_getElem_self]

theorem fixPath_getD (ls' : List H) (h i : Nat) (l : Leaf H) :
    (fixPath ls' h i l).proof.getD h default = l.proof.getD h default := by
  have hA : (subPath ls' 0 l.index h i).length = h := subPath_length ls' 0 l.index h i
  simp only [fixPath, List.getD]
  rw [List.getElem?_append_right (by omega), hA, Nat.sub_self, List.getElem?_drop, Nat.add_zero]

/-- one level up, for a leaf of the left half: `recompute` writes the sibling into the proof it
    rewrote below -/
theorem fixPath_succ_left (ls' : List H) {h i : Nat} {l : Leaf H} (hlt : l.index < i + 2 ^ h) (hk : h < l.proof.length) :
    fixPath ls' (h + 1) i l = (fixPath ls' h i l).setProofAt h (subRoot ls' h (i + 2 ^ h)) := by
  have hset := set_append_cons (subPath ls' 0 l.index h i) (l.proof.drop (h + 1)) l.proof[h] (subRoot ls' h (i + 2 ^ h))
  rw [subPath_length, Nat.sub_zero] at hset
  simp only [fixPath, Leaf.setProofAt]
  rw [subPath_left ls' (Nat.zero_le _) hlt, List.drop_eq_getElem_cons hk, hset, List.append_assoc]; rfl

/-- … and for a leaf of the right half: the sibling is written first, then the proof below it -/
theorem fixPath_succ_right (ls' : List H) {h i : Nat} {l : Leaf H} (hge : i + 2 ^ h ≤ l.index) (hk : h < l.proof.length) :
    fixPath ls' (h + 1) i l = fixPath ls' h (i + 2 ^ h) (l.setProofAt h (subRoot ls' h i)) := by
  simp only [fixPath, Leaf.setProofAt]
  rw [subPath_right ls' (Nat.zero_le _) hge, List.drop_set, if_neg (Nat.lt_irrefl _), Nat.sub_self,
    List.drop_eq_getElem_cons hk, List.set_cons_zero, List.append_assoc]; rfl

/-- `recompute` on a block of the tree: given the old paths (below the block height) and
    the new leaf hashes, it returns the block's root in the updated forest and rewrites
    every proof, below the block height, to the path in the updated forest. -/
theorem recompute_spec (ls ls' : List H) : ∀ (height i : Nat) (leaves : List (Leaf H)),
    leaves ≠ [] →
    leaves.Pairwise (fun a b => a.index < b.index) →
    (∀ l ∈ leaves, i ≤ l.index ∧ l.index < i + 2 ^ height) →
    (∀ l ∈ leaves, l.proof.take height = subPath ls 0 l.index height i) →
    (∀ l ∈ leaves, ls'.getD l.index default = l.hash) →
    (∀ q, i ≤ q → q < i + 2 ^ height → (∀ l ∈ leaves, l.index ≠ q) → ls'.getD q default = ls.getD q default) →
    recompute height i leaves = .ok (subRoot ls' height i, leaves.map (fixPath ls' height i)) := by
  intro height
  induction height with
  | zero =>
    intro i leaves hne hsorted hrange _ hnew _
    rcases leaves with _ | ⟨l, _ | ⟨b, rest⟩⟩
    · exact absurd rfl hne
    · have hi := hrange l (List.mem_singleton_self l)
      have : l.index = i := by rw [Nat.pow_zero] at hi; omega
      rw [recompute, subRoot, ← this, hnew l (List.mem_singleton_self l)]
      rfl
    · exfalso
      have ha := hrange l List.mem_cons_self
      have hb := hrange b (List.mem_cons_of_mem _ List.mem_cons_self)
      have := (List.pairwise_cons.1 hsorted).1 b List.mem_cons_self
      rw [Nat.pow_zero] at ha hb; omega
  | succ height ih =>
    intro i leaves hne hsorted hrange hold hnew hsame
    have hp := pow_succ2 height
    have hsplit : leaves.takeWhile (fun l => decide (l.index < i + 2 ^ height)) ++
        leaves.dropWhile (fun l => decide (l.index < i + 2 ^ height)) = leaves := List.takeWhile_append_dropWhile
    have hleftlt : ∀ l ∈ leaves.takeWhile (fun l => decide (l.index < i + 2 ^ height)), l.index < i + 2 ^ height :=
      fun l hl => of_decide_eq_true (List.all_eq_true.1 List.all_takeWhile l hl)
    have hrightge := dropWhile_sorted (fun l : Leaf H => l.index) (i + 2 ^ height) leaves
      (hsorted.imp Nat.le_of_lt)
    have hlsub := List.takeWhile_sublist (l := leaves) (fun l => decide (l.index < i + 2 ^ height))
    have hrsub := List.dropWhile_sublist (l := leaves) (fun l => decide (l.index < i + 2 ^ height))
    have hlen : ∀ l ∈ leaves, height < l.proof.length := by
      intro l hl
      have := congrArg List.length (hold l hl)
      rw [List.length_take, subPath_length] at this; omega
    unfold recompute
    simp only []
    generalize leaves.takeWhile (fun l => decide (l.index < i + 2 ^ height)) = left at *
    generalize leaves.dropWhile (fun l => decide (l.index < i + 2 ^ height)) = right at *
    have hlmem : ∀ l ∈ left, l ∈ leaves := fun l hl => hlsub.subset hl
    have hrmem : ∀ l ∈ right, l ∈ leaves := fun l hl => hrsub.subset hl
    have hmem : ∀ l ∈ leaves, l ∈ left ∨ l ∈ right := by
      intro l hl; rw [← hsplit] at hl; exact List.mem_append.1 hl
    -- an old proof holds, below this level, the path inside its half and, at this level, the other half's old root
    have holdL : ∀ l ∈ left, l.proof.take height = subPath ls 0 l.index height i ∧
        l.proof.getD height default = subRoot ls height (i + 2 ^ height) :=
      fun l hl => take_subPath_left ls (hleftlt l hl) (hold l (hlmem l hl))
    have holdR : ∀ l ∈ right, l.proof.take height = subPath ls 0 l.index height (i + 2 ^ height) ∧
        l.proof.getD height default = subRoot ls height i :=
      fun l hl => take_subPath_right ls (hrightge l hl) (hold l (hrmem l hl))
    have hsameL : ∀ q, i ≤ q → q < i + 2 ^ height → (∀ l ∈ left, l.index ≠ q) → ls'.getD q default = ls.getD q default :=
      fun q h1 h2 h3 => hsame q h1 (by omega) fun l hl => (hmem l hl).elim (h3 l) fun h e => by
        have := hrightge l h; omega
    have hsameR : ∀ q, i + 2 ^ height ≤ q → q < i + 2 ^ height + 2 ^ height → (∀ l ∈ right, l.index ≠ q) →
        ls'.getD q default = ls.getD q default :=
      fun q h1 h2 h3 => hsame q (by omega) (by omega) fun l hl => (hmem l hl).elim (fun h e => by
        have := hleftlt l h; omega) (h3 l)
    -- the recursive calls; the right half is entered with the left root written into its proofs
    have ihL : left ≠ [] → recompute height i left = .ok (subRoot ls' height i, left.map (fixPath ls' height i)) := fun hne' =>
      ih i left hne' (hsorted.sublist hlsub)
        (fun l hl => ⟨(hrange l (hlmem l hl)).1, hleftlt l hl⟩) (fun l hl => (holdL l hl).1)
        (fun l hl => hnew l (hlmem l hl)) hsameL
    have ihR : right ≠ [] → recompute height (i + 2 ^ height) (right.map (·.setProofAt height (subRoot ls' height i))) =
        .ok (subRoot ls' height (i + 2 ^ height),
          (right.map (·.setProofAt height (subRoot ls' height i))).map (fixPath ls' height (i + 2 ^ height))) := fun hne' =>
      ih (i + 2 ^ height) _ (by simpa using hne')
        (by rw [List.pairwise_map]; exact hsorted.sublist hrsub)
        (by
          intro l hl
          obtain ⟨l1, hl1, rfl⟩ := List.mem_map.1 hl
          exact ⟨hrightge l1 hl1, by have := (hrange l1 (hrmem l1 hl1)).2; simp only [Leaf.setProofAt]; omega⟩)
        (by
          intro l hl
          obtain ⟨l1, hl1, rfl⟩ := List.mem_map.1 hl
          simp only [Leaf.setProofAt]
          rw [List.take_set_of_le (Nat.le_refl _)]
          exact (holdR l1 hl1).1)
        (by
          intro l hl
          obtain ⟨l1, hl1, rfl⟩ := List.mem_map.1 hl
          exact hnew l1 (hrmem l1 hl1))
        (by
          intro q h1 h2 h3
          apply hsameR q h1 h2
          intro l hl
          exact h3 (l.setProofAt height (subRoot ls' height i)) (List.mem_map.2 ⟨l, hl, rfl⟩))
    have hfinL : left.map (fixPath ls' (height + 1) i) =
        (left.map (fixPath ls' height i)).map (·.setProofAt height (subRoot ls' height (i + 2 ^ height))) := by
      rw [List.map_map]
      exact List.map_congr_left fun l hl => fixPath_succ_left ls' (hleftlt l hl) (hlen l (hlmem l hl))
    have hfinR : right.map (fixPath ls' (height + 1) i) =
        (right.map (·.setProofAt height (subRoot ls' height i))).map (fixPath ls' height (i + 2 ^ height)) := by
      rw [List.map_map]
      exact List.map_congr_left fun l hl => fixPath_succ_right ls' (hrightge l hl) (hlen l (hrmem l hl))
    -- a half without rewritten leaves keeps its root, which the other half's proofs already hold
    have hidR : left = [] → subRoot ls' height i = subRoot ls height i ∧
        right.map (·.setProofAt height (subRoot ls' height i)) = right := by
      intro h
      have hroot : subRoot ls' height i = subRoot ls height i :=
        subRoot_ext height i fun q h1 h2 => hsameL q h1 h2 (by rw [h]; simp)
      refine ⟨hroot, (List.map_congr_left fun l hl => ?_).trans (List.map_id right)⟩
      rw [hroot, ← (holdR l hl).2]; exact setProofAt_getD l (hlen l (hrmem l hl))
    have hidL : right = [] → subRoot ls' height (i + 2 ^ height) = subRoot ls height (i + 2 ^ height) ∧
        (left.map (fixPath ls' height i)).map (·.setProofAt height (subRoot ls' height (i + 2 ^ height))) =
          left.map (fixPath ls' height i) := by
      intro h
      have hroot : subRoot ls' height (i + 2 ^ height) = subRoot ls height (i + 2 ^ height) :=
        subRoot_ext height _ fun q h1 h2 => hsameR q h1 h2 (by rw [h]; simp)
      refine ⟨hroot, ?_⟩
      rw [List.map_map]
      exact List.map_congr_left fun l hl => by
        have hk : height < (fixPath ls' height i l).proof.length := by
          simp only [fixPath, List.length_append, subPath_length, List.length_drop]
          have := hlen l (hlmem l hl); omega
        rw [Function.comp_apply, hroot, ← (holdL l hl).2, ← fixPath_getD ls' height i l]
        exact setProofAt_getD _ hk
    rw [← hsplit, List.map_append, hfinL, hfinR]
    rcases left with _ | ⟨l0, lrest⟩ <;> rcases right with _ | ⟨r0, rs⟩
    · exact absurd hsplit.symm hne
    · obtain ⟨hroot, hid⟩ := hidR rfl
      have hrr := ihR (by simp)
      rw [hid] at hrr ⊢
      simp only [hrr, bind, Except.bind, pure, Except.pure, subRoot, (holdR r0 (by simp)).2, hroot, List.map_nil, List.nil_append]
    · obtain ⟨hroot, hid⟩ := hidL rfl
      have hll := ihL (by simp)
      rw [hid]
      simp only [hll, bind, Except.bind, pure, Except.pure, subRoot, List.map_cons, fixPath_getD, (holdL l0 (by simp)).2, hroot,
        List.map_nil, List.append_nil]
    · have hll := ihL (by simp)
      have hrr := ihR (by simp)
      simp only [hll, hrr, bind, Except.bind, pure, Except.pure, subRoot]

/-- `ls` with the hashes of `upd` written at their indices: the leaf list after a block
    rewrites existing leaves (specification side) -/
def writeLeaves (ls : List H) (upd : List (Leaf H)) : List H :=
  upd.foldl (fun acc l => acc.set l.index l.hash) ls

theorem writeLeaves_cons (ls : List H) (a : Leaf H) (rest : List (Leaf H)) :
    writeLeaves ls (a :: rest) = writeLeaves (ls.set a.index a.hash) rest := rfl

theorem writeLeaves_length (upd : List (Leaf H)) : ∀ ls : List H, (writeLeaves ls upd).length = ls.length := by
  induction upd with
  | nil => intro ls; rfl
  | cons a rest ih => intro ls; rw [writeLeaves_cons, ih, List.length_set]

theorem writeLeaves_get_other (upd : List (Leaf H)) : ∀ (ls : List H) (q : Nat), (∀ l ∈ upd, l.index ≠ q) →
    (writeLeaves ls upd).getD q default = ls.getD q default := by
  induction upd with
  | nil => intro ls q _; rfl
  | cons a rest ih =>
    intro ls q h
    rw [writeLeaves_cons, ih _ q fun l hl => h l (List.mem_cons_of_mem _ hl), List.getD, List.getD,
      List.getElem?_set_ne (h a List.mem_cons_self)]

theorem writeLeaves_get_mem (upd : List (Leaf H)) : ∀ (ls : List H),
    upd.Pairwise (fun a b => a.index ≠ b.index) → ∀ l ∈ upd, l.index < ls.length →
    (writeLeaves ls upd).getD l.index default = l.hash := by
  induction upd with
  | nil => intro ls _ l hl; cases hl
  | cons a rest ih =>
    intro ls hp l hl hlt
    rw [List.pairwise_cons] at hp
    rw [writeLeaves_cons]
    rcases List.mem_cons.1 hl with rfl | hl'
    · rw [writeLeaves_get_other rest _ _ fun u hu => (hp.1 u hu).symm, List.getD, List.getElem?_set_self hlt]; rfl
    · exact ih _ hp.2 l hl' (by rw [List.length_set]; exact hlt)

theorem writeLeaves_self (upd : List (Leaf H)) : ∀ (ls : List H),
    (∀ l ∈ upd, l.index < ls.length) → (∀ l ∈ upd, ls.getD l.index default = l.hash) → writeLeaves ls upd = ls := by
  induction upd with
  | nil => intro ls _ _; rfl
  | cons a rest ih =>
    intro ls hlt hh
    have hal := hlt a List.mem_cons_self
    rw [writeLeaves_cons, ← hh a List.mem_cons_self, List.getD, List.getElem?_eq_getElem hal, Option.getD_some,
      List.set_getElem_self]
    exact ih ls (fun l hl => hlt l (List.mem_cons_of_mem _ hl)) (fun l hl => hh l (List.mem_cons_of_mem _ hl))

theorem leafLE_trans (a b c : Leaf H) : leafLE a b = true → leafLE b c = true → leafLE a c = true := by
  simp only [leafLE, Bool.or_eq_true, decide_eq_true_eq, Bool.and_eq_true, beq_iff_eq]
  omega

theorem leafLE_total (a b : Leaf H) : (leafLE a b || leafLE b a) = true := by
  simp only [leafLE, Bool.or_eq_true, decide_eq_true_eq, Bool.and_eq_true, beq_iff_eq]
  omega

/-- the hypotheses on the leaves a block rewrites: distinct existing positions, each
    carrying its current naive path -/
structure UpdOK (ls : List H) (updated : List (Leaf H)) : Prop where
  nodup : updated.Pairwise (fun a b => a.index ≠ b.index)
  lt : ∀ l ∈ updated, l.index < ls.length
  proof : ∀ l ∈ updated, l.proof = path ls l.index

namespace UpdOK
variable {ls : List H} {updated : List (Leaf H)} {l : Leaf H}

theorem inTree (ok : UpdOK ls updated) (hl : l ∈ updated) : InTree ls.length l.proof.length l.index := by
  rw [ok.proof l hl, path_length]; exact treeHeight_spec (ok.lt l hl)

theorem length_eq (ok : UpdOK ls updated) (hl : l ∈ updated) {b : Nat} (hin : InTree ls.length b l.index) :
    l.proof.length = b := by
  rw [ok.proof l hl, path_length]; exact treeHeight_unique hin

theorem path_eq (ok : UpdOK ls updated) (hl : l ∈ updated) {ls' : List H} (hlen : ls'.length = ls.length) :
    path ls' l.index = subPath ls' 0 l.index l.proof.length (treeStart ls.length l.proof.length) := by
  rw [Sia.ElemAcc.path_eq, hlen, treeHeight_unique (ok.inTree hl)]

theorem path_eq_sibs (ok : UpdOK ls updated) (hl : l ∈ updated) {ls' : List H} (hlen : ls'.length = ls.length) :
    path ls' l.index = sibs ls' l.index 0 l.proof.length := by
  rw [Sia.ElemAcc.path_eq_sibs ls' (hlen ▸ ok.lt l hl), hlen, treeHeight_unique (ok.inTree hl)]

theorem write_get (ok : UpdOK ls updated) (hl : l ∈ updated) : (writeLeaves ls updated).getD l.index default = l.hash :=
  writeLeaves_get_mem updated ls ok.nodup l hl (ok.lt l hl)

theorem write_same (ok : UpdOK ls updated) {b q : Nat} (hin : InTree ls.length b q)
    (h : ∀ u ∈ updated, u.proof.length = b → u.index ≠ q) : (writeLeaves ls updated).getD q default = ls.getD q default :=
  writeLeaves_get_other updated ls q fun u hu hq => h u hu (ok.length_eq hu (hq ▸ hin)) hq

end UpdOK

/-- give leaf `l` its path in `ls'` -/
def withPath (ls' : List H) (l : Leaf H) : Leaf H := { l with proof := path ls' l.index }

theorem updateGroup_spec (ls : List H) (updated sorted : List (Leaf H)) (ok : UpdOK ls updated)
    (hperm : sorted.Perm updated) (hsorted : sorted.Pairwise (fun a b => leafLE a b = true)) (h : Nat) :
    updateGroup sorted h =
      .ok ((sorted.filter (fun l => l.proof.length == h)).map (withPath (writeLeaves ls updated))) := by
  unfold updateGroup
  generalize hg : sorted.filter (fun l => l.proof.length == h) = grp
  match grp, hg with
  | [], _ => rfl
  | l0 :: rest, hg =>
    have hmem : ∀ l, l ∈ l0 :: rest ↔ l ∈ updated ∧ l.proof.length = h := by
      intro l; rw [← hg, List.mem_filter, hperm.mem_iff]; simp
    have hth : ∀ l ∈ l0 :: rest, InTree ls.length h l.index := fun l hl =>
      ((hmem l).1 hl).2 ▸ ok.inTree ((hmem l).1 hl).1
    have hS : 2 ^ h ∣ treeStart ls.length h := dvd_of_dvd_succ (treeStart_dvd _ _)
    have hstart : clearBits l0.index h = treeStart ls.length h := by
      obtain ⟨_, h1, h2⟩ := hth l0 (by simp)
      rw [clearBits_eq_anc]; exact anc_eq hS h1 h2
    have hnodup : sorted.Pairwise (fun a b => a.index ≠ b.index) :=
      hperm.symm.pairwise ok.nodup (fun hab => fun e => hab e.symm)
    have hpw : (l0 :: rest).Pairwise (fun a b => a.index < b.index) := by
      have h1 := (hsorted.and hnodup).filter (fun l => l.proof.length == h)
      rw [hg] at h1
      refine List.Pairwise.imp_of_mem ?_ h1
      intro a b ha hb hab
      have ea := ((hmem a).1 ha).2
      have eb := ((hmem b).1 hb).2
      obtain ⟨h2, h3⟩ := hab
      simp only [leafLE, Bool.or_eq_true, decide_eq_true_eq, Bool.and_eq_true, beq_iff_eq] at h2
      omega
    have hrec := recompute_spec ls (writeLeaves ls updated) h (treeStart ls.length h) (l0 :: rest) (by simp) hpw
      (fun l hl => (hth l hl).2)
      (fun l hl => by
        obtain ⟨hu, hlh⟩ := (hmem l).1 hl
        rw [List.take_of_length_le (by omega), ok.proof l hu, ok.path_eq hu rfl, hlh])
      (fun l hl => ok.write_get ((hmem l).1 hl).1)
      (fun q h1 h2 h3 => ok.write_same ⟨(hth l0 (by simp)).1, h1, h2⟩ fun u hu hlh => h3 u ((hmem u).2 ⟨hu, hlh⟩))
    dsimp only
    rw [hstart, hrec]
    simp only [bind, Except.bind, pure, Except.pure]
    congr 1
    apply List.map_congr_left
    intro l hl
    obtain ⟨hu, hlh⟩ := (hmem l).1 hl
    simp only [fixPath, withPath]
    rw [List.drop_of_length_le (by omega), List.append_nil, ok.path_eq hu (writeLeaves_length _ _), hlh]

theorem updateGroups_spec (ls : List H) (updated sorted : List (Leaf H)) (ok : UpdOK ls updated)
    (hperm : sorted.Perm updated) (hsorted : sorted.Pairwise (fun a b => leafLE a b = true)) (k : Nat) :
    ∃ f, updateGroups sorted k = .ok f ∧ ∀ h, f h =
      if h < k then (sorted.filter (fun l => l.proof.length == h)).map (withPath (writeLeaves ls updated)) else [] := by
  induction k with
  | zero => exact ⟨_, rfl, fun h => by simp⟩
  | succ k ih =>
    obtain ⟨f, hf, hspec⟩ := ih
    refine ⟨setFn f k ((sorted.filter (fun l => l.proof.length == k)).map (withPath (writeLeaves ls updated))), ?_, ?_⟩
    · simp only [updateGroups, hf, updateGroup_spec ls updated sorted ok hperm hsorted k, bind, Except.bind, pure, Except.pure]
    · intro h
      unfold setFn
      by_cases hk : h = k
      · subst hk; simp
      · rw [if_neg hk, hspec h]
        by_cases h1 : h < k
        · rw [if_pos h1, if_pos (by omega)]
        · rw [if_neg h1, if_neg (by omega)]

/-- **updateLeaves computes the updated forest's paths.** Every rewritten leaf ends up,
    grouped by the height of its tree, with its path in the updated leaf list. The order inside `upd h` is
    deliberately not stated (`updateGroups_spec` has the list). -/
theorem updateLeaves_spec (ls : List H) (updated : List (Leaf H)) (ok : UpdOK ls updated) (hn : ls.length < 2 ^ 64) :
    ∃ upd, updateLeaves updated = .ok upd ∧
      ∀ h l', l' ∈ upd h ↔ ∃ l ∈ updated, l.proof.length = h ∧ l' = withPath (writeLeaves ls updated) l := by
  have hperm := List.mergeSort_perm updated leafLE
  have hsorted := List.pairwise_mergeSort (le := leafLE) leafLE_trans leafLE_total updated
  obtain ⟨f, hf, hspec⟩ := updateGroups_spec ls updated _ ok hperm hsorted 64
  refine ⟨f, hf, ?_⟩
  intro h l'
  rw [hspec h]
  constructor
  · intro hl
    split at hl
    · obtain ⟨l, hl1, rfl⟩ := List.mem_map.1 hl
      rw [List.mem_filter, hperm.mem_iff] at hl1
      exact ⟨l, hl1.1, by simpa using hl1.2, rfl⟩
    · simp at hl
  · rintro ⟨l, hu, hlh, rfl⟩
    have hlt : h < 64 := testBit_lt_64 hn (hlh ▸ ok.inTree hu).1
    rw [if_pos hlt]
    exact List.mem_map.2 ⟨l, by rw [List.mem_filter, hperm.mem_iff]; exact ⟨hu, by simpa using hlh⟩, rfl⟩

end
end Sia.ElemAcc
