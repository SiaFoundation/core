import SiaProofs.Lemmas.LedgerStore
import SiaProofs.Lemmas.LedgerTxnRules
/-!
# Validated blocks only record ledger elements in their non-created diffs (`Genuine`)
-/
namespace Sia.Ledger

def Mid.scTarget (s : Mid) (id : Id) : ScDiff := match s.lookup id with | some i => s.sces.getD i default | none => default
def Mid.sfTarget (s : Mid) (id : Id) : SfDiff := match s.lookup id with | some i => s.sfes.getD i default | none => default

theorem scTarget_mem (s : Mid) (id : Id) : s.scTarget id ∈ s.sces ∨ s.scTarget id = default := scSlice.target_mem s id
theorem sfTarget_mem (s : Mid) (id : Id) : s.sfTarget id ∈ s.sfes ∨ s.sfTarget id = default := sfSlice.target_mem s id

theorem putSc_G {L : Ledger} (s : Mid) (id : Id) (f : ScDiff → ScDiff) (hG : Genuine L s)
    (hf : (f (s.scTarget id)).created = false → (f (s.scTarget id)).e ∈ L.sc) : Genuine L (s.putSc id f) :=
  ⟨put_forall_target scSlice s id f hG.sc hf, by rw [putSc_eq, put_sfes _ (by decide)]; exact hG.sf,
    by rw [putSc_eq, put_fces _ (by decide)]; exact hG.fc1, by rw [putSc_eq, put_v2fces _ (by decide)]; exact hG.fc2⟩

theorem putSf_G {L : Ledger} (s : Mid) (id : Id) (f : SfDiff → SfDiff) (hG : Genuine L s)
    (hf : (f (s.sfTarget id)).created = false → (f (s.sfTarget id)).e ∈ L.sf) : Genuine L (s.putSf id f) :=
  ⟨by rw [putSf_eq, put_sces _ (by decide)]; exact hG.sc, put_forall_target sfSlice s id f hG.sf hf,
    by rw [putSf_eq, put_fces _ (by decide)]; exact hG.fc1, by rw [putSf_eq, put_v2fces _ (by decide)]; exact hG.fc2⟩

theorem putFc1_G {L : Ledger} (s : Mid) (id : Id) (f : Fc1Diff → Fc1Diff) (hG : Genuine L s)
    (hf : (f (fc1Slice.target s id)).created = false → (f (fc1Slice.target s id)).e ∈ L.fc1) : Genuine L (s.putFc1 id f) :=
  ⟨by rw [putFc1_eq, put_sces _ (by decide)]; exact hG.sc, by rw [putFc1_eq, put_sfes _ (by decide)]; exact hG.sf,
    put_forall_target fc1Slice s id f hG.fc1 hf, by rw [putFc1_eq, put_v2fces _ (by decide)]; exact hG.fc2⟩

theorem putFc2_G {L : Ledger} (s : Mid) (id : Id) (f : Fc2Diff → Fc2Diff) (hG : Genuine L s)
    (hf : (f (fc2Slice.target s id)).created = false → (f (fc2Slice.target s id)).e ∈ L.fc2) : Genuine L (s.putFc2 id f) :=
  ⟨by rw [putFc2_eq, put_sces _ (by decide)]; exact hG.sc, by rw [putFc2_eq, put_sfes _ (by decide)]; exact hG.sf,
    by rw [putFc2_eq, put_fces _ (by decide)]; exact hG.fc1, put_forall_target fc2Slice s id f hG.fc2 hf⟩

theorem Genuine.of_same {L : Ledger} {s s' : Mid} (h : Genuine L s) (e1 : s'.sces = s.sces)
    (e2 : s'.sfes = s.sfes) (e3 : s'.fces = s.fces) (e4 : s'.v2fces = s.v2fces) : Genuine L s' :=
  ⟨by rw [e1]; exact h.sc, by rw [e2]; exact h.sf, by rw [e3]; exact h.fc1, by rw [e4]; exact h.fc2⟩

theorem createSc_G {L : Ledger} (s : Mid) (id : Id) (o : ScOut) (m : Nat) (h : Genuine L s) : Genuine L (s.createSc id o m) :=
  putSc_G s id _ h (fun hc => by cases hc)
theorem createSf_G {L : Ledger} (s : Mid) (id : Id) (v : Nat) (a : Addr) (h : Genuine L s) : Genuine L (s.createSf id v a) :=
  putSf_G s id _ h (fun hc => by cases hc)

theorem spendSc_G {L : Ledger} (s : Mid) (e : ScElem) (h : Genuine L s)
    (he : (s.scTarget e.id).created = false → e ∈ L.sc) : Genuine L (s.spendSc e) :=
  (putSc_G s e.id (fun d => { d with e := e, spent := true }) h he).of_same rfl rfl rfl rfl

theorem spendSf_G {L : Ledger} (s : Mid) (e : SfElem) (h : Genuine L s)
    (he : (s.sfTarget e.id).created = false → e ∈ L.sf) : Genuine L (s.spendSf e) :=
  (putSf_G s e.id (fun d => { d with e := e, spent := true }) h he).of_same rfl rfl rfl rfl

theorem createFc1_G {L : Ledger} {s s' : Mid} {id : Id} {fc : Fc1} (h : Genuine L s) (hc : s.createFc1 id fc = .ok s') :
    Genuine L s' := by
  obtain ⟨_, rfl⟩ := createFc1_ok_iff.1 hc
  exact (putFc1_G s id _ h (fun hc => by cases hc)).of_same rfl rfl rfl rfl

theorem createFc2_G {L : Ledger} {s s' : Mid} {id : Id} {fc : Fc2} (h : Genuine L s) (hc : s.createFc2 id fc = .ok s') :
    Genuine L s' := by
  obtain ⟨_, _, rfl⟩ := createFc2_ok_iff.1 hc
  exact (putFc2_G s id _ h (fun hc => by cases hc)).of_same rfl rfl rfl rfl

/-- a revision is recorded genuinely if the revised element is a ledger element, unless the diff is
created in the block or already holds a revision (then its pre-block element is kept) -/
theorem reviseFc1_G {L : Ledger} (s : Mid) (e : Fc1Elem) (rev : Fc1) (h : Genuine L s)
    (he : (fc1Slice.target s e.id).created = false → (fc1Slice.target s e.id).revision = none → e ∈ L.fc1) :
    Genuine L (s.reviseFc1 e rev) := by
  unfold Mid.reviseFc1
  apply putFc1_G s e.id _ h
  have hm := fc1Slice.target_mem s e.id
  generalize fc1Slice.target s e.id = d at he hm
  cases h1 : d.created with
  | true => simp
  | false =>
    cases h2 : d.revision with
    | some r =>
      simp only [Option.isSome_some, if_true, Bool.false_eq_true, if_false]
      intro _
      rcases hm with hm | hd
      · exact h.fc1 _ hm h1
      · rw [hd] at h2; cases h2
    | none =>
      simp only [Option.isSome_none, Bool.false_eq_true, if_false]
      intro _
      exact he h1 h2

theorem resolveFc1_G {L : Ledger} (s : Mid) (e : Fc1Elem) (v : Bool) (h : Genuine L s)
    (he : (fc1Slice.target s e.id).created = false → (fc1Slice.target s e.id).revision = none → e ∈ L.fc1) :
    Genuine L (s.resolveFc1 e v) := by
  unfold Mid.resolveFc1
  refine (putFc1_G s e.id _ h ?_).of_same rfl rfl rfl rfl
  have hm := fc1Slice.target_mem s e.id
  generalize fc1Slice.target s e.id = d at he hm
  cases h2 : d.revision with
  | some r =>
    simp only [Option.isSome_some, if_true]
    intro hc
    rcases hm with hm | hd
    · exact h.fc1 _ hm hc
    · rw [hd] at h2; cases h2
  | none =>
    simp only [Option.isSome_none, Bool.false_eq_true, if_false]
    intro hc
    exact he hc h2

theorem reviseFc2_G {L : Ledger} (s : Mid) (e : Fc2Elem) (rev : Fc2) (h : Genuine L s) (he : e ∈ L.fc2) :
    Genuine L (s.reviseFc2 e rev) := by
  unfold Mid.reviseFc2
  apply putFc2_G s e.id _ h
  have hm := fc2Slice.target_mem s e.id
  generalize fc2Slice.target s e.id = d at hm
  cases h1 : d.created with
  | true => simp
  | false =>
    cases h2 : d.revision with
    | some r =>
      simp only [Option.isSome_some, if_true, Bool.false_eq_true, if_false]
      intro _
      rcases hm with hm | hd
      · exact h.fc2 _ hm h1
      · rw [hd] at h2; cases h2
    | none =>
      simp only [Option.isSome_none, Bool.false_eq_true, if_false]
      intro _
      exact he

theorem resolveFc2_G {L : Ledger} {s s' : Mid} {e : Fc2Elem} {k : ResKind} (h : Genuine L s) (he : e ∈ L.fc2)
    (hc : s.resolveFc2 e k = .ok s') : Genuine L s' := by
  obtain ⟨_, rfl⟩ := resolveFc2_ok_iff.1 hc
  exact (putFc2_G s e.id _ h (fun _ => he)).of_same rfl rfl rfl rfl

/-- `Mid.scCreatedAt`, `Mid.sfCreatedAt` on the slice `sl` -/
def Slice.CreatedAt {D} [Inhabited D] (sl : Slice D) (s : Mid) (id : Id) : Prop :=
  ∃ j, s.lookup id = some j ∧ j < (sl.get s).length ∧ sl.created ((sl.get s).getD j default) = true

theorem Slice.CreatedAt.target {D} [Inhabited D] {sl : Slice D} {s : Mid} {id : Id} (h : sl.CreatedAt s id) :
    sl.created (sl.target s id) = true := by
  obtain ⟨j, h1, _, h3⟩ := h
  unfold Slice.target; rw [h1]; exact h3

theorem put_createdAt {D} [Inhabited D] (sl : Slice D) {s : Mid} {id' : Id} {f : D → D}
    (hf : ∀ d, sl.created d = true → sl.created (f d) = true) {id : Id} (h : sl.CreatedAt s id) :
    sl.CreatedAt (s.put sl id' f) id := by
  obtain ⟨j, h1, h2, h3⟩ := h
  refine ⟨j, put_lookup_mono sl h1, ?_⟩
  rcases put_raw sl s id' f with ⟨i, _, hs, _⟩ | ⟨_, hs, _⟩ <;> rw [hs]
  · refine ⟨by simpa using h2, ?_⟩
    by_cases hij : i = j
    · subst hij; simpa [List.getD, h2] using hf _ h3
    · simpa [List.getD, hij] using h3
  · exact ⟨by simp; omega, by simpa [List.getD, List.getElem?_append_left h2] using h3⟩

theorem put_createdAt_other {D D'} [Inhabited D] [Inhabited D'] (sl : Slice D) (sl' : Slice D') {s : Mid} {id' : Id}
    {f : D → D} (hg : sl'.get (s.put sl id' f) = sl'.get s) {id : Id} (h : sl'.CreatedAt s id) :
    sl'.CreatedAt (s.put sl id' f) id :=
  let ⟨j, h1, h23⟩ := h; ⟨j, put_lookup_mono sl h1, by rw [hg]; exact h23⟩

/-- the siacoin and siafund diffs that `s` marks as created are still recorded, and marked, in `x` -/
def CreatedMono (s x : Mid) : Prop :=
  (∀ id, s.scCreatedAt id → x.scCreatedAt id) ∧ (∀ id, s.sfCreatedAt id → x.sfCreatedAt id)

theorem puts_createdMono (s : Mid) : Mid.Puts (CreatedMono s) where
  putSc x _ _ hf h := ⟨fun i hi => put_createdAt scSlice hf.created (h.1 i hi),
    fun i hi => put_createdAt_other scSlice sfSlice (put_sfes _ (by decide) x _ _) (h.2 i hi)⟩
  putSf x _ _ hf h := ⟨fun i hi => put_createdAt_other sfSlice scSlice (put_sces _ (by decide) x _ _) (h.1 i hi),
    fun i hi => put_createdAt sfSlice hf.created (h.2 i hi)⟩
  putFc1 x _ _ _ h := ⟨fun i hi => put_createdAt_other fc1Slice scSlice (put_sces _ (by decide) x _ _) (h.1 i hi),
    fun i hi => put_createdAt_other fc1Slice sfSlice (put_sfes _ (by decide) x _ _) (h.2 i hi)⟩
  putFc2 x _ _ _ h := ⟨fun i hi => put_createdAt_other fc2Slice scSlice (put_sces _ (by decide) x _ _) (h.1 i hi),
    fun i hi => put_createdAt_other fc2Slice sfSlice (put_sfes _ (by decide) x _ _) (h.2 i hi)⟩
  spends _ _ h := h
  pool _ _ h := h

/-- an accepted v2 transaction presents, for every parent it consumes, a ledger element or (inputs) an output
created earlier in the block -/
theorem applyV2Transaction_G {L : Ledger} {s s' : Mid} {t : Txn2} {mw : Nat} (hG : Genuine L s) (hb : s.base = L)
    (hv : validateV2Transaction s t mw = .ok ()) (h : applyV2Transaction s t = .ok s') : Genuine L s' := by
  have R := validateV2Transaction_ok_rules hv
  have hM := (puts_createdMono s).ops
  subst hb
  obtain ⟨x, hx, rfl⟩ := applyV2Transaction_walk (I := fun x => Genuine s.base x ∧ CreatedMono s x) h
    ⟨hG, fun _ h => h, fun _ h => h⟩
    (fun x sci hm hx => ⟨spendSc_G x _ hx.1 (fun hc => by
      have hp := (R.scIn sci hm).present
      unfold ScIn2Present at hp
      split at hp
      · exact absurd ((Slice.CreatedAt.target (sl := scSlice) (hx.2.1 _ (ephemeralSc_createdAt hp))).symm.trans hc) (by decide)
      · simpa [Ledger.hasSc] using hp), hM.spendSc _ _ hx.2⟩)
    (fun x _ _ _ hx => ⟨createSc_G x _ _ _ hx.1, hM.createSc _ _ _ _ hx.2⟩)
    (fun x sfi hm hx => ⟨spendSf_G x _ hx.1 (fun hc => by
      have hp := (R.sfIn sfi hm).present
      unfold SfIn2Present at hp
      split at hp
      · exact absurd ((Slice.CreatedAt.target (sl := sfSlice) (hx.2.2 _ (validateEphemeralSf_ok hp).1)).symm.trans hc) (by decide)
      · simpa [Ledger.hasSf] using hp), hM.spendSf _ _ hx.2⟩)
    (fun x _ _ _ hx => ⟨createSf_G x _ _ _ hx.1, hM.createSf _ _ _ _ hx.2⟩)
    (fun x _ _ _ hx hc => ⟨createFc2_G hx.1 hc, hM.createFc2 _ _ _ _ hx.2 hc⟩)
    (fun x r hm hx => ⟨reviseFc2_G x _ _ hx.1 (by simpa [Ledger.hasFc2] using (R.rev r hm).present),
      hM.reviseFc2 _ _ _ hx.2⟩)
    (fun x _ _ r hm hx hc => ⟨resolveFc2_G hx.1 (by simpa [Ledger.hasFc2] using (R.res r hm).present) hc,
      hM.resolveFc2 _ _ _ _ hx.2 hc⟩)
  exact a2Final_cases _ x t (fun _ _ _ => hx.1.of_same rfl rfl rfl rfl)

structure SuppIn (L : Ledger) (t : Txn1) : Prop where
  sc : ∀ e ∈ t.supp.scIns, e ∈ L.sc
  sf : ∀ e ∈ t.supp.sfIns, e ∈ L.sf
  revised : ∀ e ∈ t.supp.revised, e ∈ L.fc1
  proofs : ∀ p ∈ t.supp.proofs, p.1 ∈ L.fc1

theorem scElement_G {L : Ledger} {s : Mid} {t : Txn1} {id : Id} {e : ScElem} (hG : Genuine L s) (hs : SuppIn L t)
    (h : s.scElement t.supp id = some e) : (s.scTarget e.id).created = false → e ∈ L.sc := by
  have hid := scElement_id h
  rw [hid]
  unfold Mid.scElement at h
  split at h
  · rename_i d hd
    cases h
    obtain ⟨ht, hm⟩ := scSlice.diff?_target hd
    rw [show s.scTarget id = d from ht]; exact hG.sc d hm
  · intro _; exact hs.sc e (List.mem_of_find?_eq_some h)

theorem sfElement_G {L : Ledger} {s : Mid} {t : Txn1} {id : Id} {e : SfElem} (hG : Genuine L s) (hs : SuppIn L t)
    (h : s.sfElement t.supp id = some e) : (s.sfTarget e.id).created = false → e ∈ L.sf := by
  have hid := sfElement_id h
  rw [hid]
  unfold Mid.sfElement at h
  split at h
  · rename_i d hd
    cases h
    obtain ⟨ht, hm⟩ := sfSlice.diff?_target hd
    rw [show s.sfTarget id = d from ht]; exact hG.sf d hm
  · intro _; exact hs.sf e (List.mem_of_find?_eq_some h)

theorem fc1Element_G {L : Ledger} {s : Mid} {t : Txn1} {id : Id} {e : Fc1Elem} (hG : Genuine L s) (hs : SuppIn L t)
    (h : s.fc1Element t.supp id = some e) :
    (fc1Slice.target s e.id).created = false → (fc1Slice.target s e.id).revision = none → e ∈ L.fc1 := by
  have hid := fc1Element_id h
  rw [hid]
  unfold Mid.fc1Element at h
  split at h
  · rename_i d hd
    cases h
    obtain ⟨ht, hm⟩ := fc1Slice.diff?_target hd
    rw [ht]
    intro hc hr
    unfold Fc1Diff.current; rw [hr]
    exact hG.fc1 d hm hc
  · intro _ _
    split at h
    · rename_i e' he; cases h; exact hs.revised _ (List.mem_of_find?_eq_some he)
    · cases hf : t.supp.proofs.find? (·.1.id = id) with
      | none => rw [hf] at h; cases h
      | some x => rw [hf] at h; cases h; exact hs.proofs x (List.mem_of_find?_eq_some hf)

theorem applyTransaction_G {L : Ledger} {s s' : Mid} {t : Txn1} (hG : Genuine L s) (hs : SuppIn L t)
    (h : applyTransaction s t = .ok s') : Genuine L s' := by
  obtain ⟨x, hx, rfl⟩ := applyTransaction_walk h hG
    (fun x _ _ he hx => spendSc_G x _ hx (scElement_G hx hs he)) (fun x _ _ _ hx => createSc_G x _ _ _ hx)
    (fun x _ _ he hx => spendSf_G x _ hx (sfElement_G hx hs he)) (fun x _ _ hx => createSf_G x _ _ _ hx)
    (fun _ _ _ _ hx hc => createFc1_G hx hc) (fun x _ _ _ he hx => reviseFc1_G x _ _ hx (fc1Element_G hx hs he))
    (fun x _ _ he hx => resolveFc1_G x _ _ hx (fc1Element_G hx hs he))
  unfold a1Final; split
  · split <;> first | exact hx | exact hx.of_same rfl rfl rfl rfl
  · exact hx

theorem newMid_G (L : Ledger) : Genuine L (newMid L) :=
  { sc := fun _ h => absurd h List.not_mem_nil, sf := fun _ h => absurd h List.not_mem_nil,
    fc1 := fun _ h => absurd h List.not_mem_nil, fc2 := fun _ h => absurd h List.not_mem_nil }

/-- For a block that passes `validateBlock`, the mid-state `midApplyBlock` produces (the one whose
diffs an `ApplyUpdate` / `RevertUpdate` reports) records, in every diff not created by the block,
an element of the ledger the block was applied to. -/
theorem genuine_of_validated {L : Ledger} {b : Block} {pid : Id} {ms0 ms : Mid}
    (hv : validateBlock L b pid = .ok ms0) (hm : midApplyBlock (newMid L) b = .ok ms) : Genuine L ms := by
  have hS := (validateBlock_ok_iff.1 hv).2.1
  rw [midApplyBlock_of_validated hv] at hm
  exact blockTail_walk hm
    (validateBlock_inv hv (newMid_G L)
      (fun _ _ t ht _ hx _ ha => applyTransaction_G hx ⟨hS.sc t ht, hS.sf t ht, hS.revised t ht, hS.proofs t ht⟩ ha)
      (fun _ _ _ _ hb hx hv ha => applyV2Transaction_G hx hb hv ha)).1
    (fun x _ _ _ hx => createSc_G x _ _ _ hx) (fun x e he hx => resolveFc1_G x _ _ hx (fun _ _ => hS.expiring e he))

end Sia.Ledger
