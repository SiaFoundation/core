import SiaProofs.Lemmas.LedgerTxnV1
import SiaProofs.Lemmas.LedgerBlockFold
import SiaProofs.Lemmas.LedgerPayout
/-!
# Blocks

Well-formed ledgers (`WF`), the freshness hypothesis (`FreshIds`), the per-block id typing (`Tb`), the covering
hypothesis on id lists (`checkProofIds`, `IdListsCover`), the block-level loops (`loop_v1`, `loop_v2`, stated over the
relation `Moves` between mid-states; miner payouts, Foundation subsidy and expiring v1 contracts in `blockTail_spec`)
and their composition `block_conserves`.
-/
namespace Sia.Ledger

/-- parameters for which `foundationSubsidy` cannot panic: it divides by `blocksPerYear / 12`
(Model.lean, `bpm`), hence `12 ≤ blocksPerYear`, and multiplies 30000 SC by `blocksPerYear` -/
def ParamsOk (P : Params) : Prop := 12 ≤ P.blocksPerYear ∧ siacoins 30000 * P.blocksPerYear < curLimit

/-- well-formed ledger: the invariants every reachable ledger satisfies -/
structure WF (L : Ledger) : Prop where
  /-- ids of live elements are pairwise distinct, across all kinds -/
  nodup : (baseIds L .sc ++ baseIds L .sf ++ baseIds L .fc1 ++ baseIds L .fc2).Nodup
  /-- unresolved v1 contracts pay the same total whether proven or missed -/
  fc1_bal : ∀ e ∈ L.fc1, sumVals e.fc.valid = sumVals e.fc.missed
  /-- unresolved v2 contracts never promise the host more on a miss than on success -/
  fc2_missed : ∀ e ∈ L.fc2, e.fc.missedHost ≤ e.fc.host.value
  /-- the siafund supply fits in a uint64 -/
  sf_bound : SFtot L < u64Limit
  /-- network parameters for which `FoundationSubsidy` cannot panic -/
  params : ParamsOk L.P

/-- every id the block creates, in creation order, with its kind -/
def Block.created (b : Block) : List (Kind × Id) :=
  b.txns1.flatMap Txn1.created ++ (b.v2txns.flatMap Txn2.created ++ (b.payouts.map (fun x => (Kind.sc, x.1)) ++
  ((Kind.sc, b.foundationOutId) :: b.expiring.flatMap (fun x => x.2.map (fun i => (Kind.sc, i))))))

/-- hash-collision freedom: the ids a block creates are pairwise distinct and not in the ledger -/
def FreshIds (L : Ledger) (b : Block) : Prop :=
  (b.created.map (·.2)).Nodup ∧ ∀ p ∈ b.created, ∀ k, p.2 ∉ baseIds L k

/-- `FreshIds` in a form that evaluates: one membership test per created id -/
theorem freshIds_of_forall {L : Ledger} {b : Block}
    (h : (b.created.map (·.2)).Nodup ∧
      ∀ p ∈ b.created, p.2 ∉ baseIds L .sc ++ (baseIds L .sf ++ (baseIds L .fc1 ++ baseIds L .fc2))) : FreshIds L b := by
  refine ⟨h.1, fun p hp k hm => h.2 p hp ?_⟩
  cases k
  · exact List.mem_append_left _ hm
  · exact List.mem_append_right _ (List.mem_append_left _ hm)
  · exact List.mem_append_right _ (List.mem_append_right _ (List.mem_append_left _ hm))
  · exact List.mem_append_right _ (List.mem_append_right _ (List.mem_append_right _ hm))
  · cases hm

/-- the id typing used while a block is applied -/
def Tb (L : Ledger) (b : Block) : Kind → Id → Prop := fun k id => id ∈ baseIds L k ∨ (k, id) ∈ b.created

theorem baseIds_nodup {L : Ledger} (hn : (baseIds L .sc ++ baseIds L .sf ++ baseIds L .fc1 ++ baseIds L .fc2).Nodup) :
    (∀ k, (baseIds L k).Nodup) ∧ ∀ {k k' : Kind} {id : Id}, id ∈ baseIds L k → id ∈ baseIds L k' → k = k' := by
  rw [List.nodup_append] at hn
  obtain ⟨h123, n4, d4⟩ := hn
  rw [List.nodup_append] at h123
  obtain ⟨h12, n3, d3⟩ := h123
  rw [List.nodup_append] at h12
  obtain ⟨n1, n2, d2⟩ := h12
  refine ⟨fun k => ?_, fun {k k' id} h1 h2 => ?_⟩
  · cases k
    · exact n1
    · exact n2
    · exact n3
    · exact n4
    · exact List.nodup_nil
  · have l1 := @List.mem_append_left Id id (baseIds L .sc) (baseIds L .sf)
    have r1 := @List.mem_append_right Id id (baseIds L .sc) (baseIds L .sf)
    have l2 := @List.mem_append_left Id id (baseIds L .sc ++ baseIds L .sf) (baseIds L .fc1)
    have r2 := @List.mem_append_right Id id (baseIds L .sc ++ baseIds L .sf) (baseIds L .fc1)
    cases k <;> cases k' <;> first | rfl | cases h1 | cases h2 | skip
    · exact absurd rfl (d2 _ h1 _ h2)
    · exact absurd rfl (d3 _ (l1 h1) _ h2)
    · exact absurd rfl (d4 _ (l2 (l1 h1)) _ h2)
    · exact absurd rfl (d2 _ h2 _ h1)
    · exact absurd rfl (d3 _ (r1 h1) _ h2)
    · exact absurd rfl (d4 _ (l2 (r1 h1)) _ h2)
    · exact absurd rfl (d3 _ (l1 h2) _ h1)
    · exact absurd rfl (d3 _ (r1 h2) _ h1)
    · exact absurd rfl (d4 _ (r2 h1) _ h2)
    · exact absurd rfl (d4 _ (l2 (l1 h2)) _ h1)
    · exact absurd rfl (d4 _ (l2 (r1 h2)) _ h1)
    · exact absurd rfl (d4 _ (r2 h2) _ h1)

theorem ctx_of_nodup {L : Ledger} {b : Block}
    (hn : (baseIds L .sc ++ baseIds L .sf ++ baseIds L .fc1 ++ baseIds L .fc2).Nodup)
    (hbal : ∀ e ∈ L.fc1, sumVals e.fc.valid = sumVals e.fc.missed) (hf : FreshIds L b) : Ctx (Tb L b) L := by
  refine ⟨?_, fun k id h => Or.inl h, (baseIds_nodup hn).1, hbal⟩
  intro k k' id h1 h2
  rcases h1 with h1 | h1 <;> rcases h2 with h2 | h2
  · exact (baseIds_nodup hn).2 h1 h2
  · exact absurd h1 (hf.2 _ h2 k)
  · exact absurd h2 (hf.2 _ h1 k')
  · exact (Prod.mk.inj (eq_of_nodup_map (fun x : Kind × Id => x.2) hf.1 h1 h2 rfl)).1

theorem ctx_of_wf {L : Ledger} {b : Block} (hw : WF L) (hf : FreshIds L b) : Ctx (Tb L b) L :=
  ctx_of_nodup hw.nodup hw.fc1_bal hf

theorem inv_newMid {T} (L : Ledger) : Inv T (newMid L) := by
  refine ⟨⟨?_, ?_, ?_⟩, ?_, ?_, ?_, ?_, List.nodup_nil, fun id h => by simp [newMid] at h⟩
  · intro k i id h; cases k <;> simp [Mid.idsOf, Mid.scIds, Mid.sfIds, Mid.fc1Ids, Mid.fc2Ids, newMid] at h
  · intro id i h; simp [Mid.lookup, newMid] at h
  · intro k id h; cases k <;> simp [Mid.idsOf, Mid.scIds, Mid.sfIds, Mid.fc1Ids, Mid.fc2Ids, newMid] at h
  all_goals (intro d hd; simp [newMid] at hd)

theorem fresh_newMid {L : Ledger} {b : Block} (hf : FreshIds L b) : Fresh (Tb L b) (newMid L) b.created := by
  refine ⟨hf.1, fun p hp => ⟨Or.inr hp, rfl, hf.2 p hp⟩⟩

theorem Phi_newMid (L : Ledger) : Phi (newMid L) = V L := by
  unfold Phi scTot fc1Tot fc2Tot V Mid.scIds Mid.fc1Ids Mid.fc2Ids newMid
  simp [untouched_nil]

/-- the model passes `ValidOutputID(i)` as a finite list; it must cover the contract's valid outputs whenever
a storage proof is processed (in Go the id exists for every index) -/
def checkProofIds (pid : Id) (mw : Nat) : Mid → List Txn1 → Bool
  | _, [] => true
  | ms, t :: ts =>
    (t.proofs.all fun sp => match ms.fc1Element t.supp sp.parent with
      | some e => decide (e.fc.valid.length ≤ sp.outIds.length)
      | none => true) &&
    (match stepV1 pid mw ms t with
      | .ok ms' => checkProofIds pid mw ms' ts
      | .error _ => true)

/-- sum of all siafund claim outputs created by a run of v1 transactions -/
def claimsV1 : Mid → List Txn1 → Nat
  | _, [] => 0
  | ms, t :: ts => t.claims ms + (match applyTransaction ms t with
      | .ok ms' => claimsV1 ms' ts
      | .error _ => 0)

/-- sum of all siafund claim outputs created by a run of v2 transactions -/
def claimsV2 : Mid → List Txn2 → Nat
  | _, [] => 0
  | ms, t :: ts => t.claims ms.pool + (match applyV2Transaction ms t with
      | .ok ms' => claimsV2 ms' ts
      | .error _ => 0)

/-- the pool grows in two stages; the budget `(pool growth) * supply` splits accordingly -/
theorem psi_two_stages {P0 P1 P2 c1 c2 p0 p1 p2 S : Nat} (h01 : p0 ≤ p1) (h12 : p1 ≤ p2)
    (q1 : P1 + 10000 * c1 ≤ P0 + (p1 - p0) * S) (q2 : P2 + 10000 * c2 ≤ P1 + (p2 - p1) * S) :
    P2 + 10000 * (c1 + c2) ≤ P0 + (p2 - p0) * S := by
  rw [← Nat.sub_add_sub_cancel h12 h01, Nat.add_mul]
  generalize (p2 - p1) * S = x at q2 ⊢
  generalize (p1 - p0) * S = y at q1 ⊢
  omega

/-- What a stretch of accepted transactions does between two mid-states: `out` (fees, forfeits) leaves the potential, the
claims `c` enter it and are paid out of what was claimable, the pool collects `tx`, no siafund appears or disappears, the
claim outputs are immature.  Such stretches compose (`Moves.trans`). -/
structure Moves (ms ms' : Mid) (out c tx : Nat) : Prop where
  base : ms'.base = ms.base
  phi : Phi ms' + out = Phi ms + c
  sf : sfTot ms' = sfTot ms
  pool : ms'.pool = ms.pool + tx
  psi : CsOk ms → CsOk ms' ∧ Psi ms' + 10000 * c ≤ Psi ms + (ms'.pool - ms.pool) * sfTot ms
  imm : 1 ≤ ms.base.P.maturityDelay → scW (wImm ms.base.child) ms + c ≤ scW (wImm ms.base.child) ms'

theorem Moves.refl (ms : Mid) : Moves ms ms 0 0 0 :=
  ⟨rfl, rfl, rfl, rfl, fun h => ⟨h, by simp⟩, fun _ => Nat.le_refl _⟩

theorem Moves.trans {a b c : Mid} {o1 c1 t1 o2 c2 t2 : Nat} (h1 : Moves a b o1 c1 t1) (h2 : Moves b c o2 c2 t2) :
    Moves a c (o1 + o2) (c1 + c2) (t1 + t2) := by
  refine ⟨h2.base.trans h1.base, ?_, h2.sf.trans h1.sf, ?_, fun hcs => ?_, fun hmd => ?_⟩
  · have := h1.phi; have := h2.phi; omega
  · rw [h2.pool, h1.pool]; exact Nat.add_assoc _ _ _
  · obtain ⟨k1, q1⟩ := h1.psi hcs
    obtain ⟨k2, q2⟩ := h2.psi k1
    rw [h1.sf] at q2
    exact ⟨k2, psi_two_stages (by rw [h1.pool]; exact Nat.le_add_right _ _) (by rw [h2.pool]; exact Nat.le_add_right _ _) q1 q2⟩
  · have e1 := h1.imm hmd
    have e2 := h2.imm (h1.base ▸ hmd)
    rw [h1.base] at e2
    omega

theorem loop_v1 {T} (pid : Id) (mw : Nat) (l : List Txn1) : ∀ (ms ms' : Mid) (R : List (Kind × Id)),
    Ctx T ms.base → Inv T ms → (∀ t ∈ l, SuppOk ms.base t.supp) →
    Fresh T ms (l.flatMap Txn1.created ++ R) → checkProofIds pid mw ms l = true →
    (∀ t ∈ l, (t.sfOuts.map (·.2.1)).sum < u64Limit) → sfTot ms < u64Limit →
    l.foldlM (stepV1 pid mw) ms = .ok ms' →
    Inv T ms' ∧ Fresh T ms' R ∧ l.foldlM applyTransaction ms = .ok ms' ∧
    Moves ms ms' (l.map (·.fees.sum)).sum (claimsV1 ms l) (l.map (Txn1.taxes ms.base)).sum := by
  induction l with
  | nil =>
    intro ms ms' R _ hI _ hF _ _ _ h
    cases h
    exact ⟨hI, hF, rfl, Moves.refl ms⟩
  | cons t l ih =>
    intro ms ms' R hc hI hsupp hF hchk hnw hsfb h
    rw [List.foldlM_cons, bind_ok_iff] at h
    obtain ⟨ms1, hstep, h2⟩ := h
    obtain ⟨u, hv, ha⟩ := bind_ok_iff.1 (show (validateTransaction ms t pid mw >>= fun _ => applyTransaction ms t) = .ok ms1 from hstep)
    simp only [List.flatMap_cons, List.append_assoc] at hF
    unfold checkProofIds at hchk
    rw [Bool.and_eq_true, hstep] at hchk
    have hlen : ∀ sp ∈ t.proofs, ∀ e, ms.fc1Element t.supp sp.parent = some e → e.fc.valid.length ≤ sp.outIds.length := by
      intro sp hsp e he
      have := List.all_eq_true.mp hchk.1 sp hsp
      rw [he] at this; simpa using this
    obtain ⟨hI1, hF1, hb1, hP1, hS1, _, hsv1, hpf1, hwi1⟩ := v1txn_conserves hc hI (hsupp t List.mem_cons_self) hF hlen
      (hnw t List.mem_cons_self) hsfb hv ha
    obtain ⟨hI2, hF2, ha2, m2⟩ := ih ms1 ms' R (hb1 ▸ hc) hI1
      (fun t' ht' => hb1 ▸ hsupp t' (List.mem_cons_of_mem _ ht')) hF1 hchk.2
      (fun t' ht' => hnw t' (List.mem_cons_of_mem _ ht')) (hS1 ▸ hsfb) h2
    refine ⟨hI2, hF2, by rw [List.foldlM_cons, ha]; exact ha2, ?_⟩
    have := (Moves.mk hb1 hP1 hS1 hpf1 hsv1 hwi1).trans m2
    rw [hb1] at this
    rw [show claimsV1 ms (t :: l) = t.claims ms + claimsV1 ms1 l by rw [claimsV1, ha]]
    exact this

theorem loop_v2 {T} (mw : Nat) (l : List Txn2) : ∀ (ms ms' : Mid) (R : List (Kind × Id)),
    Ctx T ms.base → ms.base.child ≥ ms.base.P.ephemeralFix → Inv T ms →
    (∀ e ∈ ms.base.fc2, e.fc.missedHost ≤ e.fc.host.value) →
    Fresh T ms (l.flatMap Txn2.created ++ R) →
    (∀ t ∈ l, (t.sfOuts.map (·.2.1)).sum < u64Limit) → sfTot ms < u64Limit →
    l.foldlM (vb2Step mw) ms = .ok ms' →
    Inv T ms' ∧ Fresh T ms' R ∧ l.foldlM applyV2Transaction ms = .ok ms' ∧
    Moves ms ms' (l.map (fun t => t.fee + t.forfeits)).sum (claimsV2 ms l) (l.map Txn2.taxes).sum := by
  induction l with
  | nil =>
    intro ms ms' R _ _ hI _ hF _ _ h
    cases h
    exact ⟨hI, hF, rfl, Moves.refl ms⟩
  | cons t l ih =>
    intro ms ms' R hc hfix hI hm2 hF hnw hsfb h
    rw [List.foldlM_cons, bind_ok_iff] at h
    obtain ⟨ms1, h1, h2⟩ := h
    obtain ⟨u, hv, ha⟩ := bind_ok_iff.1 (show (validateV2Transaction ms t mw >>= fun _ => applyV2Transaction ms t) = .ok ms1 from h1)
    simp only [List.flatMap_cons, List.append_assoc] at hF
    obtain ⟨hI1, hF1, hb1, hP1, hS1, _, hsv1, hpf1, hwi1⟩ := v2txn_conserves hc hfix hI hm2 hF (hnw t List.mem_cons_self) hsfb hv ha
    obtain ⟨hI2, hF2, ha2, m2⟩ := ih ms1 ms' R (hb1 ▸ hc) (hb1 ▸ hfix) hI1 (hb1 ▸ hm2) hF1
      (fun t' ht' => hnw t' (List.mem_cons_of_mem _ ht')) (hS1 ▸ hsfb) h2
    refine ⟨hI2, hF2, by rw [List.foldlM_cons, ha]; exact ha2, ?_⟩
    rw [show claimsV2 ms (t :: l) = t.claims ms.pool + claimsV2 ms1 l by rw [claimsV2, ha]]
    exact (Moves.mk hb1 (Nat.add_assoc _ _ _ ▸ hP1) hS1 hpf1 hsv1 hwi1).trans m2

/-- value of the Foundation subsidy scheduled for the block after `L` (0 if none) -/
def subsidyVal (L : Ledger) : Nat :=
  match foundationSubsidy L with
  | .ok (some o) => o.value
  | _ => 0

theorem foundationSubsidy_ok (L : Ledger) (hp : ParamsOk L.P) : ∃ sub, foundationSubsidy L = .ok sub := by
  unfold foundationSubsidy
  have hbpm : L.P.blocksPerYear / 12 ≠ 0 := by
    have := hp.1
    intro h
    have := Nat.div_eq_zero_iff.mp h
    omega
  have hle : L.P.blocksPerYear / 12 ≤ L.P.blocksPerYear := Nat.div_le_self _ _
  have h1 : siacoins 30000 * L.P.blocksPerYear < curLimit := hp.2
  have h2 : siacoins 30000 * (L.P.blocksPerYear / 12) < curLimit :=
    Nat.lt_of_le_of_lt (Nat.mul_le_mul_left _ hle) h1
  simp only []
  split
  · exact ⟨none, rfl⟩
  · split
    · exact ⟨none, rfl⟩
    · split
      · unfold mul64C; rw [if_pos h1]; exact ⟨_, rfl⟩
      · unfold mul64C; rw [if_pos h2]; exact ⟨_, rfl⟩

theorem sum_map_mul {α : Type} (c : Nat) (f : α → Nat) (l : List α) : (l.map (fun x => c * f x)).sum = c * (l.map f).sum := by
  induction l with
  | nil => rfl
  | cons a l ih => simp only [List.map_cons, List.sum_cons, ih, Nat.mul_add]

/-- the expiring v1 contracts: each one not resolved in the block pays its missed outputs, which sum to what it held;
so a weight under which an output counts `fc` times its value does not see the loop -/
theorem loop_expiring {T} (l : List (Fc1Elem × List Id)) : ∀ (ms : Mid) (R : List (Kind × Id)), Ctx T ms.base → Inv T ms →
    (∀ x ∈ l, x.1 ∈ ms.base.fc1 ∧ x.1.fc.missed.length ≤ x.2.length) →
    Fresh T ms (l.flatMap (fun x => x.2.map (fun i => (Kind.sc, i))) ++ R) →
    ∃ ms', l.foldlM mbExpire ms = .ok ms' ∧ Inv T ms' ∧ Fresh T ms' R ∧ ms'.base = ms.base ∧ ms'.pool = ms.pool ∧
      ∀ W : Wt, (∀ x, W.sc x = W.fc * x.value) → census W ms' = census W ms := by
  induction l with
  | nil => intro ms R _ hI _ hF; exact ⟨ms, rfl, hI, hF, rfl, rfl, fun _ _ => rfl⟩
  | cons a l ih =>
    intro ms R hc hI hx hF
    simp only [List.flatMap_cons, List.append_assoc] at hF
    obtain ⟨hbase, hlen⟩ := hx a List.mem_cons_self
    rw [List.foldlM_cons]
    unfold mbExpire
    by_cases hsp : ms.isSpent a.1.id = true
    · rw [if_pos hsp]
      exact ih ms R hc hI (fun x hx' => hx x (List.mem_cons_of_mem _ hx')) (hF.sublist (List.sublist_append_right _ _))
    · rw [if_neg hsp]
      have hsp' : ms.isSpent a.1.id = false := by simpa using hsp
      have hT : T Kind.fc1 a.1.id := hc.base Kind.fc1 _ (List.mem_map_of_mem hbase)
      have hres : ResolvableFc1 T ms a.1 := by
        refine ⟨hT, ?_⟩
        cases hv : ms.fc1Diff? a.1.id with
        | none => exact hbase
        | some d =>
          simp only []
          obtain ⟨hm, hid⟩ := fc1Diff?_mem hv
          have hok := hI.fc1 d hm
          have hnr : d.resolved = false := Bool.eq_false_iff.2 (hI.live fc1Rule hv ((isSpent_false_iff _ _).1 hsp'))
          have hcr : d.created = false := by
            cases hcd : d.created with
            | false => rfl
            | true =>
              have := hok.1 hcd; rw [hid] at this
              exact absurd (List.mem_map_of_mem hbase) this
          have hde : d.e = a.1 := eq_of_nodup_map (fun x : Fc1Elem => x.id) (hc.nodup Kind.fc1) (hok.2.1 hcr) hbase hid
          refine ⟨hnr, ?_, fun _ _ => hbase⟩
          rw [(hok.2.2.2 hnr).1, hde]
      obtain ⟨ms1, h1⟩ : ∃ ms1, (a.1.fc.missed.zip a.2).foldlM a1Payout (ms.resolveFc1 a.1 false) = .ok ms1 :=
        foldlM_total_pure (fun (m : Mid) (x : ScOut × Id) => m.createImmatureSc x.2 x.1) _ _
      obtain ⟨hI2, _, hF2, hb2, hp2, hW2⟩ := resolve_pay hc hI hres hsp' hF h1
      obtain ⟨ms', h3, hI3, hF3, hb3, hp3, hW3⟩ := ih ms1 R (by rw [hb2]; exact hc) hI2
        (fun x hx' => by rw [hb2]; exact hx x (List.mem_cons_of_mem _ hx')) hF2
      refine ⟨ms', by rw [h1]; exact h3, hI3, hF3, hb3.trans hb2, hp3.trans hp2, fun W hW => ?_⟩
      have e := hW2 W
      simp only [hW, sum_map_mul, zip_fst_sum _ _ hlen] at e
      rw [hW3 W hW]
      have := hc.fc1_bal a.1 hbase
      unfold Fc1.val at e
      rw [← this] at e
      omega

theorem blockTail_spec {T} {ms : Mid} {b : Block} (hc : Ctx T ms.base) (hI : Inv T ms) (hp : ParamsOk ms.base.P)
    (hexp : ∀ x ∈ b.expiring, x.1 ∈ ms.base.fc1 ∧ x.1.fc.missed.length ≤ x.2.length)
    (hF : Fresh T ms (b.payouts.map (fun x => (Kind.sc, x.1)) ++
      ((Kind.sc, b.foundationOutId) :: b.expiring.flatMap (fun x => x.2.map (fun i => (Kind.sc, i)))))) :
    ∃ ms5, blockTail ms b = .ok ms5 ∧ Inv T ms5 ∧ ms5.base = ms.base ∧ ms5.pool = ms.pool ∧ (∀ w, sfW w ms5 = sfW w ms) ∧
      Phi ms5 = Phi ms + (b.payouts.map (·.2.value)).sum + subsidyVal ms.base := by
  obtain ⟨ms3, h3⟩ : ∃ ms3, b.payouts.foldlM mbPayout ms = .ok ms3 :=
    foldlM_total_pure (fun (m : Mid) (x : Id × ScOut) => m.createImmatureSc x.1 x.2) _ _
  obtain ⟨hI3, _, hF3, hb3, hp3, hW3⟩ := creates_run hc hI b.payouts true hF (by rw [List.foldlM_map]; exact h3)
  obtain ⟨sub, hsub⟩ := foundationSubsidy_ok ms.base hp
  obtain ⟨hI4, hF4, hb4, hp4, hW4⟩ : let ms4 := match (generalizing := false) sub with | some o => ms3.createImmatureSc b.foundationOutId o | none => ms3
      Inv T ms4 ∧ Fresh T ms4 (b.expiring.flatMap (fun x => x.2.map (fun i => (Kind.sc, i))) ++ []) ∧ ms4.base = ms3.base ∧
        ms4.pool = ms3.pool ∧ ∀ W, census W ms4 = census W ms3 +
          (sub.map (fun o => W.sc ⟨b.foundationOutId, o.value, o.addr, maturityHeight ms3.base, none⟩)).getD 0 := by
    rw [← List.append_nil (b.expiring.flatMap _)] at hF3
    cases sub with
    | none => exact ⟨hI3, hF3.tail, rfl, rfl, fun _ => rfl⟩
    | some o =>
      obtain ⟨h1, _, h2, h4⟩ := createSc_spec (hb3 ▸ hc) hI3 hF3 o (maturityHeight ms3.base)
      exact ⟨h1, h2, putSc_base _ _ _, putSc_pool _ _ _, h4⟩
  obtain ⟨ms5, h5, hI5, _, hb5, hp5, hW5⟩ := loop_expiring b.expiring _ [] (by rw [hb4, hb3]; exact hc) hI4
    (by rw [hb4, hb3]; exact hexp) hF4
  refine ⟨ms5, ?_, hI5, hb5.trans (hb4.trans hb3), hp5.trans (hp4.trans hp3), fun w => ?_, ?_⟩
  · unfold blockTail
    rw [h3]; simp only [ok_bind]; rw [hb3, hsub]; exact h5
  · have e5 := hW5 (Wt.ofSf w) (fun _ => (Nat.zero_mul _).symm)
    have e4 := hW4 (Wt.ofSf w)
    have e3 := hW3 (Wt.ofSf w)
    simp only [census_ofSf, Wt.ofSf_sc, sum_const_zero, Nat.add_zero] at e3 e4 e5
    rw [e5, e4, e3]; cases sub <;> rfl
  · have e5 := hW5 Wt.value (fun _ => (Nat.one_mul _).symm)
    have e4 := hW4 Wt.value
    have e3 := hW3 Wt.value
    rw [← census_value, ← census_value, e5, e4, e3, hp5, hp4, hp3, subsidyVal, hsub]
    cases sub <;> simp [Wt.value_sc] <;> omega

theorem SuppRules.suppOk {L : Ledger} {b : Block} (r : SuppRules L b) (t : Txn1) (ht : t ∈ b.txns1) : SuppOk L t.supp :=
  ⟨r.sc t ht, r.sf t ht, r.revised t ht, r.proofs t ht⟩

theorem sum_flatten_nat (l : List (List Nat)) : l.flatten.sum = (l.map List.sum).sum := by
  induction l with
  | nil => rfl
  | cons a l ih => simp only [List.flatten_cons, List.sum_append, List.map_cons, List.sum_cons, ih]

/-- siafund output sums of a transaction do not wrap a uint64 (guaranteed in Go by the block weight limit) -/
def SfNoWrap (b : Block) : Prop :=
  (∀ t ∈ b.txns1, (t.sfOuts.map (·.2.1)).sum < u64Limit) ∧ (∀ t ∈ b.v2txns, (t.sfOuts.map (·.2.1)).sum < u64Limit)

/-- the finite id lists of the model cover every output that is created (always true of `ValidOutputID(i)`,
`MissedOutputID(i)` in Go) -/
def IdListsCover (L : Ledger) (b : Block) (pid : Id) : Prop :=
  checkProofIds pid b.maxWeight (newMid L) b.txns1 = true ∧ ∀ x ∈ b.expiring, x.1.fc.missed.length ≤ x.2.length

/-- total of the siafund claim outputs created by the block -/
def Block.claims (L : Ledger) (b : Block) : Nat :=
  claimsV1 (newMid L) b.txns1 +
  (match b.txns1.foldlM applyTransaction (newMid L) with
    | .ok ms1 => claimsV2 ms1 b.v2txns
    | .error _ => 0)

/-- siafund tax collected by the block -/
def Block.taxSum (L : Ledger) (b : Block) : Nat := (b.txns1.map (Txn1.taxes L)).sum + (b.v2txns.map Txn2.taxes).sum

/-- total value forfeited by missed v2 expirations in the block -/
def Block.forfeits (b : Block) : Nat := (b.v2txns.map Txn2.forfeits).sum

theorem block_conserves {L : Ledger} {b : Block} {pid : Id} {msv : Mid}
    (hw : WF L) (hf : FreshIds L b) (hfix : L.child ≥ L.P.ephemeralFix) (hnw : SfNoWrap b)
    (hcov : IdListsCover L b pid) (hv : validateBlock L b pid = .ok msv) :
    ∃ ms, midApplyBlock (newMid L) b = .ok ms ∧ Inv (Tb L b) ms ∧ ms.base = L ∧
      Phi ms + b.forfeits = V L + blockReward L + subsidyVal L + b.claims L ∧ sfTot ms = SFtot L ∧
      L.pool ≤ ms.pool ∧
      (CsOk (newMid L) → CsOk ms ∧ Psi ms + 10000 * b.claims L ≤ Psi (newMid L) + (ms.pool - L.pool) * SFtot L) ∧
      ms.pool = L.pool + b.taxSum L := by
  obtain ⟨hvo, hrules, _, ms1, hl1, hl2⟩ := validateBlock_ok_iff.1 hv
  have hpay := validateMinerPayouts_ok (validateOrphan_ok hvo)
  have hc : Ctx (Tb L b) (newMid L).base := ctx_of_wf hw hf
  have hF0 := fresh_newMid hf
  unfold Block.created at hF0
  have hsf0 : sfTot (newMid L) < u64Limit := by rw [sfTot_newMid]; exact hw.sf_bound
  obtain ⟨hI1, hF1, ha1, m1⟩ := loop_v1 pid b.maxWeight b.txns1 (newMid L) ms1 _ hc
    (inv_newMid L) hrules.suppOk hF0 hcov.1 hnw.1 hsf0 hl1
  have hb1 : ms1.base = L := m1.base
  obtain ⟨hI2, hF2, _, m2⟩ := loop_v2 b.maxWeight b.v2txns ms1 msv _ (hb1 ▸ hc) (hb1 ▸ hfix) hI1
    (hb1 ▸ hw.fc2_missed) hF1 hnw.2 (m1.sf ▸ hsf0) hl2
  have m := m1.trans m2
  have hb2 : msv.base = L := m.base
  obtain ⟨ms5, h5, hI5, hb5, hp5, hsf5, hP5⟩ := blockTail_spec (b := b) (hb2 ▸ hc) hI2 (hb2 ▸ hw.params)
    (fun x hx => ⟨hb2 ▸ hrules.expiring x hx, hcov.2 x hx⟩) hF2
  have hcl : b.claims L = claimsV1 (newMid L) b.txns1 + claimsV2 ms1 b.v2txns := by
    unfold Block.claims; rw [ha1]
  refine ⟨ms5, (midApplyBlock_of_validated hv).trans h5, hI5, hb5.trans hb2, ?_, ?_, ?_, ?_, ?_⟩
  · have hfe1 : b.fees1.sum = (b.txns1.map (·.fees.sum)).sum := by
      unfold Block.fees1; rw [sum_flatten_nat, List.map_map]; rfl
    have hfe2 : b.fees2.sum + b.forfeits = (b.v2txns.map (fun t => t.fee + t.forfeits)).sum :=
      (sum_map_add b.v2txns _ (·.fee) Txn2.forfeits (fun _ _ => rfl)).symm
    have hP := m.phi
    rw [Phi_newMid] at hP
    rw [hP5, hb2, hcl]
    clear hv hvo hl1 hl2 ha1 hF0 hF1 hF2 h5 m m1 m2
    cur_omega
  · rw [sfTot_eq_sfW, hsf5, ← sfTot_eq_sfW, m.sf, sfTot_newMid]
  · rw [hp5, m.pool]; exact Nat.le_add_right _ _
  · intro hcs
    obtain ⟨c2, q⟩ := m.psi hcs
    have c5 : CsOk ms5 := by unfold CsOk at c2 ⊢; rw [hp5, hsf5]; exact c2
    have q5 : Psi ms5 = Psi msv := by unfold Psi; rw [hp5, hsf5]
    rw [sfTot_newMid] at q
    exact ⟨c5, by rw [hcl, q5, hp5]; exact q⟩
  · unfold Block.taxSum
    rw [hp5, m.pool]; rfl

end Sia.Ledger
