import SiaProofs.Lemmas.CodecAtom
/-! `EnvOK`, inversion of `Canon` per schema constructor, lists of values under one decoder (`decRep`, `encList`) — what the inductions over schemas
of C11 / C10-decode use in each case. -/
namespace Sia.Codec

def EnvOK (E : Env) : Prop := ∀ n, CodecOK (E.ext n)

theorem Env.default_ok : EnvOK Env.default := fun _ => Codec.unsupported_ok

theorem canon_nil_inv {E : Env} {v : Val} (h : Canon E .nil v) : v = .unit :=
  match v, h with | .unit, _ => rfl

theorem canon_cons_inv {E : Env} {l : String} {s r : Sch} {v : Val} (h : Canon E (.cons l s r) v) :
    ∃ a b, v = .pair a b ∧ Canon E s a ∧ Canon E r b :=
  match v, h with | .pair a b, h => ⟨a, b, rfl, (Bool.and_eq_true _ _).mp h⟩

theorem canon_opt_inv {E : Env} {s : Sch} {v : Val} (h : Canon E (.opt s) v) :
    v = .none ∨ ∃ a, v = .some a ∧ Canon E s a :=
  match v, h with
  | .none, _ => .inl rfl
  | .some a, h => .inr ⟨a, rfl, h⟩

theorem canon_slice_inv {E : Env} {s : Sch} {v : Val} (h : Canon E (.slice s) v) :
    ∃ vs, v = .list vs ∧ vs.length < W64 ∧ ∀ w ∈ vs, Canon E s w :=
  match v, h with
  | .list vs, h =>
    have h := (Bool.and_eq_true _ _).mp h
    ⟨vs, rfl, of_decide_eq_true h.1, List.all_eq_true.mp h.2⟩

theorem canon_slice_iff {E : Env} {s : Sch} {vs : List Val} :
    canon E (.slice s) (.list vs) = true ↔ vs.length < W64 ∧ ∀ w ∈ vs, canon E s w = true :=
  ⟨fun h => let ⟨_, e, hl, ha⟩ := canon_slice_inv h; Val.list.inj e ▸ ⟨hl, ha⟩,
   fun h => (Bool.and_eq_true _ _).mpr ⟨decide_eq_true h.1, List.all_eq_true.mpr h.2⟩⟩

theorem canon_uslice_inv {E : Env} {s : Sch} {v : Val} (h : Canon E (.uslice s) v) :
    ∃ vs, v = .list vs ∧ vs.length < W64 ∧ vs.length ≤ E.lim ∧ ∀ w ∈ vs, Canon E s w :=
  match v, h with
  | .list vs, h =>
    have h := (Bool.and_eq_true _ _).mp h
    have h1 := (Bool.and_eq_true _ _).mp h.1
    ⟨vs, rfl, of_decide_eq_true h1.1, of_decide_eq_true h1.2, List.all_eq_true.mp h.2⟩
theorem encList_length_ge {g : Val → Bytes} {m : Nat} (vs : List Val)
    (h : ∀ v ∈ vs, m ≤ (g v).length) : vs.length * m ≤ (encList g vs).length := by
  induction vs with
  | nil => simp [encList]
  | cons v vs ih =>
    have h1 := h v (by simp)
    have h2 := ih (fun w hw => h w (by simp [hw]))
    simp only [encList, List.length_append, List.length_cons, Nat.succ_mul]
    omega

theorem encList_length_le {g : Val → Bytes} {m : Nat} (vs : List Val)
    (h : ∀ v ∈ vs, (g v).length ≤ m) : (encList g vs).length ≤ vs.length * m := by
  induction vs with
  | nil => simp [encList]
  | cons v vs ih =>
    have h1 := h v (by simp)
    have h2 := ih (fun w hw => h w (by simp [hw]))
    simp only [encList, List.length_append, List.length_cons, Nat.succ_mul]
    omega

theorem length_le_enc_cons_slice {E : Env} (l : String) {s : Sch} (r : Sch) {ins : List Val} (rest : Val)
    (h : ∀ w ∈ ins, 1 ≤ (enc E s w).length) :
    ins.length ≤ (enc E (.cons l (.slice s) r) (.pair (.list ins) rest)).length := by
  have := encList_length_ge ins h
  simp only [enc, List.length_append]
  omega

theorem decRep_roundtrip {f : Bytes → DecRes} {g : Val → Bytes} {vs : List Val}
    (h : ∀ v ∈ vs, ∀ rest, f (g v ++ rest) = .ok (v, rest)) (rest : Bytes) :
    decRep f vs.length (encList g vs ++ rest) = .ok (vs, rest) := by
  induction vs with
  | nil => simp [decRep, encList]
  | cons v vs ih =>
    simp only [List.length_cons, decRep, encList, List.append_assoc]
    rw [h v (by simp)]
    simp only
    rw [ih (fun w hw => h w (by simp [hw]))]

theorem decRep_trunc {f : Bytes → DecRes} {g : Val → Bytes} {vs : List Val}
    (hrt : ∀ v ∈ vs, ∀ rest, f (g v ++ rest) = .ok (v, rest))
    (htr : ∀ v ∈ vs, ∀ p q, p ++ q = g v → q ≠ [] → ∃ e, f p = .error e)
    {p q : Bytes} (h : p ++ q = encList g vs) (hq : q ≠ []) :
    ∃ e, decRep f vs.length p = .error e := by
  induction vs generalizing p with
  | nil => simp [encList] at h; exact absurd h.2 hq
  | cons v vs ih =>
    simp only [encList] at h
    simp only [List.length_cons, decRep]
    rcases prefix_split h with ⟨q', h1, hq'⟩ | ⟨p', h1, h2⟩
    · obtain ⟨e, he⟩ := htr v (by simp) p q' h1 hq'
      rw [he]; exact ⟨_, rfl⟩
    · subst h1
      rw [hrt v (by simp)]
      simp only
      obtain ⟨e, he⟩ := ih (fun w hw => hrt w (by simp [hw])) (fun w hw => htr w (by simp [hw])) h2
      rw [he]; exact ⟨_, rfl⟩

theorem decRep_sound {f : Bytes → DecRes} {g : Val → Bytes} {P : Val → Prop} {str : Prop}
    (hf : ∀ bs v r, f bs = .ok (v, r) → P v ∧ ∃ cs, bs = cs ++ r ∧ (str → cs = g v))
    {n : Nat} {bs rest : Bytes} {vs : List Val} (h : decRep f n bs = .ok (vs, rest)) :
    vs.length = n ∧ (∀ v ∈ vs, P v) ∧ ∃ cs, bs = cs ++ rest ∧ (str → cs = encList g vs) := by
  induction n generalizing bs vs with
  | zero =>
    cases h
    exact ⟨rfl, nofun, [], rfl, fun _ => rfl⟩
  | succ n ih =>
    simp only [decRep] at h
    split at h
    · rename_i v bs1 h1
      split at h
      · rename_i vs' bs2 h2
        cases h
        obtain ⟨hp, c1, hc1, hs1⟩ := hf _ _ _ h1
        obtain ⟨hl, hall, c2, hc2, hs2⟩ := ih h2
        refine ⟨congrArg (· + 1) hl, ?_, c1 ++ c2, by rw [hc1, hc2, List.append_assoc],
          fun e => by rw [hs1 e, hs2 e]; rfl⟩
        intro w hw
        rcases List.mem_cons.mp hw with rfl | hw
        · exact hp
        · exact hall w hw
      · cases h
    · cases h

theorem okList_ok {r : Except DecErr (List Val × Bytes)} {v : Val} {rest : Bytes}
    (h : okList r = .ok (v, rest)) : ∃ vs, r = .ok (vs, rest) ∧ v = .list vs := by
  unfold okList at h
  split at h
  · cases h; exact ⟨_, rfl, rfl⟩
  · cases h

theorem decRep_error {f : Bytes → DecRes} {n : Nat} {bs : Bytes} {e : DecErr}
    (h : decRep f n bs = .error e) : ∃ bs', f bs' = .error e := by
  induction n generalizing bs with
  | zero => simp [decRep] at h
  | succ n ih =>
    simp only [decRep] at h
    split at h
    · split at h
      · cases h
      · rename_i e' h2; injection h with h; subst h; exact ih h2
    · rename_i e' h1; injection h with h; subst h; exact ⟨_, h1⟩

end Sia.Codec
