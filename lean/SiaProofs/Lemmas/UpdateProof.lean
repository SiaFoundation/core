/-
  SiaProofs.Lemmas.UpdateProof — `updateProof` (consensus/merkle.go:464): a holder's
  proof is brought to the rewritten forest from the closest updated leaf of its tree.
-/
import SiaProofs.Lemmas.Forest
set_option linter.unusedSectionVars false
namespace Sia.ElemAcc
section
variable {H : Type} [Hasher H] [Inhabited H]

theorem best_fold (idx : Nat) : ∀ (us : List (Leaf H)) (u0 : Leaf H),
    let best := us.foldl (fun best ul =>
      if mergeHeight idx ul.index < mergeHeight idx best.index then ul else best) u0
    best ∈ u0 :: us ∧ ∀ u ∈ u0 :: us, mergeHeight idx best.index ≤ mergeHeight idx u.index := by
  intro us
  induction us with
  | nil => intro u0; simp
  | cons a us ih =>
    intro u0
    simp only [List.foldl_cons]
    by_cases h : mergeHeight idx a.index < mergeHeight idx u0.index
    · rw [if_pos h]
      obtain ⟨m1, m2⟩ := ih a
      refine ⟨?_, ?_⟩
      · rcases List.mem_cons.1 m1 with e | e
        · rw [e]; simp
        · exact List.mem_cons_of_mem _ (List.mem_cons_of_mem _ e)
      · intro u hu
        rcases List.mem_cons.1 hu with rfl | hu'
        · have := m2 a (by simp); omega
        · exact m2 u hu'
    · rw [if_neg h]
      obtain ⟨m1, m2⟩ := ih u0
      refine ⟨?_, ?_⟩
      · rcases List.mem_cons.1 m1 with e | e
        · rw [e]; simp
        · exact List.mem_cons_of_mem _ (List.mem_cons_of_mem _ e)
      · intro u hu
        rcases List.mem_cons.1 hu with rfl | hu'
        · exact m2 u (by simp)
        · rcases List.mem_cons.1 hu' with rfl | hu''
          · have := m2 u0 (by simp); omega
          · exact m2 u (List.mem_cons_of_mem _ hu'')

theorem copyInto_exact {α : Type} (dst a ext : List α) (h : dst.length = a.length) :
    copyInto dst (a ++ ext) = a := by
  unfold copyInto
  rw [h, List.take_append_of_le_length (Nat.le_refl _), List.take_length,
    List.drop_eq_nil_of_le (by simp; omega)]
  simp

/-- The list surgery of `updateProof` (`proof[:mh]`, `copy(proof[mh:], best.proof[mh:])`, `proof[mh-1] = r` with
    `mh = k + 1`), on paths written by rows: `A0 ++ [x0] ++ C0` is the holder's proof (rows below `k`, row `k`, rows
    above), `B1 ++ [y1] ++ C1 ++ ext` that of `best` (`ext`: what it has beyond the tree). The result keeps `A0`,
    has `r` at row `k` and `best`'s rows above; `r` is computed from `B1`, the second statement. -/
theorem splice_shape {α : Type} (A0 : List α) (x0 : α) (C0 B1 : List α) (y1 : α) (C1 ext : List α) (r : α) (k : Nat)
    (hA : A0.length = k) (hB : B1.length = k) (hC : C0.length = C1.length) :
    (((A0 ++ [x0]) ++ C0).take (k + 1) ++
        copyInto (((A0 ++ [x0]) ++ C0).drop (k + 1)) ((((B1 ++ [y1]) ++ C1) ++ ext).drop (k + 1))).set (k + 1 - 1) r
      = (A0 ++ [r]) ++ C1 ∧
    (((B1 ++ [y1]) ++ C1) ++ ext).take (k + 1 - 1) = B1 := by
  have hA1 : (A0 ++ [x0]).length = k + 1 := by simp [hA]
  have hB1 : (B1 ++ [y1]).length = k + 1 := by simp [hB]
  constructor
  · rw [List.take_append_of_le_length (by omega), ← hA1, List.take_length, List.drop_append_of_le_length (by omega),
      List.drop_length, List.nil_append, List.append_assoc (B1 ++ [y1]) C1 ext, hA1, ← hB1,
      List.drop_append_of_le_length (Nat.le_refl _), List.drop_length, List.nil_append, copyInto_exact _ _ _ hC,
      hB1, Nat.add_sub_cancel, List.append_assoc A0 [x0] C1, ← hA]
    simp
  · rw [Nat.add_sub_cancel, List.append_assoc, List.append_assoc, List.take_append_of_le_length (by omega), ← hB, List.take_length]

/-- the situation of `updateProof` inside the tree of height `b` whose positions `q` have `q / 2 ^ b = c`:
    `ls1` is `ls0` rewritten at the positions of the group `g`, whose members carry their
    `ls1`-paths (possibly extended by tree growth). Applying a block is `GroupOK ls ls1` (`ls` the parent's leaves,
    `ls1` the rewritten ones, `ApplyBlock`); reverting it is the same statement with the two exchanged,
    `GroupOK ls1 ls`, the group being the elements in their parent form (`Revert`). -/
structure GroupOK (ls0 ls1 : List H) (b c : Nat) (g : List (Leaf H)) : Prop where
  col : ∀ u ∈ g, u.index / 2 ^ b = c
  proof : ∀ u ∈ g, ∃ ext, u.proof = sibs ls1 u.index 0 b ++ ext
  hash : ∀ u ∈ g, ls1.getD u.index default = u.hash
  same : ∀ q, q / 2 ^ b = c → (∀ u ∈ g, u.index ≠ q) → ls1.getD q default = ls0.getD q default

/-- **updateProof is correct inside a tree**: a holder's old path becomes the path in the
    rewritten forest. -/
theorem updateProof_spec (ls0 ls1 : List H) (b c : Nat) (updated : Nat → List (Leaf H))
    (ok : GroupOK ls0 ls1 b c (updated b)) (j : Nat) (hj : j / 2 ^ b = c) :
    updateProof j (sibs ls0 j 0 b) updated = .ok (sibs ls1 j 0 b) := by
  have hlen0 : (sibs ls0 j 0 b).length = b := sibs_length ..
  -- below row `k` the siblings of `j` cover, with `j`'s own column, the positions that agree with `j` above row `k`
  have hclean : ∀ k, k ≤ b → (∀ u ∈ updated b, u.index / 2 ^ k ≠ j / 2 ^ k) → sibs ls1 j 0 k = sibs ls0 j 0 k :=
    fun k hk hno => sibs_congr fun r _ hr => subRoot_ext _ _ fun q hq1 hq2 => by
      have hq : q / 2 ^ k = j / 2 ^ k := div_pow_of_div_pow (k := r + 1)
        (by rw [← div_succ_pow, ← div_succ_pow, div_of_col hq1 hq2, sibCol_div]) hr
      exact ok.same q (hj ▸ div_pow_of_div_pow hq hk) fun u hu hqu => hno u hu (hqu ▸ hq)
  unfold updateProof
  rw [hlen0]
  generalize updated b = g at ok hclean ⊢
  match g, ok, hclean with
  | [], _, hclean =>
    exact congrArg _ (hclean b (Nat.le_refl b) fun u hu => nomatch hu).symm
  | u0 :: us, ok, hclean =>
    dsimp only
    obtain ⟨hbm, hbmin⟩ := best_fold j us u0
    generalize us.foldl (fun best ul =>
      if mergeHeight j ul.index < mergeHeight j best.index then ul else best) u0 = best at *
    obtain ⟨ext, hbp⟩ := ok.proof best hbm
    by_cases hbj : best.index = j
    · rw [if_pos hbj, hbp, hbj]
      congr 1
      exact copyInto_exact _ _ _ (by rw [hlen0, sibs_length]; omega)
    · rw [if_neg hbj]
      have hmhpos := mergeHeight_pos (n := j) (i := best.index) hbj
      have hmhle : mergeHeight j best.index ≤ b := by rw [mergeHeight_le_iff, hj, ok.col best hbm]
      generalize hmh : mergeHeight j best.index = mh at *
      obtain ⟨k, rfl⟩ : ∃ k, mh = k + 1 := ⟨mh - 1, by omega⟩
      have hle : mergeHeight j best.index ≤ k + 1 := by omega
      have hnle : ¬ mergeHeight j best.index ≤ k := by omega
      rw [mergeHeight_le_iff] at hle hnle
      have hfork : j / 2 ^ k / 2 = best.index / 2 ^ k / 2 := by rw [div_succ_pow, div_succ_pow, hle]
      have hbl : best.proof.length = b + ext.length := by rw [hbp, List.length_append, sibs_length]; omega
      rw [if_neg (by omega)]
      congr 1
      -- by rows: below row `k` the path of `j`, at row `k` the node of `best`, above it their common path
      have hrows : ∀ (ls : List H) (p : Nat), sibs ls p 0 b =
          (sibs ls p 0 k ++ [nodeAt ls k (sibCol (p / 2 ^ k))]) ++ sibs ls p (k + 1) b := fun ls p => by
        rw [sibs_append ls p (Nat.zero_le (k + 1)) hmhle, sibs_concat ls p (Nat.zero_le k)]
      rw [hbp, hrows ls0 j, hrows ls1 j, hrows ls1 best.index]
      obtain ⟨e1, e2⟩ := splice_shape (sibs ls0 j 0 k) (nodeAt ls0 k (sibCol (j / 2 ^ k))) (sibs ls0 j (k + 1) b)
        (sibs ls1 best.index 0 k) (nodeAt ls1 k (sibCol (best.index / 2 ^ k))) (sibs ls1 best.index (k + 1) b) ext
        (proofRoot best.hash best.index (sibs ls1 best.index 0 k)) k
        (sibs_length ..) (sibs_length ..) (by rw [sibs_length, sibs_length])
      -- no rewritten leaf agrees with `j` above row `k`: it would merge with `j` below `best`
      rw [e2, e1, ← ok.hash best hbm, proofRoot_sibs, sibCol_of_fork hfork hnle,
        hclean k (Nat.le_of_succ_le hmhle) fun u hu hq => by
          have := hbmin u hu
          have : mergeHeight j u.index ≤ k := by rw [mergeHeight_le_iff, hq]
          omega]
      congr 1
      exact sibs_congr fun r hr _ => by rw [div_pow_of_div_pow hle.symm hr]

end
end Sia.ElemAcc
