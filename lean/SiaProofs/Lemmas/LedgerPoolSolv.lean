import SiaProofs.Lemmas.LedgerLeaf
/-!
# Pool solvency at the ledger level
-/
namespace Sia.Ledger

/-- 10000 × what the live siafund outputs could still claim from the pool (before floor division) -/
def PsiL (L : Ledger) : Nat := (L.sf.map (psiW L.pool)).sum

/-- every live siafund output was created when the pool stood no higher than now -/
def CsOkL (L : Ledger) : Prop := ∀ o ∈ L.sf, o.claimStart ≤ L.pool

theorem csBad_sum_zero_iff (l : List SfElem) (p : Cur) :
    (l.map (csBad p)).sum = 0 ↔ ∀ o ∈ l, o.claimStart ≤ p := by
  induction l with
  | nil => simp
  | cons a l ih =>
    simp only [List.map_cons, List.sum_cons, List.mem_cons, forall_eq_or_imp]
    rw [← ih]
    unfold csBad
    by_cases h : a.claimStart ≤ p
    · simp [h]
    · simp [h]

theorem csOk_newMid (L : Ledger) : CsOk (newMid L) ↔ CsOkL L := by
  unfold CsOk CsOkL
  rw [sfW_newMid]; exact csBad_sum_zero_iff _ _

theorem csOkL_commit {ms : Mid} (h : CsOk ms) (bid : Id) : CsOkL (ms.commit bid) := by
  unfold CsOk at h; unfold CsOkL
  rw [← sfW_commit _ ms bid] at h
  exact (csBad_sum_zero_iff _ _).mp h

theorem Psi_newMid (L : Ledger) : Psi (newMid L) = PsiL L := by
  unfold Psi PsiL; rw [sfW_newMid]; rfl

theorem PsiL_commit (ms : Mid) (bid : Id) : PsiL (ms.commit bid) = Psi ms := by
  unfold PsiL Psi
  exact sfW_commit _ ms bid

theorem PsiL_le (L : Ledger) : PsiL L ≤ SFtot L * L.pool := by
  unfold PsiL SFtot psiW
  induction L.sf with
  | nil => simp
  | cons a l ih =>
    simp only [List.map_cons, List.sum_cons, Nat.add_mul]
    have : a.value * (L.pool - a.claimStart) ≤ a.value * L.pool := Nat.mul_le_mul_left _ (Nat.sub_le _ _)
    omega

theorem PsiL_eraseLeaves (L : Ledger) : PsiL L.eraseLeaves = PsiL L := by
  unfold PsiL Ledger.eraseLeaves; simp only [List.map_map]; rfl

theorem LeafEq.PsiL {L L' : Ledger} (h : LeafEq L L') : PsiL L' = PsiL L := by
  rw [← PsiL_eraseLeaves L', ← PsiL_eraseLeaves L, h]

theorem LeafEq.pool {L L' : Ledger} (h : LeafEq L L') : L'.pool = L.pool := by
  have := congrArg Ledger.pool h; exact this.symm

theorem LeafEq.csOkL {L L' : Ledger} (h : LeafEq L L') (hc : CsOkL L) : CsOkL L' := by
  intro o ho
  obtain ⟨o0, ho0, heq⟩ := mem_of_map_eq (congrArg Ledger.sf h) ho
  have hcs : o0.claimStart = o.claimStart := by injection heq
  rw [h.pool, ← hcs]; exact hc o0 ho0

theorem pool_solvent_block {L : Ledger} {b : Block} {pid : Id} {msv : Mid}
    (hw : WF L) (hcs : CsOkL L) (hf : FreshIds L b) (hfix : L.child ≥ L.P.ephemeralFix) (hnw : SfNoWrap b)
    (hcov : IdListsCover L b pid) (hv : validateBlock L b pid = .ok msv) :
    ∀ L' ms, applyBlock L b = .ok (L', ms) →
      CsOkL L' ∧ L.pool ≤ L'.pool ∧ PsiL L' + 10000 * b.claims L ≤ PsiL L + (L'.pool - L.pool) * SFtot L := by
  obtain ⟨ms, hm, _, _, _, _, hpl, hsv, _⟩ := block_conserves hw hf hfix hnw hcov hv
  intro L' ms' h
  unfold applyBlock at h; rw [hm] at h; cases h
  obtain ⟨c, q⟩ := hsv ((csOk_newMid L).mpr hcs)
  rw [Psi_newMid] at q
  exact ⟨csOkL_commit c _, hpl, by rw [PsiL_commit]; exact q⟩

end Sia.Ledger
