import SiaProofs.Lemmas.LedgerRulesV2
/-!
# What an accepted `validateV2Transaction` establishes

The acceptance conditions are those of `LedgerRulesV2` (`ScIn2Rules`, `Rev2Rules`, …); what is added here is the
arithmetic content of the balance checks.
-/
namespace Sia.Ledger

theorem v2ScBalance_ok {t : Txn2} (h : v2ScBalance t = .ok ()) :
    (t.scIns.map (·.parent.value)).sum + (t.ress.map resRoll).sum =
      (t.scOuts.map (·.2.value)).sum + (t.fcs.map (fun x => x.2.1.val + x.2.1.val / 25)).sum +
      (t.ress.map resCost).sum + t.fee := by
  simp only [v2ScBalance_eq, bind_ok_iff, ite_reject_ok_iff, Decidable.not_not] at h
  obtain ⟨in0, hin0, out0, hout0, out1, hout1, ⟨inS, out2⟩, hpr, outS, houtS, hfin, _⟩ := h
  have e0 := foldlM_sum _ (fun sci : ScIn2 => sci.parent.value) (fun s x r hh => by
    split at hh
    · exact ((pure_eq_ok _ _).1 hh)
    · exact absurd hh (reject_ne_ok _ _)) _ _ _ hin0
  have e1 := foldlM_sum _ (fun o : Id × ScOut => o.2.value) (fun s x r hh =>
    ((addC_ok_iff _ _ _).1 ((ite_reject_ok_iff _ _ _ _).1 hh).2).1) _ _ _ hout0
  have e2 := foldlM_addC (fun x : Id × Fc2 × Bool => x.2.1.val + x.2.1.val / 25) _ _ _ hout1
  have e3 := foldlM_sum2 _ resRoll resCost (fun s x r hh => by
    unfold v2ResStep at hh
    unfold resRoll resCost
    cases hres : x.res with
    | renewal rn =>
      simp only [hres, pure_bind, reject_bind, ite_else_reject_ok_iff, bind_ok_iff, addC_ok_iff, pure_eq_ok] at hh
      obtain ⟨_, _, c, ⟨rfl, _⟩, rfl⟩ := hh
      exact ⟨Nat.add_assoc _ _ _, rfl⟩
    | proof a b c d => rw [hres] at hh; cases hh; exact ⟨rfl, rfl⟩
    | expiration => rw [hres] at hh; cases hh; exact ⟨rfl, rfl⟩) _ _ _ hpr
  obtain ⟨e3a, e3b⟩ := e3
  have e3a' : inS = in0 + (t.ress.map resRoll).sum := e3a
  have e3b' : out2 = out1 + (t.ress.map resCost).sum := e3b
  have h4 := ((addC_ok_iff _ _ _).1 houtS).1
  clear e3a e3b hin0 hout0 hout1 hpr houtS
  cur_omega

theorem v2SfBalance_ok {t : Txn2} (h : v2SfBalance t = .ok ()) :
    (t.sfIns.map (·.parent.value)).sum % u64Limit = (t.sfOuts.map (·.2.1)).sum % u64Limit := by
  unfold v2SfBalance at h
  simp only [bind_ok_iff, ite_reject_ok_iff, Decidable.not_not] at h
  obtain ⟨outS, hout, hfin, _⟩ := h
  have e1 := foldl_modsum (fun i : SfIn2 => i.parent.value) u64Limit t.sfIns 0
  have e2 := foldlM_modsum _ (fun x : Id × Nat × Addr => x.2.1) u64Limit
    (fun s x r hh => (pure_eq_ok _ _).1 ((ite_reject_ok_iff _ _ _ _).1 hh).2) _ _ _ hout
  rw [hfin] at e1
  simp only [Nat.zero_add] at e1 e2
  rw [← e1, ← e2]

theorem Res2KindRules.renewal {ms : Mid} {r : Resolution2} {rn : Renewal} (h : Res2KindRules ms r)
    (hres : r.res = .renewal rn) :
    rn.finalRenter.value + rn.renterRollover + rn.finalHost.value + rn.hostRollover = r.parent.fc.val ∧
    rn.newContract.missedHost ≤ rn.newContract.host.value := by
  unfold Res2KindRules at h; rw [hres] at h
  exact ⟨(renewalCheck_ok h).2.2.1, (renewalCheck_ok h).2.2.2.1.missed⟩

end Sia.Ledger
