import SiaProofs.Lemmas.CodecPrim
/-! Allocation bounds as a potential argument. `Pays f m d κ`: the meter `m` of the reader `f` is covered by `d` slots
per byte. `d·(bytes left + κ)` is a potential: what a reader leaves unread pays for the readers after it, so the bounds
of a sequence add up (`Pays.seq`) with no arithmetic on `d` beyond `Pays.mono`. `κ` is the slack of the limited reader
(`allocOf`) or 0 (`elemsOf`: element slots are paid by bytes really present). -/
namespace Sia.Codec
variable {α β γ : Type}

/-- whatever `f` does on `bs`, `m bs ≤ d·(|bs| + κ)`; when it succeeds, `m bs ≤ d·(bytes consumed)` -/
def Pays (f : Bytes → Except DecErr (α × Bytes)) (m : Bytes → Nat) (d κ : Nat) : Prop :=
  ∀ bs, m bs ≤ d * (bs.length + κ) ∧
    ∀ a rest, f bs = .ok (a, rest) → rest.length ≤ bs.length ∧ m bs + d * rest.length ≤ d * bs.length

theorem Pays.mono {f : Bytes → Except DecErr (α × Bytes)} {m : Bytes → Nat} {d d' κ : Nat}
    (h : Pays f m d κ) (hd : d ≤ d') : Pays f m d' κ := by
  obtain ⟨e, rfl⟩ := Nat.exists_eq_add_of_le hd
  intro bs
  refine ⟨Nat.le_trans (h bs).1 (Nat.mul_le_mul_right _ hd), fun a rest hf => ?_⟩
  obtain ⟨hl, hp⟩ := (h bs).2 a rest hf
  have := Nat.mul_le_mul_left e hl
  simp only [Nat.add_mul]
  omega

theorem Pays.sub {f : Bytes → Except DecErr (α × Bytes)} {f' : Bytes → Except DecErr (β × Bytes)} {m : Bytes → Nat}
    {d κ : Nat} (h : Pays f' m d κ) (hf : ∀ bs c rest, f bs = .ok (c, rest) → ∃ b, f' bs = .ok (b, rest)) :
    Pays f m d κ := fun bs =>
  ⟨(h bs).1, fun c rest hc => let ⟨b, hb⟩ := hf bs c rest hc; (h bs).2 b rest hb⟩

/-- run on what a header left of `bs`, a paid reader is paid at `bs` -/
theorem Pays.after {f : Bytes → Except DecErr (α × Bytes)} {m : Bytes → Nat} {d κ : Nat} (h : Pays f m d κ)
    {bs r : Bytes} (hl : r.length ≤ bs.length) :
    m r ≤ d * (bs.length + κ) ∧
      ∀ a rest, f r = .ok (a, rest) → rest.length ≤ bs.length ∧ m r + d * rest.length ≤ d * bs.length :=
  ⟨Nat.le_trans (h r).1 (Nat.mul_le_mul_left _ (Nat.add_le_add_right hl κ)), fun a rest hf =>
    have ⟨hl2, hp⟩ := (h r).2 a rest hf
    ⟨Nat.le_trans hl2 hl, Nat.le_trans hp (Nat.mul_le_mul_left _ hl)⟩⟩

theorem Pays.free {f : Bytes → Except DecErr (α × Bytes)} {m : Bytes → Nat} {d κ : Nat} (hm : ∀ bs, m bs = 0)
    (hf : ∀ bs a rest, f bs = .ok (a, rest) → rest.length ≤ bs.length) : Pays f m d κ := fun bs =>
  ⟨hm bs ▸ Nat.zero_le _, fun a rest h => ⟨hf bs a rest h, by
    have := Nat.mul_le_mul_left d (hf bs a rest h)
    rw [hm bs]; omega⟩⟩

/-- `f` runs `f₁` and, when `f₁` returns `(a, r)`, goes on like some paid reader `f₂` on `r`: the meters add -/
theorem Pays.seq {f₁ : Bytes → Except DecErr (α × Bytes)} {f : Bytes → Except DecErr (γ × Bytes)}
    {m₁ m : Bytes → Nat} {d κ : Nat} (h₁ : Pays f₁ m₁ d κ)
    (hok : ∀ bs a r, f₁ bs = .ok (a, r) → ∃ (f₂ : Bytes → Except DecErr (β × Bytes)) (m₂ : Bytes → Nat),
      Pays f₂ m₂ d κ ∧ m bs = m₁ bs + m₂ r ∧ ∀ c rest, f bs = .ok (c, rest) → ∃ b, f₂ r = .ok (b, rest))
    (herr : ∀ bs e, f₁ bs = .error e → m bs = m₁ bs ∧ ∀ c rest, f bs ≠ .ok (c, rest)) : Pays f m d κ := by
  intro bs
  cases h : f₁ bs with
  | error e => exact ⟨(herr bs e h).1 ▸ (h₁ bs).1, fun c rest hc => absurd hc ((herr bs e h).2 c rest)⟩
  | ok p =>
    obtain ⟨a, r⟩ := p
    obtain ⟨hl, hp⟩ := (h₁ bs).2 a r h
    obtain ⟨f₂, m₂, h₂, hm, hf⟩ := hok bs a r h
    have h2 := h₂ r
    rw [hm]
    refine ⟨by have := h2.1; simp only [Nat.mul_add] at this ⊢; omega, fun c rest hc => ?_⟩
    obtain ⟨b, hb⟩ := hf c rest hc
    obtain ⟨hl2, hp2⟩ := h2.2 b rest hb
    exact ⟨Nat.le_trans hl2 hl, by omega⟩

theorem takeN_pays (n d κ : Nat) : Pays (takeN n) (fun _ => 0) d κ :=
  .free (fun _ => rfl) fun bs a rest h => by rw [(takeN_ok h).1, List.length_append]; exact Nat.le_add_left _ _

theorem readU64_pays (d κ : Nat) : Pays readU64 (fun _ => 0) d κ :=
  .free (fun _ => rfl) fun bs a rest h => by rw [(readU64_ok h).1, List.length_append]; exact Nat.le_add_left _ _

/-- `n` elements, each grown by `append` (one slot) and consuming at least one byte -/
theorem Pays.rep {f : Bytes → DecRes} {g : Bytes → Nat} {d κ : Nat} (h : Pays f g d κ)
    (hμ : ∀ bs v r, f bs = .ok (v, r) → r.length + 1 ≤ bs.length) (n : Nat) :
    Pays (decRep f n) (allocRep f g n) (d + 1) κ := by
  induction n with
  | zero => exact .free (fun _ => rfl) fun bs a rest h => by cases h; exact Nat.le_refl _
  | succ n ih =>
    intro bs
    simp only [decRep, allocRep]
    cases hf : f bs with
    | error e => exact ⟨((h.mono (Nat.le_succ d)) bs).1, nofun⟩
    | ok p =>
      obtain ⟨v, r⟩ := p
      obtain ⟨_, hp⟩ := (h bs).2 v r hf
      have hc := hμ bs v r hf
      have h2 := ih r
      simp only [Nat.add_mul, Nat.mul_add, Nat.one_mul] at h2 ⊢
      refine ⟨by omega, fun vs rest hd => ?_⟩
      split at hd
      · rename_i vs' r' hr
        cases hd
        obtain ⟨hl2, hp2⟩ := h2.2 vs' rest hr
        exact ⟨by omega, by omega⟩
      · cases hd

end Sia.Codec
