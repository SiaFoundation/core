import SiaProofs.Lemmas.StorageProofTree
/-!
  C07 (storage proofs): soundness. Leaf/node domain separation makes
  the depth of the proven leaf rigid; the direction rule then pins the leaf to index `i`.
-/
namespace Sia.SP
open Sia.Rhp Sia.Rhp.HashOps

variable {H : Type} [HashOps H]

theorem snoc_cases {α : Type} (ps : List α) : ps = [] ∨ ∃ ps' p, ps = ps' ++ [p] := by
  rcases List.eq_nil_or_concat ps with h | ⟨l, b, h⟩
  · exact Or.inl h
  · exact Or.inr ⟨l, b, by rw [h, List.concat_eq_append]⟩

theorem chain_top (hinj : HashInj H) (dirs : Nat → Bool) (j : Nat) (d : ByteArray) (ps : List H) (A B : H)
    (heq : chainD dirs j (leaf d) ps = node A B) :
    ∃ ps' p, ps = ps' ++ [p] ∧
      ((dirs (j + ps'.length) = true ∧ p = A ∧ chainD dirs j (leaf d) ps' = B) ∨
       (dirs (j + ps'.length) = false ∧ p = B ∧ chainD dirs j (leaf d) ps' = A)) := by
  rcases snoc_cases ps with rfl | ⟨ps', p, rfl⟩
  · exact absurd heq (hinj.leaf_ne_node _ _ _)
  · refine ⟨ps', p, rfl, ?_⟩
    rw [chainD_snoc] at heq
    cases hd : dirs (j + ps'.length) <;> rw [hd] at heq
    · obtain ⟨h1, h2⟩ := hinj.node_inj _ _ _ _ heq
      exact Or.inr ⟨rfl, h2, h1⟩
    · obtain ⟨h1, h2⟩ := hinj.node_inj _ _ _ _ heq
      exact Or.inl ⟨rfl, h1, h2⟩

theorem chain_single (hinj : HashInj H) (dirs : Nat → Bool) (j : Nat) (d c : ByteArray) (ps : List H)
    (heq : chainD dirs j (leaf d) ps = (leaf c : H)) : ps = [] ∧ d = c := by
  rcases snoc_cases ps with rfl | ⟨ps', p, rfl⟩
  · simp only [chainD] at heq
    exact ⟨rfl, hinj.leaf_inj _ _ heq⟩
  · rw [chainD_snoc] at heq
    cases hd : dirs (j + ps'.length) <;> rw [hd] at heq <;> simp only [if_true, Bool.false_eq_true, if_false] at heq
    · exact absurd heq.symm (hinj.leaf_ne_node _ _ _)
    · exact absurd heq.symm (hinj.leaf_ne_node _ _ _)

/-- the top of a tree over leaf hashes, in the shape of `split_induction` -/
theorem metaRoot_leaves_append (l r : List ByteArray) (T : Nat) (hl : l.length = 2 ^ T) (hr0 : 0 < r.length)
    (hr : r.length ≤ 2 ^ T) :
    metaRoot ((l ++ r).map (leaf : ByteArray → H)) = node (metaRoot (l.map leaf)) (metaRoot (r.map leaf)) := by
  rw [List.map_append]
  exact metaRoot_append _ _ T ((List.length_map _).trans hl) ((List.length_map _).symm ▸ hr0)
    ((List.length_map _).symm ▸ hr)

theorem chain_depth_pow (hinj : HashInj H) (dirs : Nat → Bool) (j : Nat) (d : ByteArray) :
    ∀ (t : Nat) (cs : List ByteArray) (ps : List H), cs.length = 2 ^ t →
      chainD dirs j (leaf d) ps = metaRoot (cs.map (leaf : ByteArray → H)) → ps.length = t := by
  intro t
  induction t with
  | zero =>
    intro cs ps h heq
    obtain ⟨c, rfl⟩ := List.length_eq_one_iff.1 h
    rw [(chain_single hinj dirs j d c ps (heq.trans (metaRoot_singleton _))).1]; rfl
  | succ t ih =>
    intro cs ps h heq
    have h1 : 2 ^ t ≤ cs.length := h ▸ Nat.pow_le_pow_right (by decide) (Nat.le_succ t)
    have hl : (cs.take (2 ^ t)).length = 2 ^ t := List.length_take_of_le h1
    have hr : (cs.drop (2 ^ t)).length = 2 ^ t := by
      rw [List.length_drop, h, Nat.pow_succ', Nat.two_mul, Nat.add_sub_cancel]
    rw [← List.take_append_drop (2 ^ t) cs,
      metaRoot_leaves_append _ _ t hl (by rw [hr]; exact Nat.two_pow_pos t) (Nat.le_of_eq hr)] at heq
    obtain ⟨ps', p, rfl, hc⟩ := chain_top hinj dirs j d ps _ _ heq
    rw [List.length_append]
    rcases hc with ⟨_, _, h3⟩ | ⟨_, _, h3⟩
    · rw [ih _ ps' hr h3]; rfl
    · rw [ih _ ps' hl h3]; rfl

/-- Which leaf a fold proves: a chain from `leaf d` to the root of the tree over `cs` (last leaf
`m`) starts at some leaf `k` holding `d`, is at least as long as the merge height of `k`, and
takes the directions the verifier's rule prescribes for `k`. -/
theorem chainD_leaf (hinj : HashInj H) (dirs : Nat → Bool) (d : ByteArray) :
    ∀ (m : Nat) (cs : List ByteArray) (ps : List H), cs.length = m + 1 →
    chainD dirs 0 (leaf d) ps = metaRoot (cs.map (leaf : ByteArray → H)) →
    ∃ k, k ≤ m ∧ cs[k]? = some d ∧ bitLen (k ^^^ m) ≤ ps.length ∧
      ∀ j, j < ps.length → dirs j = dirOf k (bitLen (k ^^^ m)) j := by
  intro m cs
  induction cs using split_induction generalizing m with
  | nil => intro ps hm; cases hm
  | one c =>
    intro ps hm heq
    obtain rfl : 0 = m := Nat.succ.inj hm
    obtain ⟨rfl, rfl⟩ := chain_single hinj dirs 0 d c ps (heq.trans (metaRoot_singleton _))
    exact ⟨0, Nat.le_refl 0, rfl, Nat.le_refl 0, fun j hj => absurd hj (Nat.not_lt_zero j)⟩
  | node l r T hl hr0 hr ihl ihr =>
    intro ps hm heq
    -- the last leaf is `m = 2^T + b`, leaf `b` of the right part
    obtain ⟨b, hb⟩ := Nat.exists_eq_succ_of_ne_zero (Nat.ne_of_gt hr0)
    rw [List.length_append, hl, hb] at hm
    obtain rfl : 2 ^ T + b = m := Nat.succ.inj hm
    have hp := Nat.two_pow_pos T
    have hbT : b < 2 ^ T := Nat.lt_of_succ_le (hb ▸ hr)
    rw [metaRoot_leaves_append l r T hl hr0 hr] at heq
    obtain ⟨ps', p, rfl, hc⟩ := chain_top hinj dirs 0 d ps _ _ heq
    rw [Nat.zero_add] at hc
    rw [List.length_append, List.length_singleton]
    rcases hc with ⟨hdir, _, h3⟩ | ⟨hdir, _, h3⟩
    · -- the chain enters the right half: the leaf found there, shifted by `2^T`
      obtain ⟨k, hkb, hd, hL, hdirs⟩ := ihr b ps' hb h3
      have hkT : k < 2 ^ T := Nat.lt_of_le_of_lt hkb hbT
      have hsh := (bitLen_le_iff _ _).2 (Nat.xor_lt_two_pow hkT hbT)
      refine ⟨2 ^ T + k, Nat.add_le_add_left hkb _, ?_, ?_, ?_⟩
      · rw [List.getElem?_append_right (hl ▸ Nat.le_add_right _ _), hl, Nat.add_sub_cancel_left]; exact hd
      · rw [xor_two_pow_add hkT hbT]; exact Nat.le_succ_of_le hL
      · intro j hj
        rw [xor_two_pow_add hkT hbT, dirOf_two_pow_add hsh]
        rcases Nat.lt_succ_iff_lt_or_eq.1 hj with hj | rfl
        · exact hdirs j hj
        · rw [hdir, dirOf_of_ge hL]
    · -- the chain enters the left (perfect) half: depth `T`, directions are index bits
      obtain ⟨k, hkb, hd, _, hdirs⟩ := ihl (2 ^ T - 1) ps' (hl.trans (Nat.sub_add_cancel hp).symm) h3
      have hkT : k < 2 ^ T := Nat.lt_of_le_of_lt hkb (Nat.sub_one_lt (Nat.ne_of_gt hp))
      have hlo : 2 ^ T ≤ 2 ^ T + b := Nat.le_add_right _ _
      have hhi : 2 ^ T + b < 2 ^ (T + 1) := by
        rw [Nat.pow_succ', Nat.two_mul]; exact Nat.add_lt_add_left hbT _
      have hps := chain_depth_pow hinj dirs 0 d T l ps' hl h3
      rw [hps] at hdir hdirs ⊢
      refine ⟨k, Nat.le_trans (Nat.le_of_lt hkT) hlo, ?_, ?_, ?_⟩
      · rw [List.getElem?_append_left (hl ▸ hkT)]; exact hd
      · rw [bitLen_xor_top hkT hlo hhi]; exact Nat.le_refl _
      · intro j hj
        rw [bitLen_xor_top hkT hlo hhi, dirOf_of_lt hj]
        rcases Nat.lt_succ_iff_lt_or_eq.1 hj with hj | rfl
        · rw [hdirs j hj, dirOf_perfect hj]
        · rw [hdir, Nat.testBit_lt_two_pow hkT]

/-- Soundness of the fold with the verifier's direction rule for leaf `i`, given the "too few proof
hashes" guard: the accepted leaf data are the data of leaf `i`. -/
theorem chainD_sound (hinj : HashInj H) (m : Nat) (cs : List ByteArray) (i : Nat) (d : ByteArray) (ps : List H)
    (hm : cs.length = m + 1) (hi : i ≤ m) (hguard : bitLen (i ^^^ m) ≤ ps.length)
    (heq : chainD (dirOf i (bitLen (i ^^^ m))) 0 (leaf d) ps = metaRoot (cs.map (leaf : ByteArray → H))) :
    cs[i]? = some d := by
  obtain ⟨k, hk, hd, hL, hdirs⟩ := chainD_leaf hinj _ d m cs ps hm heq
  rwa [dirOf_inj hi hk hguard hL hdirs]

end Sia.SP
