import SiaProofs.Lemmas.MerkleRhpSound
import SiaProofs.Lemmas.MerkleRhpSize
/-!
  C16: range proofs inside one sector (`RangeProofVerifier`,
  `n = 2^k` leaves): the streamed subtree roots of the covered data.
-/
set_option linter.unusedSectionVars false
namespace Sia.Rhp
open HashOps

variable {H : Type} [HashOps H]

theorem rangeSubtreeRoots_injective (hinj : NodeInj H) (i j : Nat) (l1 l2 : List H)
    (h1 : l1.length = j - i) (h2 : l2.length = j - i)
    (heq : rangeSubtreeRoots l1 i j = rangeSubtreeRoots l2 i j) : l1 = l2 := by
  induction i using walk_induction j generalizing l1 l2 with
  | step i ih =>
    by_cases hlt : i < j
    · obtain ⟨k, hk, hdvd, hle⟩ := nss_spec hlt
      have hp := Nat.two_pow_pos k
      rw [rangeSubtreeRoots_step l1 i j hlt, rangeSubtreeRoots_step l2 i j hlt, hk] at heq
      simp only [List.cons.injEq] at heq
      obtain ⟨hroot, hrest⟩ := heq
      have ht : l1.take (2 ^ k) = l2.take (2 ^ k) := by
        apply metaRoot_inj hinj _ hroot
        simp [List.length_take, h1, h2]
      have hdr : l1.drop (2 ^ k) = l2.drop (2 ^ k) :=
        ih hlt (i + 2 ^ k) (by omega) _ _
          (by simp [List.length_drop, h1]; omega) (by simp [List.length_drop, h2]; omega) hrest
      rw [← List.take_append_drop (2 ^ k) l1, ← List.take_append_drop (2 ^ k) l2, ht, hdr]
    · have e1 : l1.length = 0 := by omega
      have e2 : l2.length = 0 := by omega
      rw [List.eq_nil_of_length_eq_zero e1, List.eq_nil_of_length_eq_zero e2]

theorem rangeSubtreeRoots_inj (hinj : NodeInj H) : ∀ (d i j : Nat) (l1 l2 : List H), j - i = d →
    l1.length = j - i → l2.length = j - i →
    rangeSubtreeRoots l1 i j = rangeSubtreeRoots l2 i j → l1 = l2 :=
  fun _ i j l1 l2 _ => rangeSubtreeRoots_injective hinj i j l1 l2

/-! ### the accumulator of `RangeProofVerifier.Verify` -/

def leafAcc (n : Nat) (proof leaves : List H) (s e : Nat) : Acc H × List H :=
  let roots := rangeSubtreeRoots leaves s e
  let s1 := insertRange Acc.empty proof 0 s
  let s2 := insertRange s1.1 roots s e
  insertRange s2.1 s1.2 e n

theorem rpv_eq [DecidableEq H] (n : Nat) (proof leaves : List H) (s e : Nat) (root : H)
    (hl : proof.length = rangeProofSize n s e) :
    rangeProofVerify n proof leaves s e root = decide ((leafAcc n proof leaves s e).1.root = root) := by
  unfold rangeProofVerify leafAcc
  simp [hl]

/-- the honest run, phase by phase: after the lefts the count is `s` and the rights are what is left of the
proof; after the subtree roots of the covered leaves the count is `e` and they are used up; after the rights
nothing is left and the accumulator holds `ls`. Completeness reads the last part; soundness
(`c16_leaf_range_sound`) runs a `Lock` per phase against this run and needs each count as the position where
the next phase starts, each empty rest to know that equal stacks are equal states (`Lock.own`,
`SameState.of_root`). -/
theorem leafAcc_honest (ls : List H) (k : Nat) (hlen : ls.length = 2 ^ k) (hk : k ≤ 30)
    (s e : Nat) (hse : s < e) (hen : e ≤ ls.length) :
    let P := buildRange ls 0 s ++ buildRange ls e maxInt32
    let D := (ls.drop s).take (e - s)
    (insertRange Acc.empty P 0 s).1.n = s ∧
    (insertRange Acc.empty P 0 s).2 = buildRange ls e maxInt32 ∧
    (insertRange (insertRange Acc.empty P 0 s).1 (rangeSubtreeRoots D s e) s e).1.n = e ∧
    (insertRange (insertRange Acc.empty P 0 s).1 (rangeSubtreeRoots D s e) s e).2 = [] ∧
    (leafAcc (2 ^ k) P D s e).2 = [] ∧ InvC (leafAcc (2 ^ k) P D s e).1 ls := by
  intro P D
  have hn30 : ls.length ≤ 2 ^ 30 := by rw [hlen]; exact Nat.pow_le_pow_right (by omega) hk
  have h0 : Inv (Acc.empty : Acc H) (ls.take 0) := by simpa using Inv.empty
  obtain ⟨a1, ha1, hinv1⟩ := insertRange_buildRange_exact ls s (by omega) 0 Acc.empty
    (buildRange ls e maxInt32) (Nat.zero_le _) h0
  have hD : rangeSubtreeRoots D s e = buildRange ls s e := rangeSubtreeRoots_eq_buildRange ls e hen s
  obtain ⟨a2, ha2, hinv2⟩ := insertRange_buildRange_exact ls e hen s a1 [] (by omega) hinv1
  rw [List.append_nil] at ha2
  have hJ1 : 2 * (ls.length - 1) ≤ maxInt32 := by unfold maxInt32; omega
  have hJ2 : ∀ i, 0 < i → i < ls.length → nextSubtreeSize i (2 ^ k) = 2 ^ tz i ∧ i < 2 ^ k := by
    intro i h0 hlt
    exact ⟨nss_pow2 h0 (by omega), by omega⟩
  obtain ⟨a3, ha3, hinv3⟩ := insertRange_buildRange_right ls maxInt32 (2 ^ k) hJ1 hJ2
    e a2 (by omega) hen hinv2
  have e1 : insertRange Acc.empty P 0 s = (a1, buildRange ls e maxInt32) := ha1
  have hn1 : a1.n = s := by rw [hinv1.2]; simp; omega
  have hn2 : a2.n = e := by rw [hinv2.2]; simp; omega
  refine ⟨?_, ?_, ?_, ?_, ?_, ?_⟩
  · rw [e1]; exact hn1
  · rw [e1]
  · rw [e1, hD]; simp only; rw [ha2]; exact hn2
  · rw [e1, hD]; simp only; rw [ha2]
  · show (leafAcc (2 ^ k) P D s e).2 = []
    unfold leafAcc; simp only [e1, hD]; rw [ha2]; simp only; rw [ha3]
  · show InvC (leafAcc (2 ^ k) P D s e).1 ls
    unfold leafAcc; simp only [e1, hD]; rw [ha2]; simp only; rw [ha3]; exact hinv3

end Sia.Rhp
