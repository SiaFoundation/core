import SiaModel.Merkle.StorageProof
import SiaProofs.Lemmas.MerkleRhpTie
/-!
  C07 (storage proofs): the direction rule of the verifier,
  `dirOf i (bitLen (i ^^^ m))` for leaf `i` of a tree whose last leaf is `m`, along the split of
  the tree at `2^t ≤ m < 2^(t+1)` into a perfect left half and the rest; and that the rule
  determines `i`.
-/
namespace Sia.SP
open Sia.Rhp

/-- the direction rule as a Bool: sibling on the LEFT at step `j` -/
def dirOf (i sh : Nat) (j : Nat) : Bool := i.testBit j || decide (j ≥ sh)

theorem dirOf_iff (i sh j : Nat) : (i / 2 ^ j % 2 = 1 ∨ j ≥ sh) ↔ dirOf i sh j = true := by
  unfold dirOf
  rw [Nat.testBit_eq_decide_div_mod_eq]
  simp

theorem dirOf_of_ge {i sh j : Nat} (h : sh ≤ j) : dirOf i sh j = true := by
  rw [dirOf, decide_eq_true h, Bool.or_true]

theorem dirOf_of_lt {i sh j : Nat} (h : j < sh) : dirOf i sh j = i.testBit j := by
  rw [dirOf, decide_eq_false (Nat.not_le_of_gt h), Bool.or_false]

/-- at and above the merge height the bits agree -/
theorem testBit_of_bitLen_xor_le {a b j : Nat} (h : bitLen (a ^^^ b) ≤ j) : a.testBit j = b.testBit j := by
  have := Nat.testBit_lt_two_pow ((bitLen_le_iff _ _).1 h)
  rw [Nat.testBit_xor] at this
  cases ha : a.testBit j <;> cases hb : b.testBit j <;> simp [ha, hb] at this ⊢

theorem dirOf_perfect {i t j : Nat} (hj : j < t) : dirOf i (bitLen (i ^^^ (2 ^ t - 1))) j = i.testBit j := by
  by_cases h : bitLen (i ^^^ (2 ^ t - 1)) ≤ j
  · rw [dirOf_of_ge h, testBit_of_bitLen_xor_le h, Nat.testBit_two_pow_sub_one, decide_eq_true hj]
  · exact dirOf_of_lt (Nat.lt_of_not_le h)

/-- a leaf of the left (perfect) half merges with the last leaf at the top -/
theorem bitLen_xor_top {i m t : Nat} (hi : i < 2 ^ t) (h1 : 2 ^ t ≤ m) (h2 : m < 2 ^ (t + 1)) :
    bitLen (i ^^^ m) = t + 1 := by
  have hle := (bitLen_le_iff _ _).2
    (Nat.xor_lt_two_pow (Nat.lt_of_lt_of_le hi (Nat.pow_le_pow_right (by decide) (Nat.le_succ t))) h2)
  have hb : (i ^^^ m).testBit t = true := by
    rw [Nat.testBit_xor, Nat.testBit_lt_two_pow hi, Nat.testBit_of_two_pow_le_and_two_pow_add_one_gt h1 h2]; rfl
  have : ¬ (bitLen (i ^^^ m) ≤ t) := fun h =>
    Nat.lt_irrefl _ (Nat.lt_of_lt_of_le ((bitLen_le_iff _ _).1 h) (Nat.ge_two_pow_of_testBit hb))
  omega

theorem xor_two_pow_add {a b t : Nat} (ha : a < 2 ^ t) (hb : b < 2 ^ t) : (2 ^ t + a) ^^^ (2 ^ t + b) = a ^^^ b := by
  apply Nat.eq_of_testBit_eq
  intro j
  rw [Nat.testBit_xor, Nat.testBit_xor]
  rcases Nat.lt_trichotomy j t with h | rfl | h
  · rw [Nat.testBit_two_pow_add_gt h, Nat.testBit_two_pow_add_gt h]
  · rw [Nat.testBit_two_pow_add_eq, Nat.testBit_two_pow_add_eq, Nat.testBit_lt_two_pow ha, Nat.testBit_lt_two_pow hb]
    rfl
  · have hp : 2 ^ (t + 1) ≤ 2 ^ j := Nat.pow_le_pow_right (by decide) h
    rw [Nat.pow_succ'] at hp
    rw [Nat.testBit_lt_two_pow (x := 2 ^ t + a) (by omega), Nat.testBit_lt_two_pow (x := 2 ^ t + b) (by omega),
      Nat.testBit_lt_two_pow (x := a) (by omega), Nat.testBit_lt_two_pow (x := b) (by omega)]

theorem dirOf_two_pow_add {a sh t : Nat} (hsh : sh ≤ t) (j : Nat) : dirOf (2 ^ t + a) sh j = dirOf a sh j := by
  by_cases hj : j < t
  · rw [dirOf, dirOf, Nat.testBit_two_pow_add_gt hj]
  · have := Nat.le_trans hsh (Nat.le_of_not_lt hj)
    rw [dirOf_of_ge this, dirOf_of_ge this]

theorem testBit_merge_zero : ∀ (b a : Nat), a < b → a.testBit (bitLen (a ^^^ b) - 1) = false := by
  intro b
  induction b using Nat.strongRecOn with
  | _ b ih =>
    intro a hab
    rw [bitLen_half (fun h => Nat.ne_of_lt hab (GoWords.xor_eq_zero h)), Nat.add_sub_cancel, Nat.xor_div_two]
    by_cases hh : a / 2 = b / 2
    · rw [hh, Nat.xor_self, show bitLen 0 = 0 from rfl, Nat.testBit_zero]
      exact decide_eq_false (by omega)
    · have hpos : bitLen (a / 2 ^^^ b / 2) ≠ 0 := fun h =>
        hh (GoWords.xor_eq_zero (Nat.lt_one_iff.1 ((bitLen_le_iff _ 0).1 (Nat.le_of_eq h))))
      have := ih (b / 2) (by omega) (a / 2) (by omega)
      rwa [← Nat.testBit_succ, Nat.succ_eq_add_one, Nat.sub_add_cancel (Nat.pos_of_ne_zero hpos)] at this

theorem bitLen_le_of_dirOf {i k m L : Nat} (hk : k ≤ m) (hkL : bitLen (k ^^^ m) ≤ L)
    (h : ∀ j, j < L → dirOf i (bitLen (i ^^^ m)) j = dirOf k (bitLen (k ^^^ m)) j) :
    bitLen (k ^^^ m) ≤ bitLen (i ^^^ m) := by
  apply Nat.le_of_not_lt
  intro hlt
  have hkm : k < m := by
    apply Nat.lt_of_le_of_ne hk
    rintro rfl
    rw [Nat.xor_self] at hlt
    exact Nat.not_lt_zero _ hlt
  have hj : bitLen (k ^^^ m) - 1 < bitLen (k ^^^ m) := by omega
  have := h _ (Nat.lt_of_lt_of_le hj hkL)
  rw [dirOf_of_ge (by omega), dirOf_of_lt hj, testBit_merge_zero m k hkm] at this
  exact Bool.noConfusion this

/-- The direction rule determines the index: two leaves `i k ≤ m` whose rules agree below some
`L` at or above both merge heights are the same leaf. -/
theorem dirOf_inj {i k m L : Nat} (hi : i ≤ m) (hk : k ≤ m)
    (hiL : bitLen (i ^^^ m) ≤ L) (hkL : bitLen (k ^^^ m) ≤ L)
    (h : ∀ j, j < L → dirOf i (bitLen (i ^^^ m)) j = dirOf k (bitLen (k ^^^ m)) j) : i = k := by
  have hs : bitLen (i ^^^ m) = bitLen (k ^^^ m) :=
    Nat.le_antisymm (bitLen_le_of_dirOf hi hiL (fun j hj => (h j hj).symm)) (bitLen_le_of_dirOf hk hkL h)
  apply Nat.eq_of_testBit_eq
  intro j
  by_cases hj : j < bitLen (i ^^^ m)
  · have := h j (Nat.lt_of_lt_of_le hj hiL)
    rwa [dirOf_of_lt hj, dirOf_of_lt (hs ▸ hj)] at this
  · exact (testBit_of_bitLen_xor_le (Nat.le_of_not_lt hj)).trans
      (testBit_of_bitLen_xor_le (hs ▸ Nat.le_of_not_lt hj)).symm

end Sia.SP
