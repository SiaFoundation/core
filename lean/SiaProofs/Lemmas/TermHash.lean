/-
  SiaProofs.Lemmas.TermHash — the free term algebra as a hash type: a model in which
  node and leaf hashes are injective (and disjoint), used to show that the hypotheses
  of the C04 theorems are satisfiable, and to run the model inside the kernel (C05, C18).
-/
import SiaModel.Merkle.Accumulator
namespace Sia.ElemAcc

/-- hash terms: uninterpreted atoms (element hashes), leaves and nodes -/
inductive T where
  | atom (n : Nat)
  | leaf (e : T) (i : Nat) (s : Bool)
  | node (l r : T)
  deriving DecidableEq, Inhabited

instance : Hasher T := ⟨T.node, T.leaf⟩

theorem T.node_inj (a b c d : T) (h : (node a b : T) = node c d) : a = c ∧ b = d := by
  cases h; exact ⟨rfl, rfl⟩

theorem T.leaf_inj (e e' : T) (i i' : Nat) (s s' : Bool) (h : (Hasher.leaf e i s : T) = Hasher.leaf e' i' s') :
    e = e' ∧ i = i' ∧ s = s' := by
  cases h; exact ⟨rfl, rfl, rfl⟩

theorem T.leaf_ne_node (e : T) (i : Nat) (s : Bool) (a b : T) : (Hasher.leaf e i s : T) ≠ node a b := by
  intro h; cases h

def emptyAcc : Acc T := { trees := fun _ => default, numLeaves := 0 }

/-- a fresh unspent/spent leaf with element hash `atom k`, as handed to `addLeaves` -/
def freshLeaf (k : Nat) (spent : Bool := false) : Leaf T :=
  { elem := .atom k, spent := spent, index := unassignedLeafIndex, proof := [] }

end Sia.ElemAcc
