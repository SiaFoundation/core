import SiaProofs.Lemmas.LedgerPayout
/-!
# The Foundation addresses of the mid-state only move in the trailing step of a transaction
(`a1Final` / `a2Final`); every other step of `applyTransaction` / `applyV2Transaction` keeps them.
-/
namespace Sia.Ledger

/-- (FoundationSubsidyAddress, FoundationManagementAddress) of the mid-state -/
def Mid.fnd (s : Mid) : Addr × Addr := (s.fPrimary, s.fFailsafe)

@[simp] theorem putSc_fnd (ms : Mid) (id : Id) (f : ScDiff → ScDiff) : (ms.putSc id f).fnd = ms.fnd := by
  unfold Mid.putSc; split <;> rfl
@[simp] theorem putSf_fnd (ms : Mid) (id : Id) (f : SfDiff → SfDiff) : (ms.putSf id f).fnd = ms.fnd := by
  unfold Mid.putSf; split <;> rfl
@[simp] theorem putFc1_fnd (ms : Mid) (id : Id) (f : Fc1Diff → Fc1Diff) : (ms.putFc1 id f).fnd = ms.fnd := by
  unfold Mid.putFc1; split <;> rfl
@[simp] theorem putFc2_fnd (ms : Mid) (id : Id) (f : Fc2Diff → Fc2Diff) : (ms.putFc2 id f).fnd = ms.fnd := by
  unfold Mid.putFc2; split <;> rfl

theorem puts_fnd_base (f : Addr × Addr) (b : Ledger) : Mid.Puts (fun s => s.fnd = f ∧ s.base = b) where
  putSc s id g _ h := by rw [putSc_fnd, putSc_eq, put_base]; exact h
  putSf s id g _ h := by rw [putSf_fnd, putSf_eq, put_base]; exact h
  putFc1 s id g _ h := by rw [putFc1_fnd, putFc1_eq, put_base]; exact h
  putFc2 s id g _ h := by rw [putFc2_fnd, putFc2_eq, put_base]; exact h
  spends _ _ h := h
  pool _ _ h := h

theorem a1Final_fnd (s : Mid) (t : Txn1) :
    (a1Final s t).fnd = s.fnd ∨ (s.base.child ≥ s.base.P.hfFoundation + 1 ∧ ∃ x, t.foundation = some x) := by
  unfold a1Final
  split
  · rename_i hc
    split
    · exact Or.inr ⟨hc, _, by assumption⟩
    · exact Or.inr ⟨hc, _, by assumption⟩
    · exact Or.inl rfl
  · exact Or.inl rfl

theorem a2Final_fnd (s : Mid) (t : Txn2) : (a2Final s t).fnd = s.fnd ∨ ∃ a, t.newFoundation = some a := by
  unfold a2Final
  simp only []
  split
  · exact Or.inr ⟨_, by assumption⟩
  · exact Or.inl rfl

theorem txn1_fnd {s s' : Mid} {t : Txn1} (ha : applyTransaction s t = .ok s') :
    s'.fnd = s.fnd ∨ (s.base.child ≥ s.base.P.hfFoundation + 1 ∧ ∃ x, t.foundation = some x) := by
  obtain ⟨s0, ⟨hf, hb0⟩, rfl⟩ := (puts_fnd_base s.fnd s.base).ops.applyTransaction ⟨rfl, rfl⟩ ha
  rw [← hf, ← hb0]; exact a1Final_fnd s0 t

theorem txn2_fnd {s s' : Mid} {t : Txn2} (ha : applyV2Transaction s t = .ok s') :
    s'.fnd = s.fnd ∨ ∃ a, t.newFoundation = some a := by
  obtain ⟨s0, ⟨hf, _⟩, rfl⟩ := (puts_fnd_base s.fnd s.base).ops.applyV2Transaction ⟨rfl, rfl⟩ ha
  rw [← hf]; exact a2Final_fnd s0 t

theorem foldlM_fnd_or {α} {f : Mid → α → VM Mid} (P : α → Prop)
    (hstep : ∀ s x s', f s x = .ok s' → s'.fnd = s.fnd ∨ P x)
    (l : List α) (s s' : Mid) (h : l.foldlM f s = .ok s') : s'.fnd = s.fnd ∨ ∃ x ∈ l, P x := by
  induction l generalizing s with
  | nil => simp at h; subst h; exact Or.inl rfl
  | cons a l ih =>
    rw [List.foldlM_cons] at h
    obtain ⟨s1, h1, h2⟩ := bind_ok_iff.1 h
    rcases ih s1 h2 with hk | ⟨x, hx, hp⟩
    · rcases hstep s a s1 h1 with hs | hp
      · exact Or.inl (by rw [hk, hs])
      · exact Or.inr ⟨a, List.mem_cons_self, hp⟩
    · exact Or.inr ⟨x, List.mem_cons_of_mem _ hx, hp⟩

end Sia.Ledger
