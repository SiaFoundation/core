import SiaProofs.Lemmas.LedgerGenuine
import SiaProofs.Lemmas.LedgerValue
/-!
# One applied block keeps the ids of the ledger unique; `applyBlock` unpacked (`applyBlock_facts`).
-/
namespace Sia.Ledger

/-- the shape of every slice of `Mid.commit` (cf. `mem_commit`) keeps ids unique -/
theorem nodup_commit {α δ : Type} (key : α → Id) (dkey : δ → Id) (out : δ → α) (keep : δ → Bool)
    (l : List α) (ds : List δ) (hl : (l.map key).Nodup) (hds : (ds.map dkey).Nodup) (hout : ∀ d, key (out d) = dkey d) :
    ((l.filter (fun e => ¬ ds.any (fun d => dkey d = key e)) ++ (ds.filter keep).map out).map key).Nodup :=
  filter_any_eq l key ds dkey ▸
    (commit_ids_live l key ds dkey keep out hout hl (((List.filter_sublist (l := ds)).map dkey).nodup hds)).1

theorem commit_ledgerIds (ms : Mid) (bid : Id) (hL : LedgerIds ms.base) (hJ : MidJ ms) : LedgerIds (ms.commit bid) :=
  ⟨nodup_commit (fun e : ScElem => e.id) (fun d : ScDiff => d.e.id) _ _ _ _ hL.sc hJ.sc.nodup (fun _ => rfl),
    nodup_commit (fun e : SfElem => e.id) (fun d : SfDiff => d.e.id) _ _ _ _ hL.sf hJ.sf.nodup (fun _ => rfl),
    nodup_commit (fun e : Fc1Elem => e.id) (fun d : Fc1Diff => d.e.id) _ _ _ _ hL.fc1 hJ.fc1.nodup Fc1Diff.current_id,
    nodup_commit (fun e : Fc2Elem => e.id) (fun d : Fc2Diff => d.e.id) _ _ _ _ hL.fc2 hJ.fc2.nodup
      (fun d => by cases d.revision <;> rfl)⟩

theorem applyBlock_facts {L L' : Ledger} {b : Block} {ms : Mid} (h : applyBlock L b = .ok (L', ms)) :
    midApplyBlock (newMid L) b = .ok ms ∧ L' = ms.commit b.blockId := by
  unfold applyBlock at h
  obtain ⟨m, hm, h⟩ := bind_ok_iff.1 h
  simp at h
  obtain ⟨rfl, rfl⟩ := h
  exact ⟨hm, rfl⟩

theorem applyBlock_ledgerIds {L L' : Ledger} {b : Block} {ms : Mid} (hL : LedgerIds L)
    (h : applyBlock L b = .ok (L', ms)) : LedgerIds L' := by
  obtain ⟨hm, rfl⟩ := applyBlock_facts h
  exact commit_ledgerIds ms _ (by rw [midApplyBlock_base hm]; exact hL) (midApplyBlock_J hm)

end Sia.Ledger
