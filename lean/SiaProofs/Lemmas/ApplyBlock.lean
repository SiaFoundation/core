/-
  SiaProofs.Lemmas.ApplyBlock — `applyBlock` (consensus/merkle.go:422) = updateLeaves,
  root replacement, addLeaves, treeGrowth extension, against the naive forest.
-/
import SiaProofs.Lemmas.UpdateLeaves
import SiaProofs.Lemmas.AddLeaves
import SiaProofs.Lemmas.UpdateProof
namespace Sia.ElemAcc
section
variable {H : Type} [Hasher H] [Inhabited H]

theorem withPath_proofRoot (ls : List H) (updated : List (Leaf H)) (ok : UpdOK ls updated) (l : Leaf H) (hl : l ∈ updated) :
    (withPath (writeLeaves ls updated) l).proofRoot =
      subRoot (writeLeaves ls updated) l.proof.length (treeStart ls.length l.proof.length) := by
  obtain ⟨_, h1, h2⟩ := ok.inTree hl
  show proofRoot l.hash l.index (path (writeLeaves ls updated) l.index) = _
  rw [← ok.write_get hl, ok.path_eq hl (writeLeaves_length _ _)]
  exact proofRoot_path_block _ (dvd_of_dvd_succ (treeStart_dvd _ _)) h1 h2

theorem withUpdatedRoots_forest (acc : Acc H) (ls : List H) (hacc : acc.toForest = forestOf ls)
    (updated : List (Leaf H)) (ok : UpdOK ls updated) (hn : ls.length < 2 ^ 64)
    (upd : Nat → List (Leaf H))
    (hupd : ∀ h l', l' ∈ upd h ↔ ∃ l ∈ updated, l.proof.length = h ∧ l' = withPath (writeLeaves ls updated) l) :
    (acc.withUpdatedRoots upd).toForest = forestOf (writeLeaves ls updated) := by
  obtain ⟨hnum, htrees⟩ := (toForest_eq_iff acc ls).1 hacc
  have hlen : (writeLeaves ls updated).length = ls.length := writeLeaves_length _ _
  rw [toForest_eq_iff]
  refine ⟨by simp [Acc.withUpdatedRoots, hnum, hlen], ?_⟩
  intro h hbit
  rw [hlen] at hbit ⊢
  have h64 := testBit_lt_64 hn hbit
  simp only [Acc.withUpdatedRoots]
  cases hu : upd h with
  | nil =>
    simp only []
    rw [htrees h hbit]
    refine subRoot_ext _ _ fun q h1 h2 => (ok.write_same ⟨hbit, h1, h2⟩ fun u hu' hlh _ => ?_).symm
    have : withPath (writeLeaves ls updated) u ∈ upd h := (hupd h _).2 ⟨u, hu', hlh, rfl⟩
    rw [hu] at this; simp at this
  | cons l0 rest =>
    simp only [h64, if_true]
    obtain ⟨l, hl, hlh, rfl⟩ := (hupd h l0).1 (by rw [hu]; simp)
    rw [withPath_proofRoot ls updated ok l hl, hlh]

/-- `elementApplyUpdate.updateElementProof` on the old path of an existing leaf `j`: `updateProof`
    inside its old tree, then that tree's growth. `ls1` is the leaf list with the block's
    rewrites, `ls2` the final one. -/
theorem ApplyUpdate.updateElementProof_spec (u : ApplyUpdate H) {ls ls1 ls2 : List H} {k j : Nat}
    (hold : u.oldNumLeaves = ls.length) (hnew : u.numLeaves = ls.length + k)
    (hsz : ls.length + k ≤ unassignedLeafIndex) (hlen1 : ls1.length = ls.length) (hj : j < ls.length)
    (hgok : GroupOK ls ls1 (treeHeight ls.length j) (j / 2 ^ treeHeight ls.length j) (u.updated (treeHeight ls.length j)))
    (hgrow : path ls2 j = path ls1 j ++ u.growth (path ls1 j).length) :
    u.updateElementProof j (path ls j) = .ok (path ls2 j) := by
  have hup := updateProof_spec ls ls1 _ _ u.updated hgok j rfl
  have hmono := treeHeight_mono hj (Nat.le_add_right ls.length k)
  have hmh := mergeHeight_eq (n := ls.length + k) (i := j) (by omega)
  have hp1 : path ls1 j = sibs ls1 j 0 (treeHeight ls.length j) := by rw [path_eq_sibs ls1 (hlen1 ▸ hj), hlen1]
  have hl1 : (path ls1 j).length = treeHeight ls.length j := by rw [path_length, hlen1]
  simp only [ApplyUpdate.updateElementProof, hold, hnew]
  rw [if_neg (by omega), if_neg (by omega), path_eq_sibs ls hj, hup]
  simp only [bind, Except.bind, pure, Except.pure]
  rw [← hp1, hl1, hmh, if_pos (by omega), hgrow, hl1]

theorem length_applied (ls : List H) (updated added : List (Leaf H)) :
    (writeLeaves ls updated ++ hashesFrom ls.length added).length = ls.length + added.length := by
  rw [List.length_append, writeLeaves_length, hashesFrom_length]

/-- what `applyBlock updated added` returns, against the naive forest: `ls` is the leaf list before
    the block, `ls2 = writeLeaves ls updated ++ hashesFrom ls.length added` the one after it -/
structure ApplySpec (ls : List H) (updated added : List (Leaf H)) (acc' : Acc H) (u : ApplyUpdate H)
    (added' : List (Leaf H)) : Prop where
  forest : acc'.toForest = forestOf (writeLeaves ls updated ++ hashesFrom ls.length added)
  oldNum : u.oldNumLeaves = ls.length
  addedLen : added'.length = added.length
  /-- the added leaves carry their indices and naive paths -/
  fresh : ∀ j l, added'[j]? = some l → l.index = ls.length + j ∧
    l.proof = path (writeLeaves ls updated ++ hashesFrom ls.length added) (ls.length + j) ∧
    (writeLeaves ls updated ++ hashesFrom ls.length added).getD (ls.length + j) default = l.hash ∧
    ∃ l0, added[j]? = some l0 ∧ l.elem = l0.elem ∧ l.spent = l0.spent
  /-- the rewritten leaves, as stored in the update, carry their naive paths -/
  rewritten : ∀ h l', l' ∈ u.updated h ↔
    ∃ l ∈ updated, l.proof.length = h ∧ l' = withPath (writeLeaves ls updated ++ hashesFrom ls.length added) l
  /-- every holder's proof of an existing leaf becomes its naive path -/
  track : ∀ j, j < ls.length →
    u.updateElementProof j (path ls j) = .ok (path (writeLeaves ls updated ++ hashesFrom ls.length added) j)

theorem applyBlock_spec (acc : Acc H) (ls : List H) (hacc : acc.toForest = forestOf ls)
    (updated : List (Leaf H)) (ok : UpdOK ls updated)
    (added : List (Leaf H)) (hnp : ∀ l ∈ added, l.proof = [])
    (hsz : ls.length + added.length ≤ unassignedLeafIndex) :
    ∃ acc' u added', acc.applyBlock updated added = .ok (acc', u, added') ∧ ApplySpec ls updated added acc' u added' := by
  let ls2 := writeLeaves ls updated ++ hashesFrom ls.length added
  have hn : ls.length < 2 ^ 64 := by unfold unassignedLeafIndex at hsz; omega
  obtain ⟨upd, hupd, hspec⟩ := updateLeaves_spec ls updated ok hn
  have hlen1 : (writeLeaves ls updated).length = ls.length := writeLeaves_length _ _
  have hacc1 := withUpdatedRoots_forest acc ls hacc updated ok hn upd hspec
  have hsz1 : (writeLeaves ls updated).length + added.length < 2 ^ 64 := by
    unfold unassignedLeafIndex at hsz; omega
  obtain ⟨a1, a2, a3⟩ := addLeaves_spec _ _ hacc1 added hnp hsz1
  have hgrow := addLeaves_growth _ _ hacc1 added hnp hsz1
  rw [hlen1] at a1 a3 hgrow
  simp only [Acc.applyBlock, hupd, bind, Except.bind, pure, Except.pure]
  generalize (acc.withUpdatedRoots upd).addLeaves added = r at a1 a2 a3 hgrow ⊢
  have hnum : r.1.numLeaves = ls.length + added.length :=
    (numLeaves_of_toForest a1).trans (length_applied ls updated added)
  have hmemU : ∀ h l', l' ∈ extendUpdated upd r.2.2 h ↔ ∃ l ∈ updated, l.proof.length = h ∧ l' = withPath ls2 l := by
    have hext : ∀ l ∈ updated, withPath ls2 l = { withPath (writeLeaves ls updated) l with
        proof := (withPath (writeLeaves ls updated) l).proof ++ r.2.2 (withPath (writeLeaves ls updated) l).proof.length } :=
      fun l hl => by simp only [withPath]; rw [hgrow l.index (ok.lt l hl)]
    intro h l'
    simp only [extendUpdated, List.mem_map]
    constructor
    · rintro ⟨l1, hl1, rfl⟩
      obtain ⟨l, hl, hlh, rfl⟩ := (hspec h l1).1 hl1
      exact ⟨l, hl, hlh, (hext l hl).symm⟩
    · rintro ⟨l, hl, hlh, rfl⟩
      exact ⟨withPath (writeLeaves ls updated) l, (hspec h _).2 ⟨l, hl, hlh, rfl⟩, (hext l hl).symm⟩
  refine ⟨r.1, _, r.2.1, rfl, a1, numLeaves_of_toForest hacc, a2, a3, hmemU, fun j hj => ?_⟩
  have hin := treeHeight_spec hj
  refine ApplyUpdate.updateElementProof_spec _ (numLeaves_of_toForest hacc) hnum hsz hlen1 hj ⟨?_, ?_, ?_, ?_⟩ (hgrow j hj)
  · intro u hu
    obtain ⟨l, hl, hlh, rfl⟩ := (hmemU _ u).1 hu
    exact hin.col_iff.1 (hlh ▸ ok.inTree hl)
  · intro u hu
    obtain ⟨l, hl, hlh, rfl⟩ := (hmemU _ u).1 hu
    refine ⟨r.2.2 (path (writeLeaves ls updated) l.index).length, ?_⟩
    show path ls2 l.index = _
    rw [hgrow l.index (ok.lt l hl), ok.path_eq_sibs hl hlen1, hlh]; rfl
  · intro u hu
    obtain ⟨l, hl, _, rfl⟩ := (hmemU _ u).1 hu
    exact ok.write_get (l := l) hl
  · intro q hq h3
    exact ok.write_same (hin.col_iff.2 hq) fun u hu hlh => h3 (withPath ls2 u) ((hmemU _ _).2 ⟨u, hu, hlh, rfl⟩)

end
end Sia.ElemAcc
