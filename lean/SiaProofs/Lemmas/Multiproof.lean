/-
  SiaProofs.Lemmas.Multiproof — multiproofSize / computeMultiproof / expandMultiproof
  (types/multiproof.go) against the naive forest: inside one block `(height, i)` of a
  tree all three follow the same recursion, described by `specStream`.
-/
import SiaModel.Merkle.Multiproof
import SiaProofs.Lemmas.UpdateLeaves
import SiaProofs.Lemmas.MultiproofBits
set_option linter.unusedSectionVars false
namespace Sia.Multiproof
open Sia.ElemAcc

section
variable {H : Type} [Hasher H] [Inhabited H]

/-- sorted leaf positions, all inside the block `(height, i)` -/
structure InBlock (height i : Nat) (idxs : List Nat) : Prop where
  sorted : idxs.Pairwise (· ≤ ·)
  range : ∀ x ∈ idxs, i ≤ x ∧ x < i + 2 ^ height

theorem InBlock.split {height i : Nat} {idxs : List Nat} (hb : InBlock (height + 1) i idxs) :
    InBlock height i (idxs.takeWhile (· < i + 2 ^ height)) ∧
    InBlock height (i + 2 ^ height) (idxs.dropWhile (· < i + 2 ^ height)) := by
  have hl := List.takeWhile_sublist (l := idxs) (· < i + 2 ^ height)
  have hr := List.dropWhile_sublist (l := idxs) (· < i + 2 ^ height)
  refine ⟨⟨hb.sorted.sublist hl, fun x hx => ⟨(hb.range x (hl.subset hx)).1, ?_⟩⟩,
    ⟨hb.sorted.sublist hr, fun x hx => ⟨dropWhile_sorted id _ _ hb.sorted x hx, ?_⟩⟩⟩
  · exact of_decide_eq_true (List.all_eq_true.1 List.all_takeWhile x hx)
  · have := (hb.range x (hr.subset hx)).2
    rw [pow_succ2] at this; omega

/-- the multiproof of the block `(height, i)` for the leaf positions `idxs`, read off the
    naive forest: a block without leaves contributes its root, a block with leaves is
    descended into -/
def specStream (ls : List H) : Nat → Nat → List Nat → List H
  | 0, i, idxs => if idxs.isEmpty then [subRoot ls 0 i] else []
  | height + 1, i, idxs =>
    if idxs.isEmpty then [subRoot ls (height + 1) i]
    else specStream ls height i (idxs.takeWhile (· < i + 2 ^ height)) ++
      specStream ls height (i + 2 ^ height) (idxs.dropWhile (· < i + 2 ^ height))

theorem specStream_nil (ls : List H) (height i : Nat) : specStream ls height i [] = [subRoot ls height i] := by
  cases height <;> rfl

theorem takeWhile_index (leaves : List (MLeaf H)) (mid : Nat) :
    (leaves.map (·.index)).takeWhile (· < mid) = (leaves.takeWhile (·.index < mid)).map (·.index) :=
  List.takeWhile_map

theorem dropWhile_index (leaves : List (MLeaf H)) (mid : Nat) :
    (leaves.map (·.index)).dropWhile (· < mid) = (leaves.dropWhile (·.index < mid)).map (·.index) :=
  List.dropWhile_map

theorem proofSize_spec (ls : List H) : ∀ (height i : Nat) (leaves : List (MLeaf H)),
    proofSize height i leaves = (specStream ls height i (leaves.map (·.index))).length := by
  intro height
  induction height with
  | zero => intro i leaves; cases leaves <;> rfl
  | succ height ih =>
    intro i leaves
    cases leaves with
    | nil => rfl
    | cons a t =>
      simp only [proofSize, specStream, List.isEmpty_map, List.isEmpty_cons, takeWhile_index, dropWhile_index,
        Bool.false_eq_true, if_false, List.length_append, ih]

theorem computeVisit_spec (ls : List H) : ∀ (height i : Nat) (leaves : List (MLeaf H)), leaves ≠ [] →
    InBlock height i (leaves.map (·.index)) →
    (∀ l ∈ leaves, l.proof.take height = subPath ls 0 l.index height i) →
    computeVisit height i leaves = specStream ls height i (leaves.map (·.index)) := by
  intro height
  induction height with
  | zero => intro i leaves hne _ _; cases leaves with | nil => exact absurd rfl hne | cons _ _ => rfl
  | succ height ih =>
    intro i leaves hne hb hold
    obtain ⟨hbL, hbR⟩ := hb.split
    have hsplit : leaves.takeWhile (·.index < i + 2 ^ height) ++ leaves.dropWhile (·.index < i + 2 ^ height) = leaves :=
      List.takeWhile_append_dropWhile
    have hL := List.takeWhile_sublist (l := leaves) (·.index < i + 2 ^ height)
    have hR := List.dropWhile_sublist (l := leaves) (·.index < i + 2 ^ height)
    rw [takeWhile_index] at hbL
    rw [dropWhile_index] at hbR
    simp only [computeVisit, specStream, List.isEmpty_map, List.isEmpty_eq_false_iff.2 hne, takeWhile_index,
      dropWhile_index, Bool.false_eq_true, if_false]
    generalize leaves.takeWhile (·.index < i + 2 ^ height) = L at *
    generalize leaves.dropWhile (·.index < i + 2 ^ height) = R at *
    -- a leaf of the left half holds the right half's root at `height`, and conversely
    have holdL : ∀ l ∈ L, l.proof.take height = subPath ls 0 l.index height i ∧
        l.proof.getD height default = subRoot ls height (i + 2 ^ height) :=
      fun l hl => take_subPath_left ls (hbL.range _ (List.mem_map_of_mem hl)).2 (hold l (hL.subset hl))
    have holdR : ∀ l ∈ R, l.proof.take height = subPath ls 0 l.index height (i + 2 ^ height) ∧
        l.proof.getD height default = subRoot ls height i :=
      fun l hl => take_subPath_right ls (hbR.range _ (List.mem_map_of_mem hl)).1 (hold l (hR.subset hl))
    have ihL := fun h => ih i L h hbL fun l hl => (holdL l hl).1
    have ihR := fun h => ih _ R h hbR fun l hl => (holdR l hl).1
    cases L with
    | nil =>
      cases R with
      | nil => exact absurd hsplit.symm hne
      | cons r0 rs =>
        show [r0.proof.getD height default] ++ computeVisit height (i + 2 ^ height) (r0 :: rs) = specStream ls height i [] ++ _
        rw [specStream_nil, (holdR r0 List.mem_cons_self).2, ihR (List.cons_ne_nil _ _)]
    | cons l0 lrest =>
      cases R with
      | nil =>
        show computeVisit height i (l0 :: lrest) ++ [l0.proof.getD height default] = _ ++ specStream ls height (i + 2 ^ height) []
        rw [specStream_nil, (holdL l0 List.mem_cons_self).2, ihL (List.cons_ne_nil _ _)]
      | cons r0 rs =>
        show computeVisit height i (l0 :: lrest) ++ computeVisit height (i + 2 ^ height) (r0 :: rs) = _
        rw [ihL (List.cons_ne_nil _ _), ihR (List.cons_ne_nil _ _)]

/-- the proof rewrite `expandMultiproof` performs on a leaf of the block `(height, i)` -/
def fixPathM (ls : List H) (height i : Nat) (l : MLeaf H) : MLeaf H :=
  { l with proof := subPath ls 0 l.index height i ++ l.proof.drop height }

theorem fixPathM_succ (ls : List H) {height i j : Nat} {l : MLeaf H} {x : H} (hlen : height < l.proof.length)
    (h : subPath ls 0 l.index (height + 1) i = subPath ls 0 l.index height j ++ [x]) :
    (fixPathM ls height j l).setProofAt height x = fixPathM ls (height + 1) i l := by
  have := set_append_cons (subPath ls 0 l.index height j) (l.proof.drop (height + 1)) l.proof[height] x
  rw [subPath_length, Nat.sub_zero] at this
  simp only [fixPathM, MLeaf.setProofAt, h, List.drop_eq_getElem_cons hlen, this, List.append_assoc, List.singleton_append]

theorem expandVisit_nil (height i : Nat) (x : H) (rest : List H) :
    expandVisit height i ([] : List (MLeaf H)) (x :: rest) = .ok (x, [], rest) := by
  cases height <;> rfl

theorem expandVisit_spec (ls : List H) : ∀ (height i : Nat) (leaves : List (MLeaf H)) (rest : List H),
    InBlock height i (leaves.map (·.index)) →
    (∀ l ∈ leaves, ls.getD l.index default = l.hash) →
    (∀ l ∈ leaves, height ≤ l.proof.length) →
    expandVisit height i leaves (specStream ls height i (leaves.map (·.index)) ++ rest) =
      .ok (subRoot ls height i, leaves.map (fixPathM ls height i), rest) := by
  intro height
  induction height with
  | zero =>
    intro i leaves rest hb hhash _
    cases leaves with
    | nil => rfl
    | cons l0 t =>
      have e : l0.index = i :=
        have h := hb.range l0.index List.mem_cons_self
        Nat.le_antisymm (Nat.le_of_lt_succ h.2) h.1
      have h0 : l0.hash = subRoot ls 0 i := by rw [← hhash l0 List.mem_cons_self, e]; rfl
      show Except.ok (l0.hash, l0 :: t, rest) = _
      rw [h0, List.map_id'' fun l => (rfl : fixPathM ls 0 i l = l)]
  | succ height ih =>
    intro i leaves rest hb hhash hlen
    cases leaves with
    | nil => rw [List.map_nil, specStream_nil]; exact expandVisit_nil ..
    | cons a t =>
      obtain ⟨hbL, hbR⟩ := hb.split
      have hsplit : (a :: t).takeWhile (·.index < i + 2 ^ height) ++ (a :: t).dropWhile (·.index < i + 2 ^ height) = a :: t :=
        List.takeWhile_append_dropWhile
      have hL := List.takeWhile_sublist (l := a :: t) (·.index < i + 2 ^ height)
      have hR := List.dropWhile_sublist (l := a :: t) (·.index < i + 2 ^ height)
      rw [takeWhile_index] at hbL
      rw [dropWhile_index] at hbR
      simp only [expandVisit, specStream, List.isEmpty_map, List.isEmpty_cons, takeWhile_index, dropWhile_index,
        Bool.false_eq_true, if_false, List.append_assoc]
      generalize (a :: t).takeWhile (·.index < i + 2 ^ height) = L at *
      generalize (a :: t).dropWhile (·.index < i + 2 ^ height) = R at *
      rw [ih i L _ hbL (fun l hl => hhash l (hL.subset hl)) (fun l hl => Nat.le_of_succ_le (hlen l (hL.subset hl)))]
      simp only [bind, Except.bind]
      rw [ih _ R _ hbR (fun l hl => hhash l (hR.subset hl)) (fun l hl => Nat.le_of_succ_le (hlen l (hR.subset hl)))]
      have fixL : (L.map (fixPathM ls height i)).map (·.setProofAt height (subRoot ls height (i + 2 ^ height))) =
          L.map (fixPathM ls (height + 1) i) := by
        rw [List.map_map]
        exact List.map_congr_left fun l hl => fixPathM_succ ls (hlen l (hL.subset hl))
          (subPath_left ls (Nat.zero_le _) (hbL.range _ (List.mem_map_of_mem hl)).2)
      have fixR : (R.map (fixPathM ls height (i + 2 ^ height))).map (·.setProofAt height (subRoot ls height i)) =
          R.map (fixPathM ls (height + 1) i) := by
        rw [List.map_map]
        exact List.map_congr_left fun l hl => fixPathM_succ ls (hlen l (hR.subset hl))
          (subPath_right ls (Nat.zero_le _) (hbR.range _ (List.mem_map_of_mem hl)).1)
      simp only [pure, Except.pure]
      rw [fixL, fixR, ← List.map_append, hsplit]
      rfl

/-- a leaf whose proof is the naive path of its position in the forest of `ls`
    (and whose hash is the leaf hash stored there) -/
structure Valid (ls : List H) (l : MLeaf H) : Prop where
  lt : l.index < ls.length
  proof : l.proof = path ls l.index
  hash : ls.getD l.index default = l.hash

theorem Valid.inTree {ls : List H} {l : MLeaf H} (v : Valid ls l) : InTree ls.length l.proof.length l.index := by
  rw [v.proof, path_length]; exact treeHeight_spec v.lt

/-- `g` replaces proofs by placeholders of the same length: it keeps, in this order, tag, element, index and proof
    length. `expandMultiproof` overwrites the proofs of its input row by row and reads the rest, so `expand_compute` and
    what leads to it hold for every such `g` (that is how `C18.c18_expand_compute` is stated); the decoder's `g` is `zeroProof`. Elsewhere
    "strip" is the encoder's side, proofs set to `[]` (`TxSetOps.strip`), from which `sizeProofs` makes `zeroProof`. -/
def Shape (g : MLeaf H → MLeaf H) : Prop :=
  ∀ l, (g l).tag = l.tag ∧ (g l).elem = l.elem ∧ (g l).index = l.index ∧ (g l).proof.length = l.proof.length

theorem Shape.map_index {g : MLeaf H → MLeaf H} (hg : Shape g) (leaves : List (MLeaf H)) :
    (leaves.map g).map (·.index) = leaves.map (·.index) := by
  rw [List.map_map]; exact List.map_congr_left fun l _ => (hg l).2.2.1

theorem treeGroup_map (g : MLeaf H → MLeaf H) (hg : Shape g) (leaves : List (MLeaf H)) (h : Nat) :
    treeGroup (leaves.map g) h = (treeGroup leaves h).map g := by
  unfold treeGroup
  rw [List.filter_map]
  have : ((fun l : MLeaf H => l.proof.length == h) ∘ g) = (fun l : MLeaf H => l.proof.length == h) := by
    funext l; simp [Function.comp, (hg l).2.2.2]
  rw [this]
  symm
  apply List.map_mergeSort
  intro a _ b _
  simp [(hg a).2.2.1, (hg b).2.2.1]

theorem groupStart_map {g : MLeaf H → MLeaf H} (hg : Shape g) (grp : List (MLeaf H)) (h : Nat) :
    groupStart (grp.map g) h = groupStart grp h := by
  cases grp with
  | nil => rfl
  | cons l0 _ => simp only [List.map_cons, groupStart, (hg l0).2.2.1]

theorem mem_treeGroup (leaves : List (MLeaf H)) (h : Nat) (l : MLeaf H) :
    l ∈ treeGroup leaves h ↔ l ∈ leaves ∧ l.proof.length = h := by
  unfold treeGroup
  rw [List.mem_mergeSort, List.mem_filter]; simp

theorem treeGroup_sorted (leaves : List (MLeaf H)) (h : Nat) :
    ((treeGroup leaves h).map (·.index)).Pairwise (· ≤ ·) := by
  have := List.pairwise_mergeSort (le := fun a b : MLeaf H => decide (a.index ≤ b.index))
    (by intro a b c; simp; omega) (by intro a b; simp; omega)
    (leaves.filter (fun l => l.proof.length == h))
  rw [List.pairwise_map]
  exact this.imp (by intro a b hab; simpa using hab)

theorem group_facts (ls : List H) (leaves : List (MLeaf H)) (hv : ∀ l ∈ leaves, Valid ls l) (h : Nat) :
    InBlock h (treeStart ls.length h) ((treeGroup leaves h).map (·.index)) ∧
    (∀ l ∈ treeGroup leaves h, l.proof = subPath ls 0 l.index h (treeStart ls.length h)) ∧
    (treeGroup leaves h ≠ [] → groupStart (treeGroup leaves h) h = treeStart ls.length h) := by
  have hin : ∀ l ∈ treeGroup leaves h, InTree ls.length h l.index := by
    intro l hl
    obtain ⟨hl1, rfl⟩ := (mem_treeGroup leaves _ l).1 hl
    exact (hv l hl1).inTree
  refine ⟨⟨treeGroup_sorted leaves h, ?_⟩, ?_, ?_⟩
  · intro x hx
    obtain ⟨l, hl, rfl⟩ := List.mem_map.1 hx
    exact (hin l hl).2
  · intro l hl
    rw [(hv l ((mem_treeGroup leaves h l).1 hl).1).proof, path_eq, treeHeight_unique (hin l hl)]
  · intro hne
    cases hg : treeGroup leaves h with
    | nil => exact absurd hg hne
    | cons l0 rest =>
      have h0 := hin l0 (hg ▸ List.mem_cons_self)
      rw [groupStart, clearBits_eq_anc]
      exact anc_eq (treeStart_dvd _ _) h0.2.1 
        (Nat.lt_of_lt_of_le h0.2.2 (Nat.add_le_add_left (Nat.pow_le_pow_right (by decide) (Nat.le_succ h)) _))

/-- the multiproof hashes of tree `h` according to the naive forest -/
def treeStream (ls : List H) (leaves : List (MLeaf H)) (h : Nat) : List H :=
  if (treeGroup leaves h).isEmpty then []
  else specStream ls h (treeStart ls.length h) ((treeGroup leaves h).map (·.index))

theorem computeTree_spec (ls : List H) (leaves : List (MLeaf H)) (hv : ∀ l ∈ leaves, Valid ls l) (acc : List H) (h : Nat) :
    (if (treeGroup leaves h).isEmpty then acc
      else acc ++ computeVisit h (groupStart (treeGroup leaves h) h) (treeGroup leaves h)) =
    acc ++ treeStream ls leaves h := by
  unfold treeStream
  by_cases he : (treeGroup leaves h).isEmpty
  · rw [if_pos he, if_pos he, List.append_nil]
  · have hne := List.isEmpty_eq_false_iff.1 (Bool.eq_false_iff.2 he)
    obtain ⟨hb, hp, hs⟩ := group_facts ls leaves hv h
    rw [if_neg he, if_neg he, hs hne, computeVisit_spec ls h _ _ hne hb fun l hl => by rw [← hp l hl, List.take_of_length_le (Nat.le_of_eq ((mem_treeGroup leaves h l).1 hl).2)]]

theorem computeMultiproof_spec (ls : List H) (leaves : List (MLeaf H)) (hv : ∀ l ∈ leaves, Valid ls l) :
    computeMultiproof leaves = (List.range 64).flatMap (treeStream ls leaves) := by
  unfold computeMultiproof
  rw [List.flatMap_eq_foldl]
  congr 1
  funext acc h
  exact computeTree_spec ls leaves hv acc h

theorem sizeTree_spec (ls : List H) (leaves : List (MLeaf H)) {g : MLeaf H → MLeaf H} (hg : Shape g)
    (hv : ∀ l ∈ leaves, Valid ls l) (n h : Nat) :
    (if (treeGroup (leaves.map g) h).isEmpty then n
      else n + proofSize h (groupStart (treeGroup (leaves.map g) h) h) (treeGroup (leaves.map g) h)) =
    n + (treeStream ls leaves h).length := by
  unfold treeStream
  rw [treeGroup_map g hg, List.isEmpty_map]
  by_cases he : (treeGroup leaves h).isEmpty
  · rw [if_pos he, if_pos he]; rfl
  · have hne := List.isEmpty_eq_false_iff.1 (Bool.eq_false_iff.2 he)
    rw [if_neg he, if_neg he, groupStart_map hg, (group_facts ls leaves hv h).2.2 hne, proofSize_spec ls, hg.map_index]

theorem multiproofSize_spec (ls : List H) (leaves : List (MLeaf H)) (hv : ∀ l ∈ leaves, Valid ls l)
    (g : MLeaf H → MLeaf H) (hg : Shape g) :
    multiproofSize (leaves.map g) = ((List.range 64).flatMap (treeStream ls leaves)).length := by
  unfold multiproofSize
  rw [List.flatMap_eq_foldl]
  refine List.foldl_hom List.length (g₁ := fun acc h => acc ++ treeStream ls leaves h) (init := []) fun acc h => ?_
  exact (sizeTree_spec ls leaves hg hv acc.length h).trans List.length_append.symm

theorem expandTrees_spec (ls : List H) (leaves : List (MLeaf H)) (hv : ∀ l ∈ leaves, Valid ls l)
    (g : MLeaf H → MLeaf H) (hg : Shape g) : ∀ (hs : List Nat) (rest : List H),
    expandTrees (leaves.map g) hs (hs.flatMap (treeStream ls leaves) ++ rest) = .ok (hs.flatMap (treeGroup leaves)) := by
  intro hs
  induction hs with
  | nil => intro rest; rfl
  | cons h t ih =>
    intro rest
    simp only [expandTrees, List.flatMap_cons, treeStream, treeGroup_map g hg, List.isEmpty_map]
    by_cases he : (treeGroup leaves h).isEmpty
    · rw [if_pos he, if_pos he, List.isEmpty_iff.1 he]
      exact ih rest
    · have hne := List.isEmpty_eq_false_iff.1 (Bool.eq_false_iff.2 he)
      obtain ⟨hb, hp, hs⟩ := group_facts ls leaves hv h
      rw [if_neg he, if_neg he, groupStart_map hg, hs hne, List.append_assoc, ← hg.map_index,
        expandVisit_spec ls h _ _ _ (by rw [hg.map_index]; exact hb)
          (fun l hl => by
            obtain ⟨l1, hl1, rfl⟩ := List.mem_map.1 hl
            rw [MLeaf.hash, (hg l1).2.1, (hg l1).2.2.1]
            exact (hv l1 ((mem_treeGroup leaves h l1).1 hl1).1).hash)
          (fun l hl => by
            obtain ⟨l1, hl1, rfl⟩ := List.mem_map.1 hl
            exact Nat.le_of_eq (((mem_treeGroup leaves h l1).1 hl1).2.symm.trans (hg l1).2.2.2.symm))]
      simp only [bind, Except.bind, ih rest, pure, Except.pure]
      -- rewriting a stripped leaf's whole proof restores the leaf
      have hfix : (treeGroup leaves h).map (fixPathM ls h (treeStart ls.length h) ∘ g) = treeGroup leaves h := by
        refine (List.map_congr_left fun l hl => ?_).trans (List.map_id _)
        have hgl := hg l
        rcases hgv : g l with ⟨t', e', i', p'⟩
        rw [hgv] at hgl
        obtain ⟨rfl, rfl, rfl, hpl⟩ := hgl
        have hlen : p'.length ≤ h := Nat.le_of_eq (hpl.trans ((mem_treeGroup leaves h l).1 hl).2)
        simp only [Function.comp, hgv, fixPathM, id, List.drop_of_length_le hlen, List.append_nil, ← hp l hl]
      rw [List.map_map, hfix]

theorem valid_len_lt (ls : List H) (hn : ls.length < 2 ^ 64) {l : MLeaf H} (v : Valid ls l) : l.proof.length < 64 :=
  testBit_lt_64 hn v.inTree.1

/-- **expand ∘ compute = id.** If every leaf carries the naive path of its position in one
    forest (duplicates allowed; tags = identities of the StateElements), then expanding the
    stripped leaves with the computed multiproof restores every leaf, proof for proof, and
    the multiproof has `multiproofSize` hashes. -/
theorem expand_compute (ls : List H) (leaves : List (MLeaf H)) (hv : ∀ l ∈ leaves, Valid ls l)
    (htag : ∀ a ∈ leaves, ∀ b ∈ leaves, a.tag = b.tag → a = b) (hn : ls.length < 2 ^ 64)
    (g : MLeaf H → MLeaf H) (hg : Shape g) :
    expandMultiproof (leaves.map g) (computeMultiproof leaves) = .ok leaves ∧
    (computeMultiproof leaves).length = multiproofSize (leaves.map g) := by
  refine ⟨?_, by rw [computeMultiproof_spec ls leaves hv, multiproofSize_spec ls leaves hv g hg]⟩
  have hexp := expandTrees_spec ls leaves hv g hg (List.range 64) []
  rw [List.append_nil] at hexp
  unfold expandMultiproof
  rw [computeMultiproof_spec ls leaves hv, hexp]
  simp only [bind, Except.bind, pure, Except.pure]
  congr 1
  rw [List.map_map]
  refine (List.map_congr_left fun l hl => ?_).trans (List.map_id leaves)
  -- every leaf is in the group of its proof length, and tags identify leaves
  have hmem : l ∈ (List.range 64).flatMap (treeGroup leaves) :=
    List.mem_flatMap.2 ⟨l.proof.length, List.mem_range.2 (valid_len_lt ls hn (hv l hl)),
      (mem_treeGroup leaves _ l).2 ⟨hl, rfl⟩⟩
  simp only [Function.comp, (hg l).1, id]
  cases hf : ((List.range 64).flatMap (treeGroup leaves)).find? (fun w => w.tag == l.tag) with
  | none => simpa using List.find?_eq_none.1 hf l hmem
  | some w =>
    obtain ⟨h, _, hwg⟩ := List.mem_flatMap.1 (List.mem_of_find?_eq_some hf)
    exact htag w ((mem_treeGroup leaves h w).1 hwg).1 l hl (by simpa using List.find?_some hf)

theorem decodeMP_eq (proofless : List (MLeaf H)) (N : Nat) (stream : List H)
    (h1 : ∀ l ∈ proofless, l.index < N) (h2 : multiproofSize (sizeProofs proofless N) ≤ stream.length) :
    decodeMP proofless N stream =
      (expandMultiproof (sizeProofs proofless N) (stream.take (multiproofSize (sizeProofs proofless N)))).map
        (fun out => (out, stream.drop (multiproofSize (sizeProofs proofless N)))) := by
  have hany : proofless.any (fun l => l.index ≥ N) = false :=
    List.any_eq_false.2 fun l hl => by simpa using h1 l hl
  unfold decodeMP
  rw [if_neg (by simp [hany]), if_neg (Nat.not_lt.2 h2)]
  cases expandMultiproof (sizeProofs proofless N) (stream.take (multiproofSize (sizeProofs proofless N))) <;> rfl

/-- stripping as the decoder does it: zero placeholders of the original length -/
def zeroProof (l : MLeaf H) : MLeaf H := { l with proof := List.replicate l.proof.length default }

theorem zeroProof_shape : Shape (zeroProof (H := H)) := by
  intro l; simp [zeroProof]

/-- the decoder recovers the proof lengths (and accepts the indices) from the `numLeaves`
    the encoder inferred -/
theorem sizeProofs_infer (ls : List H) (leaves : List (MLeaf H)) (hv : ∀ l ∈ leaves, Valid ls l) :
    (∀ l ∈ leaves, l.index < inferNumLeaves leaves) ∧
    sizeProofs (leaves.map fun l => { l with proof := [] }) (inferNumLeaves leaves) = leaves.map zeroProof := by
  have hrec := numLeaves_recovers ls.length (fun l : MLeaf H => l.index) (fun l => l.proof.length) leaves
    fun l hl => (hv l hl).inTree
  refine ⟨fun l hl => (hrec l hl).1, ?_⟩
  rw [sizeProofs, List.map_map]
  exact List.map_congr_left fun l hl => congrArg (fun n => { l with proof := List.replicate n default }) (hrec l hl).2

/-- **The multiproof codec round-trips** (at the level of element leaves and the hash
    stream): what `EncodeTo` writes — proofless leaves, the inferred `numLeaves`, the
    multiproof — is decoded by `DecodeFrom` to exactly the original leaves. -/
theorem codec_roundtrip (ls : List H) (leaves : List (MLeaf H)) (hv : ∀ l ∈ leaves, Valid ls l)
    (htag : ∀ a ∈ leaves, ∀ b ∈ leaves, a.tag = b.tag → a = b) (hn : ls.length < 2 ^ 64) (tail : List H) :
    decodeMP (encodeMP leaves).1 (encodeMP leaves).2.1 ((encodeMP leaves).2.2 ++ tail) = .ok (leaves, tail) := by
  obtain ⟨hlt, hsized⟩ := sizeProofs_infer ls leaves hv
  obtain ⟨e1, e2⟩ := expand_compute ls leaves hv htag hn zeroProof zeroProof_shape
  simp only [encodeMP]
  rw [decodeMP_eq _ _ _
    (fun l hl => by obtain ⟨l1, hl1, rfl⟩ := List.mem_map.1 hl; exact hlt l1 hl1)
    (by rw [hsized, ← e2, List.length_append]; omega)]
  rw [hsized, ← e2, List.take_left, e1, List.drop_left]
  rfl

end
end Sia.Multiproof
