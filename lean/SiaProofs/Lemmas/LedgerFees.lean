import SiaProofs.Lemmas.LedgerSums
/-!
# Miner payouts and siafund claims

The definitions the statements of C01 / C10 use for one siafund input (`c01_claim_exact_v1/_v2`: `stepSfIn1 t.supp`,
`stepSfIn2` are by `rfl` the loop bodies `a1SfIn t`, `a2SfIn` of `LedgerApply`), one validated v1 transaction
(`stepV1`, by `rfl` `vb1Step` of `LedgerBlockFold`; it occurs in `checkProofIds`, hence in `IdListsCover`) and the fees
of a block (`Block.v2txns` is by `rfl` `Block.txns2` of `LedgerBlockFold`). No theorem states these equations.
-/
namespace Sia.Ledger

def stepSfIn1 (supp : Supp1) (ms : Mid) (sfi : SfIn1) : VM Mid :=
  match ms.sfElement supp sfi.parent with
  | none => gopanic "missing SiafundElement"
  | some e => do
    let c ← claimPortion ms.pool e.claimStart e.value
    pure ((ms.spendSf e).createImmatureSc sfi.claimId { value := c, addr := sfi.claimAddr })

def stepSfIn2 (ms : Mid) (sfi : SfIn2) : VM Mid := do
  let c ← claimPortion (ms.spendSf sfi.parent).pool sfi.parent.claimStart sfi.parent.value
  pure ((ms.spendSf sfi.parent).createImmatureSc sfi.claimId { value := c, addr := sfi.claimAddr })

def Block.fees1 (b : Block) : List Cur := (b.txns1.map (·.fees)).flatten
def Block.v2txns (b : Block) : List Txn2 := match b.v2 with | some (_, _, ts) => ts | none => []
def Block.fees2 (b : Block) : List Cur := b.v2txns.map (·.fee)

def stepV1 (pid : Id) (mw : Nat) (ms : Mid) (t : Txn1) : VM Mid := do
  validateTransaction ms t pid mw
  applyTransaction ms t

/-- the last check of `validateMinerPayouts`, once the expected sum is known -/
theorem payoutSum_ok {b : Block} {expected : Cur}
    (h : (match sumChecked (b.payouts.map (·.2.value)) with
      | none => reject "miner payouts overflow"
      | some sum => if sum ≠ expected then reject "miner payout sum does not match block reward + fees" else pure ()) = .ok ()) :
    (b.payouts.map (·.2.value)).sum = expected := by
  cases hs : sumChecked (b.payouts.map (·.2.value)) with
  | none => rw [hs] at h; cases h
  | some sum =>
    rw [hs, ite_reject_ok_iff] at h
    rw [← sumChecked_some hs]; exact Decidable.not_not.mp h.1

theorem validateMinerPayouts_ok {L : Ledger} {b : Block} (h : validateMinerPayouts L b = .ok ()) :
    (b.payouts.map (·.2.value)).sum = blockReward L + b.fees1.sum + b.fees2.sum := by
  unfold validateMinerPayouts at h
  simp only [reject_bind, ite_reject_ok_iff, pure_bind] at h
  unfold Block.fees2 Block.v2txns Block.fees1
  cases he : sumChecked (blockReward L :: (b.txns1.map (·.fees)).flatten) with
  | none => rw [he] at h; cases h.2
  | some e1 =>
    have h1 := sumChecked_some he
    rw [he] at h
    rcases hv2 : b.v2 with _ | ⟨x, y, txns⟩
    · simp only [hv2, ite_reject_ok_iff] at h
      rw [payoutSum_ok h.2.2, h1]; simp
    · rw [hv2] at h
      simp only [] at h
      cases hs : sumChecked (e1 :: txns.map (·.fee)) with
      | none => rw [hs] at h; cases h.2
      | some s =>
        simp only [hs, ite_reject_ok_iff] at h
        rw [payoutSum_ok h.2.2.2, sumChecked_some hs, h1]; simp [Nat.add_assoc]

theorem validateOrphan_ok {L : Ledger} {b : Block} (h : validateOrphan L b = .ok ()) :
    validateMinerPayouts L b = .ok () := by
  unfold validateOrphan at h
  simp only [reject_bind, ite_reject_ok_iff, bind_unit_ok_iff] at h
  exact h.2.1

theorem validateMinerPayouts_noPanic (L : Ledger) (b : Block) : NoPanic (validateMinerPayouts L b) := by
  simp only [validateMinerPayouts, reject_bind, pure_bind, noPanic_ite, noPanic_reject, implies_true, true_and]
  intro _
  split
  · split
    · split
      · simp only [noPanic_ite, noPanic_reject, implies_true, true_and]
        intro _ _
        split <;> simp only [noPanic_ite, noPanic_reject, noPanic_pure, implies_true, and_self]
      · exact noPanic_reject _
    · simp only [noPanic_ite, noPanic_reject, implies_true, true_and]
      intro _
      split <;> simp only [noPanic_ite, noPanic_reject, noPanic_pure, implies_true, and_self]
  · exact noPanic_reject _

theorem validateOrphan_noPanic (L : Ledger) (b : Block) : NoPanic (validateOrphan L b) := by
  simp only [validateOrphan, reject_bind, noPanic_ite, noPanic_reject, implies_true, true_and]
  intro _
  refine bind_noPanic (validateMinerPayouts_noPanic L b) fun _ _ => ?_
  simp only [noPanic_ite, noPanic_reject, implies_true, true_and]
  intro _
  split <;> simp only [noPanic_ite, noPanic_reject, noPanic_pure, implies_true, and_self]

theorem claimPortion_ok {pool cs : Cur} {v : Nat} {c : Cur} :
    claimPortion pool cs v = .ok c ↔
      (cs ≤ pool ∧ (pool - cs) / 10000 * v < curLimit ∧ c = (pool - cs) / 10000 * v) := by
  unfold claimPortion siafundCount
  rw [bind_ok_iff]
  constructor
  · rintro ⟨d, h1, h2⟩
    rw [subC_ok_iff] at h1; rw [mul64C_ok_iff] at h2
    obtain ⟨rfl, h1a⟩ := h1
    exact ⟨h1a, h2.2, h2.1⟩
  · rintro ⟨h1, h2, h3⟩
    exact ⟨pool - cs, (subC_ok_iff _ _ _).2 ⟨rfl, h1⟩, (mul64C_ok_iff _ _ _).2 ⟨h3, h2⟩⟩

/-- at most the whole supply claims at most the whole pool -/
theorem claim_fits {pool cs : Cur} {v : Nat} (h2 : v ≤ 10000) (h3 : pool < curLimit) :
    (pool - cs) / 10000 * v < curLimit := by
  have a1 : (pool - cs) / 10000 * v ≤ (pool - cs) / 10000 * 10000 := Nat.mul_le_mul_left _ h2
  have a2 : (pool - cs) / 10000 * 10000 ≤ pool - cs := Nat.div_mul_le_self _ _
  have a3 : pool - cs ≤ pool := Nat.sub_le _ _
  unfold Cur at *; omega

theorem claimPortion_total {pool cs : Cur} {v : Nat} (h1 : cs ≤ pool) (h2 : v ≤ 10000) (h3 : pool < curLimit) :
    ∃ c, claimPortion pool cs v = .ok c :=
  ⟨_, claimPortion_ok.mpr ⟨h1, claim_fits h2 h3, rfl⟩⟩

/-- exact claim value of a siafund output spent while the pool stands at `pool` -/
def claimVal (pool cs : Cur) (v : Nat) : Cur := (pool - cs) / 10000 * v

end Sia.Ledger
