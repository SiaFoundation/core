import SiaModel.Ledger.Alias
/-! Helper lemmas for C09 (aliasing model): the freshness invariant of the application pipeline. -/
namespace Sia.Alias

/-- relative to the heap a call started from (`base` = its bump pointer): nothing below
    `base` has changed, and every logged write is old or went to an address ≥ `base` -/
def Good (base : Addr) (s0 s : St) : Prop :=
  base ≤ s.heap.next ∧ (∀ a, a < base → s.heap.cells a = s0.heap.cells a) ∧
  (∀ a, a ∈ s.written → a ∈ s0.written ∨ base ≤ a)

theorem Good.refl {base : Addr} {s0 : St} (h : base ≤ s0.heap.next) : Good base s0 s0 :=
  ⟨h, fun _ _ => rfl, fun _ h => Or.inl h⟩

theorem Good.alloc {base : Addr} {s0 s : St} (h : Good base s0 s) (buf : List Word) :
    Good base s0 (s.alloc buf).2 ∧ base ≤ (s.alloc buf).1 := by
  obtain ⟨h1, h2, h3⟩ := h
  refine ⟨⟨?_, ?_, h3⟩, h1⟩
  · show base ≤ s.heap.next + 1; omega
  · intro a ha
    show (if a = s.heap.next then some buf else s.heap.cells a) = s0.heap.cells a
    rw [if_neg (by omega)]; exact h2 a ha

theorem Good.write {base : Addr} {s0 s : St} (h : Good base s0 s) {a : Addr} (ha : base ≤ a) (buf : List Word) :
    Good base s0 (s.write a buf) := by
  obtain ⟨h1, h2, h3⟩ := h
  refine ⟨h1, ?_, ?_⟩
  · intro x hx
    show (if x = a then some buf else s.heap.cells x) = s0.heap.cells x
    rw [if_neg (by omega)]; exact h2 x hx
  · intro x hx
    show x ∈ s0.written ∨ base ≤ x
    have : x = a ∨ x ∈ s.written := by simpa [St.write] using hx
    cases this with
    | inl e => subst e; exact Or.inr ha
    | inr e => exact h3 x e

/-- an element that is not shared and whose proof (if any) was allocated after `base` -/
def Fresh (base : Addr) (e : StateElement) : Prop :=
  e.shared = false ∧ ∀ a, e.proof = some a → base ≤ a

def MidFresh (base : Addr) (ms : List Diff) : Prop := ∀ d ∈ ms, Fresh base d.elem

theorem copy_fresh {base : Addr} {s0 s : St} (h : Good base s0 s) (e : StateElement) :
    Good base s0 (e.copy s).2 ∧ Fresh base (e.copy s).1 := by
  unfold StateElement.copy
  cases hp : e.proof with
  | none => exact ⟨h, rfl, fun a ha => by simp at ha⟩
  | some a =>
    obtain ⟨g, hb⟩ := h.alloc (s.read a)
    exact ⟨g, rfl, fun x hx => Option.some.inj hx ▸ hb⟩

theorem fresh_literal (base : Addr) : Fresh base { leafIndex := none, proof := none, shared := false } :=
  ⟨rfl, fun _ h => by simp at h⟩

theorem put_fresh {base : Addr} {ms : Mid} (hm : MidFresh base ms) (k : Kind) (id : Nat) (f : Diff → Diff)
    (hf : ∀ d, Fresh base d.elem → Fresh base (f d).elem) : MidFresh base (ms.put k id f) := by
  unfold Mid.put
  split
  · intro d hd
    obtain ⟨d0, h0, rfl⟩ := List.mem_map.1 hd
    split
    · exact hf d0 (hm d0 h0)
    · exact hm d0 h0
  · intro d hd
    rcases List.mem_append.1 hd with h | h
    · exact hm d h
    · have : d = f (emptyDiff k id) := by simpa using h
      subst this
      exact hf _ (fresh_literal base)

theorem find?_mem {ms : Mid} {k : Kind} {id : Nat} {d : Diff} (h : ms.find? k id = some d) : d ∈ ms :=
  List.mem_of_find?_eq_some h

theorem source_cases (ms : Mid) (k : Kind) (id : Nat) (src : Src) :
    ms.source k id src = .error .missing ∨ ∃ e, ms.source k id src = .ok e := by
  cases src with
  | given e => exact .inr ⟨e, rfl⟩
  | lookup supp =>
    simp only [Mid.source]
    split
    · exact .inr ⟨_, rfl⟩
    · split
      · exact .inr ⟨_, rfl⟩
      · exact .inl rfl

/-- What a hand-off can do: fail (never with the `Move` panic), change nothing, or update one
    record: keeping its element or storing a fresh literal, the heap untouched; or storing the
    `Copy()` of the `Share()`d source. -/
theorem applyOp_cases (ms : Mid) (s : St) (op : Op) :
    (∃ p, p ≠ .moveShared ∧ applyOp ms s op = .error p) ∨
    applyOp ms s op = .ok (ms, s) ∨
    (∃ k id f, (∀ d, (f d).elem = d.elem ∨ (f d).elem = ⟨none, none, false⟩) ∧
      applyOp ms s op = .ok (ms.put k id f, s)) ∨
    (∃ (e : StateElement) (k : Kind) (id : Nat) (f : Diff → Diff), (∀ d, (f d).elem = (e.share.copy s).1) ∧
      applyOp ms s op = .ok (ms.put k id f, (e.share.copy s).2)) := by
  cases op with
  | create k id => exact .inr (.inr (.inl ⟨k, id, _, fun _ => .inr rfl, rfl⟩))
  | spend k id src =>
    rcases source_cases ms k id src with he | ⟨e, he⟩
    · exact .inl ⟨.missing, by decide, by simp only [applyOp, he]; rfl⟩
    · exact .inr (.inr (.inr ⟨e, k, id, _, fun _ => rfl, by simp only [applyOp, he]; rfl⟩))
  | revise k id src =>
    rcases source_cases ms k id src with he | ⟨e, he⟩
    · exact .inl ⟨.missing, by decide, by simp only [applyOp, he]; rfl⟩
    · simp only [applyOp, he, bind, Except.bind]
      split
      · split
        · exact .inr (.inl rfl)
        · exact .inr (.inr (.inr ⟨e, k, id, _, fun _ => rfl, rfl⟩))
      · exact .inr (.inr (.inr ⟨e, k, id, _, fun _ => rfl, rfl⟩))
  | resolveV1 id src =>
    rcases source_cases ms .fc id src with he | ⟨e, he⟩
    · exact .inl ⟨.missing, by decide, by simp only [applyOp, he]; rfl⟩
    · simp only [applyOp, he, bind, Except.bind]
      split
      · split
        · exact .inr (.inr (.inl ⟨.fc, id, fun d => { d with resolved := true }, fun _ => .inl rfl, rfl⟩))
        · exact .inr (.inr (.inr ⟨e, .fc, id, _, fun _ => rfl, rfl⟩))
      · exact .inr (.inr (.inr ⟨e, .fc, id, _, fun _ => rfl, rfl⟩))
  | resolveV2 id src =>
    rcases source_cases ms .v2fc id src with he | ⟨e, he⟩
    · exact .inl ⟨.missing, by decide, by simp only [applyOp, he]; rfl⟩
    · simp only [applyOp, he, bind, Except.bind]
      split
      · exact .inl ⟨.resolvedCreated, by decide, rfl⟩
      · exact .inr (.inr (.inr ⟨e, .v2fc, id, _, fun _ => rfl, rfl⟩))

/-- one hand-off fails without the `Move` panic, or keeps the invariant: the record gets a copy or a literal, never the
    caller's buffer -/
theorem applyOp_step {base : Addr} {s0 s : St} {ms : Mid} (hg : Good base s0 s) (hm : MidFresh base ms) (op : Op) :
    (∃ p, p ≠ .moveShared ∧ applyOp ms s op = .error p) ∨
    ∃ ms' s', applyOp ms s op = .ok (ms', s') ∧ Good base s0 s' ∧ MidFresh base ms' := by
  rcases applyOp_cases ms s op with h | e | ⟨k, id, f, hf, e⟩ | ⟨x, k, id, f, hf, e⟩
  · exact .inl h
  · exact .inr ⟨ms, s, e, hg, hm⟩
  · exact .inr ⟨_, _, e, hg, put_fresh hm _ _ _ fun d hd => (hf d).elim (· ▸ hd) (· ▸ fresh_literal base)⟩
  · obtain ⟨g, fr⟩ := copy_fresh hg x.share
    exact .inr ⟨_, _, e, g, put_fresh hm _ _ _ fun d _ => hf d ▸ fr⟩

/-- A run of hand-offs from an empty `MidState` fails without the `Move` panic, or leaves the
    caller's memory as it was and only unshared, freshly allocated elements in the records. -/
theorem applyOps_cases (s : St) (ops : List Op) :
    (∃ p, p ≠ .moveShared ∧ applyOps [] s ops = .error p) ∨
    ∃ ms s1, applyOps [] s ops = .ok (ms, s1) ∧ Good s.heap.next s s1 ∧ MidFresh s.heap.next ms := by
  suffices h : ∀ (ops : List Op) (ms : Mid) (s1 : St), Good s.heap.next s s1 → MidFresh s.heap.next ms →
      (∃ p, p ≠ .moveShared ∧ applyOps ms s1 ops = .error p) ∨
      ∃ ms' s', applyOps ms s1 ops = .ok (ms', s') ∧ Good s.heap.next s s' ∧ MidFresh s.heap.next ms' from
    h ops [] s (Good.refl (Nat.le_refl _)) (fun _ h => nomatch h)
  intro ops
  induction ops with
  | nil => exact fun ms s1 hg hm => .inr ⟨ms, s1, rfl, hg, hm⟩
  | cons op rest ih =>
    intro ms s1 hg hm
    rcases applyOp_step hg hm op with ⟨p, hp, e⟩ | ⟨ms', s', e, g, m⟩
    · exact .inl ⟨p, hp, by simp only [applyOps, e]; rfl⟩
    · have : applyOps ms s1 (op :: rest) = applyOps ms' s' rest := by simp only [applyOps, e]; rfl
      rw [this]; exact ih ms' s' g m

end Sia.Alias
