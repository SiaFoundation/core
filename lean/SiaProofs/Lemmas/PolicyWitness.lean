import SiaProofs.Lemmas.PolicyLimits
/-! What an accepted run consumes (C14): framing (surplus witnesses stay), every consumed
    witness was checked and found valid, the unlock-conditions key assignment. -/
namespace Sia.Policy

theorem ucLoop_frame (E : Env) (ks : List UnlockKey) (req : Nat) (sigs sigs' x : List ByteArray)
    (h : ucLoop E ks req sigs = .ok (0, sigs')) : ucLoop E ks req (sigs ++ x) = .ok (0, sigs' ++ x) := by
  rw [ucLoop_ok_iff] at *
  obtain ⟨used, rfl, h2, h3⟩ := h
  exact ⟨used, by simp, h2, h3⟩

mutual
theorem verifyP_frame (E : Env) (p : Policy) (s pr s' pr' x y : List ByteArray) (t t' : Nat)
    (h : verifyP E p ⟨s, pr, t⟩ = .ok ⟨s', pr', t'⟩) :
    verifyP E p ⟨s ++ x, pr ++ y, t⟩ = .ok ⟨s' ++ x, pr' ++ y, t'⟩ := by
  match p with
  | .above a => obtain ⟨hh, e⟩ := verifyP_above_ok.1 h; cases e; exact verifyP_above_ok.2 ⟨hh, rfl⟩
  | .after a => obtain ⟨hh, e⟩ := verifyP_after_ok.1 h; cases e; exact verifyP_after_ok.2 ⟨hh, rfl⟩
  | .pk k =>
    obtain ⟨a, rest, hs, hv, e⟩ := verifyP_pk_ok.1 h
    cases e; cases hs
    exact verifyP_pk_ok.2 ⟨a, s' ++ x, rfl, hv, rfl⟩
  | .hash k =>
    obtain ⟨a, rest, hs, hv, e⟩ := verifyP_hash_ok.1 h
    cases e; cases hs
    exact verifyP_hash_ok.2 ⟨a, pr' ++ y, rfl, hv, rfl⟩
  | .opaque a => cases h
  | .uc c =>
    obtain ⟨hh, sg, hl, e⟩ := verifyP_uc_ok.1 h
    cases e
    exact verifyP_uc_ok.2 ⟨hh, _, ucLoop_frame E _ _ _ _ x hl, rfl⟩
  | .thresh n subs =>
    obtain ⟨h1, h2, h3⟩ := verifyP_thresh_ok.1 h
    exact verifyP_thresh_ok.2 ⟨h1, h2, verifySubs_frame E n subs 0 s pr s' pr' x y _ t' h3⟩
theorem verifySubs_frame (E : Env) (n : Nat) (subs : List Policy) (sat : Nat)
    (s pr s' pr' x y : List ByteArray) (t t' : Nat)
    (h : verifySubs E n subs sat ⟨s, pr, t⟩ = .ok ⟨s', pr', t'⟩) :
    verifySubs E n subs sat ⟨s ++ x, pr ++ y, t⟩ = .ok ⟨s' ++ x, pr' ++ y, t'⟩ := by
  match subs with
  | [] => obtain ⟨hh, e⟩ := verifySubs_nil_ok.1 h; cases e; exact verifySubs_nil_ok.2 ⟨hh, rfl⟩
  | c :: rest =>
    obtain ⟨hu, h⟩ := verifySubs_cons_ok.1 h
    refine verifySubs_cons_ok.2 ⟨hu, ?_⟩
    split at h
    · rename_i hop
      rw [if_pos hop]
      exact verifySubs_frame E n rest sat s pr s' pr' x y t t' h
    · rename_i hop
      obtain ⟨hs, ⟨s1, p1, t1⟩, hv, h⟩ := h
      rw [if_neg hop]
      exact ⟨hs, _, verifyP_frame E c s pr s1 p1 x y t t1 hv,
        verifySubs_frame E n rest (sat + 1) s1 p1 s' pr' x y t1 t' h⟩
end

/-- `Consumed E ls s pr s' pr'`: the run consumed a prefix of each witness list; every consumed
    signature verifies under the key of some public-key leaf in `ls`, every consumed preimage
    hashes to some hash leaf in `ls`. -/
def Consumed (E : Env) (ls : List Policy) (s pr s' pr' : List ByteArray) : Prop :=
  ∃ us ups, s = us ++ s' ∧ pr = ups ++ pr' ∧
    (∀ x ∈ us, ∃ k, Policy.pk k ∈ ls ∧ E.verifySig k E.sigHash x = true) ∧
    (∀ x ∈ ups, ∃ h, Policy.hash h ∈ ls ∧ E.sha x = h)

theorem Consumed.refl (E : Env) (ls : List Policy) (s pr : List ByteArray) : Consumed E ls s pr s pr :=
  ⟨[], [], rfl, rfl, by simp, by simp⟩

theorem Consumed.trans {E : Env} {l1 l2 : List Policy} {s pr s1 p1 s2 p2 : List ByteArray}
    (a : Consumed E l1 s pr s1 p1) (b : Consumed E l2 s1 p1 s2 p2) :
    Consumed E (l1 ++ l2) s pr s2 p2 := by
  obtain ⟨u1, v1, rfl, rfl, a1, a2⟩ := a
  obtain ⟨u2, v2, rfl, rfl, b1, b2⟩ := b
  refine ⟨u1 ++ u2, v1 ++ v2, by simp, by simp, ?_, ?_⟩
  · intro x hx
    rcases List.mem_append.1 hx with hx | hx
    · obtain ⟨k, hk, hv⟩ := a1 x hx; exact ⟨k, List.mem_append_left _ hk, hv⟩
    · obtain ⟨k, hk, hv⟩ := b1 x hx; exact ⟨k, List.mem_append_right _ hk, hv⟩
  · intro x hx
    rcases List.mem_append.1 hx with hx | hx
    · obtain ⟨k, hk, hv⟩ := a2 x hx; exact ⟨k, List.mem_append_left _ hk, hv⟩
    · obtain ⟨k, hk, hv⟩ := b2 x hx; exact ⟨k, List.mem_append_right _ hk, hv⟩

theorem Consumed.mono_right {E : Env} {l1 l2 : List Policy} {s pr s' pr' : List ByteArray}
    (a : Consumed E l2 s pr s' pr') : Consumed E (l1 ++ l2) s pr s' pr' := by
  simpa using (Consumed.refl E l1 s pr).trans a

mutual
theorem verifyP_consumed (E : Env) (p : Policy) (st st' : St) (hu : p.isUC = false)
    (h : verifyP E p st = .ok st') : Consumed E p.leaves st.sigs st.pres st'.sigs st'.pres := by
  match p with
  | .above a => obtain ⟨-, rfl⟩ := verifyP_above_ok.1 h; exact Consumed.refl ..
  | .after a => obtain ⟨-, rfl⟩ := verifyP_after_ok.1 h; exact Consumed.refl ..
  | .pk k =>
    obtain ⟨a, rest, hs, hv, rfl⟩ := verifyP_pk_ok.1 h
    exact ⟨[a], [], hs, rfl, fun x hx => ⟨k, List.mem_cons_self, List.mem_singleton.1 hx ▸ hv⟩, nofun⟩
  | .hash k =>
    obtain ⟨a, rest, hs, hv, rfl⟩ := verifyP_hash_ok.1 h
    exact ⟨[], [a], rfl, hs, nofun, fun x hx => ⟨k, List.mem_cons_self, List.mem_singleton.1 hx ▸ hv⟩⟩
  | .opaque a => cases h
  | .uc c => cases hu
  | .thresh n subs => exact verifySubs_consumed E n subs 0 { st with total := st.total + subs.length } st' (verifyP_thresh_ok.1 h).2.2
theorem verifySubs_consumed (E : Env) (n : Nat) (subs : List Policy) (sat : Nat) (st st' : St)
    (h : verifySubs E n subs sat st = .ok st') :
    Consumed E (leavesList subs) st.sigs st.pres st'.sigs st'.pres := by
  match subs with
  | [] => obtain ⟨-, rfl⟩ := verifySubs_nil_ok.1 h; exact Consumed.refl ..
  | c :: rest =>
    obtain ⟨hu, h⟩ := verifySubs_cons_ok.1 h
    split at h
    · exact (verifySubs_consumed E n rest sat st st' h).mono_right
    · obtain ⟨-, st1, hv, h⟩ := h
      exact (verifyP_consumed E c st st1 hu hv).trans (verifySubs_consumed E n rest (sat + 1) st1 st' h)
end

theorem UCMatch.indices {E : Env} {ks : List UnlockKey} {ss : List ByteArray} (h : UCMatch E ks ss) :
    ∃ idx : List Nat, idx.length = ss.length ∧ idx.Pairwise (· < ·) ∧
      ∀ (j i : Nat) (s : ByteArray), idx[j]? = some i → ss[j]? = some s →
        ∃ k, ks[i]? = some k ∧ ¬ keyBlocked k ∧ keyAccepts E k s := by
  induction h with
  | done ks => exact ⟨[], rfl, List.Pairwise.nil, by simp⟩
  | @use k ks s ss hb ha _ ih =>
    obtain ⟨idx, hl, hp, hi⟩ := ih
    refine ⟨0 :: idx.map (· + 1), by simp [hl], ?_, ?_⟩
    · rw [List.pairwise_cons]
      refine ⟨?_, ?_⟩
      · intro a ha'; obtain ⟨b, _, rfl⟩ := List.mem_map.1 ha'; omega
      · rw [List.pairwise_map]; exact hp.imp (by intro a b h; omega)
    · intro j i x h1 h2
      cases j with
      | zero =>
        simp at h1 h2; subst h1; subst h2
        exact ⟨k, by simp, hb, ha⟩
      | succ j =>
        simp only [List.getElem?_cons_succ, List.getElem?_map, Option.map_eq_some_iff] at h1 h2
        obtain ⟨i', hi', rfl⟩ := h1
        obtain ⟨k', hk', r⟩ := hi j i' x hi' h2
        exact ⟨k', by simpa using hk', r⟩
  | @skip k ks s ss hb _ ih =>
    obtain ⟨idx, hl, hp, hi⟩ := ih
    refine ⟨idx.map (· + 1), by simp [hl], ?_, ?_⟩
    · rw [List.pairwise_map]; exact hp.imp (by intro a b h; omega)
    · intro j i x h1 h2
      simp only [List.getElem?_map, Option.map_eq_some_iff] at h1
      obtain ⟨i', hi', rfl⟩ := h1
      obtain ⟨k', hk', r⟩ := hi j i' x hi' h2
      exact ⟨k', by simpa using hk', r⟩

end Sia.Policy
