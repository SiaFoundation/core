import SiaProofs.Lemmas.LedgerCensus
import SiaProofs.Lemmas.LedgerApply
/-!
# Specification of each mid-state primitive

Each keeps `Inv`, agrees with the state before outside the id it touches, and moves the census by the weight of the
element that leaves or enters.
-/
namespace Sia.Ledger

theorem createSc_spec {T} {ms : Mid} (hc : Ctx T ms.base) (hI : Inv T ms) {id : Id} {R : List (Kind × Id)}
    (hF : Fresh T ms ((Kind.sc, id) :: R)) (o : ScOut) (mat : Nat) :
    Inv T (ms.createSc id o mat) ∧ Agree ms (ms.createSc id o mat) (· = id) ∧ Fresh T (ms.createSc id o mat) R ∧
    ∀ W, census W (ms.createSc id o mat) = census W ms + W.sc ⟨id, o.value, o.addr, mat, none⟩ := by
  have hb := (hF.2 _ List.mem_cons_self).2.2 Kind.sc
  let f : ScDiff → ScDiff := fun d =>
    { d with e := { id := id, value := o.value, addr := o.addr, maturity := mat, leaf := none }, created := true }
  obtain ⟨hI', hA, hF', htot⟩ := put_create scSlice scRule hc hI hF f rfl
    (by refine ⟨fun _ => hb, fun h => ?_, fun h => ?_⟩ <;> cases h)
  exact ⟨hI', hA, hF', fun W => (Nat.add_zero _).symm.trans (census_sc W (a := 0) ((Nat.add_zero _).trans (htot _ _ _ _ hb))
    (put_sameBut scSlice ms id f))⟩

/-- what validation establishes about a siacoin element that is about to be spent -/
def SpendableSc (T : Kind → Id → Prop) (ms : Mid) (e : ScElem) : Prop :=
  T Kind.sc e.id ∧ ms.isSpent e.id = false ∧
  match ms.scDiff? e.id with
  | none => e ∈ ms.base.sc
  | some d => d.e.value = e.value ∧ d.e.maturity = e.maturity

theorem SpendableSc.agree {T ms ms' e} {P : Id → Prop} (h : SpendableSc T ms e) (ha : Agree ms ms' P) (hp : ¬ P e.id) :
    SpendableSc T ms' e := by
  unfold SpendableSc at *
  rw [(ha.2 e.id hp).2.1, (ha.2 e.id hp).2.2.2.2.2, ha.1]; exact h

theorem SpendableSc.known {T ms e} (h : SpendableSc T ms e) : Known ms .sc e.id := fun hl => by
  unfold SpendableSc at h; rw [scDiff?_none_of_lookup hl] at h
  exact List.mem_map_of_mem h.2.2

theorem spendSc_spec {T} {ms : Mid} (hc : Ctx T ms.base) (hI : Inv T ms) {e : ScElem} (hs : SpendableSc T ms e) :
    Inv T (ms.spendSc e) ∧ Agree ms (ms.spendSc e) (· = e.id) ∧
    ∀ W, census W (ms.spendSc e) + W.sc e = census W ms := by
  obtain ⟨hT, hsp, hm⟩ := hs
  have hns := (isSpent_false_iff ms e.id).1 hsp
  obtain ⟨f, hf⟩ : ∃ f, (fun d : ScDiff => ({ d with e := e, spent := true } : ScDiff)) = f := ⟨_, rfl⟩
  have hfeq : ms.spendSc e = { ms.put scSlice e.id f with spends := e.id :: ms.spends } := by
    rw [← hf, ← putSc_spends ms e.id]; rfl
  rw [hfeq]
  have hnew : scSlice.new ms e.id f = { ((ms.scDiff? e.id).getD default) with e := e, spent := true } := by
    rw [← hf]; rfl
  have hfid : (scSlice.new ms e.id f).e.id = e.id := by rw [hnew]
  have hok : ScOk ms.base (e.id :: ms.spends) (scSlice.new ms e.id f) := by
    rw [hnew]
    refine ⟨fun h => ?_, fun h => ?_, fun _ => List.mem_cons_self⟩
    · cases hv : ms.scDiff? e.id with
      | none => rw [hv] at h; cases h
      | some d =>
        obtain ⟨hd, hid⟩ := scDiff?_mem hv
        rw [hv] at h
        exact hid ▸ (hI.sc d hd).1 h
    · cases hv : ms.scDiff? e.id with
      | none => rw [hv] at hm; exact ⟨rfl, hm⟩
      | some d =>
        obtain ⟨hd, hid⟩ := scDiff?_mem hv
        rw [hv] at h
        exact absurd (hid ▸ (hI.sc d hd).2.2 ((hI.sc d hd).2.1 h).1) hns
  obtain ⟨hI', hA⟩ := put_consume scSlice scRule hI hc.disj hT f hfid hok (show (scSlice.new ms e.id f).spent = true by rw [hnew]) hns
  refine ⟨hI', hA, fun W => ?_⟩
  refine (census_sc W (b := 0) ((put_tot _ _ _ _ hI.struct hc.disj scSlice hT f hfid (hc.nodup Kind.sc) ?_).trans
    (congrArg _ (show scDvW W.sc (scSlice.new ms e.id f) = 0 by rw [hnew]; rfl)))
    ((put_sameBut scSlice ms e.id f).spends _)).trans (Nat.add_zero _)
  cases hv : ms.scDiff? e.id with
  | none => rw [hv] at hm; exact scSlice.counts_none _ _ _ _ hv hm rfl
  | some d =>
    rw [hv] at hm
    have hd : scDvW W.sc d = W.sc e := by
      unfold scDvW; rw [Bool.eq_false_iff.2 (hI.live scRule hv hns)]; exact W.resp _ _ hm.1 hm.2
    exact hd ▸ scSlice.counts_some _ _ _ _ hv

theorem createSf_spec {T} {ms : Mid} (hc : Ctx T ms.base) (hI : Inv T ms) {id : Id} {R : List (Kind × Id)}
    (hF : Fresh T ms ((Kind.sf, id) :: R)) (v : Nat) (a : Addr) :
    Inv T (ms.createSf id v a) ∧ Agree ms (ms.createSf id v a) (· = id) ∧ Fresh T (ms.createSf id v a) R ∧
    ∀ W, census W (ms.createSf id v a) = census W ms + W.sf ⟨id, v, a, ms.pool, none⟩ := by
  have hb := (hF.2 _ List.mem_cons_self).2.2 Kind.sf
  let f : SfDiff → SfDiff := fun d =>
    { d with e := { id := id, value := v, addr := a, claimStart := ms.pool, leaf := none }, created := true }
  obtain ⟨hI', hA, hF', htot⟩ := put_create sfSlice sfRule hc hI hF f rfl
    (by refine ⟨fun _ => hb, fun h => ?_, fun h => ?_⟩ <;> cases h)
  exact ⟨hI', hA, hF', fun W => (Nat.add_zero _).symm.trans (census_sf W (a := 0) ((Nat.add_zero _).trans (htot _ _ _ _ hb))
    (put_sameBut sfSlice ms id f))⟩

/-- what validation establishes about a siafund element that is about to be spent -/
def SpendableSf (T : Kind → Id → Prop) (ms : Mid) (e : SfElem) : Prop :=
  T Kind.sf e.id ∧ ms.isSpent e.id = false ∧
  match ms.sfDiff? e.id with
  | none => e ∈ ms.base.sf
  | some d => d.e = e

theorem SpendableSf.agree {T ms ms' e} {P : Id → Prop} (h : SpendableSf T ms e) (ha : Agree ms ms' P) (hp : ¬ P e.id) :
    SpendableSf T ms' e := by
  unfold SpendableSf at *
  rw [(ha.2 e.id hp).2.2.1, (ha.2 e.id hp).2.2.2.2.2, ha.1]; exact h

theorem SpendableSf.known {T ms e} (h : SpendableSf T ms e) : Known ms .sf e.id := fun hl => by
  unfold SpendableSf at h; rw [sfDiff?_none_of_lookup hl] at h
  exact List.mem_map_of_mem h.2.2

theorem spendSf_spec {T} {ms : Mid} (hc : Ctx T ms.base) (hI : Inv T ms) {e : SfElem} (hs : SpendableSf T ms e) :
    Inv T (ms.spendSf e) ∧ Agree ms (ms.spendSf e) (· = e.id) ∧
    ∀ W, census W (ms.spendSf e) + W.sf e = census W ms := by
  obtain ⟨hT, hsp, hm⟩ := hs
  have hns := (isSpent_false_iff ms e.id).1 hsp
  obtain ⟨f, hf⟩ : ∃ f, (fun d : SfDiff => ({ d with e := e, spent := true } : SfDiff)) = f := ⟨_, rfl⟩
  have hfeq : ms.spendSf e = { ms.put sfSlice e.id f with spends := e.id :: ms.spends } := by
    rw [← hf, ← putSf_spends ms e.id]; rfl
  rw [hfeq]
  have hnew : sfSlice.new ms e.id f = { ((ms.sfDiff? e.id).getD default) with e := e, spent := true } := by
    rw [← hf]; rfl
  have hfid : (sfSlice.new ms e.id f).e.id = e.id := by rw [hnew]
  have hok : SfOk ms.base (e.id :: ms.spends) (sfSlice.new ms e.id f) := by
    rw [hnew]
    refine ⟨fun h => ?_, fun h => ?_, fun _ => List.mem_cons_self⟩
    · cases hv : ms.sfDiff? e.id with
      | none => rw [hv] at h; cases h
      | some d =>
        obtain ⟨hd, hid⟩ := sfDiff?_mem hv
        rw [hv] at h
        exact hid ▸ (hI.sf d hd).1 h
    · cases hv : ms.sfDiff? e.id with
      | none => rw [hv] at hm; exact ⟨rfl, hm⟩
      | some d =>
        obtain ⟨hd, hid⟩ := sfDiff?_mem hv
        rw [hv] at h
        exact absurd (hid ▸ (hI.sf d hd).2.2 ((hI.sf d hd).2.1 h).1) hns
  obtain ⟨hI', hA⟩ := put_consume sfSlice sfRule hI hc.disj hT f hfid hok (show (sfSlice.new ms e.id f).spent = true by rw [hnew]) hns
  refine ⟨hI', hA, fun W => ?_⟩
  refine (census_sf W (b := 0) ((put_tot _ _ _ _ hI.struct hc.disj sfSlice hT f hfid (hc.nodup Kind.sf) ?_).trans
    (congrArg _ (show sfDvW W.sf (sfSlice.new ms e.id f) = 0 by rw [hnew]; rfl)))
    ((put_sameBut sfSlice ms e.id f).spends _)).trans (Nat.add_zero _)
  cases hv : ms.sfDiff? e.id with
  | none => rw [hv] at hm; exact sfSlice.counts_none _ _ _ _ hv hm rfl
  | some d =>
    rw [hv] at hm
    have hd : sfDvW W.sf d = W.sf e := by
      unfold sfDvW; rw [Bool.eq_false_iff.2 (hI.live sfRule hv hns), hm]; rfl
    exact hd ▸ sfSlice.counts_some _ _ _ _ hv

theorem createFc2_spec {T} {ms ms' : Mid} (hc : Ctx T ms.base) (hI : Inv T ms) {id : Id} {R : List (Kind × Id)}
    (hF : Fresh T ms ((Kind.fc2, id) :: R)) {fc : Fc2} (hmh : fc.missedHost ≤ fc.host.value)
    (h : ms.createFc2 id fc = .ok ms') :
    Inv T ms' ∧ Agree ms ms' (· = id) ∧ Fresh T ms' R ∧
    ∀ W, census W ms' = census W ms + W.fc * fc.val := by
  obtain ⟨_, _, rfl⟩ := createFc2_ok_iff.1 h
  generalize hf : (fun d : Fc2Diff => ({ d with e := { id := id, fc := fc, leaf := none }, created := true } : Fc2Diff)) = f
  rw [putFc2_eq]
  have hd : f default = ⟨⟨id, fc, none⟩, true, none, none⟩ := by rw [← hf]; rfl
  have hb := (hF.2 _ List.mem_cons_self).2.2 Kind.fc2
  obtain ⟨hI', hA, hF', htot⟩ := put_create fc2Slice fc2Rule hc hI hF f (by rw [hd]; rfl)
    (by rw [hd]; refine ⟨fun _ => hb, fun h => ?_, fun h => ?_, rfl, hmh⟩ <;> cases h)
  have hA2 : Agree (ms.put fc2Slice id f) { ms.put fc2Slice id f with pool := ms.pool + fc.val / 25 } (· = id) :=
    agree_scalars rfl rfl rfl rfl rfl rfl rfl _
  refine ⟨hI'.scalars rfl rfl rfl rfl rfl rfl rfl, hA.trans hA2, hF'.agree hA2 (fun q hq => hF.head_not_mem q hq), fun W => ?_⟩
  have := census_fc2 W (ms' := { ms.put fc2Slice id f with pool := ms.pool + fc.val / 25 }) (a := 0)
    ((Nat.add_zero _).trans (htot _ _ _ _ hb)) ((put_sameBut fc2Slice ms id f).pool _)
  rwa [Nat.mul_zero, Nat.add_zero, hd] at this

/-- what validation establishes about a v2 contract that is about to be revised or resolved -/
def LiveFc2 (T : Kind → Id → Prop) (ms : Mid) (e : Fc2Elem) : Prop :=
  T Kind.fc2 e.id ∧ e ∈ ms.base.fc2 ∧ ms.isSpent e.id = false

theorem LiveFc2.agree {T ms ms' e} {P : Id → Prop} (h : LiveFc2 T ms e) (ha : Agree ms ms' P) (hp : ¬ P e.id) :
    LiveFc2 T ms' e := by
  unfold LiveFc2 at *
  rw [(ha.2 e.id hp).2.2.2.2.2, ha.1]; exact h

theorem LiveFc2.known {T ms e} (h : LiveFc2 T ms e) : Known ms .fc2 e.id :=
  fun _ => List.mem_map_of_mem h.2.1

theorem LiveFc2.diff {T ms e} (hc : Ctx T ms.base) (hI : Inv T ms) (h : LiveFc2 T ms e) {d : Fc2Diff}
    (hv : ms.fc2Diff? e.id = some d) : d.created = false ∧ d.e = e ∧ d.resolution = none := by
  have hd := hI.fc2 d (fc2Diff?_mem hv).1
  have hid := (fc2Diff?_mem hv).2
  have hcr : d.created = false := by
    cases hcd : d.created with
    | false => rfl
    | true =>
      have := hd.1 hcd; rw [hid] at this
      exact absurd (List.mem_map_of_mem h.2.1) this
  exact ⟨hcr, eq_of_nodup_map (fun x : Fc2Elem => x.id) (hc.nodup Kind.fc2) (hd.2.1 hcr) h.2.1 hid,
    Option.not_isSome_iff_eq_none.1 (hI.live fc2Rule hv ((isSpent_false_iff ms e.id).1 h.2.2))⟩

theorem LiveFc2.counts {T ms e} (hc : Ctx T ms.base) (hI : Inv T ms) (h : LiveFc2 T ms e) :
    fc2Slice.Counts (·.fc2) (·.id) (·.fc.val) fc2Dv ms e.id e.fc.val := by
  cases hv : ms.fc2Diff? e.id with
  | none => exact fc2Slice.counts_none _ _ _ _ hv h.2.1 rfl
  | some d =>
    obtain ⟨_, hde, hres⟩ := h.diff hc hI hv
    have hdd : fc2Dv d = e.fc.val := by
      unfold fc2Dv; rw [hres]; simp only [Option.isNone_none, if_true]; rw [(hI.fc2 d (fc2Diff?_mem hv).1).2.2.2.1, hde]
    exact hdd ▸ fc2Slice.counts_some _ _ _ _ hv

theorem reviseFc2_spec {T} {ms : Mid} (hc : Ctx T ms.base) (hI : Inv T ms) {e : Fc2Elem} (hs : LiveFc2 T ms e)
    {rev : Fc2} (hval : rev.val = e.fc.val) (hmh : rev.missedHost ≤ rev.host.value) :
    Inv T (ms.reviseFc2 e rev) ∧ Agree ms (ms.reviseFc2 e rev) (· = e.id) ∧
    ∀ W, census W (ms.reviseFc2 e rev) = census W ms := by
  have hT := hs.1
  unfold Mid.reviseFc2
  generalize hf : (fun d : Fc2Diff =>
      if d.created then ({ d with e := { d.e with fc := rev } } : Fc2Diff)
      else if d.revision.isSome then { d with revision := some rev }
      else { d with e := e, revision := some rev }) = f
  rw [putFc2_eq]
  have hnew : fc2Slice.new ms e.id f = ⟨e, false, some rev, none⟩ := by
    show f ((ms.fc2Diff? e.id).getD default) = _
    cases hv : ms.fc2Diff? e.id with
    | none => rw [← hf]; rfl
    | some d =>
      obtain ⟨hcr, hde, hres⟩ := hs.diff hc hI hv
      rw [← hf]; simp only [Option.getD_some, hcr]
      cases hr : d.revision with
      | none =>
        simp only [Bool.false_eq_true, if_false, Option.isSome_none]
        rw [← hres]
      | some r =>
        simp only [Bool.false_eq_true, if_false, Option.isSome_some, if_true]
        rw [← hres, ← hde, ← hcr]
  have hfid : (fc2Slice.new ms e.id f).e.id = e.id := by rw [hnew]
  have hok : Fc2Ok ms.base ms.spends (fc2Slice.new ms e.id f) := by
    rw [hnew]; unfold Fc2Ok
    refine ⟨fun h => ?_, fun _ => hs.2.1, fun h => ?_, hval, hmh⟩ <;> simp at h
  obtain ⟨hI', hA⟩ := put_keep fc2Slice fc2Rule hI hc.disj hT f hfid hok ((isSpent_false_iff ms e.id).1 hs.2.2)
  refine ⟨hI', hA, fun W => ?_⟩
  have hdv : fc2Dv (fc2Slice.new ms e.id f) = e.fc.val := by rw [hnew]; exact hval
  exact Nat.add_right_cancel (census_fc2 W ((put_tot _ _ _ _ hI.struct hc.disj fc2Slice hT f hfid (hc.nodup Kind.fc2)
    (hs.counts hc hI)).trans (congrArg _ hdv)) (put_sameBut fc2Slice ms e.id f))

theorem resolveFc2_spec {T} {ms ms' : Mid} (hc : Ctx T ms.base) (hI : Inv T ms) {e : Fc2Elem} (hs : LiveFc2 T ms e)
    (hmh : e.fc.missedHost ≤ e.fc.host.value) {k : ResKind} (h : ms.resolveFc2 e k = .ok ms') :
    Inv T ms' ∧ Agree ms ms' (· = e.id) ∧
    ∀ W, census W ms' + W.fc * e.fc.val = census W ms := by
  have hT := hs.1
  obtain ⟨_, rfl⟩ := resolveFc2_ok_iff.1 h
  generalize hf : (fun d : Fc2Diff => ({ d with e := e, resolution := some k } : Fc2Diff)) = f
  rw [putFc2_eq]
  have hnew : ∃ rv, fc2Slice.new ms e.id f = ⟨e, false, rv, some k⟩ ∧
      (∀ r, rv = some r → r.val = e.fc.val ∧ r.missedHost ≤ r.host.value) := by
    show ∃ rv, f ((ms.fc2Diff? e.id).getD default) = _ ∧ _
    cases hv : ms.fc2Diff? e.id with
    | none =>
      refine ⟨none, ?_, fun r hr => by cases hr⟩
      rw [← hf]; rfl
    | some d =>
      obtain ⟨hcr, hde, _⟩ := hs.diff hc hI hv
      have hd := hI.fc2 d (fc2Diff?_mem hv).1
      refine ⟨d.revision, ?_, fun r hr => ?_⟩
      · rw [← hf]; simp only [Option.getD_some]; rw [← hcr]
      · have h1 := hd.2.2.2.1; have h2 := hd.2.2.2.2
        unfold Fc2Diff.current at h1 h2; rw [hr] at h1 h2; simp only [] at h1 h2
        rw [hde] at h1; exact ⟨h1, h2⟩
  obtain ⟨rv, hnew, hrv⟩ := hnew
  have hfid : (fc2Slice.new ms e.id f).e.id = e.id := by rw [hnew]
  have hok : Fc2Ok ms.base (e.id :: ms.spends) (fc2Slice.new ms e.id f) := by
    rw [hnew]; unfold Fc2Ok
    refine ⟨fun h => ?_, fun _ => hs.2.1, fun _ => List.mem_cons_self, ?_, ?_⟩
    · simp at h
    · unfold Fc2Diff.current; cases rv with
      | none => rfl
      | some r => exact (hrv r rfl).1
    · unfold Fc2Diff.current; cases rv with
      | none => exact hmh
      | some r => exact (hrv r rfl).2
  obtain ⟨hI', hA⟩ := put_consume fc2Slice fc2Rule hI hc.disj hT f hfid hok
    (show (fc2Slice.new ms e.id f).resolution.isSome = true by rw [hnew]; rfl) ((isSpent_false_iff ms e.id).1 hs.2.2)
  refine ⟨hI', hA, fun W => ?_⟩
  have hdv : fc2Dv (fc2Slice.new ms e.id f) = 0 := by rw [hnew]; rfl
  exact (census_fc2 W (b := 0) ((put_tot _ _ _ _ hI.struct hc.disj fc2Slice hT f hfid (hc.nodup Kind.fc2)
    (hs.counts hc hI)).trans (congrArg _ hdv)) ((put_sameBut fc2Slice ms e.id f).spends _)).trans
    (by rw [Nat.mul_zero, Nat.add_zero])

theorem createFc1_spec {T} {ms ms' : Mid} (hc : Ctx T ms.base) (hI : Inv T ms) {id : Id} {R : List (Kind × Id)}
    (hF : Fresh T ms ((Kind.fc1, id) :: R)) {fc : Fc1} (hbal : sumVals fc.valid = sumVals fc.missed)
    (h : ms.createFc1 id fc = .ok ms') :
    Inv T ms' ∧ Agree ms ms' (· = id) ∧ Fresh T ms' R ∧
    ∀ W, census W ms' = census W ms + W.fc * fc.val := by
  obtain ⟨_, rfl⟩ := createFc1_ok_iff.1 h
  generalize hf : (fun d : Fc1Diff => ({ d with e := { id := id, fc := fc, leaf := none }, created := true } : Fc1Diff)) = f
  rw [putFc1_eq]
  have hd : f default = ⟨⟨id, fc, none⟩, true, none, false, false⟩ := by rw [← hf]; rfl
  have hb := (hF.2 _ List.mem_cons_self).2.2 Kind.fc1
  obtain ⟨hI', hA, hF', htot⟩ := put_create fc1Slice fc1Rule hc hI hF f (by rw [hd]; rfl)
    (by rw [hd]; refine ⟨fun _ => hb, fun h => ?_, fun h => ?_, fun _ => ⟨rfl, hbal⟩⟩ <;> cases h)
  have hA2 : Agree (ms.put fc1Slice id f) { ms.put fc1Slice id f with pool := ms.pool + fileContractTax ms.base fc.payout } (· = id) :=
    agree_scalars rfl rfl rfl rfl rfl rfl rfl _
  refine ⟨hI'.scalars rfl rfl rfl rfl rfl rfl rfl, hA.trans hA2, hF'.agree hA2 (fun q hq => hF.head_not_mem q hq), fun W => ?_⟩
  have := census_fc1 W (ms' := { ms.put fc1Slice id f with pool := ms.pool + fileContractTax ms.base fc.payout }) (a := 0)
    ((Nat.add_zero _).trans (htot _ _ _ _ hb)) ((put_sameBut fc1Slice ms id f).pool _)
  rwa [Nat.mul_zero, Nat.add_zero, hd] at this

/-- what validation establishes about a v1 contract about to be revised or proven -/
def LiveFc1 (T : Kind → Id → Prop) (ms : Mid) (e : Fc1Elem) : Prop :=
  T Kind.fc1 e.id ∧ ms.isSpent e.id = false ∧
  match ms.fc1Diff? e.id with
  | none => e ∈ ms.base.fc1
  | some d => e = d.current

theorem LiveFc1.agree {T ms ms' e} {P : Id → Prop} (h : LiveFc1 T ms e) (ha : Agree ms ms' P) (hp : ¬ P e.id) :
    LiveFc1 T ms' e := by
  unfold LiveFc1 at *
  rw [(ha.2 e.id hp).2.2.2.1, (ha.2 e.id hp).2.2.2.2.2, ha.1]; exact h

theorem LiveFc1.known {T ms e} (h : LiveFc1 T ms e) : Known ms .fc1 e.id := fun hl => by
  unfold LiveFc1 at h; rw [fc1Diff?_none_of_lookup hl] at h
  exact List.mem_map_of_mem h.2.2

/-- what is needed to resolve a v1 contract (by proof or by expiry) paying out `e`'s outputs -/
def ResolvableFc1 (T : Kind → Id → Prop) (ms : Mid) (e : Fc1Elem) : Prop :=
  T Kind.fc1 e.id ∧
  match ms.fc1Diff? e.id with
  | none => e ∈ ms.base.fc1
  | some d => d.resolved = false ∧ d.current.fc.val = e.fc.val ∧ (d.created = false → d.revision = none → e ∈ ms.base.fc1)

theorem ResolvableFc1.agree {T ms ms' e} {P : Id → Prop} (h : ResolvableFc1 T ms e) (ha : Agree ms ms' P) (hp : ¬ P e.id) :
    ResolvableFc1 T ms' e := by
  unfold ResolvableFc1 at *
  rw [(ha.2 e.id hp).2.2.2.1, ha.1]; exact h

theorem ResolvableFc1.known {T ms e} (h : ResolvableFc1 T ms e) : Known ms .fc1 e.id := fun hl => by
  unfold ResolvableFc1 at h; rw [fc1Diff?_none_of_lookup hl] at h
  exact List.mem_map_of_mem h.2

theorem ResolvableFc1.counts {T ms e} (h : ResolvableFc1 T ms e) :
    fc1Slice.Counts (·.fc1) (·.id) (·.fc.val) fc1Dv ms e.id e.fc.val := by
  unfold ResolvableFc1 at h
  cases hv : ms.fc1Diff? e.id with
  | none => rw [hv] at h; exact fc1Slice.counts_none _ _ _ _ hv h.2 rfl
  | some d =>
    rw [hv] at h
    have hdd : fc1Dv d = e.fc.val := by unfold fc1Dv; rw [h.2.1]; exact h.2.2.1
    exact hdd ▸ fc1Slice.counts_some _ _ _ _ hv

theorem LiveFc1.diff {T ms e} (hI : Inv T ms) (h : LiveFc1 T ms e) {d : Fc1Diff} (hv : ms.fc1Diff? e.id = some d) :
    d.resolved = false ∧ e = d.current := by
  have := h.2.2; rw [hv] at this
  exact ⟨Bool.eq_false_iff.2 (hI.live fc1Rule hv ((isSpent_false_iff ms e.id).1 h.2.1)), this⟩

theorem LiveFc1.resolvable {T ms e} (hI : Inv T ms) (h : LiveFc1 T ms e) : ResolvableFc1 T ms e := by
  refine ⟨h.1, ?_⟩
  cases hv : ms.fc1Diff? e.id with
  | none => have := h.2.2; rw [hv] at this; exact this
  | some d =>
    obtain ⟨hr, hcur⟩ := h.diff hI hv
    refine ⟨hr, by rw [hcur], fun hcr hrv => ?_⟩
    have := (hI.fc1 d (fc1Diff?_mem hv).1).2.1 hcr
    rw [hcur]; unfold Fc1Diff.current; rw [hrv]; exact this

theorem LiveFc1.bal {T ms e} (hc : Ctx T ms.base) (hI : Inv T ms) (h : LiveFc1 T ms e) :
    sumVals e.fc.valid = sumVals e.fc.missed := by
  cases hv : ms.fc1Diff? e.id with
  | none => have := h.2.2; rw [hv] at this; exact hc.fc1_bal e this
  | some d =>
    obtain ⟨hr, hcur⟩ := h.diff hI hv
    rw [hcur]; exact ((hI.fc1 d (fc1Diff?_mem hv).1).2.2.2 hr).2

/-- the diff function of `reviseFc1` -/
def reviseF1 (e : Fc1Elem) (rev : Fc1) : Fc1Diff → Fc1Diff := fun d =>
  if d.created then { d with e := { d.e with fc := { rev with payout := e.fc.payout } } }
  else if d.revision.isSome then { d with revision := some { rev with payout := e.fc.payout } }
  else { d with e := e, revision := some { rev with payout := e.fc.payout } }

theorem reviseF1_props (e : Fc1Elem) (rev : Fc1) (d : Fc1Diff) (he : e = d.current) :
    (reviseF1 e rev d).resolved = d.resolved ∧ (reviseF1 e rev d).created = d.created ∧
    (reviseF1 e rev d).e.id = d.e.id ∧
    (d.created = false → (reviseF1 e rev d).e = d.e) ∧
    ((reviseF1 e rev d).current.fc.valid = rev.valid ∧ (reviseF1 e rev d).current.fc.missed = rev.missed ∨
     (reviseF1 e rev d).current.fc = d.current.fc) ∧
    ((reviseF1 e rev d).e.fc.valid = rev.valid ∨ (reviseF1 e rev d).e.fc = d.e.fc) := by
  obtain ⟨de, dc, dr, dres, dval⟩ := d
  unfold reviseF1 Fc1Diff.current at *
  cases dc <;> cases dr <;> simp_all

theorem reviseFc1_spec {T} {ms : Mid} (hc : Ctx T ms.base) (hI : Inv T ms) {e : Fc1Elem} (hs : LiveFc1 T ms e)
    {rev : Fc1} (hval : sumVals rev.valid = sumVals e.fc.valid) (hmis : sumVals rev.missed = sumVals e.fc.missed) :
    Inv T (ms.reviseFc1 e rev) ∧ Agree ms (ms.reviseFc1 e rev) (· = e.id) ∧
    ∀ W, census W (ms.reviseFc1 e rev) = census W ms := by
  have hT := hs.1
  have hbal := hs.bal hc hI
  have hfeq : ms.reviseFc1 e rev = ms.put fc1Slice e.id (reviseF1 e rev) := rfl
  rw [hfeq]
  generalize hf : reviseF1 e rev = f
  have key : (fc1Slice.new ms e.id f).e.id = e.id ∧ Fc1Ok ms.base ms.spends (fc1Slice.new ms e.id f) ∧
      fc1Dv (fc1Slice.new ms e.id f) = e.fc.val := by
    show (f ((ms.fc1Diff? e.id).getD default)).e.id = e.id ∧ Fc1Ok ms.base ms.spends (f ((ms.fc1Diff? e.id).getD default)) ∧
      fc1Dv (f ((ms.fc1Diff? e.id).getD default)) = e.fc.val
    rw [← hf]
    cases hv : ms.fc1Diff? e.id with
    | none =>
      have hm : e ∈ ms.base.fc1 := by have := hs.2.2; rw [hv] at this; exact this
      have hn : reviseF1 e rev ((none : Option Fc1Diff).getD default) =
          ⟨e, false, some { rev with payout := e.fc.payout }, false, false⟩ := rfl
      rw [hn]
      refine ⟨rfl, ?_, ?_⟩
      · unfold Fc1Ok
        refine ⟨fun h => by simp at h, fun _ => hm, fun h => by simp at h, fun _ => ⟨?_, ?_⟩⟩
        · show sumVals rev.valid = sumVals e.fc.valid; exact hval
        · show sumVals rev.valid = sumVals rev.missed; rw [hval, hmis]; exact hbal
      · show sumVals rev.valid = sumVals e.fc.valid; exact hval
    | some d =>
      have hd := hs.diff hI hv
      obtain ⟨hm, hid⟩ := fc1Diff?_mem hv
      have hok := hI.fc1 d hm
      obtain ⟨p1, p2, p3, p4, p5, p6⟩ := reviseF1_props e rev d hd.2
      simp only [Option.getD_some]
      have hcur := hok.2.2.2 hd.1
      rw [← hd.2] at hcur
      have hvalcur : (reviseF1 e rev d).current.fc.val = e.fc.val := by
        unfold Fc1.val
        rcases p5 with ⟨q1, _⟩ | q
        · rw [q1]; exact hval
        · rw [q, ← hd.2]
      refine ⟨p3.trans hid, ?_, ?_⟩
      · unfold Fc1Ok
        refine ⟨fun h => ?_, fun h => ?_, fun h => ?_, fun _ => ⟨?_, ?_⟩⟩
        · rw [p3]; exact hok.1 (p2 ▸ h)
        · rw [p4 (p2 ▸ h)]; exact hok.2.1 (p2 ▸ h)
        · rw [p1, hd.1] at h; cases h
        · rw [hvalcur]
          unfold Fc1.val at hcur ⊢
          rcases p6 with q | q
          · rw [q]; exact hval.symm
          · rw [q]; exact hcur.1
        · rcases p5 with ⟨q1, q2⟩ | q
          · rw [q1, q2, hval, hmis]; exact hbal
          · rw [q, ← hd.2]; exact hbal
      · unfold fc1Dv; rw [p1, hd.1]; simp only [Bool.false_eq_true, if_false]; exact hvalcur
  obtain ⟨hfid, hok, hdv⟩ := key
  obtain ⟨hI', hA⟩ := put_keep fc1Slice fc1Rule hI hc.disj hT f hfid hok ((isSpent_false_iff ms e.id).1 hs.2.1)
  refine ⟨hI', hA, fun W => ?_⟩
  exact Nat.add_right_cancel (census_fc1 W ((put_tot _ _ _ _ hI.struct hc.disj fc1Slice hT f hfid (hc.nodup Kind.fc1)
    (hs.resolvable hI).counts).trans (congrArg _ hdv)) (put_sameBut fc1Slice ms e.id f))

theorem resolveFc1_spec {T} {ms : Mid} (hc : Ctx T ms.base) (hI : Inv T ms) {e : Fc1Elem} (hs : ResolvableFc1 T ms e)
    (hsp : ms.isSpent e.id = false) (v : Bool) :
    Inv T (ms.resolveFc1 e v) ∧ Agree ms (ms.resolveFc1 e v) (· = e.id) ∧
    ∀ W, census W (ms.resolveFc1 e v) + W.fc * e.fc.val = census W ms := by
  have hT := hs.1
  obtain ⟨f, hf⟩ : ∃ f, (fun d : Fc1Diff =>
      if d.revision.isSome then ({ d with resolved := true, valid := v } : Fc1Diff)
      else { d with e := e, resolved := true, valid := v }) = f := ⟨_, rfl⟩
  have hfeq : ms.resolveFc1 e v = { ms.put fc1Slice e.id f with spends := e.id :: ms.spends } := by
    rw [← hf, ← putFc1_spends ms e.id]; rfl
  rw [hfeq]
  have key : (fc1Slice.new ms e.id f).e.id = e.id ∧ Fc1Ok ms.base (e.id :: ms.spends) (fc1Slice.new ms e.id f) ∧
      fc1Dv (fc1Slice.new ms e.id f) = 0 := by
    show (f ((ms.fc1Diff? e.id).getD default)).e.id = e.id ∧ Fc1Ok ms.base (e.id :: ms.spends) (f ((ms.fc1Diff? e.id).getD default)) ∧
      fc1Dv (f ((ms.fc1Diff? e.id).getD default)) = 0
    cases hv : ms.fc1Diff? e.id with
    | none =>
      have hm : e ∈ ms.base.fc1 := by have := hs.2; rw [hv] at this; exact this
      have hn : f ((none : Option Fc1Diff).getD default) = ⟨e, false, none, true, v⟩ := by rw [← hf]; rfl
      rw [hn]
      refine ⟨rfl, ?_, rfl⟩
      unfold Fc1Ok
      exact ⟨fun h => by simp at h, fun _ => hm, fun _ => List.mem_cons_self, fun h => by simp at h⟩
    | some d =>
      have hd := hs.2; rw [hv] at hd; simp only [] at hd
      obtain ⟨hm, hid⟩ := fc1Diff?_mem hv
      have hok := hI.fc1 d hm
      simp only [Option.getD_some]
      rw [← hf]
      obtain ⟨de, dc, dr, dres, dval⟩ := d
      simp only [] at hd hid hok ⊢
      cases dr with
      | none =>
        simp only [Option.isSome_none, Bool.false_eq_true, if_false]
        refine ⟨by first | rfl | trivial, ?_, by first | rfl | trivial⟩
        unfold Fc1Ok; simp only []
        refine ⟨fun h => ?_, fun h => hd.2.2 h rfl, fun _ => List.mem_cons_self, fun h => by simp at h⟩
        have := hok.1 h; simp only [] at this; rw [hid] at this; exact this
      | some r =>
        simp only [Option.isSome_some, if_true]
        refine ⟨hid, ?_, rfl⟩
        unfold Fc1Ok; simp only []
        refine ⟨fun h => hok.1 h, fun h => hok.2.1 h, fun _ => by rw [hid]; exact List.mem_cons_self, fun h => by simp at h⟩
  obtain ⟨hfid, hok, hdv⟩ := key
  have hres : (fc1Slice.new ms e.id f).resolved = true := by
    unfold Slice.new; rw [← hf]; simp only []; split <;> rfl
  obtain ⟨hI', hA⟩ := put_consume fc1Slice fc1Rule hI hc.disj hT f hfid hok hres ((isSpent_false_iff ms e.id).1 hsp)
  refine ⟨hI', hA, fun W => ?_⟩
  exact (census_fc1 W (b := 0) ((put_tot _ _ _ _ hI.struct hc.disj fc1Slice hT f hfid (hc.nodup Kind.fc1) hs.counts).trans
    (congrArg _ hdv)) ((put_sameBut fc1Slice ms e.id f).spends _)).trans (by rw [Nat.mul_zero, Nat.add_zero])

end Sia.Ledger
