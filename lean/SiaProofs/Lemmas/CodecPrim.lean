import SiaModel.Codec.Schema
/-! Little- and big-endian integers, `takeN`, `readU64` and the V1 currency form: what each reader returns on an
encoding followed by anything, on a truncated encoding, and what an input it accepts looks like. -/
namespace Sia.Codec

theorem leBytes_length (k n : Nat) : (leBytes k n).length = k := by
  induction k generalizing n with
  | zero => rfl
  | succ k ih => simp [leBytes, ih]

theorem leVal_lt (b : Bytes) : leVal b < 256 ^ b.length := by
  induction b with
  | nil => simp [leVal]
  | cons x xs ih =>
    have hx : x.toNat < 256 := x.toNat_lt
    simp only [leVal, List.length_cons, Nat.pow_succ]
    omega

theorem leVal_leBytes (k n : Nat) : leVal (leBytes k n) = n % 256 ^ k := by
  induction k generalizing n with
  | zero => simp [leBytes, leVal, Nat.mod_one]
  | succ k ih =>
    simp only [leBytes, leVal, ih]
    have h0 : (UInt8.ofNat (n % 256)).toNat = n % 256 := by
      rw [UInt8.toNat_ofNat']; exact Nat.mod_mod _ _
    rw [h0, Nat.pow_succ, Nat.mul_comm (256 ^ k) 256, Nat.mod_mul]

theorem leBytes_zero (m : Nat) : leBytes m 0 = zeros m := by
  induction m with
  | zero => rfl
  | succ m ih => simp [leBytes, zeros, List.replicate_succ] at *; exact ih

theorem leBytes_leVal_pad (l : Bytes) (m : Nat) : leBytes (l.length + m) (leVal l) = l ++ zeros m := by
  induction l with
  | nil => simp [leVal, leBytes_zero]
  | cons x xs ih =>
    have hx : x.toNat < 256 := x.toNat_lt
    have e : (x :: xs).length + m = (xs.length + m) + 1 := by simp; omega
    rw [e]
    simp only [leBytes, leVal]
    have h1 : (x.toNat + 256 * leVal xs) % 256 = x.toNat := by omega
    have h2 : (x.toNat + 256 * leVal xs) / 256 = leVal xs := by omega
    rw [h1, h2, ih]
    simp

theorem leBytes_eq_map (k n : Nat) :
    leBytes k n = (List.range k).map fun i => UInt8.ofNat (n / 256 ^ i % 256) := by
  induction k generalizing n with
  | zero => rfl
  | succ k ih =>
    rw [leBytes, ih, List.range_succ_eq_map, List.map_cons, List.map_map, Nat.pow_zero, Nat.div_one]
    simp only [Function.comp_def, Nat.pow_succ', Nat.div_div_eq_div_mul]

theorem leBytes_getElem? {k i : Nat} (n : Nat) (h : i < k) :
    (leBytes k n)[i]? = some (UInt8.ofNat (n / 256 ^ i % 256)) := by
  rw [leBytes_eq_map, List.getElem?_map, List.getElem?_range h]; rfl

theorem leBytes_leVal (b : Bytes) : leBytes b.length (leVal b) = b := by
  have := leBytes_leVal_pad b 0
  rwa [Nat.add_zero, show zeros 0 = [] from rfl, List.append_nil] at this

theorem u64le_length (n : Nat) : (u64le n).length = 8 := leBytes_length 8 n

theorem leVal_u64le {n : Nat} (h : n < W64) : leVal (u64le n) = n := by
  unfold u64le; rw [leVal_leBytes]; exact Nat.mod_eq_of_lt h

theorem u64le_inj {i j : Nat} (hi : i < W64) (hj : j < W64) (h : u64le i = u64le j) : i = j := by
  rw [← leVal_u64le hi, ← leVal_u64le hj, h]

theorem takeN_append (a r : Bytes) : takeN a.length (a ++ r) = .ok (a, r) := by
  simp [takeN]

theorem takeN_append' {n : Nat} (a r : Bytes) (h : a.length = n) : takeN n (a ++ r) = .ok (a, r) := by
  subst h; exact takeN_append a r

theorem takeN_ok {n : Nat} {bs a r : Bytes} (h : takeN n bs = .ok (a, r)) :
    bs = a ++ r ∧ a.length = n := by
  unfold takeN at h
  split at h
  · injection h with h; injection h with h1 h2
    subst h1; subst h2
    refine ⟨(List.take_append_drop n bs).symm, ?_⟩
    simp; omega
  · cases h

theorem takeN_short {n : Nat} {bs : Bytes} (h : bs.length < n) : takeN n bs = .error .short := by
  unfold takeN; rw [if_neg]; omega

theorem takeN_error {n : Nat} {bs : Bytes} {e : DecErr} (h : takeN n bs = .error e) : e = .short ∧ bs.length < n := by
  unfold takeN at h
  split at h
  · cases h
  · injection h with h; exact ⟨h.symm, by omega⟩

theorem readU64_append {n : Nat} (h : n < W64) (r : Bytes) : readU64 (u64le n ++ r) = .ok (n, r) := by
  unfold readU64
  rw [takeN_append' _ _ (u64le_length n)]
  simp [leVal_u64le h]

theorem readU64_ok {bs r : Bytes} {n : Nat} (h : readU64 bs = .ok (n, r)) :
    bs = u64le n ++ r ∧ n < W64 := by
  unfold readU64 at h
  split at h
  · rename_i a r' h'
    injection h with h; injection h with h1 h2
    obtain ⟨hb, hl⟩ := takeN_ok h'
    subst h1; subst h2
    constructor
    · rw [hb]; congr 1; unfold u64le; rw [← hl, leBytes_leVal]
    · have := leVal_lt a; rw [hl] at this; exact this
  · cases h

theorem readU64_short {bs : Bytes} (h : bs.length < 8) : readU64 bs = .error .short := by
  unfold readU64; rw [takeN_short h]

theorem readU64_error {bs : Bytes} {e : DecErr} (h : readU64 bs = .error e) : e = .short ∧ bs.length < 8 := by
  unfold readU64 at h
  split at h
  · cases h
  · rename_i e' h'; injection h with h; subst h; exact takeN_error h'

theorem prefix_split {p q x y : Bytes} (h : p ++ q = x ++ y) :
    (∃ q', p ++ q' = x ∧ q' ≠ []) ∨ (∃ p', p = x ++ p' ∧ p' ++ q = y) := by
  rcases List.append_eq_append_iff.mp h with ⟨a, h1, h2⟩ | ⟨c, h1, h2⟩
  · -- x = p ++ a, q = a ++ y
    by_cases ha : a = []
    · subst ha; right; exact ⟨[], by simpa using h1.symm, by simpa using h2⟩
    · left; exact ⟨a, h1.symm, ha⟩
  · right; exact ⟨c, h1, h2.symm⟩

theorem append_ne_of_not_prefix {a b x y : Bytes} (h1 : ¬ a <+: b) (h2 : ¬ b <+: a) : a ++ x ≠ b ++ y := fun h =>
  (List.prefix_or_prefix_of_prefix ⟨x, h⟩ (List.prefix_append b y)).elim h1 h2

theorem map_eq_of_map_eq {α β γ} {f : α → β} {g : α → γ} : ∀ {l l' : List α},
    (∀ a ∈ l, ∀ a' ∈ l', f a = f a' → g a = g a') → l.map f = l'.map f → l.map g = l'.map g
  | [], [], _, _ => rfl
  | [], _ :: _, _, h => by simp at h
  | _ :: _, [], _, h => by simp at h
  | a :: l, a' :: l', hfg, h => by
    simp only [List.map_cons, List.cons.injEq] at h ⊢
    exact ⟨hfg a List.mem_cons_self a' List.mem_cons_self h.1,
      map_eq_of_map_eq (fun x hx x' hx' => hfg x (List.mem_cons_of_mem _ hx) x' (List.mem_cons_of_mem _ hx')) h.2⟩

theorem leVal_append (a b : Bytes) : leVal (a ++ b) = leVal a + 256 ^ a.length * leVal b := by
  induction a with
  | nil => simp [leVal]
  | cons x xs ih =>
    simp only [List.cons_append, leVal, ih, List.length_cons, Nat.pow_succ]
    rw [Nat.mul_add, ← Nat.mul_assoc, Nat.mul_comm 256 (256 ^ xs.length)]
    omega

theorem leVal_zeros (m : Nat) : leVal (zeros m) = 0 := by
  rw [← leBytes_zero, leVal_leBytes, Nat.zero_mod]

theorem beVal_lt (a : Bytes) : beVal a < 256 ^ a.length := by
  have := leVal_lt a.reverse; simpa [beVal] using this

theorem beVal_be16 {n : Nat} (h : n < W128) : beVal (be16 n) = n := by
  simp only [beVal, be16, List.reverse_reverse, leVal_leBytes]
  exact Nat.mod_eq_of_lt h

theorem beVal_zero_cons (bs : Bytes) : beVal (0 :: bs) = beVal bs := by
  simp [beVal, leVal_append, leVal]

theorem beVal_trimZeros (bs : Bytes) : beVal (trimZeros bs) = beVal bs := by
  induction bs with
  | nil => rfl
  | cons x xs ih =>
    unfold trimZeros at *
    by_cases hx : x = 0
    · subst hx; simp only [List.dropWhile_cons, beq_self_eq_true, ↓reduceIte]; rw [ih, beVal_zero_cons]
    · have : (x == 0) = false := by simpa using hx
      simp [this]

theorem trimZeros_length_le (bs : Bytes) : (trimZeros bs).length ≤ bs.length :=
  (List.dropWhile_sublist _).length_le

theorem trimZeros_head (bs : Bytes) : (trimZeros bs).head? ≠ some 0 := by
  unfold trimZeros
  induction bs with
  | nil => simp
  | cons x xs ih =>
    simp only [List.dropWhile_cons]
    split
    · exact ih
    · rename_i h; simp at h; simpa using h

theorem trimZeros_zeros_append (m : Nat) (a : Bytes) : trimZeros (zeros m ++ a) = trimZeros a := by
  induction m with
  | zero => rfl
  | succ m ih => simp [zeros, List.replicate_succ, trimZeros] at *

theorem trimZeros_id {a : Bytes} (h : a.head? ≠ some 0) : trimZeros a = a := by
  cases a with
  | nil => rfl
  | cons x xs =>
    have : (x == 0) = false := by simpa using h
    simp [trimZeros, this]

theorem be16_length (n : Nat) : (be16 n).length = 16 := by simp [be16, leBytes_length]

theorem be16_beVal {a : Bytes} (h : a.length ≤ 16) : be16 (beVal a) = zeros (16 - a.length) ++ a := by
  unfold be16 beVal
  have e : 16 = a.reverse.length + (16 - a.length) := by simp; omega
  conv => lhs; rw [e, leBytes_leVal_pad]
  simp [zeros]

theorem readCur1_append (st : Bool) {n : Nat} (h : n < W128) (r : Bytes) :
    readCur1 st (encCur1 n ++ r) = .ok (n, r) := by
  have hl : (trimZeros (be16 n)).length ≤ 16 := by
    have := trimZeros_length_le (be16 n); rw [be16_length] at this; exact this
  have hl2 : (trimZeros (be16 n)).length < W64 := by unfold W64; omega
  unfold readCur1 encCur1
  simp only [List.append_assoc]
  rw [readU64_append hl2]
  simp only
  rw [if_neg (by omega), takeN_append]
  simp only
  have hh := trimZeros_head (be16 n)
  have : ((trimZeros (be16 n)).head? == some 0) = false := by simpa using hh
  rw [this, Bool.and_false]
  simp [beVal_trimZeros, beVal_be16 h]

theorem readCur1_ok {st : Bool} {bs r : Bytes} {n : Nat} (h : readCur1 st bs = .ok (n, r)) :
    n < W128 ∧ ∃ a, bs = u64le a.length ++ a ++ r ∧ a.length ≤ 16 ∧ n = beVal a ∧
      (st = true → a.head? ≠ some 0) := by
  unfold readCur1 at h
  split at h
  · rename_i m r1 h1
    obtain ⟨hb, hm⟩ := readU64_ok h1
    split at h
    · cases h
    · rename_i hm16
      split at h
      · rename_i a r2 h2
        obtain ⟨hb2, hl⟩ := takeN_ok h2
        split at h
        · cases h
        · rename_i hs
          injection h with h; injection h with e1 e2
          subst e2
          have hl16 : a.length ≤ 16 := by omega
          refine ⟨?_, a, ?_, hl16, e1.symm, ?_⟩
          · rw [← e1]
            have := beVal_lt a
            have h2 : 256 ^ a.length ≤ 256 ^ 16 := Nat.pow_le_pow_right (by omega) hl16
            unfold W128; omega
          · rw [hb, hb2, hl]; simp
          · intro hst; subst hst; simpa using hs
      · cases h
  · cases h

theorem readCur1_strict_enc {bs r : Bytes} {n : Nat} (h : readCur1 true bs = .ok (n, r)) :
    encCur1 n ++ r = bs := by
  obtain ⟨_, a, hb, hl, hn, hh⟩ := readCur1_ok h
  subst hn
  unfold encCur1
  rw [be16_beVal hl, trimZeros_zeros_append, trimZeros_id (hh rfl), hb]

end Sia.Codec
