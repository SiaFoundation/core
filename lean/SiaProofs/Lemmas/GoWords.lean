import SiaModel.Prim.GoSem
/-!
What Go's unsigned word arithmetic and `math/bits` compute, on naturals: the model writes `x - y` on `uint64` as
`(x + 2^64 - y) % 2^64`, `1<<k` as `(1 <<< k) % 2^64`, and `bits.Len64` / `bits.Div64` as in `Prim/GoSem`. Stated for
words of any width where the width does not matter.
-/
namespace GoWords

theorem sub_mod_word {i j M : Nat} (hij : i ≤ j) (hj : j < M) : (j + M - i) % M = j - i := by
  rw [Nat.sub_add_comm hij, Nat.add_mod_right, Nat.mod_eq_of_lt (Nat.lt_of_le_of_lt (Nat.sub_le j i) hj)]

theorem one_shiftLeft_mod {k W : Nat} (h : k < W) : (1 <<< k) % 2 ^ W = 2 ^ k := by
  rw [Nat.one_shiftLeft, Nat.mod_eq_of_lt (Nat.pow_lt_pow_right (by decide) h)]

/-- `1<<L - 1` is the mask of the low `L` bits, also for `L = W` where the shift wraps to 0 -/
theorem mask_word {L W : Nat} (h : L ≤ W) : ((1 <<< L) % 2 ^ W + 2 ^ W - 1) % 2 ^ W = 2 ^ L - 1 := by
  rcases Nat.lt_or_eq_of_le h with h | rfl
  · rw [one_shiftLeft_mod h, sub_mod_word (Nat.two_pow_pos L) (Nat.pow_lt_pow_right (by decide) h)]
  · rw [Nat.one_shiftLeft, Nat.mod_self, Nat.zero_add,
      Nat.mod_eq_of_lt (Nat.sub_one_lt (Nat.ne_of_gt (Nat.two_pow_pos L)))]

theorem xor_eq_zero {a b : Nat} (h : a ^^^ b = 0) : a = b :=
  Nat.eq_of_testBit_eq fun i => by simpa using congrArg (·.testBit i) h

/-- the number of bits of `x`, as `bits.Len64` and the two `bitLen` of the model define it -/
theorem len_le_iff (x k : Nat) : (if x = 0 then 0 else Nat.log2 x + 1) ≤ k ↔ x < 2 ^ k := by
  by_cases h : x = 0
  · simp [h, Nat.two_pow_pos]
  · rw [if_neg h, ← Nat.log2_lt h]; omega

theorem bits_Len64_eq (x : Nat) : Go.bits_Len64 x = ((if x = 0 then 0 else Nat.log2 x + 1 : Nat) : Int) := by
  unfold Go.bits_Len64; split <;> rfl

/-- The digit equations of `bits.Add64`, `bits.Sub64`, `bits.Mul64`, for a result as a caller names it
(`rcases h : Go.bits_Add64 x y c with ⟨s, k⟩`): sum digit and carry, difference digit and borrow, low and high word. -/
theorem bits_Add64_spec {x y c s k : Nat} (h : Go.bits_Add64 x y c = (s, k)) :
    s < 18446744073709551616 ∧ s + k * 18446744073709551616 = x + y + c := by
  obtain ⟨rfl, rfl⟩ := Prod.mk.inj h
  omega

theorem bits_Sub64_spec {x y b d k : Nat} (h : Go.bits_Sub64 x y b = (d, k))
    (hx : x < 18446744073709551616) (hy : y < 18446744073709551616) (hb : b ≤ 1) :
    d < 18446744073709551616 ∧ k ≤ 1 ∧ x + k * 18446744073709551616 = d + y + b := by
  obtain ⟨rfl, rfl⟩ := Prod.mk.inj h
  split <;> omega

theorem bits_Mul64_spec {x y hi lo : Nat} (h : Go.bits_Mul64 x y = (hi, lo)) :
    lo < 18446744073709551616 ∧ lo + hi * 18446744073709551616 = x * y := by
  obtain ⟨rfl, rfl⟩ := Prod.mk.inj h
  omega

theorem bits_Div64_ok {hi lo y : Nat} (h : hi < y) :
    Go.bits_Div64 hi lo y = .ok ((hi * Go.W64 + lo) / y, (hi * Go.W64 + lo) % y) := by
  unfold Go.bits_Div64
  rw [if_neg (Nat.ne_of_gt (Nat.zero_lt_of_lt h)), if_neg (Nat.not_le.2 h)]

theorem div_word_lt {hi lo y B : Nat} (h : hi < y) (hlo : lo < B) : (hi * B + lo) / y < B := by
  rw [Nat.div_lt_iff_lt_mul (Nat.zero_lt_of_lt h), Nat.mul_comm B y]
  exact Nat.lt_of_lt_of_le (Nat.add_lt_add_left hlo _) (Nat.succ_mul hi B ▸ Nat.mul_le_mul_right B h)

end GoWords
