import SiaProofs.Lemmas.LedgerBlock
/-!
# Leaf indices do not matter

`Mid.commit` leaves the accumulator leaf index of new elements unassigned (the accumulator
assigns it; C04/C05).  Between two blocks of a chain the ledger may therefore be replaced
by one that differs only in `leaf` fields.  Nothing C01 talks about depends on them.
-/
namespace Sia.Ledger

def Ledger.eraseLeaves (L : Ledger) : Ledger :=
  { L with sc := L.sc.map (fun e => { e with leaf := none }), sf := L.sf.map (fun e => { e with leaf := none }),
           fc1 := L.fc1.map (fun e => { e with leaf := none }), fc2 := L.fc2.map (fun e => { e with leaf := none }) }

/-- the two ledgers differ at most in accumulator leaf indices -/
def LeafEq (L L' : Ledger) : Prop := L.eraseLeaves = L'.eraseLeaves

theorem LeafEq.refl (L : Ledger) : LeafEq L L := rfl

theorem V_eraseLeaves (L : Ledger) : V L.eraseLeaves = V L := by
  unfold V Ledger.eraseLeaves; simp only [List.map_map]; rfl

theorem SFtot_eraseLeaves (L : Ledger) : SFtot L.eraseLeaves = SFtot L := by
  unfold SFtot Ledger.eraseLeaves; simp only [List.map_map]; rfl

theorem baseIds_eraseLeaves (L : Ledger) (k : Kind) : baseIds L.eraseLeaves k = baseIds L k := by
  cases k <;> (unfold baseIds Ledger.eraseLeaves; simp only [List.map_map]) <;> rfl

theorem LeafEq.V {L L' : Ledger} (h : LeafEq L L') : V L' = V L := by
  rw [← V_eraseLeaves L', ← V_eraseLeaves L, h]
theorem LeafEq.SFtot {L L' : Ledger} (h : LeafEq L L') : SFtot L' = SFtot L := by
  rw [← SFtot_eraseLeaves L', ← SFtot_eraseLeaves L, h]
theorem LeafEq.child {L L' : Ledger} (h : LeafEq L L') : L'.child = L.child := by
  have := congrArg Ledger.child h; exact this.symm
theorem LeafEq.P {L L' : Ledger} (h : LeafEq L L') : L'.P = L.P := by
  have := congrArg Ledger.P h; exact this.symm

theorem mem_of_map_eq {α β : Type} {f : α → β} {l l' : List α} (h : l.map f = l'.map f) {e : α} (he : e ∈ l') :
    ∃ e0 ∈ l, f e0 = f e :=
  List.mem_map.mp (h ▸ List.mem_map_of_mem he)

theorem LeafEq.wf {L L' : Ledger} (h : LeafEq L L') (hw : WF L) : WF L' := by
  have hids : ∀ k, baseIds L' k = baseIds L k := fun k => by
    rw [← baseIds_eraseLeaves L' k, ← baseIds_eraseLeaves L k, h]
  constructor
  · simp only [hids]; exact hw.nodup
  · intro e he
    obtain ⟨e0, he0, heq⟩ := mem_of_map_eq (congrArg Ledger.fc1 h) he
    have hfc : e0.fc = e.fc := by injection heq
    rw [← hfc]; exact hw.fc1_bal e0 he0
  · intro e he
    obtain ⟨e0, he0, heq⟩ := mem_of_map_eq (congrArg Ledger.fc2 h) he
    have hfc : e0.fc = e.fc := by injection heq
    rw [← hfc]; exact hw.fc2_missed e0 he0
  · rw [h.SFtot]; exact hw.sf_bound
  · rw [h.P]; exact hw.params

end Sia.Ledger
