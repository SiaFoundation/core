import SiaProofs.Lemmas.CodecPays
/-! The laws every leaf codec (atom or hand-modelled `ext`) must satisfy, and their
proofs for the atoms of `SiaModel.Codec.Schema`. -/
namespace Sia.Codec

/-- Laws of a leaf codec. The generic theorems of C11 / C10-decode are proved for
every schema over an environment whose `ext` codecs satisfy these.

`dec st k bs`: `st` is the strict mode (accept only the canonical wire form: `strict_enc`), `k` the slack: by how much
the limited reader's allowance exceeds the bytes really there (`Schema.lean`). `alloc k bs` is what the decoder allocates on input `bs`;
`alloc_ok` bounds it by `depth` slots per byte consumed on success, `alloc_err` by `depth` slots per byte of input plus
slack whatever the outcome, for codecs whose length prefixes are checked against the remaining input (`guarded`); together they are
`Pays (c.dec false k) (c.alloc k) c.depth k` (`CodecOK.pays`, `CodecPays.lean`). `CodecOK.of_sound` takes five hypotheses that carry seven of the nine laws and derives `minLen_le`, `strict_lax`,
`CodecOK.of_reader` derives them from the laws of a typed reader; a new atom is added in `Schema.lean` (`Atom`,
`Atom.codec`), `Size.lean`, `atom_ok` below and `atom_size_bound` (`CodecSize`). -/
structure CodecOK (c : Codec) : Prop where
  roundtrip : ∀ st k v rest, c.canon v = true → c.dec st k (c.enc v ++ rest) = .ok (v, rest)
  minLen_le : ∀ v, c.canon v = true → c.minLen ≤ (c.enc v).length
  trunc : ∀ st k v p q, c.canon v = true → p ++ q = c.enc v → q ≠ [] → ∃ e, c.dec st k p = .error e
  dec_sound : ∀ st k bs v rest, c.dec st k bs = .ok (v, rest) →
      c.canon v = true ∧ ∃ cs, bs = cs ++ rest ∧ c.minLen ≤ cs.length
  strict_enc : ∀ k bs v rest, c.dec true k bs = .ok (v, rest) → c.enc v ++ rest = bs
  strict_lax : ∀ k bs r, c.dec true k bs = .ok r → c.dec false k bs = .ok r
  no_panic : c.guarded = true → ∀ st k bs, c.dec st k bs ≠ .error .panic
  alloc_ok : c.guarded = true → ∀ k bs v rest, c.dec false k bs = .ok (v, rest) →
      c.alloc k bs + c.depth * rest.length ≤ c.depth * bs.length
  alloc_err : c.guarded = true → ∀ k bs, c.alloc k bs ≤ c.depth * (bs.length + k)

theorem Codec.unsupported_ok : CodecOK Codec.unsupported := by
  constructor <;> simp [Codec.unsupported]

theorem isNat_iff {b : Nat} {v : Val} : isNat b v = true ↔ ∃ n, v = .nat n ∧ n < b := by
  cases v <;> simp [isNat]

theorem isBytes_iff {p : Bytes → Bool} {P : Bytes → Prop} (hp : ∀ a, p a = true ↔ P a) {v : Val} :
    isBytes p v = true ↔ ∃ a, v = .bytes a ∧ P a := by
  cases v <;> simp [isBytes, hp]

theorem CodecOK.sound {c : Codec} (h : CodecOK c) {st : Bool} {k : Nat} {bs : Bytes} {v : Val} {rest : Bytes}
    (hd : c.dec st k bs = .ok (v, rest)) :
    c.canon v = true ∧ ∃ cs, bs = cs ++ rest ∧ c.minLen ≤ cs.length ∧ (st = true → cs = c.enc v) := by
  obtain ⟨hc, cs, hb, hl⟩ := h.dec_sound st k bs v rest hd
  refine ⟨hc, cs, hb, hl, fun e => ?_⟩
  subst e
  exact List.append_cancel_right (hb.symm.trans (h.strict_enc k bs v rest hd).symm)

theorem CodecOK.consumes {c : Codec} (h : CodecOK c) {st : Bool} {k : Nat} {bs : Bytes} {v : Val} {rest : Bytes}
    (hd : c.dec st k bs = .ok (v, rest)) : rest.length + c.minLen ≤ bs.length := by
  obtain ⟨_, cs, rfl, hl⟩ := h.dec_sound st k bs v rest hd
  rw [List.length_append]; omega

theorem CodecOK.pays {c : Codec} (h : CodecOK c) (hg : c.guarded = true) (k : Nat) :
    Pays (c.dec false k) (c.alloc k) c.depth k := fun bs =>
  ⟨h.alloc_err hg k bs, fun v rest hd =>
    ⟨Nat.le_trans (Nat.le_add_right _ _) (h.consumes hd), h.alloc_ok hg k bs v rest hd⟩⟩

theorem CodecOK.of_sound {c : Codec}
    (roundtrip : ∀ st k v rest, c.canon v = true → c.dec st k (c.enc v ++ rest) = .ok (v, rest))
    (sound : ∀ st k bs v rest, c.dec st k bs = .ok (v, rest) →
      c.canon v = true ∧ ∃ cs, bs = cs ++ rest ∧ c.minLen ≤ cs.length ∧ (st = true → cs = c.enc v))
    (trunc : ∀ st k v p q, c.canon v = true → p ++ q = c.enc v → q ≠ [] → ∃ e, c.dec st k p = .error e)
    (no_panic : c.guarded = true → ∀ st k bs, c.dec st k bs ≠ .error .panic)
    (pays : c.guarded = true → ∀ k, Pays (c.dec false k) (c.alloc k) c.depth k) : CodecOK c := by
  have strict_enc : ∀ k bs v rest, c.dec true k bs = .ok (v, rest) → c.enc v ++ rest = bs := by
    intro k bs v rest h
    obtain ⟨_, cs, hb, _, hs⟩ := sound true k bs v rest h
    rw [hb, hs rfl]
  refine ⟨roundtrip, ?_, trunc, fun st k bs v rest h => ?_, strict_enc, ?_, no_panic,
    fun hg k bs v rest h => ((pays hg k bs).2 v rest h).2, fun hg k bs => (pays hg k bs).1⟩
  · intro v hc
    obtain ⟨_, cs, hb, hl, _⟩ := sound false 0 _ v [] (roundtrip false 0 v [] hc)
    rw [List.append_nil, List.append_nil] at hb
    rw [hb]; exact hl
  · obtain ⟨hc, cs, hb, hl, _⟩ := sound st k bs v rest h
    exact ⟨hc, cs, hb, hl⟩
  · intro k bs (v, rest) h
    rw [← strict_enc k bs v rest h]
    exact roundtrip false k v rest (sound true k bs v rest h).1

/-- A codec that reads a payload of type `α` with `rd` and injects it into `Val`: its laws are
those of the reader. -/
theorem CodecOK.of_reader {α : Type} {c : Codec} (inj : α → Val) (good : α → Prop) (wr : α → Bytes)
    (rd : Bool → Nat → Bytes → Except DecErr (α × Bytes))
    (hcanon : ∀ v, c.canon v = true ↔ ∃ a, v = inj a ∧ good a)
    (henc : ∀ a, c.enc (inj a) = wr a)
    (hdec : ∀ st k bs, c.dec st k bs =
      match rd st k bs with | .ok (a, r) => .ok (inj a, r) | .error e => .error e)
    (rd_wr : ∀ st k a rest, good a → rd st k (wr a ++ rest) = .ok (a, rest))
    (rd_ok : ∀ st k bs a rest, rd st k bs = .ok (a, rest) →
      good a ∧ ∃ cs, bs = cs ++ rest ∧ c.minLen ≤ cs.length ∧ (st = true → cs = wr a))
    (rd_trunc : ∀ st k a p q, good a → p ++ q = wr a → q ≠ [] → ∃ e, rd st k p = .error e)
    (rd_err : c.guarded = true → ∀ st k bs, rd st k bs ≠ .error .panic)
    (alloc_ok : c.guarded = true → ∀ k bs a rest, rd false k bs = .ok (a, rest) →
      c.alloc k bs ≤ c.depth * (bs.length - rest.length))
    (alloc_err : c.guarded = true → ∀ k bs, c.alloc k bs ≤ c.depth * (bs.length + k)) :
    CodecOK c := by
  have dec_ok : ∀ {st k bs v rest}, c.dec st k bs = .ok (v, rest) →
      ∃ a, v = inj a ∧ rd st k bs = .ok (a, rest) := by
    intro st k bs v rest h
    rw [hdec] at h
    split at h
    · rename_i a r h1
      injection h with h; injection h with e1 e2
      exact ⟨a, e1.symm, by rw [h1, e2]⟩
    · cases h
  refine .of_sound ?_ ?_ ?_ ?_ fun hg k bs => ⟨alloc_err hg k bs, fun v rest h => ?_⟩
  · intro st k v rest hc
    obtain ⟨a, rfl, ha⟩ := (hcanon v).mp hc
    rw [henc, hdec, rd_wr st k a rest ha]
  · intro st k bs v rest h
    obtain ⟨a, rfl, h1⟩ := dec_ok h
    obtain ⟨ha, cs, hb, hl, hs⟩ := rd_ok st k bs a rest h1
    exact ⟨(hcanon _).mpr ⟨a, rfl, ha⟩, cs, hb, hl, fun e => (hs e).trans (henc a).symm⟩
  · intro st k v p q hc h hq
    obtain ⟨a, rfl, ha⟩ := (hcanon v).mp hc
    obtain ⟨e, he⟩ := rd_trunc st k a p q ha (h.trans (henc a)) hq
    exact ⟨e, by rw [hdec, he]⟩
  · intro hg st k bs h
    rw [hdec] at h
    split at h
    · cases h
    · rename_i e h1; injection h with h; subst h; exact rd_err hg st k bs h1
  · obtain ⟨a, rfl, h1⟩ := dec_ok h
    obtain ⟨_, cs, hb, _, _⟩ := rd_ok false k bs a rest h1
    have := alloc_ok hg k bs a rest h1
    have hle : rest.length ≤ bs.length := by rw [hb, List.length_append]; exact Nat.le_add_left _ _
    refine ⟨hle, ?_⟩
    calc c.alloc k bs + c.depth * rest.length
        ≤ c.depth * (bs.length - rest.length) + c.depth * rest.length := Nat.add_le_add_right this _
      _ = c.depth * bs.length := by rw [← Nat.mul_add, Nat.sub_add_cancel hle]

theorem prefix_len_lt {p q x : Bytes} (h : p ++ q = x) (hq : q ≠ []) : p.length < x.length := by
  subst h
  have : 0 < q.length := List.length_pos_iff.mpr hq
  simp; omega

theorem u8_ok (lim : Nat) : CodecOK (Atom.u8.codec lim) :=
  .of_reader .nat (· < 256) (leBytes 1)
    (fun _ _ bs => match takeN 1 bs with | .ok (a, r) => .ok (leVal a, r) | .error e => .error e)
    (fun _ => isNat_iff) (fun _ => rfl)
    (fun _ _ bs => by simp only [Atom.codec]; rcases takeN 1 bs with e | ⟨a, r⟩ <;> rfl)
    (fun _ _ n rest h => by
      simp only [takeN_append' _ rest (leBytes_length 1 n), leVal_leBytes, Nat.pow_one, Nat.mod_eq_of_lt h])
    (fun _ _ bs n rest h => by
      split at h
      · rename_i a r h1
        obtain ⟨hb, hl⟩ := takeN_ok h1
        injection h with h; injection h with e1 e2; subst e1 e2
        have := leVal_lt a; rw [hl] at this
        exact ⟨this, a, hb, Nat.le_of_eq hl.symm, fun _ => by rw [← hl, leBytes_leVal]⟩
      · cases h)
    (fun _ _ n _ _ _ h hq => ⟨.short, by
      simp only [takeN_short (Nat.lt_of_lt_of_eq (prefix_len_lt h hq) (leBytes_length 1 n))]⟩)
    (fun _ _ _ bs h => by
      split at h
      · cases h
      · rename_i h1; injection h with h; subst h; cases (takeN_error h1).1)
    (fun _ _ _ _ _ _ => Nat.zero_le _) (fun _ _ _ => Nat.zero_le _)

theorem u64_ok (lim : Nat) : CodecOK (Atom.u64.codec lim) :=
  .of_reader .nat (· < W64) u64le (fun _ _ => readU64) (fun _ => isNat_iff) (fun _ => rfl)
    (fun _ _ bs => by simp only [Atom.codec, okNat]; rcases readU64 bs with e | ⟨a, r⟩ <;> rfl)
    (fun _ _ _ rest h => readU64_append h rest)
    (fun _ _ _ n _ h => ⟨(readU64_ok h).2, u64le n, (readU64_ok h).1, Nat.le_of_eq (u64le_length n).symm, fun _ => rfl⟩)
    (fun _ _ n _ _ _ h hq => ⟨_, readU64_short (Nat.lt_of_lt_of_eq (prefix_len_lt h hq) (u64le_length n))⟩)
    (fun _ _ _ _ h => nomatch (readU64_error h).1)
    (fun _ _ _ _ _ _ => Nat.zero_le _) (fun _ _ _ => Nat.zero_le _)

theorem bool_ok (lim : Nat) : CodecOK (Atom.bool.codec lim) :=
  .of_reader .bool (fun _ => True) (fun b => [if b then 1 else 0])
    (fun _ _ bs => match takeN 1 bs with
      | .ok (a, r) =>
        if leVal a = 0 then .ok (false, r) else if leVal a = 1 then .ok (true, r) else .error .invalid
      | .error e => .error e)
    (fun v => ⟨fun h => match v, h with | .bool b, _ => ⟨b, rfl, trivial⟩, fun ⟨_, e, _⟩ => e ▸ rfl⟩)
    (fun _ => rfl)
    (fun _ _ bs => by
      simp only [Atom.codec]
      rcases takeN 1 bs with e | ⟨a, r⟩
      · rfl
      · simp only; split; · rfl
        split <;> rfl)
    (fun _ _ b rest _ => by cases b <;> rfl)
    (fun _ _ bs b rest h => by
      split at h
      · rename_i a r h1
        obtain ⟨hb, hl⟩ := takeN_ok h1
        have hv : leVal a = (if b then 1 else 0) ∧ r = rest := by
          split at h
          · rename_i h0; cases h; exact ⟨h0, rfl⟩
          · split at h
            · rename_i h0; cases h; exact ⟨h0, rfl⟩
            · cases h
        refine ⟨trivial, a, hv.2 ▸ hb, Nat.le_of_eq hl.symm, fun _ => ?_⟩
        calc a = leBytes a.length (leVal a) := (leBytes_leVal a).symm
          _ = leBytes 1 (if b then 1 else 0) := by rw [hl, hv.1]
          _ = _ := by cases b <;> rfl
      · cases h)
    (fun _ _ b _ _ _ h hq => ⟨.short, by
      simp only [takeN_short (Nat.lt_of_lt_of_eq (prefix_len_lt h hq) List.length_singleton)]⟩)
    (fun _ _ _ bs h => by
      split at h
      · split at h
        · cases h
        · split at h <;> cases h
      · rename_i h1; injection h with h; subst h; cases (takeN_error h1).1)
    (fun _ _ _ _ _ _ => Nat.zero_le _) (fun _ _ _ => Nat.zero_le _)

theorem fixed_ok (lim n : Nat) : CodecOK ((Atom.fixed n).codec lim) :=
  .of_reader .bytes (·.length = n) id (fun _ _ => takeN n)
    (fun _ => isBytes_iff fun _ => beq_iff_eq) (fun _ => rfl)
    (fun _ _ bs => by simp only [Atom.codec, okBytes]; rcases takeN n bs with e | ⟨a, r⟩ <;> rfl)
    (fun _ _ a rest h => takeN_append' a rest h)
    (fun _ _ _ a _ h => ⟨(takeN_ok h).2, a, (takeN_ok h).1, Nat.le_of_eq (takeN_ok h).2.symm, fun _ => rfl⟩)
    (fun _ _ _ _ _ ha h hq => ⟨_, takeN_short (Nat.lt_of_lt_of_eq (prefix_len_lt h hq) ha)⟩)
    (fun _ _ _ _ h => nomatch (takeN_error h).1)
    (fun _ _ _ _ _ _ => Nat.zero_le _) (fun _ _ _ => Nat.zero_le _)

theorem readU64_takeN_ok {bs r a rest : Bytes} {n : Nat} (h1 : readU64 bs = .ok (n, r))
    (h2 : takeN n r = .ok (a, rest)) : bs = u64le a.length ++ a ++ rest ∧ a.length = n ∧ n < W64 := by
  obtain ⟨hb, hn⟩ := readU64_ok h1
  obtain ⟨hb2, hl⟩ := takeN_ok h2
  exact ⟨by rw [hb, hb2, hl, List.append_assoc], hl, hn⟩

theorem prefixed_trunc {b p q : Bytes} (hb : b.length < W64) (h : p ++ q = u64le b.length ++ b) (hq : q ≠ []) :
    readU64 p = .error .short ∨
      ∃ p', readU64 p = .ok (b.length, p') ∧ takeN b.length p' = .error .short := by
  rcases prefix_split h with ⟨q', h1, hq'⟩ | ⟨p', rfl, h2⟩
  · exact .inl (readU64_short (Nat.lt_of_lt_of_eq (prefix_len_lt h1 hq') (u64le_length _)))
  · exact .inr ⟨p', readU64_append hb p', takeN_short (prefix_len_lt h2 hq)⟩

theorem readPrefixed_append (k : Nat) {b : Bytes} (h : b.length < W64) (rest : Bytes) :
    readPrefixed k (u64le b.length ++ b ++ rest) = .ok (b, rest) := by
  unfold readPrefixed
  rw [List.append_assoc, readU64_append h]
  simp only
  rw [if_neg (by simp; omega), takeN_append]

theorem readPrefixed_ok {k : Nat} {bs a r : Bytes} (h : readPrefixed k bs = .ok (a, r)) :
    bs = u64le a.length ++ a ++ r ∧ a.length < W64 := by
  unfold readPrefixed at h
  split at h
  · rename_i n r1 h1
    split at h
    · cases h
    · obtain ⟨hb, hl, hn⟩ := readU64_takeN_ok h1 h
      exact ⟨hb, hl ▸ hn⟩
  · cases h

theorem readPrefixed_error {k : Nat} {bs : Bytes} {e : DecErr} (h : readPrefixed k bs = .error e) :
    e = .short ∨ e = .invalid := by
  unfold readPrefixed at h
  split at h
  · split at h
    · injection h with h; exact Or.inr h.symm
    · exact Or.inl (takeN_error h).1
  · rename_i e' h1; injection h with h; subst h; exact Or.inl (readU64_error h1).1

theorem readPrefixed_trunc {k : Nat} {b p q : Bytes} (hb : b.length < W64)
    (h : p ++ q = u64le b.length ++ b) (hq : q ≠ []) : ∃ e, readPrefixed k p = .error e := by
  unfold readPrefixed
  rcases prefixed_trunc hb h hq with h1 | ⟨p', h1, h2⟩
  · exact ⟨.short, by rw [h1]⟩
  · rw [h1]; simp only [h2]; split <;> exact ⟨_, rfl⟩

theorem allocPrefixed_ok {k : Nat} {bs a r : Bytes} (h : readPrefixed k bs = .ok (a, r)) :
    allocPrefixed k bs = a.length := by
  unfold readPrefixed at h
  unfold allocPrefixed
  split at h
  · rename_i n r1 h1
    split at h
    · cases h
    · rename_i hg
      rw [if_neg hg]
      exact (takeN_ok h).2.symm
  · cases h

theorem allocPrefixed_le (k : Nat) (bs : Bytes) : allocPrefixed k bs ≤ bs.length + k := by
  unfold allocPrefixed
  split
  · rename_i n r h1
    obtain ⟨hb, _⟩ := readU64_ok h1
    split
    · omega
    · subst hb; simp [u64le_length]; omega
  · omega

theorem prefixed_length_ge (n : Nat) (a : Bytes) : 8 ≤ (u64le n ++ a).length := by
  rw [List.length_append, u64le_length]; exact Nat.le_add_right _ _

theorem bytes_ok (lim : Nat) : CodecOK (Atom.bytes.codec lim) :=
  .of_reader .bytes (·.length < W64) (fun a => u64le a.length ++ a) (fun _ k => readPrefixed k)
    (fun _ => isBytes_iff fun _ => decide_eq_true_iff) (fun _ => rfl)
    (fun _ k bs => by simp only [Atom.codec, okBytes]; rcases readPrefixed k bs with e | ⟨a, r⟩ <;> rfl)
    (fun _ k _ rest h => readPrefixed_append k h rest)
    (fun _ _ _ a _ h => ⟨(readPrefixed_ok h).2, _, (readPrefixed_ok h).1, prefixed_length_ge _ a, fun _ => rfl⟩)
    (fun _ _ _ _ _ ha h hq => readPrefixed_trunc ha h hq)
    (fun _ _ _ _ h => by rcases readPrefixed_error h with h | h <;> cases h)
    (fun _ k bs a rest h => by
      show allocPrefixed k bs ≤ 1 * _
      rw [allocPrefixed_ok h, (readPrefixed_ok h).1]
      simp only [List.length_append]; omega)
    (fun _ k bs => Nat.le_trans (allocPrefixed_le k bs) (Nat.le_of_eq (Nat.one_mul _).symm))

theorem copyInto_self {n : Nat} {b : Bytes} (h : b.length = n) : copyInto n b = b := by
  subst h; simp [copyInto, zeros]

theorem copyInto_length (n : Nat) (b : Bytes) : (copyInto n b).length = n := by
  simp [copyInto, zeros]; omega

theorem pfixed_ok (lim n : Nat) : CodecOK ((Atom.pfixed n).codec lim) :=
  .of_reader .bytes (fun b => b.length = n ∧ n < W64) (fun a => u64le a.length ++ a)
    (fun st k bs => match readPrefixed k bs with
      | .ok (a, r) =>
        if (st && a.length != n) || decide (W64 ≤ n) then .error .invalid else .ok (copyInto n a, r)
      | .error e => .error e)
    (fun _ => isBytes_iff fun _ => by simp) (fun _ => rfl)
    (fun st k bs => by
      simp only [Atom.codec]
      rcases readPrefixed k bs with e | ⟨a, r⟩
      · rfl
      · simp only; split <;> rfl)
    (fun st k a rest h => by
      obtain ⟨rfl, hn⟩ := h
      simp only [readPrefixed_append k hn rest]
      simp [Nat.not_le.mpr hn, copyInto_self])
    (fun st k bs b rest h => by
      split at h
      · rename_i a r h1
        obtain ⟨hb, hl⟩ := readPrefixed_ok h1
        split at h
        · cases h
        · rename_i hs
          cases h
          simp only [Bool.or_eq_true, Bool.and_eq_true, bne_iff_ne, decide_eq_true_eq, not_or, not_and,
            Decidable.not_not, Nat.not_le] at hs
          refine ⟨⟨copyInto_length n a, hs.2⟩, _, hb, prefixed_length_ge _ a, fun e => ?_⟩
          rw [copyInto_self (hs.1 e)]
      · cases h)
    (fun _ k _ _ _ ha h hq => by
      obtain ⟨e, he⟩ := readPrefixed_trunc (k := k) (ha.1 ▸ ha.2) h hq
      exact ⟨e, by simp only [he]⟩)
    (fun _ _ _ _ h => by
      split at h
      · split at h <;> cases h
      · rename_i h1; injection h with h; subst h
        rcases readPrefixed_error h1 with h | h <;> cases h)
    (fun _ k bs b rest h => by
      split at h
      · rename_i a r h1
        split at h
        · cases h
        · cases h
          show allocPrefixed k bs ≤ 1 * _
          rw [allocPrefixed_ok h1, (readPrefixed_ok h1).1]
          simp only [List.length_append]; omega
      · cases h)
    (fun _ k bs => Nat.le_trans (allocPrefixed_le k bs) (Nat.le_of_eq (Nat.one_mul _).symm))

theorem readCur1_error {st : Bool} {bs : Bytes} {e : DecErr} (h : readCur1 st bs = .error e) :
    e = .short ∨ e = .invalid := by
  unfold readCur1 at h
  split at h
  · split at h
    · injection h with h; exact Or.inr h.symm
    · split at h
      · split at h
        · injection h with h; exact Or.inr h.symm
        · cases h
      · rename_i e' h2; injection h with h; subst h; exact Or.inl (takeN_error h2).1
  · rename_i e' h1; injection h with h; subst h; exact Or.inl (readU64_error h1).1

theorem readCur1_trunc {st : Bool} {n : Nat} {p q : Bytes}
    (h : p ++ q = encCur1 n) (hq : q ≠ []) : ∃ e, readCur1 st p = .error e := by
  have hl : (trimZeros (be16 n)).length ≤ 16 := be16_length n ▸ trimZeros_length_le (be16 n)
  unfold readCur1
  rcases prefixed_trunc (Nat.lt_of_le_of_lt hl (by decide)) h hq with h1 | ⟨p', h1, h2⟩
  · exact ⟨.short, by rw [h1]⟩
  · rw [h1]; simp only [h2, if_neg (Nat.not_lt.mpr hl)]; exact ⟨_, rfl⟩

theorem readCur1_sound {st : Bool} {bs r : Bytes} {n : Nat} (h : readCur1 st bs = .ok (n, r)) :
    ∃ cs, bs = cs ++ r ∧ 8 ≤ cs.length ∧ (st = true → cs = encCur1 n) := by
  obtain ⟨_, a, hb, _, _, _⟩ := readCur1_ok h
  refine ⟨u64le a.length ++ a, hb, prefixed_length_ge _ a, fun e => ?_⟩
  subst e
  exact List.append_cancel_right (hb.symm.trans (readCur1_strict_enc h).symm)

theorem cur1_ok (lim : Nat) : CodecOK (Atom.cur1.codec lim) :=
  .of_reader .nat (· < W128) encCur1 (fun st _ => readCur1 st) (fun _ => isNat_iff) (fun _ => rfl)
    (fun st _ bs => by simp only [Atom.codec, okNat]; rcases readCur1 st bs with e | ⟨a, r⟩ <;> rfl)
    (fun st _ _ rest h => readCur1_append st h rest)
    (fun _ _ _ _ _ h =>
      have ⟨cs, hb, hl, hs⟩ := readCur1_sound h
      ⟨(readCur1_ok h).1, cs, hb, hl, hs⟩)
    (fun _ _ _ _ _ _ h hq => readCur1_trunc h hq)
    (fun _ _ _ _ h => by rcases readCur1_error h with h | h <;> cases h)
    (fun _ _ _ _ _ _ => Nat.zero_le _) (fun _ _ _ => Nat.zero_le _)

theorem sfval1_ok (lim : Nat) : CodecOK (Atom.sfval1.codec lim) :=
  .of_reader .nat (· < W64) encCur1
    (fun st _ bs => match readCur1 st bs with
      | .ok (n, r) => if W64 ≤ n then .error .invalid else .ok (n, r)
      | .error e => .error e)
    (fun _ => isNat_iff) (fun _ => rfl)
    (fun st _ bs => by
      simp only [Atom.codec]
      rcases readCur1 st bs with e | ⟨n, r⟩
      · rfl
      · simp only; split <;> rfl)
    (fun st _ n rest h => by
      simp only [readCur1_append st (Nat.lt_trans h (by decide : W64 < W128)) rest, if_neg (Nat.not_le.mpr h)])
    (fun _ _ _ _ _ h => by
      split at h
      · rename_i n r h1
        split at h
        · cases h
        · rename_i hn
          cases h
          have ⟨cs, hb, hl, hs⟩ := readCur1_sound h1
          exact ⟨Nat.not_le.mp hn, cs, hb, hl, hs⟩
      · cases h)
    (fun st _ _ _ _ _ h hq => by
      obtain ⟨e, he⟩ := readCur1_trunc (st := st) h hq
      exact ⟨e, by simp only [he]⟩)
    (fun _ _ _ _ h => by
      split at h
      · split at h <;> cases h
      · rename_i h1; injection h with h; subst h
        rcases readCur1_error h1 with h | h <;> cases h)
    (fun _ _ _ _ _ _ => Nat.zero_le _) (fun _ _ _ => Nat.zero_le _)

theorem cur1pad_ok (lim : Nat) : CodecOK (Atom.cur1pad.codec lim) :=
  .of_reader (fun _ : Unit => .unit) (fun _ => True) (fun _ => encCur1 0)
    (fun st _ bs => match readCur1 st bs with
      | .ok (n, r) => if st && n != 0 then .error .invalid else .ok ((), r)
      | .error e => .error e)
    (fun v => ⟨fun h => match v, h with | .unit, _ => ⟨(), rfl, trivial⟩, fun ⟨_, e, _⟩ => e ▸ rfl⟩)
    (fun _ => rfl)
    (fun st _ bs => by
      simp only [Atom.codec]
      rcases readCur1 st bs with e | ⟨n, r⟩
      · rfl
      · simp only; split <;> rfl)
    (fun st _ _ rest _ => by
      simp only [readCur1_append st (by decide : 0 < W128) rest, bne_self_eq_false, Bool.and_false,
        Bool.false_eq_true, if_false])
    (fun _ _ _ _ _ h => by
      split at h
      · rename_i n r h1
        split at h
        · cases h
        · rename_i hn
          cases h
          have ⟨cs, hb, hl, hs⟩ := readCur1_sound h1
          refine ⟨trivial, cs, hb, hl, fun e => ?_⟩
          subst e
          have : n = 0 := by simpa using hn
          exact this ▸ hs rfl
      · cases h)
    (fun st _ _ _ _ _ h hq => by
      obtain ⟨e, he⟩ := readCur1_trunc (st := st) h hq
      exact ⟨e, by simp only [he]⟩)
    (fun _ _ _ _ h => by
      split at h
      · split at h <;> cases h
      · rename_i h1; injection h with h; subst h
        rcases readCur1_error h1 with h | h <;> cases h)
    (fun _ _ _ _ _ _ => Nat.zero_le _) (fun _ _ _ => Nat.zero_le _)

theorem ubytes_ok (lim : Nat) : CodecOK (Atom.ubytes.codec lim) :=
  .of_reader .bytes (fun a => a.length < W64 ∧ a.length ≤ lim) (fun a => u64le a.length ++ a)
    (fun _ _ bs => match readU64 bs with
      | .ok (n, r) => if lim < n then .error .panic else takeN n r
      | .error e => .error e)
    (fun _ => isBytes_iff fun _ => by simp) (fun _ => rfl)
    (fun _ _ bs => by
      simp only [Atom.codec]
      rcases readU64 bs with e | ⟨n, r⟩
      · rfl
      · simp only; split; · rfl
        simp only [okBytes]; rcases takeN n r with e | ⟨a, r'⟩ <;> rfl)
    (fun _ _ a rest h => by
      simp only [List.append_assoc, readU64_append h.1, if_neg (Nat.not_lt.mpr h.2), takeN_append])
    (fun _ _ _ a _ h => by
      split at h
      · rename_i n r h1
        split at h
        · cases h
        · rename_i hn
          obtain ⟨hb, hl, hn'⟩ := readU64_takeN_ok h1 h
          exact ⟨⟨hl ▸ hn', hl ▸ Nat.not_lt.mp hn⟩, _, hb, prefixed_length_ge _ a, fun _ => rfl⟩
      · cases h)
    (fun _ _ _ _ _ ha h hq => by
      rcases prefixed_trunc ha.1 h hq with h1 | ⟨p', h1, h2⟩
      · exact ⟨.short, by simp only [h1]⟩
      · simp only [h1, h2]; split <;> exact ⟨_, rfl⟩)
    (fun hg => nomatch hg) (fun hg => nomatch hg) (fun hg => nomatch hg)

theorem cbytes_ok (lim : Nat) : CodecOK (Atom.cbytes.codec lim) :=
  .of_reader .bytes (·.length < W64) (fun a => u64le a.length ++ a)
    (fun _ _ bs => match readU64 bs with
      | .ok (n, r) => takeN n r
      | .error e => .error e)
    (fun _ => isBytes_iff fun _ => decide_eq_true_iff) (fun _ => rfl)
    (fun _ _ bs => by
      simp only [Atom.codec]
      rcases readU64 bs with e | ⟨n, r⟩
      · rfl
      · simp only [okBytes]; rcases takeN n r with e | ⟨a, r'⟩ <;> rfl)
    (fun _ _ a rest h => by simp only [List.append_assoc, readU64_append h, takeN_append])
    (fun _ _ _ a _ h => by
      split at h
      · rename_i n r h1
        obtain ⟨hb, hl, hn⟩ := readU64_takeN_ok h1 h
        exact ⟨hl ▸ hn, _, hb, prefixed_length_ge _ a, fun _ => rfl⟩
      · cases h)
    (fun _ _ _ _ _ ha h hq => by
      rcases prefixed_trunc ha h hq with h1 | ⟨p', h1, h2⟩
      · exact ⟨.short, by simp only [h1]⟩
      · exact ⟨.short, by simp only [h1, h2]⟩)
    (fun _ _ _ bs h => by
      split at h
      · cases (takeN_error h).1
      · rename_i h1; injection h with h; subst h; cases (readU64_error h1).1)
    (fun _ k bs a rest h => by
      show (match readU64 bs with | .ok (n, r) => min n r.length | .error _ => 0) ≤ 1 * _
      split at h
      · rename_i n r h1
        obtain ⟨hb, hl, _⟩ := readU64_takeN_ok h1 h
        rw [Nat.one_mul, hb]; simp only [List.length_append, Nat.add_sub_cancel]
        exact Nat.le_trans (Nat.min_le_left _ _) (hl ▸ Nat.le_add_left _ _)
      · cases h)
    (fun _ k bs => by
      show (match readU64 bs with | .ok (n, r) => min n r.length | .error _ => 0) ≤ 1 * _
      split
      · rename_i n r h1
        rw [Nat.one_mul, (readU64_ok h1).1, List.length_append]
        exact Nat.le_trans (Nat.min_le_right _ _) (Nat.le_trans (Nat.le_add_left _ _) (Nat.le_add_right _ _))
      · exact Nat.zero_le _)

theorem atom_ok (lim : Nat) : (a : Atom) → CodecOK (a.codec lim)
  | .u8 => u8_ok lim
  | .u64 => u64_ok lim
  | .bool => bool_ok lim
  | .time => u64_ok lim
  | .fixed n => fixed_ok lim n
  | .bytes => bytes_ok lim
  | .str => bytes_ok lim
  | .pfixed n => pfixed_ok lim n
  | .cur1 => cur1_ok lim
  | .sfval1 => sfval1_ok lim
  | .cur1pad => cur1pad_ok lim
  | .ubytes => ubytes_ok lim
  | .cbytes => cbytes_ok lim

end Sia.Codec
