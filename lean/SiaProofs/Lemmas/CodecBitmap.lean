import SiaProofs.Lemmas.CodecComb
/-! The bitmap codec (`V2Transaction`): the field decoder `decFields` round-trips, is sound and fails on truncations
field by field, the mask bit deciding whether a field is read; `bitmap_ok` puts the version byte and the mask in front. -/
namespace Sia.Codec

def FieldsOK (fs : List BitField) : Prop := ∀ f ∈ fs, CodecOK f.c

theorem FieldsOK.head {f : BitField} {fs : List BitField} (h : FieldsOK (f :: fs)) : CodecOK f.c :=
  h f (by simp)
theorem FieldsOK.tail {f : BitField} {fs : List BitField} (h : FieldsOK (f :: fs)) : FieldsOK fs :=
  fun g hg => h g (by simp [hg])

theorem maskOf_lt (l : List Bool) : maskOf l < 2 ^ l.length := by
  induction l with
  | nil => simp [maskOf]
  | cons b bs ih =>
    simp only [maskOf, List.length_cons, Nat.pow_succ]
    cases b <;> simp <;> omega

theorem maskOf_cons_true (bs : List Bool) : maskOf (true :: bs) % 2 = 1 ∧ maskOf (true :: bs) / 2 = maskOf bs := by
  simp only [maskOf]; constructor <;> simp <;> omega
theorem maskOf_cons_false (bs : List Bool) : maskOf (false :: bs) % 2 = 0 ∧ maskOf (false :: bs) / 2 = maskOf bs := by
  simp only [maskOf]; constructor <;> simp <;> omega

theorem canonFields_length {fs : List BitField} {vs : List Val} (h : canonFields fs vs = true) :
    vs.length = fs.length := by
  induction fs generalizing vs with
  | nil => simp [canonFields] at h; simp [h]
  | cons f fs ih =>
    cases vs with
    | nil => simp [canonFields] at h
    | cons v vs' =>
      simp only [canonFields, Bool.and_eq_true] at h
      simp [ih h.2]

theorem canon_entry {f : BitField} {v : Val}
    (h : (match v with | .some x => f.c.canon x && !f.isZero x | .none => true | _ => false) = true) :
    v = .none ∨ ∃ x, v = .some x ∧ f.c.canon x = true ∧ f.isZero x = false := by
  cases v <;> simp at h
  · exact Or.inl rfl
  · exact Or.inr ⟨_, rfl, h.1, h.2⟩

theorem decFields_roundtrip {fs : List BitField} (hfs : FieldsOK fs) (st : Bool) (k : Nat)
    (vs : List Val) (hc : canonFields fs vs = true) (rest : Bytes) :
    decFields st k fs (maskOf (vs.map isSome)) (encFields fs vs ++ rest) = .ok (vs, rest) := by
  induction fs generalizing vs with
  | nil =>
    simp [canonFields] at hc; subst hc
    simp [decFields, encFields]
  | cons f fs ih =>
    cases vs with
    | nil => simp [canonFields] at hc
    | cons v vs' =>
      simp only [canonFields, Bool.and_eq_true] at hc
      rcases canon_entry hc.1 with hv | ⟨x, hv, hcx, hz⟩
      · subst hv
        have hm := maskOf_cons_false (vs'.map isSome)
        simp only [List.map_cons, isSome, decFields, encFields, List.nil_append]
        rw [hm.1, hm.2]
        simp only [show ¬ (0 = 1) by decide, ↓reduceIte]
        rw [ih hfs.tail vs' hc.2]; rfl
      · subst hv
        have hm := maskOf_cons_true (vs'.map isSome)
        simp only [List.map_cons, isSome, decFields, encFields, List.append_assoc]
        rw [hm.1, hm.2]
        simp only [↓reduceIte]
        rw [hfs.head.roundtrip st k x _ hcx]
        simp only [hz, Bool.false_eq_true, ↓reduceIte]
        rw [ih hfs.tail vs' hc.2]; rfl

theorem decFields_trunc {fs : List BitField} (hfs : FieldsOK fs) (st : Bool) (k : Nat)
    (vs : List Val) (hc : canonFields fs vs = true) (p q : Bytes)
    (h : p ++ q = encFields fs vs) (hq : q ≠ []) :
    ∃ e, decFields st k fs (maskOf (vs.map isSome)) p = .error e := by
  induction fs generalizing vs p with
  | nil => simp [encFields] at h; exact absurd h.2 hq
  | cons f fs ih =>
    cases vs with
    | nil => simp [canonFields] at hc
    | cons v vs' =>
      simp only [canonFields, Bool.and_eq_true] at hc
      rcases canon_entry hc.1 with hv | ⟨x, hv, hcx, hz⟩
      · subst hv
        have hm := maskOf_cons_false (vs'.map isSome)
        simp only [encFields, List.nil_append] at h
        simp only [List.map_cons, isSome, decFields]
        rw [hm.1, hm.2]
        simp only [show ¬ (0 = 1) by decide, ↓reduceIte]
        obtain ⟨e, he⟩ := ih hfs.tail vs' hc.2 p h
        rw [he]; exact ⟨_, rfl⟩
      · subst hv
        have hm := maskOf_cons_true (vs'.map isSome)
        simp only [encFields] at h
        simp only [List.map_cons, isSome, decFields]
        rw [hm.1, hm.2]
        simp only [↓reduceIte]
        rcases prefix_split h with ⟨q', h1, hq'⟩ | ⟨p', h1, h2⟩
        · obtain ⟨e, he⟩ := hfs.head.trunc st k x p q' hcx h1 hq'
          rw [he]; exact ⟨_, rfl⟩
        · subst h1
          rw [hfs.head.roundtrip st k x _ hcx]
          simp only [hz, Bool.false_eq_true, ↓reduceIte]
          obtain ⟨e, he⟩ := ih hfs.tail vs' hc.2 p' h2
          rw [he]; exact ⟨_, rfl⟩

theorem consOk_ok {v : Val} {r : Except DecErr (List Val × Bytes)} {vs : List Val} {rest : Bytes}
    (h : consOk v r = .ok (vs, rest)) : ∃ vs', r = .ok (vs', rest) ∧ vs = v :: vs' := by
  unfold consOk at h
  split at h
  · rename_i vs' r'
    injection h with h; injection h with e1 e2; subst e1; subst e2
    exact ⟨vs', rfl, rfl⟩
  · cases h

theorem decFields_sound {fs : List BitField} (hfs : FieldsOK fs) (st : Bool) (k : Nat)
    (m : Nat) (bs : Bytes) (vs : List Val) (rest : Bytes)
    (h : decFields st k fs m bs = .ok (vs, rest)) :
    canonFields fs vs = true ∧ ∃ cs, bs = cs ++ rest ∧
      (st = true → cs = encFields fs vs ∧ maskOf (vs.map isSome) = m % 2 ^ fs.length) := by
  induction fs generalizing m bs vs with
  | nil =>
    cases h
    exact ⟨rfl, [], rfl, fun _ => ⟨rfl, (Nat.mod_one m).symm⟩⟩
  | cons f fs ih =>
    have hpow : m % 2 ^ (fs.length + 1) = m % 2 + 2 * (m / 2 % 2 ^ fs.length) := by
      rw [Nat.pow_succ, Nat.mul_comm, Nat.mod_mul]
    simp only [decFields] at h
    split at h
    · rename_i hbit
      split at h
      · rename_i x r hd
        obtain ⟨hcx, c1, hb1, _, hs1⟩ := hfs.head.sound hd
        split at h
        · split at h
          · cases h
          · rename_i hst
            obtain ⟨vs', h2, rfl⟩ := consOk_ok h
            obtain ⟨hc, c2, hb2, _⟩ := ih hfs.tail _ _ _ h2
            exact ⟨by simp [canonFields, hc], c1 ++ c2, by rw [hb1, hb2, List.append_assoc],
              fun e => absurd e hst⟩
        · rename_i hz
          obtain ⟨vs', h2, rfl⟩ := consOk_ok h
          obtain ⟨hc, c2, hb2, hs2⟩ := ih hfs.tail _ _ _ h2
          refine ⟨?_, c1 ++ c2, by rw [hb1, hb2, List.append_assoc], fun e => ?_⟩
          · simp only [canonFields, Bool.and_eq_true]
            exact ⟨by simp [hcx, hz], hc⟩
          · obtain ⟨he, hm⟩ := hs2 e
            refine ⟨by rw [hs1 e, he]; rfl, ?_⟩
            simp only [List.map_cons, isSome, maskOf, List.length_cons, ↓reduceIte]
            rw [hm, hpow, hbit]
      · cases h
    · rename_i hbit
      obtain ⟨vs', h2, rfl⟩ := consOk_ok h
      obtain ⟨hc, c2, hb2, hs2⟩ := ih hfs.tail _ _ _ h2
      refine ⟨by simp [canonFields, hc], c2, hb2, fun e => ?_⟩
      obtain ⟨he, hm⟩ := hs2 e
      refine ⟨he, ?_⟩
      simp only [List.map_cons, isSome, maskOf, List.length_cons, Bool.false_eq_true, ↓reduceIte]
      rw [hm, hpow]; omega

theorem consOk_error {v : Val} {r : Except DecErr (List Val × Bytes)} {e : DecErr}
    (h : consOk v r = .error e) : r = .error e := by
  unfold consOk at h
  split at h
  · cases h
  · rename_i e' ; injection h with h; subst h; rfl

theorem decFields_no_panic {fs : List BitField} (hfs : FieldsOK fs) (hg : fieldsGuarded fs = true)
    (st : Bool) (k : Nat) (m : Nat) (bs : Bytes) : decFields st k fs m bs ≠ .error .panic := by
  induction fs generalizing m bs with
  | nil => simp [decFields]
  | cons f fs ih =>
    simp only [fieldsGuarded, Bool.and_eq_true] at hg
    simp only [decFields]
    split
    · split
      · split
        · split
          · simp
          · intro h; exact ih hfs.tail hg.2 _ _ (consOk_error h)
        · intro h; exact ih hfs.tail hg.2 _ _ (consOk_error h)
      · rename_i e hd; intro h; injection h with h; subst h
        exact hfs.head.no_panic hg.1 st k bs hd
    · intro h; exact ih hfs.tail hg.2 _ _ (consOk_error h)

theorem fields_pays {fs : List BitField} (hfs : FieldsOK fs) (hg : fieldsGuarded fs = true) (k m : Nat) :
    Pays (decFields false k fs m) (allocFields k fs m) (fieldsDepth fs) k := by
  induction fs generalizing m with
  | nil => exact .free (fun _ => rfl) fun _ _ _ h => by cases h; exact Nat.le_refl _
  | cons f fs ih =>
    simp only [fieldsGuarded, Bool.and_eq_true] at hg
    have ih := fun m => (ih hfs.tail hg.2 m).mono (Nat.le_max_right f.c.depth _)
    by_cases hb : m % 2 = 1
    · refine ((hfs.head.pays hg.1 k).mono (Nat.le_max_left _ (fieldsDepth fs))).seq
        (fun bs x r h => ⟨_, _, ih (m / 2), by simp only [allocFields, hb, if_true, h], fun c rest hc => ?_⟩)
        (fun bs e h => by simp only [allocFields, decFields, hb, if_true, h]; exact ⟨trivial, nofun⟩)
      simp only [decFields, hb, if_true, h, Bool.false_eq_true, if_false] at hc
      split at hc <;> exact let ⟨vs, h2, _⟩ := consOk_ok hc; ⟨vs, h2⟩
    · intro bs
      simp only [allocFields, decFields, hb, if_false]
      exact ⟨(ih (m / 2) bs).1, fun c rest hc => let ⟨vs, h2, _⟩ := consOk_ok hc; (ih (m / 2) bs).2 vs rest h2⟩

theorem pow_le_W64 {n : Nat} (h : n ≤ 64) : 2 ^ n ≤ W64 := by
  have := Nat.pow_le_pow_right (show 0 < 2 by decide) h
  unfold W64; omega

theorem bitmap_ok {version : Nat} {fs : List BitField} (hv : version < 256) (hn : fs.length ≤ 64)
    (hfs : FieldsOK fs) : CodecOK (Codec.bitmap version fs) := by
  have canon_inv : ∀ {v}, (Codec.bitmap version fs).canon v = true →
      ∃ vs, v = .list vs ∧ canonFields fs vs = true ∧ maskOf (vs.map isSome) < 2 ^ fs.length :=
    fun {v} h => match v, h with
    | .list vs, h =>
      have hc := ((Bool.and_eq_true _ _).mp h).2
      ⟨vs, rfl, hc, by have := maskOf_lt (vs.map isSome); rwa [List.length_map, canonFields_length hc] at this⟩
  refine .of_sound ?_ ?_ ?_ ?_ ?_
  · intro st k v rest hc
    obtain ⟨vs, rfl, hcf, hm⟩ := canon_inv hc
    simp only [Codec.bitmap, List.append_assoc]
    rw [takeN_append' _ _ (leBytes_length 1 version)]
    simp only [leVal_leBytes_one hv, ne_eq, not_true_eq_false, ↓reduceIte]
    rw [readU64_append (Nat.lt_of_lt_of_le hm (pow_le_W64 hn))]
    simp only
    rw [if_neg (by simp; omega)]
    rw [decFields_roundtrip hfs st k vs hcf rest]; rfl
  · intro st k bs v rest h
    simp only [Codec.bitmap] at h ⊢
    split at h
    · rename_i a r h1
      obtain ⟨hb, hl⟩ := takeN_ok h1
      split at h
      · cases h
      · rename_i hva
        have hva' : leVal a = version := by simpa using hva
        split at h
        · rename_i m r2 h2
          obtain ⟨hb2, _⟩ := readU64_ok h2
          split at h
          · cases h
          · rename_i hst
            obtain ⟨vs, h3, rfl⟩ := okList_ok h
            obtain ⟨hc, cs, hcs, hs⟩ := decFields_sound hfs st k m r2 vs rest h3
            refine ⟨by simp [hv, hn, hc], a ++ (u64le m ++ cs), by rw [hb, hb2, hcs]; simp,
              by simp [u64le_length]; omega, fun e => ?_⟩
            subst e
            obtain ⟨he, hm⟩ := hs rfl
            have hmm : m % 2 ^ fs.length = m := Nat.mod_eq_of_lt (by simpa using hst)
            show a ++ (u64le m ++ cs) =
              leBytes 1 version ++ (u64le (maskOf (vs.map isSome)) ++ encFields fs vs)
            rw [hm, hmm, he, ← hva', leBytes_one_leVal hl]
        · cases h
    · cases h
  · intro st k v p q hc h hq
    obtain ⟨vs, rfl, hcf, hm⟩ := canon_inv hc
    have hm64 : maskOf (vs.map isSome) < W64 := Nat.lt_of_lt_of_le hm (pow_le_W64 hn)
    simp only [Codec.bitmap] at h ⊢
    rcases prefix_split h with ⟨q', h1, hq'⟩ | ⟨p', rfl, h2⟩
    · rw [takeN_short (Nat.lt_of_lt_of_eq (prefix_len_lt h1 hq') (leBytes_length 1 _))]; exact ⟨_, rfl⟩
    · rw [takeN_append' _ _ (leBytes_length 1 version)]
      simp only [leVal_leBytes_one hv, ne_eq, not_true_eq_false, ↓reduceIte]
      rcases prefix_split h2 with ⟨q', h1, hq'⟩ | ⟨p'', rfl, h3⟩
      · rw [readU64_short (Nat.lt_of_lt_of_eq (prefix_len_lt h1 hq') (u64le_length _))]; exact ⟨_, rfl⟩
      · rw [readU64_append hm64]
        simp only
        rw [if_neg (by simp; omega)]
        obtain ⟨e, he⟩ := decFields_trunc hfs st k vs hcf p'' q h3 hq
        rw [he]; exact ⟨_, rfl⟩
  · intro hg st k bs
    simp only [Codec.bitmap] at hg ⊢
    split
    · split
      · simp
      · split
        · split
          · simp
          · unfold okList
            split
            · simp
            · rename_i e h3; intro h; injection h with h; subst h
              exact decFields_no_panic hfs hg st k _ _ h3
        · rename_i e h2; have := (readU64_error h2).1; subst this; simp
    · rename_i e h1; have := (takeN_error h1).1; subst this; simp
  · intro hg k bs
    simp only [Codec.bitmap] at hg ⊢
    split
    · rename_i a r h1
      have hl : r.length ≤ bs.length := ((takeN_pays 1 0 0 bs).2 a r h1).1
      split
      · exact ⟨Nat.zero_le _, nofun⟩
      · split
        · rename_i m r2 h2
          have := ((fields_pays hfs hg k m).after (Nat.le_trans ((readU64_pays 0 0 r).2 m r2 h2).1 hl))
          exact ⟨this.1, fun v rest h => let ⟨vs, h3, _⟩ := okList_ok h; this.2 vs rest h3⟩
        · exact ⟨Nat.zero_le _, nofun⟩
    · exact ⟨Nat.zero_le _, nofun⟩

end Sia.Codec
