import SiaProofs.Lemmas.LedgerVM
import SiaProofs.Lemmas.LedgerValue
/-!
# The overflow pre-checks of the two transaction validators, as bounds on plain sums

`validateCurrencyOverflow`, `validateTaxPool` and their v2 forms run `sumChecked` over a list of values of the
transaction and reject if it does not return.  `sumChecked` returns iff the plain sum stays below 2^128
(`sumChecked_eq_some_iff`), so each pre-check accepts iff a sum is below 2^128 (and no siafund output exceeds the supply).
`v1_overflow_bounds` and `v2_created_bounds` read off what that says of each single contract of the transaction.
-/
namespace Sia.Ledger

theorem sumChecked_isNone_iff (l : List Cur) : (sumChecked l).isNone = true ↔ curLimit ≤ l.sum := by
  cases h : sumChecked l with
  | none =>
    refine ⟨fun _ => Nat.le_of_not_lt fun hl => ?_, fun _ => rfl⟩
    cases h.symm.trans ((sumChecked_eq_some_iff l _).2 ⟨rfl, hl⟩)
  | some s => exact ⟨fun hn => (by cases hn), fun hl => absurd ((sumChecked_eq_some_iff l _).1 h).2 (Nat.not_lt.2 hl)⟩

theorem sfOuts_not_any_gt_iff (l : List (Id × Nat × Addr)) :
    ¬ l.any (fun (_, v, _) => v > 10000) = true ↔ ∀ x ∈ l, x.2.1 ≤ 10000 := by
  simp only [List.any_eq_true, decide_eq_true_eq, not_exists, not_and, Nat.not_lt]

theorem validateCurrencyOverflow_ok_iff (t : Txn1) :
    validateCurrencyOverflow t = .ok () ↔ (t.currencyValues.sum < curLimit ∧ ∀ x ∈ t.sfOuts, x.2.1 ≤ 10000) := by
  unfold validateCurrencyOverflow
  rw [ite_reject_ok_iff, not_or, sumChecked_isNone_iff, sfOuts_not_any_gt_iff, Nat.not_le]
  exact and_iff_left rfl

theorem sum_le_flatten_sum {ls : List (List Cur)} {l : List Cur} (h : l ∈ ls) : l.sum ≤ ls.flatten.sum := by
  induction ls with
  | nil => cases h
  | cons a ls ih =>
    rw [List.flatten_cons, List.sum_append]
    rcases List.mem_cons.1 h with rfl | h
    · cur_omega
    · have := ih h; cur_omega

/-- the sum `validateCurrencyOverflow` bounds, by segment; the pair pattern of the model is spelt with projections -/
theorem currencyValues_sum (t : Txn1) : t.currencyValues.sum =
    (t.scOuts.map (·.2.value)).sum +
      (t.fcs.map fun x => [x.2.payout] ++ x.2.valid.map (·.value) ++ x.2.missed.map (·.value)).flatten.sum +
      (t.revs.map fun r => r.fc.valid.map (·.value) ++ r.fc.missed.map (·.value)).flatten.sum := by
  unfold Txn1.currencyValues
  rw [List.sum_append, List.sum_append]

theorem v1_overflow_bounds {t : Txn1} (hov : validateCurrencyOverflow t = .ok ()) :
    (∀ x ∈ t.fcs, x.2.payout + sumVals x.2.valid + sumVals x.2.missed < curLimit) ∧
    (∀ r ∈ t.revs, sumVals r.fc.valid + sumVals r.fc.missed < curLimit) := by
  have htot := currencyValues_sum t ▸ ((validateCurrencyOverflow_ok_iff t).1 hov).1
  constructor
  · intro x hx
    have := sum_le_flatten_sum (List.mem_map_of_mem (f := fun x => [x.2.payout] ++ x.2.valid.map (·.value) ++ x.2.missed.map (·.value)) hx)
    simp only [List.sum_append, List.sum_cons, List.sum_nil] at this
    unfold sumVals
    cur_omega
  · intro r hr
    have := sum_le_flatten_sum (List.mem_map_of_mem (f := fun r => r.fc.valid.map (·.value) ++ r.fc.missed.map (·.value)) hr)
    simp only [List.sum_append] at this
    unfold sumVals
    cur_omega

theorem validateTaxPool_ok_iff (ms : Mid) (t : Txn1) :
    validateTaxPool ms t = .ok () ↔
      ms.pool + (t.fcs.map fun f => fileContractTax ms.base f.2.payout).sum < curLimit := by
  unfold validateTaxPool
  rw [ite_reject_ok_iff, sumChecked_isNone_iff, Nat.not_le, List.sum_cons]
  exact and_iff_left rfl

theorem validateCurrencyOverflow_noPanic (t : Txn1) : NoPanic (validateCurrencyOverflow t) := by
  simp only [validateCurrencyOverflow, noPanic_ite, noPanic_reject, noPanic_pure, implies_true, and_self]

theorem validateTaxPool_noPanic (ms : Mid) (t : Txn1) : NoPanic (validateTaxPool ms t) := by
  simp only [validateTaxPool, noPanic_ite, noPanic_reject, noPanic_pure, implies_true, and_self]

theorem sum_filterMap {α} (f : α → Option Nat) (l : List α) : (l.filterMap f).sum = (l.map fun x => (f x).getD 0).sum := by
  induction l with
  | nil => rfl
  | cons a l ih => cases h : f a <;> simp [h, ih]

theorem validateV2TaxPool_ok_iff (ms : Mid) (t : Txn2) :
    validateV2TaxPool ms t = .ok () ↔
      ms.pool + ((t.fcs.map fun x => (x.2.1.renter.value + x.2.1.host.value) / 25).sum +
        (t.ress.map fun r => match r.res with
          | .renewal rn => (rn.newContract.renter.value + rn.newContract.host.value) / 25
          | _ => 0).sum) < curLimit := by
  unfold validateV2TaxPool
  rw [ite_reject_ok_iff, sumChecked_isNone_iff, Nat.not_le, List.sum_cons, List.sum_append, sum_filterMap]
  refine (and_iff_left rfl).trans (iff_of_eq ?_)
  congr 5
  funext r
  cases r.res <;> rfl

/-- the per-item lists of `validateV2CurrencyOverflow` (copied from the model) -/
def v2Contract (fc : Fc2) : Option (List Cur) :=
  if fc.renter.value + fc.host.value < curLimit then some (fc.values ++ [(fc.renter.value + fc.host.value) / 25]) else none
def v2ResPart (r : Resolution2) : Option (List Cur) :=
  match r.res with
  | .renewal rn => (v2Contract rn.newContract).map (· ++ [rn.finalRenter.value, rn.finalHost.value, rn.renterRollover, rn.hostRollover])
  | _ => some []
def v2Parts (t : Txn2) : List (Option (List Cur)) :=
  [some (t.scOuts.map (·.2.value))] ++ t.fcs.map (fun (_, fc, _) => v2Contract fc) ++ t.revs.map (fun r => v2Contract r.rev) ++
    t.ress.map v2ResPart ++ [some [t.fee]]

theorem validateV2CurrencyOverflow_ok_iff (t : Txn2) :
    validateV2CurrencyOverflow t = .ok () ↔
      ((∀ p ∈ v2Parts t, p ≠ none) ∧ ((v2Parts t).filterMap id).flatten.sum < curLimit ∧ ∀ x ∈ t.sfOuts, x.2.1 ≤ 10000) := by
  have heq : validateV2CurrencyOverflow t =
      (if (v2Parts t).any (·.isNone) then reject "transaction outputs exceed inputs"
       else if (sumChecked ((v2Parts t).filterMap id).flatten).isNone ∨ t.sfOuts.any (fun (_, v, _) => v > 10000) then
         reject "transaction outputs exceed inputs"
       else pure ()) := by
    unfold validateV2CurrencyOverflow v2Parts v2ResPart v2Contract
    rfl
  rw [heq, ite_reject_ok_iff, ite_reject_ok_iff, not_or, sumChecked_isNone_iff, sfOuts_not_any_gt_iff, Nat.not_le]
  simp only [List.any_eq_true, Option.isNone_iff_eq_none, not_exists, not_and, ne_eq, pure_eq_ok, and_true]

theorem v2Contract_some {fc : Fc2} (h : v2Contract fc ≠ none) : fc.val < curLimit :=
  Decidable.by_contra fun hc => h (if_neg hc)

theorem v2Parts_fc {t : Txn2} {x : Id × Fc2 × Bool} (hx : x ∈ t.fcs) : v2Contract x.2.1 ∈ v2Parts t := by
  unfold v2Parts; simp only [List.mem_append, List.mem_map]
  exact Or.inl (Or.inl (Or.inl (Or.inr ⟨x, hx, rfl⟩)))

theorem v2Parts_rev {t : Txn2} {r : Rev2} (hr : r ∈ t.revs) : v2Contract r.rev ∈ v2Parts t := by
  unfold v2Parts; simp only [List.mem_append, List.mem_map]
  exact Or.inl (Or.inl (Or.inr ⟨r, hr, rfl⟩))

theorem v2Parts_res {t : Txn2} {r : Resolution2} (hr : r ∈ t.ress) : v2ResPart r ∈ v2Parts t := by
  unfold v2Parts; simp only [List.mem_append, List.mem_map]
  exact Or.inl (Or.inr ⟨r, hr, rfl⟩)

theorem validateV2CurrencyOverflow_ok {t : Txn2} (h : validateV2CurrencyOverflow t = .ok ()) :
    (∀ p ∈ v2Parts t, p ≠ none) ∧ ((v2Parts t).filterMap id).flatten.sum < curLimit :=
  let ⟨h1, h2, _⟩ := (validateV2CurrencyOverflow_ok_iff t).1 h; ⟨h1, h2⟩

theorem v2_created_bounds {t : Txn2} (hov : validateV2CurrencyOverflow t = .ok ()) :
    (∀ x ∈ t.fcs, x.2.1.val < curLimit) ∧
    (∀ r ∈ t.ress, ∀ rn, r.res = .renewal rn → rn.newContract.val < curLimit) ∧
    (∀ r ∈ t.revs, r.rev.val < curLimit) := by
  have hsome := (validateV2CurrencyOverflow_ok hov).1
  refine ⟨fun _ hx => v2Contract_some (hsome _ (v2Parts_fc hx)), fun r hr rn hrn => v2Contract_some fun hn => ?_,
    fun _ hr => v2Contract_some (hsome _ (v2Parts_rev hr))⟩
  apply hsome _ (v2Parts_res hr)
  unfold v2ResPart; rw [hrn]; simp only [hn, Option.map_none]

theorem validateV2TaxPool_noPanic (ms : Mid) (t : Txn2) : NoPanic (validateV2TaxPool ms t) := by
  simp only [validateV2TaxPool, noPanic_ite, noPanic_reject, noPanic_pure, implies_true, and_self]

theorem validateV2CurrencyOverflow_noPanic (t : Txn2) : NoPanic (validateV2CurrencyOverflow t) := by
  simp only [validateV2CurrencyOverflow, noPanic_ite, noPanic_reject, noPanic_pure, implies_true, and_self]

end Sia.Ledger
