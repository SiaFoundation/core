import SiaProofs.Lemmas.LedgerVM
import SiaProofs.Lemmas.LedgerValue
/-!
# Sums in the `VM` monad

What a fold of `addC` steps computes when it returns (`addC` is Go's `Currency.Add`: a panic on overflow), `sumOuts`,
`v2Tax`, and the `List.sum` facts the conservation proofs use. `addC`, `subC` and `sumChecked` themselves are
characterised in `LedgerVM`.
-/
namespace Sia.Ledger

theorem pure_eq_ok_c1 {α : Type} {a b : α} : (pure a : VM α) = .ok b ↔ a = b :=
  (pure_eq_ok a b).trans eq_comm

@[simp] theorem reject_ne_ok_c1 {α : Type} {m : String} {a : α} : (reject m : VM α) ≠ .ok a := reject_ne_ok m a
@[simp] theorem gopanic_ne_ok_c1 {α : Type} {m : String} {a : α} : (gopanic m : VM α) ≠ .ok a := gopanic_ne_ok m a

theorem v2Tax_ok_iff (fc : Fc2) (t : Cur) : v2Tax fc = .ok t ↔ (t = fc.val / 25 ∧ fc.val < curLimit) := by
  simp only [v2Tax, addC_bind_ok_iff, pure_eq_ok, Fc2.val, and_comm]

theorem v2Tax_eq_ok {fc : Fc2} (h : fc.renter.value + fc.host.value < curLimit) :
    v2Tax fc = .ok ((fc.renter.value + fc.host.value) / 25) :=
  (v2Tax_ok_iff fc _).2 ⟨rfl, h⟩

theorem foldl_add_sum {α : Type} (g : α → Nat) (l : List α) (s0 : Nat) :
    l.foldl (fun s x => s + g x) s0 = s0 + (l.map g).sum := by
  induction l generalizing s0 with
  | nil => simp
  | cons a l ih => simp only [List.foldl_cons, List.map_cons, List.sum_cons, ih, Nat.add_assoc]

theorem foldlM_sum {α : Type} (f : Cur → α → VM Cur) (g : α → Nat)
    (hstep : ∀ s x r, f s x = .ok r → r = s + g x) :
    ∀ (l : List α) (s0 r : Cur), l.foldlM f s0 = .ok r → r = s0 + (l.map g).sum := by
  intro l
  induction l with
  | nil => intro s0 r h; simp only [List.foldlM_nil] at h; cases h; simp
  | cons a l ih =>
    intro s0 r h
    rw [List.foldlM_cons, bind_ok_iff] at h
    obtain ⟨s1, h1, h2⟩ := h
    rw [ih _ _ h2, hstep _ _ _ h1]; simp [Nat.add_assoc]

theorem foldlM_sum2 {α : Type} (f : Cur × Cur → α → VM (Cur × Cur)) (g1 g2 : α → Nat)
    (hstep : ∀ s x r, f s x = .ok r → r.1 = s.1 + g1 x ∧ r.2 = s.2 + g2 x) :
    ∀ (l : List α) (s0 r : Cur × Cur), l.foldlM f s0 = .ok r →
      r.1 = s0.1 + (l.map g1).sum ∧ r.2 = s0.2 + (l.map g2).sum := by
  intro l
  induction l with
  | nil => intro s0 r h; simp only [List.foldlM_nil] at h; cases h; simp
  | cons a l ih =>
    intro s0 r h
    rw [List.foldlM_cons, bind_ok_iff] at h
    obtain ⟨s1, h1, h2⟩ := h
    obtain ⟨a1, a2⟩ := ih _ _ h2
    obtain ⟨b1, b2⟩ := hstep _ _ _ h1
    rw [a1, a2, b1, b2]; simp [Nat.add_assoc]

theorem foldl_modsum {α : Type} (g : α → Nat) (M : Nat) (l : List α) (s0 : Nat) :
    l.foldl (fun s x => (s + g x) % M) s0 % M = (s0 + (l.map g).sum) % M := by
  induction l generalizing s0 with
  | nil => simp
  | cons a l ih =>
    simp only [List.foldl_cons, List.map_cons, List.sum_cons]
    rw [ih]
    rw [Nat.add_mod, Nat.mod_mod, ← Nat.add_mod, Nat.add_assoc]

theorem foldlM_modsum {α : Type} (f : Nat → α → VM Nat) (g : α → Nat) (M : Nat)
    (hstep : ∀ s x r, f s x = .ok r → r = (s + g x) % M) :
    ∀ (l : List α) (s0 r : Nat), l.foldlM f s0 = .ok r → r % M = (s0 + (l.map g).sum) % M := by
  intro l
  induction l with
  | nil => intro s0 r h; simp only [List.foldlM_nil] at h; cases h; simp
  | cons a l ih =>
    intro s0 r h
    rw [List.foldlM_cons, bind_ok_iff] at h
    obtain ⟨s1, h1, h2⟩ := h
    rw [ih _ _ h2, hstep _ _ _ h1]
    simp only [List.map_cons, List.sum_cons]
    rw [Nat.add_mod, Nat.mod_mod, ← Nat.add_mod, Nat.add_assoc]

theorem foldlM_addC {α : Type} (g : α → Cur) (l : List α) (s0 r : Cur)
    (h : l.foldlM (fun s x => addC s (g x)) s0 = .ok r) : r = s0 + (l.map g).sum :=
  foldlM_sum _ g (fun s x r hr => ((addC_ok_iff s (g x) r).1 hr).1) l s0 r h

def outsTotal (l : List ScOut) : Nat := (l.map (·.value)).sum

theorem outsTotal_cons (o : ScOut) (l : List ScOut) : outsTotal (o :: l) = o.value + outsTotal l := by
  simp [outsTotal]

theorem sumOuts_ok_iff (l : List ScOut) (a : Cur) : sumOuts l = .ok a ↔ (a = outsTotal l ∧ outsTotal l < curLimit) := by
  simpa [outsTotal, sumOuts] using foldlM_addC_ok_iff (fun o : ScOut => o.value) l 0 a (by decide)

theorem sum_map_zero {α : Type} (l : List α) (f : α → Nat) (h : ∀ x ∈ l, f x = 0) : (l.map f).sum = 0 :=
  List.sum_eq_zero_iff_forall_eq_nat.2 (List.forall_mem_map.2 h)

theorem sum_const_zero {α : Type} (l : List α) : (l.map (fun _ => 0)).sum = 0 := sum_map_zero l _ (fun _ _ => rfl)

theorem sum_map_add {α : Type} (l : List α) (f g h : α → Nat) (hp : ∀ x ∈ l, f x = g x + h x) :
    (l.map f).sum = (l.map g).sum + (l.map h).sum := by
  induction l with
  | nil => rfl
  | cons a l ih =>
    simp only [List.map_cons, List.sum_cons, ih (fun x hx => hp x (List.mem_cons_of_mem _ hx)), hp a List.mem_cons_self]; omega

theorem sum_scaled_le {α : Type} (l : List α) (f g : α → Nat) (c : Nat) (h : ∀ x ∈ l, c * f x ≤ g x) :
    c * (l.map f).sum ≤ (l.map g).sum := by
  induction l with
  | nil => simp
  | cons a l ih =>
    simp only [List.map_cons, List.sum_cons, Nat.mul_add]
    have := h a List.mem_cons_self
    have := ih (fun x hx => h x (List.mem_cons_of_mem _ hx))
    omega

theorem sum_map_flatMap {α β : Type} (g : α → List β) (f : β → Nat) (l : List α) :
    ((l.flatMap g).map f).sum = (l.map (fun a => ((g a).map f).sum)).sum := by
  induction l with
  | nil => rfl
  | cons a l ih => rw [List.flatMap_cons, List.map_append, List.sum_append, ih, List.map_cons, List.sum_cons]

theorem flatMap_nil_fun {α β : Type} (l : List α) : l.flatMap (fun _ => ([] : List β)) = [] :=
  List.flatMap_eq_nil_iff.2 (fun _ _ => rfl)

theorem foldlM_flatMap {α β σ : Type} (f : σ → β → VM σ) (g : α → List β) (l : List α) (s : σ) :
    (l.flatMap g).foldlM f s = l.foldlM (fun s a => (g a).foldlM f s) s := by
  induction l generalizing s with
  | nil => rfl
  | cons a l ih => rw [List.flatMap_cons, List.foldlM_append, List.foldlM_cons]; exact bind_congr' rfl ih

theorem nodup_tag_append {k : Kind} {A : List Id} {B : List (Kind × Id)} (hA : A.Nodup) (hB : B.Nodup)
    (h : ∀ x ∈ A, (k, x) ∉ B) : (A.map (Prod.mk k) ++ B).Nodup := by
  refine List.nodup_append.2 ⟨List.pairwise_map.2 (hA.imp (fun hne e => hne (Prod.mk.inj e).2)), hB, ?_⟩
  intro a ha b hb hab
  obtain ⟨x, hx, rfl⟩ := List.mem_map.1 ha
  exact h x hx (hab ▸ hb)

end Sia.Ledger
