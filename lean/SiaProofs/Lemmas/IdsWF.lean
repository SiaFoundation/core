import SiaProofs.Lemmas.IdsSem
/-!
# `WFG` made explicit: the typing conditions of the Go types imply well-formedness

`WFG b t` is defined as "the semantic value of `t` is canonical for the semantic schema".  Here
the conditions are spelled out (`V2Txn.Typed`): every id / address / key / root has 32 bytes, leaves
and signatures 64, `uint64` fields are below 2^64, currencies below 2^128, list and byte-string
lengths below 2^64 — exactly what the Go types guarantee — and shown to imply `WFG`.
-/
namespace Sia.Ids
open Sia.Codec

theorem canon_cur {n : Nat} (h : n < W128) : canon Env.default Spec.v2Currency (curVal n) = true := by
  have h1 : n % W64 < W64 := Nat.mod_lt _ (by decide)
  have h2 : n / W64 < W64 := Nat.div_lt_of_lt_mul (show n < W64 * W64 from h)
  simp [Spec.v2Currency, Sch.seq, curVal, rec, canon, Atom.codec, isNat, h1, h2]

theorem canon_cons (E : Env) (l : String) (s r : Sch) (a b : Val) :
    canon E (.cons l s r) (.pair a b) = (canon E s a && canon E r b) := rfl
theorem canon_nil_unit (E : Env) : canon E .nil .unit = true := rfl

theorem canon_fixed {n : Nat} {x : Bytes} (h : x.length = n) : canon Env.default (Sch.fixed n) (.bytes x) = true := by
  simp [canon, Atom.codec, isBytes, h]

theorem canon_u64 {n : Nat} (h : n < W64) : canon Env.default Sch.u64 (.nat n) = true := by
  simp [canon, Atom.codec, isNat, h]

def SiacoinOutput.Typed (o : SiacoinOutput) : Prop := o.value < W128 ∧ o.address.length = 32
def SiafundOutput.Typed (o : SiafundOutput) : Prop := o.value < W64 ∧ o.address.length = 32

theorem canon_sco {o : SiacoinOutput} (h : o.Typed) : canon Env.default Spec.v2SiacoinOutput (scoVal o) = true := by
  simp [Spec.v2SiacoinOutput, Sch.seq, scoVal, rec, canon, Atom.codec, isBytes, Spec.hash32, canon_cur h.1, h.2]

theorem canon_sfo {o : SiafundOutput} (h : o.Typed) : canon Env.default Spec.v2SiafundOutput (sfoVal o) = true := by
  simp [Spec.v2SiafundOutput, Sch.seq, sfoVal, rec, canon, Atom.codec, isBytes, isNat, Spec.hash32, h.1, h.2]

/-- the fields of a contract that the signature-less encodings read -/
def V2FileContract.Typed (fc : V2FileContract) : Prop :=
  fc.capacity < W64 ∧ fc.filesize < W64 ∧ fc.fileMerkleRoot.length = 32 ∧ fc.proofHeight < W64 ∧ fc.expirationHeight < W64 ∧
  fc.renterOutput.Typed ∧ fc.hostOutput.Typed ∧ fc.missedHostValue < W128 ∧ fc.totalCollateral < W128 ∧
  fc.renterPublicKey.length = 32 ∧ fc.hostPublicKey.length = 32 ∧ fc.revisionNumber < W64

theorem canon_fc {fc : V2FileContract} (h : fc.Typed) : canon Env.default Spec.v2FileContract (fcVal fc.nilSigs) = true := by
  obtain ⟨h1, h2, h3, h4, h5, h6, h7, h8, h9, h10, h11, h12⟩ := h
  simp [Spec.v2FileContract, Sch.seq, fcVal, V2FileContract.nilSigs, zeroSig, zeros, rec, canon, Atom.codec, isBytes, isNat,
    Spec.hash32, Spec.signature, h1, h2, h3, h4, h5, canon_sco h6, canon_sco h7, canon_cur h8, canon_cur h9, h10, h11, h12]

def V2Renewal.Typed (r : V2Renewal) : Prop :=
  r.finalRenterOutput.Typed ∧ r.finalHostOutput.Typed ∧ r.renterRollover < W128 ∧ r.hostRollover < W128 ∧ r.newContract.Typed

theorem canon_renewal {r : V2Renewal} (h : r.Typed) :
    canon Env.default Spec.v2FileContractRenewal (renewalVal r.nilSigs) = true := by
  obtain ⟨h1, h2, h3, h4, h5⟩ := h
  have := canon_fc h5
  simp [Spec.v2FileContractRenewal, Sch.seq, renewalVal, V2Renewal.nilSigs, zeroSig, zeros, rec, canon, Atom.codec, isBytes,
    Spec.signature, canon_sco h1, canon_sco h2, canon_cur h3, canon_cur h4, this]

theorem canon_slice_map {α} {s : Sch} {f : α → Val} {l : List α} (hl : l.length < W64)
    (h : ∀ x ∈ l, canon Env.default s (f x) = true) : canon Env.default (.slice s) (.list (l.map f)) = true :=
  canon_slice_iff.2 ⟨(List.length_map f).symm ▸ hl, List.forall_mem_map.2 h⟩

def V2StorageProof.Typed (p : V2StorageProof) : Prop :=
  p.proofIndex.se.leafIndex < W64 ∧ p.proofIndex.id.length = 32 ∧ p.proofIndex.height < W64 ∧ p.proofIndex.blockId.length = 32 ∧
  p.leaf.length = 64 ∧ p.proof.length < W64 ∧ ∀ x ∈ p.proof, x.length = 32

theorem canon_sp {p : V2StorageProof} (h : p.Typed) : canon Env.default Spec.v2StorageProof (spVal p.dropIndexProof) = true := by
  obtain ⟨h1, h2, h3, h4, h5, h6, h7⟩ := h
  have hp : canon Env.default (.slice Spec.hash32) (.list (p.proof.map .bytes)) = true :=
    canon_slice_map h6 fun x hx => canon_fixed (h7 x hx)
  have he : canon Env.default (.slice Spec.hash32) (.list []) = true := by decide
  simp only [Spec.v2StorageProof, Spec.chainIndexElement, Spec.stateElement, Spec.chainIndex, Sch.seq, spVal, cieVal, seVal,
    V2StorageProof.dropIndexProof, rec, canon, List.map_nil, Bool.and_eq_true]
  simp only [canon, Bool.and_eq_true] at hp he
  exact ⟨⟨⟨canon_u64 h1, he, trivial⟩, canon_fixed h2, ⟨canon_u64 h3, canon_fixed h4, trivial⟩, trivial⟩, canon_fixed h5, hp, trivial⟩

def V2ResolutionBody.Typed : V2ResolutionBody → Prop
  | .renewal r => r.Typed
  | .storageProof p => p.Typed
  | .expiration => True

theorem canon_payload {b : V2ResolutionBody} (h : b.Typed) : canon Env.default (payloadSch b.kind) (payloadVal b) = true := by
  cases b with
  | renewal r => exact canon_renewal h
  | storageProof p => exact canon_sp h
  | expiration => rfl

theorem canon_resVals {rs : List V2Resolution} (h : ∀ r ∈ rs, r.parent.id.length = 32 ∧ r.body.Typed) :
    canon Env.default (resSch (rs.map (·.body.kind))) (resVals rs) = true := by
  induction rs with
  | nil => rfl
  | cons r rs ih =>
    have hr := h r List.mem_cons_self
    have := ih (fun x hx => h x (List.mem_cons_of_mem _ hx))
    simp only [List.map_cons, resSch, resVals, canon, Bool.and_eq_true]
    exact ⟨canon_fixed hr.1, canon_payload hr.2, this⟩

def Attestation.Typed (a : Attestation) : Prop :=
  a.publicKey.length = 32 ∧ a.key.length < W64 ∧ a.value.length < W64 ∧ a.signature.length = 64

theorem canon_att {a : Attestation} (h : a.Typed) : canon Env.default Spec.attestation (attVal a) = true := by
  simp [Spec.attestation, Sch.seq, attVal, rec, canon, Atom.codec, isBytes, Spec.hash32, Spec.signature, h.1, h.2.1, h.2.2.1, h.2.2.2]

/-- **the typing conditions of the Go types** (as far as the semantic encoding reads them) -/
structure V2Txn.Typed (t : V2Txn) : Prop where
  scIns : t.siacoinInputs.length < W64 ∧ ∀ i ∈ t.siacoinInputs, i.parent.id.length = 32
  scOuts : t.siacoinOutputs.length < W64 ∧ ∀ o ∈ t.siacoinOutputs, o.Typed
  sfIns : t.siafundInputs.length < W64 ∧ ∀ i ∈ t.siafundInputs, i.parent.id.length = 32 ∧ i.claimAddress.length = 32
  sfOuts : t.siafundOutputs.length < W64 ∧ ∀ o ∈ t.siafundOutputs, o.Typed
  fcs : t.fileContracts.length < W64 ∧ ∀ fc ∈ t.fileContracts, fc.Typed
  revs : t.revisions.length < W64 ∧ ∀ r ∈ t.revisions, r.parent.id.length = 32 ∧ r.revision.Typed
  ress : t.resolutions.length < W64 ∧ ∀ r ∈ t.resolutions, r.parent.id.length = 32 ∧ r.body.Typed
  atts : t.attestations.length < W64 ∧ ∀ a ∈ t.attestations, a.Typed
  arb : t.arbitraryData.length < W64
  nfa : ∀ a, t.newFoundationAddress = some a → a.length = 32
  fee : t.minerFee < W128

theorem wfg_of_typed (b : Bool) {t : V2Txn} (h : t.Typed) : WFG b t := by
  unfold WFG Canon
  simp only [semSch, semVal, Sch.seq, rec, canon_cons, canon_nil_unit, Bool.and_eq_true, V2Txn.kinds]
  refine ⟨?_, ?_, ?_, ?_, ?_, ?_, ?_, canon_resVals h.ress.2, ?_, ?_, ?_, canon_cur h.fee, trivial⟩
  · exact canon_slice_map h.scIns.1 (fun i hi => canon_fixed (h.scIns.2 i hi))
  · exact canon_slice_map h.scOuts.1 (fun o ho => canon_sco (h.scOuts.2 o ho))
  · refine canon_slice_map h.sfIns.1 (fun i hi => ?_)
    have := h.sfIns.2 i hi
    cases b
    · exact canon_fixed this.1
    · simp only [sfInSch, sfInVal, if_true, Sch.seq, rec, canon_cons, canon_nil_unit, Bool.and_eq_true]
      exact ⟨canon_fixed this.1, canon_fixed this.2, trivial⟩
  · exact canon_slice_map h.sfOuts.1 (fun o ho => canon_sfo (h.sfOuts.2 o ho))
  · exact canon_slice_map h.fcs.1 (fun fc hfc => canon_fc (h.fcs.2 fc hfc))
  · refine canon_slice_map h.revs.1 (fun r hr => ?_)
    have := h.revs.2 r hr
    simp only [canon_cons, canon_nil_unit, Bool.and_eq_true]
    exact ⟨canon_fixed this.1, canon_fc this.2, trivial⟩
  · exact canon_u64 h.ress.1
  · exact canon_slice_map h.atts.1 (fun a ha => canon_att (h.atts.2 a ha))
  · simp [canon, Atom.codec, isBytes, h.arb]
  · cases hn : t.newFoundationAddress with
    | none => rfl
    | some a => exact canon_fixed (h.nfa a hn)

end Sia.Ids
