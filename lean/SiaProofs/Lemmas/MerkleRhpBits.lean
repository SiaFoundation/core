import SiaProofs.Lemmas.MerkleRhp
import SiaProofs.Lemmas.GoWords
/-!
  C16: trailing zeros and `nextSubtreeSize`, on the whole line and inside aligned blocks.
-/
set_option linter.unusedSectionVars false
namespace Sia.Rhp

theorem tz_odd {x : Nat} (h : x % 2 = 1) : tz x = 0 := by
  rw [tz]
  have : x ≠ 0 := by omega
  simp [this, h]

theorem tz_even {x : Nat} (h0 : x ≠ 0) (h : x % 2 = 0) : tz x = 1 + tz (x / 2) := by
  rw [tz]
  have : ¬ (x % 2 = 1) := by omega
  simp [h0, this]

theorem two_pow_succ_dvd_iff (k x : Nat) : 2 ^ (k + 1) ∣ x ↔ x % 2 = 0 ∧ 2 ^ k ∣ x / 2 := by
  constructor
  · rintro ⟨c, hc⟩
    have e : x = 2 * (2 ^ k * c) := by rw [hc, Nat.pow_succ', Nat.mul_assoc]
    constructor
    · rw [e]; exact Nat.mul_mod_right _ _
    · refine ⟨c, ?_⟩
      rw [e]; exact Nat.mul_div_cancel_left _ (by omega)
  · rintro ⟨h2, c, hc⟩
    refine ⟨c, ?_⟩
    have : x = 2 * (x / 2) := by omega
    rw [this, hc, Nat.pow_succ', Nat.mul_assoc]

theorem pow_dvd_iff_le_tz : ∀ (k x : Nat), x ≠ 0 → (2 ^ k ∣ x ↔ k ≤ tz x) := by
  intro k
  induction k with
  | zero => intro x _; simp
  | succ k ih =>
    intro x hx
    rw [two_pow_succ_dvd_iff]
    by_cases h : x % 2 = 1
    · rw [tz_odd h]; omega
    · have h0 : x % 2 = 0 := by omega
      rw [tz_even hx h0, ih (x / 2) (by omega)]
      omega

theorem tz_dvd {x : Nat} (hx : x ≠ 0) : 2 ^ tz x ∣ x :=
  (pow_dvd_iff_le_tz (tz x) x hx).2 (Nat.le_refl _)

theorem tz_unique {x k : Nat} (hx : x ≠ 0) (h1 : 2 ^ k ∣ x) (h2 : ¬ 2 ^ (k + 1) ∣ x) : tz x = k := by
  have a := (pow_dvd_iff_le_tz k x hx).1 h1
  have b := (pow_dvd_iff_le_tz (k + 1) x hx)
  have : ¬ (k + 1 ≤ tz x) := fun h => h2 (b.2 h)
  omega

theorem tz_two_pow (k : Nat) : tz (2 ^ k) = k := by
  have hp := Nat.two_pow_pos k
  apply tz_unique (by omega) (Nat.dvd_refl _)
  intro h
  have := Nat.le_of_dvd hp h
  rw [Nat.pow_succ'] at this; omega

theorem two_pow_tz_le {x : Nat} (hx : x ≠ 0) : 2 ^ tz x ≤ x :=
  Nat.le_of_dvd (by omega) (tz_dvd hx)

theorem nss_spec {i j : Nat} (h : i < j) :
    ∃ k, nextSubtreeSize i j = 2 ^ k ∧ 2 ^ k ∣ i ∧ i + 2 ^ k ≤ j := by
  have hd : j - i ≠ 0 := by omega
  have hlog := Nat.log2_self_le hd
  unfold nextSubtreeSize
  simp only
  by_cases h0 : i = 0
  · subst h0
    refine ⟨(j - 0).log2, by simp, Nat.dvd_zero _, ?_⟩
    simp at hlog ⊢; exact hlog
  · by_cases h1 : tz i > (j - i).log2
    · refine ⟨(j - i).log2, by simp [h1], ?_, by omega⟩
      exact Nat.dvd_trans (Nat.pow_dvd_pow 2 (Nat.le_of_lt h1)) (tz_dvd h0)
    · refine ⟨tz i, by simp [h0, h1], tz_dvd h0, ?_⟩
      have : 2 ^ tz i ≤ 2 ^ (j - i).log2 := Nat.pow_le_pow_right (by omega) (by omega)
      omega

theorem nss_zero (j : Nat) : nextSubtreeSize 0 j = 2 ^ j.log2 := by
  simp [nextSubtreeSize]

theorem nss_of_fits {y J : Nat} (h0 : 0 < y) (hfit : y + 2 ^ tz y ≤ J) : nextSubtreeSize y J = 2 ^ tz y := by
  have hp := Nat.two_pow_pos (tz y)
  have h2 : tz y ≤ (J - y).log2 := (Nat.le_log2 (by omega)).2 (by omega)
  unfold nextSubtreeSize
  rw [if_neg (by omega)]

theorem nss_big {i J : Nat} (h0 : 0 < i) (hJ : 2 * i ≤ J) : nextSubtreeSize i J = 2 ^ tz i :=
  nss_of_fits h0 (by have := two_pow_tz_le (Nat.ne_of_gt h0); omega)

/-! ### aligned blocks: positions inside `[i, i + 2^f)` with `2^f ∣ i` behave like those in `[0, 2^f)` -/

theorem tz_add_aligned {f i a : Nat} (hal : 2 ^ f ∣ i) (h0 : 0 < a) (ha : a < 2 ^ f) : tz (i + a) = tz a := by
  have hane : a ≠ 0 := by omega
  have hle := two_pow_tz_le hane
  have htf : tz a < f := (Nat.pow_lt_pow_iff_right (by omega)).1 (Nat.lt_of_le_of_lt hle ha)
  apply tz_unique (by omega)
  · exact Nat.dvd_add (Nat.dvd_trans (Nat.pow_dvd_pow 2 (Nat.le_of_lt htf)) hal) (tz_dvd hane)
  · intro h
    have d2 : 2 ^ (tz a + 1) ∣ a := (Nat.dvd_add_right (Nat.dvd_trans (Nat.pow_dvd_pow 2 htf) hal)).1 h
    have := (pow_dvd_iff_le_tz (tz a + 1) a hane).1 d2
    omega

theorem nss_add_aligned {f i a b : Nat} (hal : 2 ^ f ∣ i) (hab : a < b) (hb : b ≤ 2 ^ f) :
    nextSubtreeSize (i + a) (i + b) = nextSubtreeSize a b := by
  by_cases hi : i = 0
  · rw [hi, Nat.zero_add, Nat.zero_add]
  · have hfi : f ≤ tz i := (pow_dvd_iff_le_tz f i hi).1 hal
    unfold nextSubtreeSize
    rw [Nat.add_sub_add_left]
    by_cases h0 : a = 0
    · -- `tz i ≥ f ≥ log2 b`, and if all are equal both sides are `2^f`
      subst h0
      have hlog : b.log2 < f + 1 :=
        (Nat.log2_lt (by omega)).2 (Nat.lt_of_le_of_lt hb (Nat.pow_lt_pow_right (by omega) (Nat.lt_succ_self f)))
      simp only [Nat.add_zero, Nat.sub_zero, true_or, if_true, hi, false_or]
      split
      · rfl
      · rw [show tz i = b.log2 by omega]
    · rw [tz_add_aligned hal (by omega) (by omega)]
      have hne : ¬ (i + a = 0) := by omega
      simp only [hne, h0, false_or]

theorem pow2_step {k i : Nat} (h0 : 0 < i) (hlt : i < 2 ^ k) : i + 2 ^ tz i ≤ 2 ^ k := by
  have hi : i ≠ 0 := by omega
  have hle := two_pow_tz_le hi
  have htk : tz i < k := by
    have : 2 ^ tz i < 2 ^ k := by omega
    exact (Nat.pow_lt_pow_iff_right (by omega)).1 this
  have d1 : 2 ^ tz i ∣ 2 ^ k := Nat.pow_dvd_pow 2 (by omega)
  have d2 : 2 ^ tz i ∣ 2 ^ k - i := Nat.dvd_sub d1 (tz_dvd hi)
  have := Nat.le_of_dvd (by omega) d2
  omega

theorem nss_pow2 {k i : Nat} (h0 : 0 < i) (hlt : i < 2 ^ k) : nextSubtreeSize i (2 ^ k) = 2 ^ tz i :=
  nss_of_fits h0 (pow2_step h0 hlt)

theorem block_step {f i y : Nat} (hal : 2 ^ f ∣ i) (h1 : i < y) (h2 : y < i + 2 ^ f) :
    y + 2 ^ tz y ≤ i + 2 ^ f := by
  obtain ⟨a, rfl⟩ : ∃ a, y = i + a := ⟨y - i, by omega⟩
  rw [tz_add_aligned hal (by omega) (by omega), Nat.add_assoc]
  exact Nat.add_le_add_left (pow2_step (by omega) (by omega)) i

theorem nss_block_start {f i : Nat} (hal : 2 ^ f ∣ i) : nextSubtreeSize i (i + 2 ^ f) = 2 ^ f := by
  have := nss_add_aligned (a := 0) hal (Nat.two_pow_pos f) (Nat.le_refl _)
  rwa [Nat.add_zero, nss_zero, Nat.log2_two_pow] at this

theorem nss_block_lower {f i b : Nat} (hal : 2 ^ (f + 1) ∣ i) (h1 : 2 ^ f < b) (h2 : b < 2 ^ (f + 1)) :
    nextSubtreeSize i (i + b) = 2 ^ f := by
  have hb : 0 < b := Nat.lt_trans (Nat.two_pow_pos f) h1
  have := nss_add_aligned (a := 0) hal hb (Nat.le_of_lt h2)
  rwa [Nat.add_zero, nss_zero, (Nat.log2_eq_iff (Nat.ne_of_gt hb)).2 ⟨Nat.le_of_lt h1, h2⟩] at this

end Sia.Rhp
