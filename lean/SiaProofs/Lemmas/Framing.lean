import SiaProofs.Lemmas.CodecAtom
import SiaModel.Rhp4.Framing
/-! Bounded reads: generic lemmas over leaf codecs (C19). -/
namespace Sia.Framing
open Sia.Codec

theorem take_append_le {a r : Bytes} {N : Nat} (h : a.length ≤ N) :
    (a ++ r).take N = a ++ r.take (N - a.length) := by
  rw [List.take_append, List.take_of_length_le h]

theorem readLimitedC_roundtrip {c : Codec} (ok : CodecOK c) (N : Nat) (v : Val) (rest : Bytes)
    (hc : c.canon v = true) (hfit : (c.enc v).length ≤ N) :
    readLimitedC c N (c.enc v ++ rest) = .ok (v, (c.enc v).length) := by
  unfold readLimitedC
  rw [take_append_le hfit, ok.roundtrip false _ v _ hc]
  simp

theorem readLimitedC_bounded {c : Codec} (N : Nat) (stream : Bytes) (v : Val) (n : Nat)
    (h : readLimitedC c N stream = .ok (v, n)) : n ≤ N ∧ n ≤ stream.length := by
  unfold readLimitedC at h
  split at h
  · injection h with h; injection h with _ h
    have : (stream.take N).length ≤ N := by simp; omega
    have : (stream.take N).length ≤ stream.length := by simp; omega
    omega
  · cases h

theorem readLimitedC_prefix_only (c : Codec) (N : Nat) (a x y : Bytes) (h : N ≤ a.length) :
    readLimitedC c N (a ++ x) = readLimitedC c N (a ++ y) := by
  unfold readLimitedC
  rw [List.take_append_of_le_length h, List.take_append_of_le_length h]

theorem readLimitedC_overlimit {c : Codec} (ok : CodecOK c) (N : Nat) (v : Val) (rest : Bytes)
    (hc : c.canon v = true) (hbig : N < (c.enc v).length) :
    ∃ e, readLimitedC c N (c.enc v ++ rest) = .error e := by
  unfold readLimitedC
  rw [List.take_append_of_le_length (Nat.le_of_lt hbig)]
  have hq : (c.enc v).drop N ≠ [] := by
    intro h
    have := congrArg List.length h
    simp at this; omega
  obtain ⟨e, he⟩ := ok.trunc false (N - ((c.enc v).take N).length) v ((c.enc v).take N) ((c.enc v).drop N) hc
    (List.take_append_drop _ _) hq
  rw [he]; exact ⟨_, rfl⟩

end Sia.Framing
