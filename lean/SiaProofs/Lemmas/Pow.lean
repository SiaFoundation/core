import SiaModel.Pow.Header
import SiaProofs.Lemmas.GoLoops
/-! What the Work/target operations and the retargeting functions return, and the inversion of `applyHeader`
(the `Except` rewrites are those of `GoLoops`). -/
namespace Sia.Pow

theorem wadd_eq_ok {w v c : Nat} : wadd w v = .ok c ↔ w + v < W256 ∧ c = w + v := GoLoops.ite_ok_iff
theorem wsub_eq_ok {w v c : Nat} : wsub w v = .ok c ↔ v ≤ w ∧ c = w - v := GoLoops.ite_ok_iff
theorem wmul64_eq_ok {w v c : Nat} : wmul64 w v = .ok c ↔ w * v < W256 ∧ c = w * v := GoLoops.ite_ok_iff
theorem wdiv64_eq_ok {w v c : Nat} : wdiv64 w v = .ok c ↔ v ≠ 0 ∧ c = w / v := GoLoops.ite_error_iff
theorem invTarget_eq_ok {n c : Nat} : invTarget n = .ok c ↔ n ≠ 0 ∧ c = MAXT / n := GoLoops.ite_error_iff

theorem wadd_ok {w v : Nat} (h : w + v < W256) : wadd w v = .ok (w + v) := if_pos h
theorem wsub_ok {w v : Nat} (h : v ≤ w) : wsub w v = .ok (w - v) := if_pos h
theorem wmul64_ok {w v : Nat} (h : w * v < W256) : wmul64 w v = .ok (w * v) := if_pos h
theorem wdiv64_ok {w v : Nat} (h : v ≠ 0) : wdiv64 w v = .ok (w / v) := if_neg h
theorem invTarget_ok_of_ne {d : Nat} (h : d ≠ 0) : invTarget d = .ok (MAXT / d) := if_neg h

theorem inv_lt (d : Nat) : MAXT / d < W256 := Nat.lt_succ_of_le (Nat.div_le_self _ _)

theorem div_pos_of_lt {d : Nat} (h0 : d ≠ 0) (h : d < W256) : MAXT / d ≠ 0 :=
  Nat.pos_iff_ne_zero.1 (Nat.div_pos (Nat.le_of_lt_succ h) (Nat.pos_of_ne_zero h0))

theorem wmax_eq (a b : Nat) : wmax a b = max a b := by
  unfold wmax; split <;> omega

theorem wmin_eq (a b : Nat) : wmin a b = min a b := by
  unfold wmin; split <;> omega

/-- What a successful `applyHeader` computed: the genesis header (`parentID = 0`) keeps the first two work/target
    pairs and restarts the height, any other header updates them; the rest is common. `dp`, `ct`, `ot` are the target
    fields before the deprecated ones are zeroed. -/
theorem applyHeader_inv {n : Network} {s s' : PowState} {h : Header} {tt : Int}
    (hok : applyHeader n s h tt = .ok s') :
    ∃ tw dp d ct ow ot p,
      (if h.parentID = 0 then tw = s.totalWork ∧ dp = s.depth ∧ d = s.difficulty ∧ ct = s.childTarget
        else updateTotalWork n s = .ok (tw, dp) ∧ adjustDifficulty n s h.timestamp tt = .ok (d, ct)) ∧
      updateOakWork n s = .ok (ow, ot) ∧
      s'.totalWork = tw ∧ s'.difficulty = d ∧ s'.oakWork = ow ∧ s'.oakTime = updateOakTime n s h.timestamp p ∧
      s'.height = (if h.parentID = 0 then 0 else s.childHeight) ∧ s'.id = h.id ∧
      s'.prevTimestamps = h.timestamp :: s.prevTimestamps.take 10 ∧
      (if n.v2FinalCutHeight ≤ s'.height then s'.depth = 0 ∧ s'.childTarget = 0 ∧ s'.oakTarget = 0
        else s'.depth = dp ∧ s'.childTarget = ct ∧ s'.oakTarget = ot) := by
  unfold applyHeader at hok
  split at hok
  · cases hok
  · by_cases hp : h.parentID = 0
    · simp only [if_pos hp, GoLoops.bind_ok_iff, GoLoops.pure_ok_iff] at hok ⊢
      obtain ⟨⟨ow, ot⟩, h3, nx, rfl, h5⟩ := hok
      refine ⟨_, _, _, _, ow, ot, h.timestamp, ⟨rfl, rfl, rfl, rfl⟩, h3, ?_⟩
      dsimp only at h5
      split at h5 <;> simp only [GoLoops.pure_ok_iff] at h5 <;> subst h5 <;> simp_all <;> (intro hh; omega)
    · simp only [if_neg hp, GoLoops.bind_ok_iff, GoLoops.pure_ok_iff] at hok ⊢
      obtain ⟨⟨tw, dp⟩, h1, ⟨d, ct⟩, h2, ⟨ow, ot⟩, h3, nx, rfl, h5⟩ := hok
      refine ⟨tw, dp, d, ct, ow, ot, s.prevTimestamps.headD ZEROTIME, ⟨h1, h2⟩, h3, ?_⟩
      dsimp only [PowState.childHeight] at h5 ⊢
      split at h5 <;> simp only [GoLoops.pure_ok_iff] at h5 <;> subst h5 <;> simp_all <;> (intro hh; omega)

theorem intToTarget_lt (i : Int) : intToTarget i < W256 := by
  unfold intToTarget; split <;> omega

theorem mulTargetFrac_eq_ok {x : Nat} {n d : Int} {r : Nat} :
    mulTargetFrac x n d = .ok r ↔ d ≠ 0 ∧ r = intToTarget (Int.ediv (Int.ofNat x * n) d) :=
  GoLoops.ite_error_iff

theorem mulTargetFrac_lt {x : Nat} {n d : Int} {r : Nat} (h : mulTargetFrac x n d = .ok r) : r < W256 := by
  rw [mulTargetFrac_eq_ok] at h; rw [h.2]; exact intToTarget_lt _

/-- what `intToTarget` does to a natural number: everything from 2^255 up becomes 2^256-1 -/
def capT (x : Nat) : Nat := if x ≥ W255 then MAXT else x

theorem capT_mono {a b : Nat} (h : a ≤ b) : capT a ≤ capT b := by
  unfold capT; split <;> split <;> omega

theorem capT_small {a : Nat} (h : a < W255) : capT a = a := by
  unfold capT; split <;> omega

theorem intToTarget_ofNat (x : Nat) : intToTarget (Int.ofNat x) = capT x := rfl

theorem ediv_cast_nat (a : Nat) (e x : Int) (he : 0 ≤ e) (hx : 0 ≤ x) :
    Int.ediv (Int.ofNat a * e) x = Int.ofNat (a * e.toNat / x.toNat) := by
  obtain ⟨e', rfl⟩ := Int.eq_ofNat_of_zero_le he
  obtain ⟨x', rfl⟩ := Int.eq_ofNat_of_zero_le hx
  simp only [Int.ofNat_eq_natCast, Int.toNat_natCast]
  show ((a : Int) * (e' : Int)) / (x' : Int) = _
  rw [← Int.natCast_mul, ← Int.natCast_ediv]

theorem mulTargetFrac_nat (x n d : Nat) (hd : d ≠ 0) :
    mulTargetFrac x (Int.ofNat n) (Int.ofNat d) = .ok (capT (x * n / d)) := by
  rw [mulTargetFrac_eq_ok]
  refine ⟨by simp; omega, ?_⟩
  rw [ediv_cast_nat x (Int.ofNat n) (Int.ofNat d) (Int.natCast_nonneg n) (Int.natCast_nonneg d), intToTarget_ofNat]
  rfl

theorem capT_lt (a : Nat) : capT a < W256 := by
  unfold capT; split <;> omega

theorem oakClamp_inv (s : PowState) (nt : Nat) :
    ∃ r, oakClamp s nt = .ok r ∧
      capT (s.childTarget * 1000 / 1004) ≤ r ∧ r ≤ capT (s.childTarget * 1004 / 1000) ∧
      (r = nt ∨ r = capT (s.childTarget * 1000 / 1004) ∨ r = capT (s.childTarget * 1004 / 1000)) := by
  have e1 : mulTargetFrac s.childTarget 1000 1004 = .ok (capT (s.childTarget * 1000 / 1004)) :=
    mulTargetFrac_nat s.childTarget 1000 1004 (by omega)
  have e2 : mulTargetFrac s.childTarget 1004 1000 = .ok (capT (s.childTarget * 1004 / 1000)) :=
    mulTargetFrac_nat s.childTarget 1004 1000 (by omega)
  have hmono : capT (s.childTarget * 1000 / 1004) ≤ capT (s.childTarget * 1004 / 1000) :=
    capT_mono (by omega)
  unfold oakClamp
  rw [e2, GoLoops.ok_bind, e1, GoLoops.ok_bind]
  split
  · exact ⟨_, rfl, hmono, Nat.le_refl _, .inr (.inr rfl)⟩
  · split
    · exact ⟨_, rfl, Nat.le_refl _, hmono, .inr (.inl rfl)⟩
    · exact ⟨_, rfl, by omega, by omega, .inl rfl⟩

theorem oakNewTarget_lt {n : Network} {s : PowState} {r : Nat} (h : oakNewTarget n s = .ok r) : r < W256 := by
  unfold oakNewTarget at h
  split at h
  · simp at h
  · simp only [Except.ok.injEq] at h; rw [← h]; exact intToTarget_lt _

theorem preOakAdjust_lt {n : Network} {s : PowState} {ts tt : Int} {r : Nat}
    (hct : s.childTarget < W256) (h : preOakAdjust n s ts tt = .ok r) : r < W256 := by
  unfold preOakAdjust at h
  split at h
  · simp only [Except.ok.injEq] at h; omega
  · dsimp only at h
    repeat' split at h
    all_goals exact mulTargetFrac_lt h

theorem adjustTarget_lt {n : Network} {s : PowState} {ts tt : Int} {r : Nat}
    (hct : s.childTarget < W256) (h : adjustTarget n s ts tt = .ok r) : r < W256 := by
  unfold adjustTarget at h
  split at h
  · exact preOakAdjust_lt hct h
  · simp only [GoLoops.bind_ok_iff] at h
    obtain ⟨nt, h1, h⟩ := h
    have hnt := oakNewTarget_lt h1
    split at h
    · simp only [GoLoops.pure_ok_iff] at h; omega
    · obtain ⟨r', e, -, -, h4⟩ := oakClamp_inv s nt
      obtain rfl : r' = r := Except.ok.inj (e.symm.trans h)
      rcases h4 with rfl | rfl | rfl
      · exact hnt
      · exact capT_lt _
      · exact capT_lt _

theorem addTarget_inv {x y r : Nat} (hx : x < W256) (hy : y < W256) (h : addTarget x y = .ok r) :
    x + y ≠ 0 ∧ r = x * y / (x + y) ∧ r ≤ x ∧ r ≤ y := by
  unfold addTarget at h
  split at h
  · simp at h
  · rename_i h0
    have hpos : 0 < x + y := by omega
    have h1 : x * y ≤ x * MAXT := Nat.mul_le_mul_left x (by omega)
    have h2 : x * y ≤ MAXT * y := Nat.mul_le_mul_right y (by omega)
    have hlt : x * y / (x + y) < W255 := by
      rw [Nat.div_lt_iff_lt_mul hpos]
      rw [Nat.mul_add]
      omega
    rw [intToTarget_ofNat, capT_small hlt] at h
    simp only [Except.ok.injEq] at h
    subst h
    refine ⟨h0, rfl, ?_, ?_⟩
    · apply Nat.div_le_of_le_mul
      rw [Nat.add_mul, Nat.mul_comm y x]; omega
    · apply Nat.div_le_of_le_mul
      rw [Nat.add_mul, Nat.mul_comm y y]
      have : 0 ≤ y * y := Nat.zero_le _
      omega

theorem updateTotalWork_inv {n : Network} {s : PowState} {tw dp : Nat}
    (hx : s.depth < W256) (hy : s.childTarget < W256)
    (h : updateTotalWork n s = .ok (tw, dp)) :
    tw < W256 ∧ dp < W256 ∧
    (s.childHeight < n.v2AllowHeight → dp ≠ 0 ∧ dp ≤ s.depth ∧ tw = MAXT / dp) ∧
    (n.v2AllowHeight ≤ s.childHeight → tw = s.totalWork + s.difficulty ∧ tw ≠ 0 ∧ dp = MAXT / tw) := by
  unfold updateTotalWork at h
  split at h
  · simp only [GoLoops.bind_ok_iff, invTarget_eq_ok, GoLoops.pure_ok_iff, Prod.mk.injEq] at h
    obtain ⟨dp', h1, w, ⟨h2, rfl⟩, rfl, rfl⟩ := h
    have := addTarget_inv hx hy h1
    exact ⟨inv_lt _, by omega, fun _ => ⟨h2, this.2.2.1, rfl⟩, fun h => by omega⟩
  · simp only [GoLoops.bind_ok_iff, invTarget_eq_ok, wadd_eq_ok, GoLoops.pure_ok_iff, Prod.mk.injEq] at h
    obtain ⟨tw', ⟨h1, rfl⟩, w, ⟨h2, rfl⟩, rfl, rfl⟩ := h
    exact ⟨h1, inv_lt _, fun h => by omega, fun _ => ⟨rfl, h2, rfl⟩⟩

theorem powTarget_of_lt {n : Network} {s : PowState} (h : s.childHeight < n.v2FinalCutHeight) :
    powTarget n s = .ok s.childTarget := by
  unfold powTarget; rw [if_pos h]

theorem powTarget_of_ge {n : Network} {s : PowState} (h : ¬ s.childHeight < n.v2FinalCutHeight)
    (hd : s.difficulty ≠ 0) : powTarget n s = .ok (MAXT / s.difficulty) := by
  unfold powTarget; rw [if_neg h]; exact invTarget_ok_of_ne hd

theorem updateOakTarget_lt {n : Network} {s : PowState} {t : Nat}
    (hct : s.childTarget < W256) (hasic : n.asicOakTarget < W256)
    (h : updateOakTarget n s = .ok t) : t < W256 := by
  unfold updateOakTarget at h
  split at h
  · exact Except.ok.inj h ▸ hasic
  · simp only [GoLoops.bind_ok_iff] at h
    obtain ⟨x, hx, h⟩ := h
    exact Nat.lt_of_le_of_lt (addTarget_inv (mulTargetFrac_lt hx) hct h).2.2.2 hct

theorem updateOakWork_inv {n : Network} {s : PowState} {ow ot : Nat} (hct : s.childTarget < W256)
    (h : updateOakWork n s = .ok (ow, ot)) :
    ow < W256 ∧ (n.asicOakTarget < W256 → ot < W256) ∧
    (s.childHeight < n.v2AllowHeight → ot ≠ 0 ∧ ow = MAXT / ot) ∧
    (n.v2AllowHeight ≤ s.childHeight →
        ow = s.oakWork - s.oakWork / 200 + s.difficulty ∧ ow ≠ 0 ∧ ot = MAXT / ow) := by
  unfold updateOakWork at h
  split at h
  · simp only [GoLoops.bind_ok_iff, invTarget_eq_ok, GoLoops.pure_ok_iff, Prod.mk.injEq] at h
    obtain ⟨t, h1, w, ⟨h2, rfl⟩, rfl, rfl⟩ := h
    exact ⟨inv_lt _, fun hasic => updateOakTarget_lt hct hasic h1, fun _ => ⟨h2, rfl⟩, fun h => by omega⟩
  · simp only [GoLoops.bind_ok_iff, invTarget_eq_ok, wdiv64_eq_ok, wsub_eq_ok, wadd_eq_ok, GoLoops.pure_ok_iff,
      Prod.mk.injEq] at h
    obtain ⟨q, ⟨-, rfl⟩, a, ⟨-, rfl⟩, w, ⟨hw, rfl⟩, t, ⟨h0, rfl⟩, rfl, rfl⟩ := h
    exact ⟨hw, fun _ => inv_lt _, fun h => by omega, fun _ => ⟨rfl, h0, rfl⟩⟩

theorem adjustDifficultyV2_inv {n : Network} {s : PowState} {ts : Int} {d : Nat}
    (h : adjustDifficultyV2 n s ts = .ok d) :
    s.difficulty - s.difficulty / 250 ≤ d ∧ d ≤ s.difficulty + s.difficulty / 250 ∧
    (s.difficulty < W256 → d < W256) := by
  unfold adjustDifficultyV2 at h
  simp only [GoLoops.bind_ok_iff, wdiv64_eq_ok, wmul64_eq_ok, wsub_eq_ok] at h
  obtain ⟨est, -, nd, ⟨hnd, rfl⟩, ma, ⟨-, rfl⟩, mn, ⟨-, rfl⟩, h⟩ := h
  split at h
  · simp only [GoLoops.pure_ok_iff] at h; omega
  · simp only [GoLoops.bind_ok_iff, wadd_eq_ok] at h
    obtain ⟨mx, ⟨hmx, rfl⟩, h⟩ := h
    split at h <;> simp only [GoLoops.pure_ok_iff] at h <;> omega

theorem adjustDifficultyFinalCut_inv {n : Network} {s : PowState} {ts : Int} {d : Nat}
    (h : adjustDifficultyFinalCut n s ts = .ok d) :
    s.difficulty - max (s.difficulty / 250) 1 ≤ d ∧ d ≤ s.difficulty + max (s.difficulty / 250) 1 ∧
    1 ≤ d ∧ d < W256 := by
  unfold adjustDifficultyFinalCut at h
  simp only [GoLoops.bind_ok_iff, wdiv64_eq_ok, wmul64_eq_ok, wsub_eq_ok, wadd_eq_ok, GoLoops.pure_ok_iff, wmax_eq, wmin_eq] at h
  obtain ⟨a, -, hh, -, b, -, nd, -, q, ⟨-, rfl⟩, hi, ⟨hhi, rfl⟩, lo, ⟨-, rfl⟩, rfl⟩ := h
  omega

/-- From the v2 allow height on both rules stay below the upper side of the wider clamp, that of the final cut. -/
theorem adjustDifficulty_inv {n : Network} {s : PowState} {ts tt : Int} {d ct : Nat}
    (hD : s.difficulty < W256) (hct : s.childTarget < W256)
    (h : adjustDifficulty n s ts tt = .ok (d, ct)) :
    d ≠ 0 ∧ d < W256 ∧ ct ≠ 0 ∧ ct < W256 ∧
    (s.childHeight < n.v2AllowHeight → d = MAXT / ct) ∧
    (n.v2AllowHeight ≤ s.childHeight →
        ct = MAXT / d ∧ d ≤ s.difficulty + max (s.difficulty / 250) 1) := by
  unfold adjustDifficulty at h
  split at h
  · simp only [GoLoops.bind_ok_iff, invTarget_eq_ok, GoLoops.pure_ok_iff, Prod.mk.injEq] at h
    obtain ⟨t, h1, w, ⟨h2, rfl⟩, rfl, rfl⟩ := h
    have clt := adjustTarget_lt hct h1
    exact ⟨div_pos_of_lt h2 clt, inv_lt _, h2, clt, fun _ => rfl, fun h => by omega⟩
  · rename_i e
    split at h <;> simp only [GoLoops.bind_ok_iff, invTarget_eq_ok, GoLoops.pure_ok_iff, Prod.mk.injEq] at h <;>
      obtain ⟨d', h1, t, ⟨h2, rfl⟩, rfl, rfl⟩ := h
    · have := adjustDifficultyV2_inv h1
      have dlt := this.2.2 hD
      exact ⟨h2, dlt, div_pos_of_lt h2 dlt, inv_lt _, fun h => absurd h e, fun _ => ⟨rfl, by omega⟩⟩
    · have := adjustDifficultyFinalCut_inv h1
      exact ⟨h2, this.2.2.2, div_pos_of_lt h2 this.2.2.2, inv_lt _, fun h => absurd h e, fun _ => ⟨rfl, this.2.1⟩⟩

theorem powTarget_ne_zero {n : Network} {s : PowState} (hd0 : s.difficulty ≠ 0) (hd : s.difficulty < W256)
    (hct : s.childHeight < n.v2FinalCutHeight → s.childTarget ≠ 0) :
    ∃ t, powTarget n s = .ok t ∧ t ≠ 0 := by
  by_cases hl : s.childHeight < n.v2FinalCutHeight
  · exact ⟨_, powTarget_of_lt hl, hct hl⟩
  · exact ⟨_, powTarget_of_ge hl hd0, div_pos_of_lt hd0 hd⟩

/-- the deprecated fields after `applyHeader`: zeroed, or what the step computed -/
theorem cut_le {c : Prop} [Decidable c] {a b e x y z : Nat}
    (h : if c then a = 0 ∧ b = 0 ∧ e = 0 else a = x ∧ b = y ∧ e = z) : a ≤ x ∧ b ≤ y ∧ e ≤ z := by
  split at h <;> omega

end Sia.Pow
