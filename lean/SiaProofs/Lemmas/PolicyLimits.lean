import SiaProofs.Lemmas.PolicyVerify
/-! Facts about accepted runs of the verifier (C14): counters, limits, revealed-children count. -/
namespace Sia.Policy

mutual
theorem verifyP_limits (E : Env) (p : Policy) (st st' : St) (h0 : st.total ≤ maxPolicies)
    (h : verifyP E p st = .ok st') :
    st'.total = st.total + p.subCount ∧ st'.total ≤ maxPolicies ∧ p.breadthLe maxChildren = true := by
  match p with
  | .above x => obtain ⟨-, rfl⟩ := verifyP_above_ok.1 h; exact ⟨rfl, h0, rfl⟩
  | .after x => obtain ⟨-, rfl⟩ := verifyP_after_ok.1 h; exact ⟨rfl, h0, rfl⟩
  | .pk k => obtain ⟨_, _, -, -, rfl⟩ := verifyP_pk_ok.1 h; exact ⟨rfl, h0, rfl⟩
  | .hash k => obtain ⟨_, _, -, -, rfl⟩ := verifyP_hash_ok.1 h; exact ⟨rfl, h0, rfl⟩
  | .opaque a => cases h
  | .uc c => obtain ⟨-, _, -, rfl⟩ := verifyP_uc_ok.1 h; exact ⟨rfl, h0, rfl⟩
  | .thresh n subs =>
    obtain ⟨h1, h2, h3⟩ := verifyP_thresh_ok.1 h
    obtain ⟨t1, t2, t3⟩ := verifySubs_limits E n subs 0 _ st' h1 h3
    simp only [Policy.subCount, Policy.breadthLe, Bool.and_eq_true, decide_eq_true_eq]
    exact ⟨by rw [t1, Nat.add_assoc], t2, h2, t3⟩
theorem verifySubs_limits (E : Env) (n : Nat) (subs : List Policy) (sat : Nat) (st st' : St)
    (h0 : st.total ≤ maxPolicies) (h : verifySubs E n subs sat st = .ok st') :
    st'.total = st.total + subCountList subs ∧ st'.total ≤ maxPolicies
      ∧ breadthLeList maxChildren subs = true := by
  match subs with
  | [] => obtain ⟨-, rfl⟩ := verifySubs_nil_ok.1 h; exact ⟨rfl, h0, rfl⟩
  | c :: rest =>
    obtain ⟨-, h⟩ := verifySubs_cons_ok.1 h
    simp only [subCountList, breadthLeList, Bool.and_eq_true]
    split at h
    · rename_i hop
      obtain ⟨t1, t2, t3⟩ := verifySubs_limits E n rest sat st st' h0 h
      exact ⟨by rw [t1, subCount_of_isOpaque hop, Nat.zero_add], t2, breadthLe_of_isOpaque hop, t3⟩
    · obtain ⟨-, st1, hv, h⟩ := h
      obtain ⟨a1, a2, a3⟩ := verifyP_limits E c st st1 h0 hv
      obtain ⟨b1, b2, b3⟩ := verifySubs_limits E n rest (sat + 1) st1 st' a2 h
      exact ⟨by rw [b1, a1, Nat.add_assoc], b2, a3, b3⟩
end

/-- number of revealed (non-opaque) children -/
def revealed (subs : List Policy) : Nat := (subs.filter (fun c => !c.isOpaque)).length

/-- an accepted threshold loop: the `satisfied` counter ends at `n`, so exactly `n - sat` of the
    remaining children are revealed, and none of them is an unlock-conditions policy -/
theorem verifySubs_revealed (E : Env) (n : Nat) (subs : List Policy) (sat : Nat) (st st' : St)
    (h : verifySubs E n subs sat st = .ok st') : sat + revealed subs = n ∧ ∀ c ∈ subs, c.isUC = false := by
  induction subs generalizing sat st with
  | nil => exact ⟨(verifySubs_nil_ok.1 h).1, nofun⟩
  | cons c rest ih =>
    obtain ⟨hu, h⟩ := verifySubs_cons_ok.1 h
    unfold revealed at ih ⊢
    split at h
    · rename_i hop
      rw [List.filter_cons_of_neg (by simp [hop])]
      exact ⟨(ih _ _ h).1, List.forall_mem_cons.2 ⟨hu, (ih _ _ h).2⟩⟩
    · rename_i hop
      obtain ⟨-, st1, -, h⟩ := h
      rw [List.filter_cons_of_pos (by simpa using hop), List.length_cons, ← Nat.add_assoc, Nat.add_right_comm]
      exact ⟨(ih _ _ h).1, List.forall_mem_cons.2 ⟨hu, (ih _ _ h).2⟩⟩

end Sia.Policy
