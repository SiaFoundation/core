import SiaProofs.Lemmas.GoLoops
import SiaProofs.Props.C15
/-!
The two ways the translated code adds a currency to a running sum — `AddWithOverflow` followed by a test of the
overflow flag, and the panicking `Add` — as one step of an exact sum over ℕ: given genuine 128-bit operands, the
new sum is genuine and is the old one plus the value added.  A loop invariant of this shape is what `Chain.sum`
consumes (`m := val`, `I := WF`).
-/
namespace GoLoops
open Gen.Types C15

/-- `sum, overflow = sum.AddWithOverflow(v)` with the flag clear.  The hypotheses come in this order so that `addo_step h`
is itself the step `WF v → WF a → …` that `Chain.sum` takes. -/
theorem addo_step {a v : Currency} (h : ¬ (a.AddWithOverflow v).2 = true) (hv : WF v) (ha : WF a) :
    WF (a.AddWithOverflow v).1 ∧ val (a.AddWithOverflow v).1 = val a + val v := by
  obtain ⟨w, e, o⟩ := c15_add a v ha hv
  exact ⟨w, e.trans (Nat.mod_eq_of_lt (Nat.lt_of_not_le (mt o.mpr h)))⟩

/-- `sum = sum.Add(v)` that did not panic -/
theorem add_step {a v s : Currency} (h : a.Add v = .ok s) (hv : WF v) (ha : WF a) : WF s ∧ val s = val a + val v :=
  have ⟨_, w, e⟩ := (c15_add_panics_iff ha.is hv.is).of_ok h
  ⟨w, e⟩

end GoLoops
