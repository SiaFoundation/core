/-
  SiaProofs.Lemmas.MultiproofBytes — the byte-level round trip of
  V2TransactionsMultiproof over an abstract transaction-set codec.
-/
import SiaModel.Merkle.MultiproofBytes
import SiaProofs.Lemmas.Multiproof
import SiaProofs.Lemmas.CodecPrim
set_option linter.unusedSectionVars false
namespace Sia.Multiproof
open Sia.Codec Sia.ElemAcc

/-- the laws of a transaction-set codec: the proofs are a lens on the `t` with `Good t` (for value trees `GoodTxns`:
    every visited element has the shape `setProof` can write to), the plain codec round-trips on those with `CanonP t` -/
structure TxSetOK {T : Type} (ops : TxSetOps T) (CanonP : T → Prop) (Good : T → Prop) : Prop where
  leaves_set : ∀ t (ps : List (List Hash32)), Good t → ps.length = (ops.leaves t).length →
    ops.leaves (ops.setProofs t ps) = List.zipWith (fun l p => { l with proof := p }) (ops.leaves t) ps
  set_self : ∀ t, Good t → ops.setProofs t ((ops.leaves t).map (·.proof)) = t
  set_set : ∀ t ps qs, ps.length = (ops.leaves t).length → qs.length = (ops.leaves t).length →
    ops.setProofs (ops.setProofs t ps) qs = ops.setProofs t qs
  tags : ∀ t, ∀ a ∈ ops.leaves t, ∀ b ∈ ops.leaves t, a.tag = b.tag → a = b
  roundtrip : ∀ t rest, CanonP t → ops.decP (ops.encP t ++ rest) = .ok (t, rest)

theorem readHashes_flatten (hs : List Hash32) (rest : Bytes) :
    readHashes hs.length ((hs.map (·.val)).flatten ++ rest) = .ok (hs, rest) := by
  induction hs with
  | nil => rfl
  | cons h t ih =>
    obtain ⟨hb, hl⟩ := h
    simp only [List.length_cons, List.map_cons, List.flatten_cons, readHashes, List.append_assoc]
    rw [dif_pos (by rw [List.length_append, hl]; exact Nat.le_add_right 32 _)]
    simp only [List.drop_left' hl, List.take_left' hl, ih]

theorem foldl_or_lt {α : Type} (f : α → Nat) (n : Nat) (l : List α) (acc : Nat) (hacc : acc < 2 ^ n)
    (hf : ∀ x ∈ l, f x < 2 ^ n) : l.foldl (fun a x => a ||| f x) acc < 2 ^ n := by
  induction l generalizing acc with
  | nil => exact hacc
  | cons a t ih =>
    obtain ⟨ha, ht⟩ := List.forall_mem_cons.1 hf
    exact ih _ (Nat.or_lt_two_pow hacc ha) ht

section
variable {T : Type} [Hasher Hash32]

theorem inferNumLeaves_lt (n : Nat) (leaves : List (MLeaf Hash32)) (h : ∀ l ∈ leaves, l.index < 2 ^ n ∧ l.proof.length < n) :
    inferNumLeaves leaves < 2 ^ n :=
  foldl_or_lt (fun l : MLeaf Hash32 => clearBits l.index l.proof.length ||| 2 ^ l.proof.length) n leaves 0
    (Nat.two_pow_pos n) fun l hl =>
      Nat.or_lt_two_pow (Nat.lt_of_le_of_lt (Nat.sub_le _ _) (h l hl).1) (Nat.pow_lt_pow_right (by decide) (h l hl).2)

theorem zipWith_const_nil (ls : List (MLeaf Hash32)) :
    List.zipWith (fun (l : MLeaf Hash32) (p : List Hash32) => ({ l with proof := p } : MLeaf Hash32)) ls (ls.map fun _ => []) =
      ls.map fun l => { l with proof := [] } := by
  induction ls with
  | nil => rfl
  | cons a t ih => simp [ih]

theorem bytes_roundtrip (ops : TxSetOps T) (CanonP Good : T → Prop) (ok : TxSetOK ops CanonP Good)
    (ls : List Hash32) (t : T) (hgood : Good t) (hv : ∀ l ∈ ops.leaves t, Valid ls l) (hn : ls.length < 2 ^ 64)
    (hcanon : CanonP (ops.strip t)) (tail : Bytes) :
    decodeBytes ops (encodeBytes ops t ++ tail) = .ok (t, tail) := by
  have hlen0 : ((ops.leaves t).map fun _ => ([] : List Hash32)).length = (ops.leaves t).length := List.length_map _
  have hstripLeaves : ops.leaves (ops.strip t) = (ops.leaves t).map fun l => { l with proof := [] } := by
    rw [TxSetOps.strip, ok.leaves_set t _ hgood hlen0, zipWith_const_nil]
  have hNlt : inferNumLeaves (ops.leaves t) < W64 :=
    inferNumLeaves_lt 64 (ops.leaves t) fun l hl => ⟨Nat.lt_trans (hv l hl).lt hn, valid_len_lt ls hn (hv l hl)⟩
  obtain ⟨hlt, hsized⟩ := sizeProofs_infer ls (ops.leaves t) hv
  have hany : (((ops.leaves t).map fun l => ({ l with proof := [] } : MLeaf Hash32)).any
      fun l => decide (l.index ≥ inferNumLeaves (ops.leaves t))) = false :=
    List.any_eq_false.2 fun l hl => by
      obtain ⟨l1, hl1, rfl⟩ := List.mem_map.1 hl
      simpa using hlt l1 hl1
  obtain ⟨e1, e2⟩ := expand_compute ls (ops.leaves t) hv (ok.tags t) hn zeroProof zeroProof_shape
  unfold encodeBytes decodeBytes
  rw [List.append_assoc, ok.roundtrip _ _ hcanon]
  simp only []
  rw [List.append_assoc, readU64_append hNlt]
  simp only [hstripLeaves, hany, hsized, Bool.false_eq_true, if_false]
  rw [← e2, readHashes_flatten]
  simp only [e1]
  rw [TxSetOps.strip, ok.set_set t _ _ hlen0 (List.length_map _), ok.set_self t hgood]

end

end Sia.Multiproof
