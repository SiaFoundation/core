import SiaProofs.Lemmas.PolicyUC
/-! The verifier computes the meaning (C14): what one step of an accepted run is, and the
    mutual induction over policies and sub-policy lists. -/
namespace Sia.Policy

/-- every timestamp involved is in the range where `time.Time` does not wrap -/
def SaneTimes (E : Env) (ls : List Policy) : Prop :=
  InRange E.median ∧ ∀ t, Policy.after t ∈ ls → InRange t

theorem SaneTimes.left {E : Env} {a b : List Policy} (h : SaneTimes E (a ++ b)) : SaneTimes E a :=
  ⟨h.1, fun t ht => h.2 t (List.mem_append_left _ ht)⟩
theorem SaneTimes.right {E : Env} {a b : List Policy} (h : SaneTimes E (a ++ b)) : SaneTimes E b :=
  ⟨h.1, fun t ht => h.2 t (List.mem_append_right _ ht)⟩

theorem St.eq_iff (a b : St) : a = b ↔ b.sigs = a.sigs ∧ b.pres = a.pres ∧ b.total = a.total := by
  cases a; cases b; simp [eq_comm]

theorem isUC_of_isOpaque {c : Policy} (h : c.isOpaque = true) : c.isUC = false := by
  cases c <;> first | rfl | cases h
theorem subCount_of_isOpaque {c : Policy} (h : c.isOpaque = true) : c.subCount = 0 := by
  cases c <;> first | rfl | cases h
theorem breadthLe_of_isOpaque {b : Nat} {c : Policy} (h : c.isOpaque = true) : c.breadthLe b = true := by
  cases c <;> first | rfl | cases h

/-! ### accepted runs, one step: each branch of `verifyP` / `verifySubs` returns `ok` exactly when
    its guards hold and the rest of the run returns `ok` -/

section step
variable {E : Env} {st st' : St}

theorem verifyP_above_ok {h : Nat} : verifyP E (.above h) st = .ok st' ↔ h ≤ E.height ∧ st = st' := by
  rw [verifyP]; split <;> simp [*]

theorem verifyP_after_ok {t : Int} : verifyP E (.after t) st = .ok st' ↔ timeAfter E.median t = true ∧ st = st' := by
  rw [verifyP]; split <;> simp [*]

theorem verifyP_pk_ok {k : ByteArray} : verifyP E (.pk k) st = .ok st' ↔
    ∃ x rest, st.sigs = x :: rest ∧ E.verifySig k E.sigHash x = true ∧ { st with sigs := rest } = st' := by
  rw [verifyP]
  cases st.sigs with
  | nil => simp
  | cons x rest =>
    by_cases h : E.verifySig k E.sigHash x = true <;> simp only [h, if_true, Except.ok.injEq, List.cons.injEq]
    · exact ⟨fun e => ⟨x, rest, ⟨rfl, rfl⟩, h, e⟩, fun ⟨_, _, ⟨rfl, rfl⟩, _, e⟩ => e⟩
    · exact ⟨nofun, fun ⟨_, _, ⟨rfl, rfl⟩, h', _⟩ => absurd h' h⟩

theorem verifyP_hash_ok {h : ByteArray} : verifyP E (.hash h) st = .ok st' ↔
    ∃ x rest, st.pres = x :: rest ∧ E.sha x = h ∧ { st with pres := rest } = st' := by
  rw [verifyP]
  cases st.pres with
  | nil => simp
  | cons x rest =>
    by_cases hx : E.sha x = h <;> simp only [hx, if_true, if_false, Except.ok.injEq, List.cons.injEq]
    · exact ⟨fun e => ⟨x, rest, ⟨rfl, rfl⟩, hx, e⟩, fun ⟨_, _, ⟨rfl, rfl⟩, _, e⟩ => e⟩
    · exact ⟨nofun, fun ⟨_, _, ⟨rfl, rfl⟩, h', _⟩ => absurd h' hx⟩

theorem verifyP_uc_ok {c : UnlockConditions} : verifyP E (.uc c) st = .ok st' ↔
    c.timelock ≤ E.height ∧ ∃ sigs', ucLoop E c.publicKeys c.signaturesRequired st.sigs = .ok (0, sigs') ∧
      { st with sigs := sigs' } = st' := by
  rw [verifyP]
  by_cases hh : c.timelock ≤ E.height
  · cases ucLoop E c.publicKeys c.signaturesRequired st.sigs with
    | error e => simp [hh]
    | ok r => by_cases hr : r.1 = 0 <;> simp [hh, hr, Prod.ext_iff]
  · simp [hh]

theorem verifyP_thresh_ok {n : Nat} {subs : List Policy} : verifyP E (.thresh n subs) st = .ok st' ↔
    st.total + subs.length ≤ maxPolicies ∧ subs.length ≤ maxChildren ∧
      verifySubs E n subs 0 { st with total := st.total + subs.length } = .ok st' := by
  rw [verifyP]; split
  · exact ⟨nofun, fun e => by omega⟩
  · exact ⟨fun e => ⟨by omega, by omega, e⟩, fun e => e.2.2⟩

theorem verifySubs_nil_ok {n sat : Nat} : verifySubs E n [] sat st = .ok st' ↔ sat = n ∧ st = st' := by
  rw [verifySubs]; split <;> simp [*]

theorem verifySubs_cons_ok {n sat : Nat} {c : Policy} {rest : List Policy} :
    verifySubs E n (c :: rest) sat st = .ok st' ↔ c.isUC = false ∧
      if c.isOpaque then verifySubs E n rest sat st = .ok st'
      else sat ≠ n ∧ ∃ st1, verifyP E c st = .ok st1 ∧ verifySubs E n rest (sat + 1) st1 = .ok st' := by
  rw [verifySubs]
  by_cases hu : c.isUC = true
  · simp only [hu, if_true, reduceCtorEq, Bool.true_eq_false, false_and]
  by_cases ho : c.isOpaque = true
  · simp [hu, ho]
  by_cases hs : sat = n
  · simp [hu, ho, hs]
  simp only [hu, ho, hs, Bool.false_eq_true, if_false, ne_eq, not_false_eq_true, true_and]
  cases verifyP E c st <;> simp
end step

mutual
theorem verifyP_iff (E : Env) (p : Policy) (st st' : St)
    (hT : SaneTimes E p.leaves) (hb : p.breadthLe maxChildren = true)
    (hn : st.total + p.subCount ≤ maxPolicies) :
    verifyP E p st = .ok st' ↔
      (Sat E p st.sigs st.pres st'.sigs st'.pres ∧ st'.total = st.total + p.subCount) := by
  match p with
  | .above h => simp only [verifyP_above_ok, St.eq_iff, Sat, Policy.subCount, Nat.add_zero, and_assoc]
  | .after t =>
    simp only [verifyP_after_ok, timeAfter_iff hT.1 (hT.2 t List.mem_cons_self), St.eq_iff, Sat, Policy.subCount,
      Nat.add_zero, and_assoc]
  | .pk k =>
    rw [verifyP_pk_ok, Sat]
    constructor
    · rintro ⟨x, rest, hs, hv, rfl⟩; exact ⟨⟨x, hs, hv, rfl⟩, rfl⟩
    · rintro ⟨⟨x, hs, hv, hp⟩, ht⟩; exact ⟨x, _, hs, hv, (St.eq_iff ..).2 ⟨rfl, hp, ht⟩⟩
  | .hash h =>
    rw [verifyP_hash_ok, Sat]
    constructor
    · rintro ⟨x, rest, hs, hv, rfl⟩; exact ⟨⟨x, hs, hv, rfl⟩, rfl⟩
    · rintro ⟨⟨x, hs, hv, hp⟩, ht⟩; exact ⟨x, _, hs, hv, (St.eq_iff ..).2 ⟨hp, rfl, ht⟩⟩
  | .opaque a => simp [verifyP, Sat]
  | .uc c =>
    simp only [verifyP_uc_ok, ucLoop_ok_iff, Sat]
    constructor
    · rintro ⟨hh, sigs', hu, rfl⟩; exact ⟨⟨hh, rfl, hu⟩, rfl⟩
    · rintro ⟨⟨hh, hp, hu⟩, ht⟩; exact ⟨hh, _, hu, (St.eq_iff ..).2 ⟨rfl, hp, ht⟩⟩
  | .thresh n subs =>
    simp only [Policy.breadthLe, Bool.and_eq_true, decide_eq_true_eq] at hb
    simp only [Policy.subCount] at hn ⊢
    rw [verifyP_thresh_ok, verifySubs_iff E n subs 0 _ st' hT hb.2 (by rw [Nat.add_assoc]; exact hn), Sat,
      Nat.add_assoc]
    exact ⟨fun h => ⟨h.2.2.2.1, h.2.2.2.2⟩, fun h => ⟨by omega, hb.1, Nat.zero_le _, h⟩⟩
theorem verifySubs_iff (E : Env) (n : Nat) (subs : List Policy) (sat : Nat) (st st' : St)
    (hT : SaneTimes E (leavesList subs)) (hb : breadthLeList maxChildren subs = true)
    (hn : st.total + subCountList subs ≤ maxPolicies) :
    verifySubs E n subs sat st = .ok st' ↔
      (sat ≤ n ∧ SatSubs E subs (n - sat) st.sigs st.pres st'.sigs st'.pres
        ∧ st'.total = st.total + subCountList subs) := by
  match subs with
  | [] =>
    rw [verifySubs_nil_ok, St.eq_iff, SatSubs, subCountList]
    exact ⟨fun ⟨hs, h1, h2, h3⟩ => ⟨by omega, ⟨by omega, h1, h2⟩, h3⟩,
      fun ⟨hle, ⟨h0, h1, h2⟩, h3⟩ => ⟨by omega, h1, h2, h3⟩⟩
  | c :: rest =>
    simp only [leavesList] at hT
    simp only [breadthLeList, Bool.and_eq_true] at hb
    simp only [subCountList] at hn ⊢
    rw [verifySubs_cons_ok, SatSubs]
    by_cases hop : c.isOpaque = true
    · rw [if_pos hop, if_pos hop, verifySubs_iff E n rest sat st st' hT.right hb.2 (by omega),
        subCount_of_isOpaque hop, Nat.zero_add]
      exact and_iff_right (isUC_of_isOpaque hop)
    · rw [if_neg hop, if_neg hop]
      by_cases huc : c.isUC = true
      · simp [huc]
      · have hP := fun st1 => verifyP_iff E c st st1 hT.left hb.1 (by omega)
        have hS := fun st1 (h : st1.total = st.total + c.subCount) =>
          verifySubs_iff E n rest (sat + 1) st1 st' hT.right hb.2 (by omega)
        rw [if_neg huc]
        constructor
        · rintro ⟨-, hs, st1, hv, hr⟩
          obtain ⟨h1, h1t⟩ := (hP st1).1 hv
          obtain ⟨hle, h2, ht⟩ := (hS st1 h1t).1 hr
          exact ⟨by omega, ⟨n - (sat + 1), st1.sigs, st1.pres, by omega, h1, h2⟩, by omega⟩
        · rintro ⟨hle, ⟨m, s1, p1, hm, hsat, h2⟩, ht⟩
          have hm' : n - (sat + 1) = m := by omega
          exact ⟨by simpa using huc, by omega, _, (hP ⟨s1, p1, _⟩).2 ⟨hsat, rfl⟩,
            (hS ⟨s1, p1, _⟩ rfl).2 ⟨by omega, hm' ▸ h2, ht.trans (Nat.add_assoc ..).symm⟩⟩
end

end Sia.Policy
