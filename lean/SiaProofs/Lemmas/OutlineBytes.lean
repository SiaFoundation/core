/-
  The outline codec splits an outline into three payload lists and one kind byte per entry (`encodeShape`);
  `decodeShape` undoes the split on outlines whose present entries carry the hash of their transaction (`EntriesWF`),
  and the byte codec round-trips for any three payload codecs that do.
-/
import SiaModel.Gateway.OutlineBytes
import SiaProofs.Lemmas.MultiproofBytes
set_option linter.unusedSectionVars false
namespace Sia.Outline
open Sia.Codec Sia.Multiproof

/-- a codec round-trips on the values satisfying `P` -/
def BCodec.Law {α : Type} (c : BCodec α) (P : α → Prop) : Prop :=
  ∀ a rest, P a → c.dec (c.enc a ++ rest) = .ok (a, rest)

section
variable {Tx1 Tx2 : Type}

/-- present entries carry the hash of their transaction, and at most one transaction -/
def EntriesWF (env : Env Tx1 Tx2 Hash32 Hash32) (txs : List (OTx Tx1 Tx2 Hash32)) : Prop :=
  ∀ t ∈ txs, (∀ x, t.txn = some x → t.hash = env.leaf1 x ∧ t.v2txn = none) ∧
    (∀ x, t.v2txn = some x → t.hash = env.leaf2 x)

theorem shape_roundtrip (env : Env Tx1 Tx2 Hash32 Hash32) (bo : BOutline Tx1 Tx2) (hwf : EntriesWF env bo.transactions) :
    decodeShape env (encodeShape bo).1 (encodeShape bo).2.1 (encodeShape bo).2.2.1 (encodeShape bo).2.2.2 = some bo.transactions := by
  cases bo with
  | mk height parentID nonce timestamp minerAddress transactions =>
    simp only [encodeShape]
    induction transactions with
    | nil => rfl
    | cons t rest ih =>
      have hrest := ih fun x hx => hwf x (List.mem_cons_of_mem _ hx)
      obtain ⟨w1, w2⟩ := hwf t List.mem_cons_self
      -- by evaluation, `decodeShape` puts the entry it rebuilds in front of the decoded rest
      rcases t with ⟨h, _ | x, _ | y⟩
      · exact congrArg (Option.map (⟨h, none, none⟩ :: ·)) hrest
      · obtain rfl : h = env.leaf2 y := w2 y rfl
        exact congrArg (Option.map (⟨env.leaf2 y, none, some y⟩ :: ·)) hrest
      · obtain rfl : h = env.leaf1 x := (w1 x rfl).1
        exact congrArg (Option.map (⟨env.leaf1 x, some x, none⟩ :: ·)) hrest
      · cases (w1 x rfl).2

theorem shape_counts (bo : BOutline Tx1 Tx2) :
    (encodeShape bo).1.length + (encodeShape bo).2.1.length + (encodeShape bo).2.2.1.length = (encodeShape bo).2.2.2.length ∧
    ∀ k ∈ (encodeShape bo).2.2.2, k ≤ 2 := by
  cases bo with
  | mk height parentID nonce timestamp minerAddress transactions =>
    simp only [encodeShape]
    induction transactions with
    | nil => exact ⟨rfl, fun _ hk => nomatch hk⟩
    | cons t rest ih =>
      obtain ⟨i1, i2⟩ := ih
      rw [List.length_map] at i1 ⊢
      -- by evaluation, an entry adds one element to exactly one of the three lists, and one kind
      rcases t with ⟨h, _ | x, _ | y⟩
      · exact ⟨congrArg Nat.succ i1, List.forall_mem_cons.2 ⟨Nat.le_refl 2, i2⟩⟩
      · exact ⟨(Nat.succ_add _ _).trans (congrArg Nat.succ i1), List.forall_mem_cons.2 ⟨Nat.le_succ 1, i2⟩⟩
      all_goals exact ⟨(congrArg (· + _) (Nat.succ_add _ _)).trans ((Nat.succ_add _ _).trans (congrArg Nat.succ i1)),
        List.forall_mem_cons.2 ⟨Nat.zero_le 2, i2⟩⟩

theorem readHash_append (h : Hash32) (r : Bytes) : readHash (h.val ++ r) = .ok (h, r) := by
  have := readHashes_flatten [h] r
  simp only [List.length_cons, List.length_nil, List.map_cons, List.map_nil, List.flatten_cons, List.flatten_nil,
    List.append_nil] at this
  simp [readHash, this]

theorem readKinds_append : ∀ (ks : List Nat), (∀ k ∈ ks, k ≤ 2) → ∀ (r : Bytes),
    readKinds ks.length (ks.map UInt8.ofNat ++ r) = .ok (ks, r) := by
  intro ks
  induction ks with
  | nil => intro _ r; rfl
  | cons k t ih =>
    intro hk r
    obtain ⟨hk2, ht⟩ := List.forall_mem_cons.1 hk
    have e : (UInt8.ofNat k).toNat = k := UInt8.toNat_ofNat'.trans (Nat.mod_eq_of_lt (Nat.lt_of_le_of_lt hk2 (by decide)))
    simp only [List.length_cons, List.map_cons, List.cons_append, readKinds, e]
    rw [if_neg (Nat.not_lt.2 hk2), ih ht]

/-- **The outline codec round-trips on bytes**, for any lawful payload codecs. -/
theorem outline_bytes_roundtrip (env : Env Tx1 Tx2 Hash32 Hash32) (C : OutlineCodecs Tx1 Tx2)
    (P1 : List Tx1 → Prop) (P2 : List Tx2 → Prop) (PH : List Hash32 → Prop)
    (l1 : C.v1.Law P1) (l2 : C.v2.Law P2) (lH : C.hs.Law PH)
    (bo : BOutline Tx1 Tx2) (hwf : EntriesWF env bo.transactions)
    (hh : bo.height < W64) (hnn : bo.nonce < W64) (hts : bo.timestamp < W64)
    (h1 : P1 (encodeShape bo).1) (h2 : P2 (encodeShape bo).2.1) (h3 : PH (encodeShape bo).2.2.1) (tail : Bytes) :
    decodeOutline env C (encodeOutline C bo ++ tail) = .ok (bo, tail) := by
  obtain ⟨hc, hk⟩ := shape_counts bo
  simp only [encodeOutline, decodeOutline, List.append_assoc, readU64_append hh, readU64_append hnn, readU64_append hts,
    readHash_append, l1 _ _ h1, l2 _ _ h2, lH _ _ h3, hc, readKinds_append _ hk, shape_roundtrip env bo hwf]

end
end Sia.Outline
