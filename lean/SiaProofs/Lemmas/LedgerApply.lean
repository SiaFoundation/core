import SiaProofs.Lemmas.LedgerVM
import SiaProofs.Lemmas.LedgerPut
import SiaProofs.Lemmas.LedgerSums
/-!
# `applyTransaction` / `applyV2Transaction` as folds of named per-item steps,
what they do to the `spends` list of the mid-state, and which predicates they keep

A predicate is proved to be kept where it is easiest: by the four `put`s with an update function that rewrites a diff
where it stands (`Mid.Puts`).  That gives the ten operations (`Mid.Puts.ops : Mid.Ops I`), and those a transaction up
to its trailing step (`Mid.Ops.applyV2Transaction`), or all of it (`Mid.Stable`).  A predicate that is kept only if
the consumed element is right (`Genuine`) uses the walks themselves, `applyV2Transaction_walk` and
`applyTransaction_walk`, which say which element each operation is applied to.
-/
namespace Sia.Ledger

def a2ScIn (s : Mid) (sci : ScIn2) : VM Mid := pure (s.spendSc sci.parent)
def a2ScOut (s : Mid) (x : Id × ScOut) : VM Mid := pure (s.createSc x.1 x.2)
def a2SfIn (s : Mid) (sfi : SfIn2) : VM Mid := do
  let c ← claimPortion (s.spendSf sfi.parent).pool sfi.parent.claimStart sfi.parent.value
  pure ((s.spendSf sfi.parent).createImmatureSc sfi.claimId { value := c, addr := sfi.claimAddr })
def a2SfOut (s : Mid) (x : Id × Nat × Addr) : VM Mid := pure (s.createSf x.1 x.2.1 x.2.2)
def a2Fc (s : Mid) (x : Id × Fc2 × Bool) : VM Mid := s.createFc2 x.1 x.2.1
def a2Rev (s : Mid) (r : Rev2) : VM Mid := pure (s.reviseFc2 r.parent r.rev)

/-- the two outputs a resolution pays: (renter output, host output) -/
def Resolution2.payouts (r : Resolution2) : ScOut × ScOut :=
  match r.res with
  | .renewal rn => (rn.finalRenter, rn.finalHost)
  | .proof _ _ _ _ => (r.parent.fc.renter, r.parent.fc.host)
  | .expiration => (r.parent.fc.renter, { value := r.parent.fc.missedHost, addr := r.parent.fc.host.addr })

def Res2.kind : Res2 → ResKind
  | .renewal _ => .renewal
  | .proof _ _ _ _ => .proof
  | .expiration => .expiration

/-- a renewal also forms the new contract -/
def a2ResNew (s1 : Mid) (r : Resolution2) : VM Mid :=
  match r.res with
  | .renewal rn => s1.createFc2 rn.newId rn.newContract
  | _ => pure s1

/-- one iteration of the resolution loop of `applyV2Transaction` -/
def a2Res (s : Mid) (r : Resolution2) : VM Mid :=
  s.resolveFc2 r.parent r.res.kind >>= fun s1 =>
  a2ResNew s1 r >>= fun s2 =>
  pure ((s2.createImmatureSc r.renterOutId r.payouts.1).createImmatureSc r.hostOutId r.payouts.2)

/-- the trailing attestation count and Foundation address update -/
def a2Final (s : Mid) (t : Txn2) : Mid :=
  let s := { s with natts := s.natts + t.natts }
  match t.newFoundation with
  | some a => if a ≠ s.base.P.voidAddr then { s with fPrimary := a, fFailsafe := a } else { s with fPrimary := a }
  | none => s

theorem applyV2Transaction_eq (ms : Mid) (t : Txn2) :
    applyV2Transaction ms t = (do
      let s ← t.scIns.foldlM a2ScIn ms
      let s ← t.scOuts.foldlM a2ScOut s
      let s ← t.sfIns.foldlM a2SfIn s
      let s ← t.sfOuts.foldlM a2SfOut s
      let s ← t.fcs.foldlM a2Fc s
      let s ← t.revs.foldlM a2Rev s
      let s ← t.ress.foldlM a2Res s
      pure (a2Final s t)) := by
  unfold applyV2Transaction
  simp only [← forIn_eq_foldlM]
  refine bind_congr' rfl (fun s => ?_)
  refine bind_congr' rfl (fun s => ?_)
  refine bind_congr' ?_ (fun s => ?_)
  · congr 1; funext x s; simp only [a2SfIn, pure_bind, bind_assoc]
  refine bind_congr' rfl (fun s => ?_)
  refine bind_congr' rfl (fun s => ?_)
  refine bind_congr' rfl (fun s => ?_)
  refine bind_congr' ?_ (fun s => ?_)
  · congr 1; funext r s
    unfold a2Res a2ResNew Resolution2.payouts Res2.kind
    cases r.res <;> simp only [pure_bind, bind_assoc]
  · unfold a2Final
    simp only []
    cases t.newFoundation with
    | none => rfl
    | some a => simp only []; split <;> rfl

def a1ScIn (t : Txn1) (s : Mid) (sci : ScIn1) : VM Mid :=
  match s.scElement t.supp sci.parent with
  | none => gopanic "missing SiacoinElement"
  | some e => pure (s.spendSc e)
def a1ScOut (s : Mid) (x : Id × ScOut) : VM Mid := pure (s.createSc x.1 x.2)
def a1SfIn (t : Txn1) (s : Mid) (sfi : SfIn1) : VM Mid :=
  match s.sfElement t.supp sfi.parent with
  | none => gopanic "missing SiafundElement"
  | some e => do
    let c ← claimPortion s.pool e.claimStart e.value
    pure ((s.spendSf e).createImmatureSc sfi.claimId { value := c, addr := sfi.claimAddr })
def a1SfOut (s : Mid) (x : Id × Nat × Addr) : VM Mid := pure (s.createSf x.1 x.2.1 x.2.2)
def a1Fc (s : Mid) (x : Id × Fc1) : VM Mid := s.createFc1 x.1 x.2
def a1Rev (t : Txn1) (s : Mid) (r : Rev1) : VM Mid :=
  match s.fc1Element t.supp r.parent with
  | none => gopanic "missing FileContractElement"
  | some e => pure (s.reviseFc1 e r.fc)
def a1Payout (s : Mid) (x : ScOut × Id) : VM Mid := pure (s.createImmatureSc x.2 x.1)
def a1Proof (t : Txn1) (s : Mid) (sp : Proof1) : VM Mid :=
  match s.fc1Element t.supp sp.parent with
  | none => gopanic "missing V1StorageProofSupplement"
  | some e => (e.fc.valid.zip sp.outIds).foldlM a1Payout (s.resolveFc1 e true)
def a1Final (s : Mid) (t : Txn1) : Mid :=
  if s.base.child ≥ s.base.P.hfFoundation + 1 then
    match t.foundation with
    | some (some (p, f), _) => { s with fPrimary := p, fFailsafe := f }
    | some (none, _) => { s with fPrimary := 0, fFailsafe := 0 }
    | none => s
  else s

theorem applyTransaction_eq (ms : Mid) (t : Txn1) :
    applyTransaction ms t = (do
      let s ← t.scIns.foldlM (a1ScIn t) ms
      let s ← t.scOuts.foldlM a1ScOut s
      let s ← t.sfIns.foldlM (a1SfIn t) s
      let s ← t.sfOuts.foldlM a1SfOut s
      let s ← t.fcs.foldlM a1Fc s
      let s ← t.revs.foldlM (a1Rev t) s
      let s ← t.proofs.foldlM (a1Proof t) s
      pure (a1Final s t)) := by
  unfold applyTransaction
  simp only [← forIn_eq_foldlM]
  refine bind_congr' ?_ (fun s => ?_)
  · congr 1; funext x s; unfold a1ScIn
    cases s.scElement t.supp x.parent <;> simp only [pure_bind, gopanic_bind]
  refine bind_congr' rfl (fun s => ?_)
  refine bind_congr' ?_ (fun s => ?_)
  · congr 1; funext x s; unfold a1SfIn
    cases s.sfElement t.supp x.parent <;> simp only [pure_bind, gopanic_bind, bind_assoc]
  refine bind_congr' rfl (fun s => ?_)
  refine bind_congr' rfl (fun s => ?_)
  refine bind_congr' ?_ (fun s => ?_)
  · congr 1; funext x s; unfold a1Rev
    cases s.fc1Element t.supp x.parent <;> simp only [pure_bind, gopanic_bind]
  refine bind_congr' ?_ (fun s => ?_)
  · congr 1; funext x s; unfold a1Proof
    cases s.fc1Element t.supp x.parent with
    | none => simp only [gopanic_bind]
    | some e =>
      simp only []
      rw [← forIn_eq_foldlM]
      rfl
  · unfold a1Final
    split
    · split <;> (rename_i heq; rw [heq])
    · rfl

theorem applyV2Transaction_ok {ms ms' : Mid} {t : Txn2} (h : applyV2Transaction ms t = .ok ms') :
    ∃ s1, t.scIns.foldlM a2ScIn ms = .ok s1 ∧ ∃ s2, t.scOuts.foldlM a2ScOut s1 = .ok s2 ∧
    ∃ s3, t.sfIns.foldlM a2SfIn s2 = .ok s3 ∧ ∃ s4, t.sfOuts.foldlM a2SfOut s3 = .ok s4 ∧
    ∃ s5, t.fcs.foldlM a2Fc s4 = .ok s5 ∧ ∃ s6, t.revs.foldlM a2Rev s5 = .ok s6 ∧
    ∃ s7, t.ress.foldlM a2Res s6 = .ok s7 ∧ ms' = a2Final s7 t := by
  simpa only [applyV2Transaction_eq, bind_ok_iff, pure_eq_ok] using h

theorem applyTransaction_ok {ms ms' : Mid} {t : Txn1} (h : applyTransaction ms t = .ok ms') :
    ∃ s1, t.scIns.foldlM (a1ScIn t) ms = .ok s1 ∧ ∃ s2, t.scOuts.foldlM a1ScOut s1 = .ok s2 ∧
    ∃ s3, t.sfIns.foldlM (a1SfIn t) s2 = .ok s3 ∧ ∃ s4, t.sfOuts.foldlM a1SfOut s3 = .ok s4 ∧
    ∃ s5, t.fcs.foldlM a1Fc s4 = .ok s5 ∧ ∃ s6, t.revs.foldlM (a1Rev t) s5 = .ok s6 ∧
    ∃ s7, t.proofs.foldlM (a1Proof t) s6 = .ok s7 ∧ ms' = a1Final s7 t := by
  simpa only [applyTransaction_eq, bind_ok_iff, pure_eq_ok] using h

theorem createFc1_ok_iff {s s' : Mid} {id : Id} {fc : Fc1} : s.createFc1 id fc = .ok s' ↔
    (s.pool + fileContractTax s.base fc.payout < curLimit ∧
      s' = { s.putFc1 id (fun d => { d with e := { id := id, fc := fc, leaf := none }, created := true }) with
             pool := s.pool + fileContractTax s.base fc.payout }) := by
  simp only [Mid.createFc1, addC_bind_ok_iff, pure_eq_ok, putFc1_eq, put_pool, put_base]

theorem createFc2_ok_iff {s s' : Mid} {id : Id} {fc : Fc2} : s.createFc2 id fc = .ok s' ↔
    (fc.val < curLimit ∧ s.pool + fc.val / 25 < curLimit ∧
      s' = { s.putFc2 id (fun d => { d with e := { id := id, fc := fc, leaf := none }, created := true }) with
             pool := s.pool + fc.val / 25 }) := by
  simp only [Mid.createFc2, bind_ok_iff, v2Tax_ok_iff, addC_ok_iff, pure_eq_ok, putFc2_eq, put_pool]
  exact ⟨fun ⟨_, ⟨rfl, h1⟩, _, ⟨rfl, h2⟩, h3⟩ => ⟨h1, h2, h3⟩, fun ⟨h1, h2, h3⟩ => ⟨_, ⟨rfl, h1⟩, _, ⟨rfl, h2⟩, h3⟩⟩

theorem resolveFc2_ok_iff {s s' : Mid} {e : Fc2Elem} {k : ResKind} : s.resolveFc2 e k = .ok s' ↔
    ((fc2Slice.target s e.id).created = false ∧
      s' = { s.putFc2 e.id (fun d => { d with e := e, resolution := some k }) with spends := e.id :: s.spends }) := by
  unfold Mid.resolveFc2 Slice.target
  cases s.lookup e.id with
  | none => simp only [pure_eq_ok, putFc2_eq, put_spends]; exact ⟨fun h => ⟨rfl, h⟩, fun h => h.2⟩
  | some i =>
    simp only [putFc2_eq, put_spends, show fc2Slice.get s = s.v2fces from rfl]
    cases (s.v2fces.getD i default).created
    · simp only [Bool.false_eq_true, if_false, pure_eq_ok, true_and]
    · simp only [if_true, gopanic_ne_ok, Bool.true_eq_false, false_and]

/-- a predicate on mid-states kept by every element and contract operation of the model -/
structure Mid.Ops (I : Mid → Prop) : Prop where
  spendSc : ∀ s e, I s → I (s.spendSc e)
  createSc : ∀ s id o m, I s → I (s.createSc id o m)
  spendSf : ∀ s e, I s → I (s.spendSf e)
  createSf : ∀ s id v a, I s → I (s.createSf id v a)
  createFc1 : ∀ s s' id fc, I s → s.createFc1 id fc = .ok s' → I s'
  reviseFc1 : ∀ s e r, I s → I (s.reviseFc1 e r)
  resolveFc1 : ∀ s e v, I s → I (s.resolveFc1 e v)
  createFc2 : ∀ s s' id fc, I s → s.createFc2 id fc = .ok s' → I s'
  reviseFc2 : ∀ s e r, I s → I (s.reviseFc2 e r)
  resolveFc2 : ∀ s s' e k, I s → s.resolveFc2 e k = .ok s' → I s'

/-- a predicate kept by the operations (`Mid.Ops`) and by the trailing step of a transaction (attestation
count, Foundation addresses) -/
structure Mid.Stable (I : Mid → Prop) : Prop extends Mid.Ops I where
  foundation : ∀ s n p f, I s → I { s with natts := n, fPrimary := p, fFailsafe := f }

/-- a predicate kept by the four `put`s with an update function that rewrites a diff where it stands
(`Slice.Keeps`), and blind to `spends` and `pool`: every element and contract operation is such a `put` followed
by at most one of those two updates -/
structure Mid.Puts (I : Mid → Prop) : Prop where
  putSc : ∀ s id f, scSlice.Keeps id f → I s → I (s.putSc id f)
  putSf : ∀ s id f, sfSlice.Keeps id f → I s → I (s.putSf id f)
  putFc1 : ∀ s id f, fc1Slice.Keeps id f → I s → I (s.putFc1 id f)
  putFc2 : ∀ s id f, fc2Slice.Keeps id f → I s → I (s.putFc2 id f)
  spends : ∀ s l, I s → I { s with spends := l }
  pool : ∀ s p, I s → I { s with pool := p }

theorem Mid.Puts.ops {I : Mid → Prop} (h : Mid.Puts I) : Mid.Ops I where
  spendSc _ _ hs := h.spends _ _ (h.putSc _ _ _ ⟨fun _ => .inl rfl, rfl, fun _ hd => hd⟩ hs)
  createSc _ _ _ _ hs := h.putSc _ _ _ ⟨fun _ => .inl rfl, rfl, fun _ _ => rfl⟩ hs
  spendSf _ _ hs := h.spends _ _ (h.putSf _ _ _ ⟨fun _ => .inl rfl, rfl, fun _ hd => hd⟩ hs)
  createSf _ _ _ _ hs := h.putSf _ _ _ ⟨fun _ => .inl rfl, rfl, fun _ _ => rfl⟩ hs
  createFc1 _ _ _ _ hs hc := by
    obtain ⟨_, rfl⟩ := createFc1_ok_iff.1 hc
    exact h.pool _ _ (h.putFc1 _ _ _ ⟨fun _ => .inl rfl, rfl, fun _ _ => rfl⟩ hs)
  reviseFc1 _ _ _ hs := by
    unfold Mid.reviseFc1
    exact h.putFc1 _ _ _ ⟨fun d => by split; exact .inr rfl; split; exact .inr rfl; exact .inl rfl, rfl,
      fun d hd => by rw [if_pos (show d.created = true from hd)]; exact hd⟩ hs
  resolveFc1 _ _ _ hs := h.spends _ _ (h.putFc1 _ _ _
    ⟨fun d => by split; exact .inr rfl; exact .inl rfl, rfl, fun d hd => by split <;> exact hd⟩ hs)
  createFc2 _ _ _ _ hs hc := by
    obtain ⟨_, _, rfl⟩ := createFc2_ok_iff.1 hc
    exact h.pool _ _ (h.putFc2 _ _ _ ⟨fun _ => .inl rfl, rfl, fun _ _ => rfl⟩ hs)
  reviseFc2 _ _ _ hs := h.putFc2 _ _ _
    ⟨fun d => by split; exact .inr rfl; split; exact .inr rfl; exact .inl rfl, rfl,
      fun d hd => by rw [if_pos (show d.created = true from hd)]; exact hd⟩ hs
  resolveFc2 _ _ _ _ hs hc := by
    obtain ⟨_, rfl⟩ := resolveFc2_ok_iff.1 hc
    exact h.spends _ _ (h.putFc2 _ _ _ ⟨fun _ => .inl rfl, rfl, fun _ hd => hd⟩ hs)

theorem a2Final_cases (P : Mid → Prop) (s : Mid) (t : Txn2)
    (h : ∀ n p f, P { s with natts := n, fPrimary := p, fFailsafe := f }) : P (a2Final s t) := by
  unfold a2Final
  cases t.newFoundation with
  | none => exact h _ _ _
  | some a => simp only []; split <;> exact h _ _ _

/-- up to its trailing step, `applyV2Transaction` keeps a predicate that each operation it performs keeps; the
consuming operations need only keep it for the parents of the transaction's own inputs, revisions and resolutions,
the creating ones (`scOut` also stands for claim outputs and contract payouts) for any argument -/
theorem applyV2Transaction_walk {I : Mid → Prop} {ms ms' : Mid} {t : Txn2} (h : applyV2Transaction ms t = .ok ms')
    (h0 : I ms)
    (scIn : ∀ s, ∀ x ∈ t.scIns, I s → I (s.spendSc x.parent))
    (scOut : ∀ s id o m, I s → I (s.createSc id o m))
    (sfIn : ∀ s, ∀ x ∈ t.sfIns, I s → I (s.spendSf x.parent))
    (sfOut : ∀ s id v a, I s → I (s.createSf id v a))
    (fc : ∀ s s' id c, I s → s.createFc2 id c = .ok s' → I s')
    (rev : ∀ s, ∀ r ∈ t.revs, I s → I (s.reviseFc2 r.parent r.rev))
    (res : ∀ s s' k, ∀ r ∈ t.ress, I s → s.resolveFc2 r.parent k = .ok s' → I s') :
    ∃ s, I s ∧ ms' = a2Final s t := by
  obtain ⟨s1, h1, s2, h2, s3, h3, s4, h4, s5, h5, s6, h6, s7, h7, rfl⟩ := applyV2Transaction_ok h
  have e1 := foldlM_inv_on I _ (fun s x s' hm hs hx => by cases hx; exact scIn _ _ hm hs) _ _ h0 h1
  have e2 := foldlM_inv I (fun s x s' hs hx => by cases hx; exact scOut _ _ _ _ hs) _ _ _ e1 h2
  have e3 := foldlM_inv_on I _ (fun s x s' hm hs hx => by
      obtain ⟨c, _, hx⟩ := bind_ok_iff.1 hx
      cases hx; exact scOut _ _ _ _ (sfIn _ _ hm hs)) _ _ e2 h3
  have e4 := foldlM_inv I (fun s x s' hs hx => by cases hx; exact sfOut _ _ _ _ hs) _ _ _ e3 h4
  have e5 := foldlM_inv I (fun s x s' hs hx => fc _ _ _ _ hs hx) _ _ _ e4 h5
  have e6 := foldlM_inv_on I _ (fun s x s' hm hs hx => by cases hx; exact rev _ _ hm hs) _ _ e5 h6
  refine ⟨s7, foldlM_inv_on I _ (fun s x s' hm hs hx => ?_) _ _ e6 h7, rfl⟩
  obtain ⟨r1, hr1, hx⟩ := bind_ok_iff.1 hx
  obtain ⟨r2, hr2, hx⟩ := bind_ok_iff.1 hx
  cases hx
  have j2 : I r2 := by
    unfold a2ResNew at hr2
    split at hr2
    · exact fc _ _ _ _ (res _ _ _ _ hm hs hr1) hr2
    · cases hr2; exact res _ _ _ _ hm hs hr1
  exact scOut _ _ _ _ (scOut _ _ _ _ j2)

/-- the same for `applyTransaction`, which consumes the elements its lookups return -/
theorem applyTransaction_walk {I : Mid → Prop} {ms ms' : Mid} {t : Txn1} (h : applyTransaction ms t = .ok ms')
    (h0 : I ms)
    (scIn : ∀ s id e, s.scElement t.supp id = some e → I s → I (s.spendSc e))
    (scOut : ∀ s id o m, I s → I (s.createSc id o m))
    (sfIn : ∀ s id e, s.sfElement t.supp id = some e → I s → I (s.spendSf e))
    (sfOut : ∀ s, ∀ x ∈ t.sfOuts, I s → I (s.createSf x.1 x.2.1 x.2.2))
    (fc : ∀ s s', ∀ x ∈ t.fcs, I s → s.createFc1 x.1 x.2 = .ok s' → I s')
    (rev : ∀ s e, ∀ r ∈ t.revs, s.fc1Element t.supp r.parent = some e → I s → I (s.reviseFc1 e r.fc))
    (proof : ∀ s id e, s.fc1Element t.supp id = some e → I s → I (s.resolveFc1 e true)) :
    ∃ s, I s ∧ ms' = a1Final s t := by
  obtain ⟨s1, h1, s2, h2, s3, h3, s4, h4, s5, h5, s6, h6, s7, h7, rfl⟩ := applyTransaction_ok h
  have e1 := foldlM_inv I (fun s x s' hs hx => by
      unfold a1ScIn at hx
      split at hx
      · cases hx
      · cases hx; exact scIn _ _ _ (by assumption) hs) _ _ _ h0 h1
  have e2 := foldlM_inv I (fun s x s' hs hx => by cases hx; exact scOut _ _ _ _ hs) _ _ _ e1 h2
  have e3 := foldlM_inv I (fun s x s' hs hx => by
      unfold a1SfIn at hx
      split at hx
      · cases hx
      · obtain ⟨c, _, hx⟩ := bind_ok_iff.1 hx
        cases hx; exact scOut _ _ _ _ (sfIn _ _ _ (by assumption) hs)) _ _ _ e2 h3
  have e4 := foldlM_inv_on I _ (fun s x s' hm hs hx => by cases hx; exact sfOut _ _ hm hs) _ _ e3 h4
  have e5 := foldlM_inv_on I _ (fun s x s' hm hs hx => fc _ _ _ hm hs hx) _ _ e4 h5
  have e6 := foldlM_inv_on I _ (fun s x s' hm hs hx => by
      unfold a1Rev at hx
      split at hx
      · cases hx
      · cases hx; exact rev _ _ _ hm (by assumption) hs) _ _ e5 h6
  refine ⟨s7, foldlM_inv I (fun s x s' hs hx => ?_) _ _ _ e6 h7, rfl⟩
  unfold a1Proof at hx
  split at hx
  · cases hx
  · exact foldlM_inv I (fun s x s' hs hx => by cases hx; exact scOut _ _ _ _ hs) _ _ _
      (proof _ _ _ (by assumption) hs) hx

namespace Mid.Ops
variable {I : Mid → Prop} (hI : Mid.Ops I)
include hI

theorem applyV2Transaction {ms ms' : Mid} {t : Txn2} (h0 : I ms) (h : applyV2Transaction ms t = .ok ms') :
    ∃ s, I s ∧ ms' = a2Final s t :=
  applyV2Transaction_walk h h0 (fun _ _ _ => hI.spendSc _ _) hI.createSc (fun _ _ _ => hI.spendSf _ _) hI.createSf
    hI.createFc2 (fun _ _ _ => hI.reviseFc2 _ _ _) (fun _ _ _ _ _ => hI.resolveFc2 _ _ _ _)

theorem applyTransaction {ms ms' : Mid} {t : Txn1} (h0 : I ms) (h : applyTransaction ms t = .ok ms') :
    ∃ s, I s ∧ ms' = a1Final s t :=
  applyTransaction_walk h h0 (fun _ _ _ _ => hI.spendSc _ _) hI.createSc (fun _ _ _ _ => hI.spendSf _ _)
    (fun _ _ _ => hI.createSf _ _ _ _) (fun _ _ _ _ => hI.createFc1 _ _ _ _) (fun _ _ _ _ _ => hI.reviseFc1 _ _ _)
    (fun _ _ _ _ => hI.resolveFc1 _ _ _)

end Mid.Ops

namespace Mid.Stable
variable {I : Mid → Prop} (hI : Mid.Stable I)
include hI

theorem applyV2Transaction {ms ms' : Mid} {t : Txn2} (h0 : I ms) (h : applyV2Transaction ms t = .ok ms') : I ms' := by
  obtain ⟨s, hs, rfl⟩ := hI.toOps.applyV2Transaction h0 h
  exact a2Final_cases I s t (fun _ _ _ => hI.foundation _ _ _ _ hs)

theorem applyTransaction {ms ms' : Mid} {t : Txn1} (h0 : I ms) (h : applyTransaction ms t = .ok ms') : I ms' := by
  obtain ⟨s, hs, rfl⟩ := hI.toOps.applyTransaction h0 h
  unfold a1Final
  split
  · split
    · exact hI.foundation _ _ _ _ hs
    · exact hI.foundation _ _ _ _ hs
    · exact hs
  · exact hs

end Mid.Stable

theorem Fc1Diff.current_id (d : Fc1Diff) : d.current.id = d.e.id := by
  unfold Fc1Diff.current; split <;> rfl

theorem scElement_id {ms : Mid} {ts : Supp1} {id : Id} {e : ScElem} (h : ms.scElement ts id = some e) : e.id = id := by
  unfold Mid.scElement at h
  split at h
  · rename_i d hd; cases h; exact (scSlice.diff?_mem hd).2
  · simpa using List.find?_some h

theorem sfElement_id {ms : Mid} {ts : Supp1} {id : Id} {e : SfElem} (h : ms.sfElement ts id = some e) : e.id = id := by
  unfold Mid.sfElement at h
  split at h
  · rename_i d hd; cases h; exact (sfSlice.diff?_mem hd).2
  · simpa using List.find?_some h

theorem fc1Element_id {ms : Mid} {ts : Supp1} {id : Id} {e : Fc1Elem} (h : ms.fc1Element ts id = some e) : e.id = id := by
  unfold Mid.fc1Element at h
  split at h
  · rename_i d hd; cases h; rw [Fc1Diff.current_id]; exact (fc1Slice.diff?_mem hd).2
  · split at h
    · rename_i e' he; cases h; simpa using List.find?_some he
    · cases hf : ts.proofs.find? (·.1.id = id) with
      | none => rw [hf] at h; cases h
      | some x =>
        rw [hf] at h; cases h
        simpa using List.find?_some hf

@[simp] theorem createSc_spends (ms : Mid) (id : Id) (o : ScOut) (m : Nat) : (ms.createSc id o m).spends = ms.spends := by
  simp [Mid.createSc]
@[simp] theorem createImmatureSc_spends (ms : Mid) (id : Id) (o : ScOut) : (ms.createImmatureSc id o).spends = ms.spends := by
  simp [Mid.createImmatureSc]
@[simp] theorem createSf_spends (ms : Mid) (id : Id) (v : Nat) (a : Addr) : (ms.createSf id v a).spends = ms.spends := by
  simp [Mid.createSf]
@[simp] theorem spendSc_spends (ms : Mid) (e : ScElem) : (ms.spendSc e).spends = e.id :: ms.spends := by
  simp [Mid.spendSc]
@[simp] theorem spendSf_spends (ms : Mid) (e : SfElem) : (ms.spendSf e).spends = e.id :: ms.spends := by
  simp [Mid.spendSf]
@[simp] theorem reviseFc1_spends (ms : Mid) (e : Fc1Elem) (r : Fc1) : (ms.reviseFc1 e r).spends = ms.spends := by
  simp [Mid.reviseFc1]
@[simp] theorem reviseFc2_spends (ms : Mid) (e : Fc2Elem) (r : Fc2) : (ms.reviseFc2 e r).spends = ms.spends := by
  simp [Mid.reviseFc2]
@[simp] theorem resolveFc1_spends (ms : Mid) (e : Fc1Elem) (v : Bool) : (ms.resolveFc1 e v).spends = e.id :: ms.spends := by
  simp [Mid.resolveFc1]

theorem createFc1_spends {ms ms' : Mid} {id : Id} {fc : Fc1} (h : ms.createFc1 id fc = .ok ms') : ms'.spends = ms.spends := by
  obtain ⟨_, rfl⟩ := createFc1_ok_iff.1 h; simp

theorem createFc2_spends {ms ms' : Mid} {id : Id} {fc : Fc2} (h : ms.createFc2 id fc = .ok ms') : ms'.spends = ms.spends := by
  obtain ⟨_, _, rfl⟩ := createFc2_ok_iff.1 h; simp

theorem resolveFc2_spends {ms ms' : Mid} {e : Fc2Elem} {k : ResKind} (h : ms.resolveFc2 e k = .ok ms') :
    ms'.spends = e.id :: ms.spends := by
  obtain ⟨_, rfl⟩ := resolveFc2_ok_iff.1 h; rfl

theorem foldlM_spends_cons {α} {f : Mid → α → VM Mid} (key : α → Id)
    (hstep : ∀ s x s', f s x = .ok s' → s'.spends = key x :: s.spends) (l : List α) (s s' : Mid)
    (h : l.foldlM f s = .ok s') : s'.spends = (l.map key).reverse ++ s.spends := by
  induction l generalizing s with
  | nil => cases h; simp
  | cons a l ih =>
    rw [List.foldlM_cons] at h
    obtain ⟨s1, h1, h2⟩ := bind_ok_iff.1 h
    rw [ih s1 h2, hstep s a s1 h1]; simp

theorem a2Final_spends (s : Mid) (t : Txn2) : (a2Final s t).spends = s.spends := by
  unfold a2Final; simp only []; split
  · split <;> rfl
  · rfl

theorem a1Final_spends (s : Mid) (t : Txn1) : (a1Final s t).spends = s.spends := by
  unfold a1Final; split
  · split <;> rfl
  · rfl

theorem applyV2Transaction_spends {ms ms' : Mid} {t : Txn2} (h : applyV2Transaction ms t = .ok ms') :
    ms'.spends = (t.ress.map (·.parent.id)).reverse ++ ((t.sfIns.map (·.parent.id)).reverse ++
      ((t.scIns.map (·.parent.id)).reverse ++ ms.spends)) := by
  obtain ⟨s1, h1, s2, h2, s3, h3, s4, h4, s5, h5, s6, h6, s7, h7, rfl⟩ := applyV2Transaction_ok h
  rw [a2Final_spends]
  have e1 := foldlM_spends_cons (fun sci : ScIn2 => sci.parent.id)
    (fun s x s' hs => by cases hs; simp) _ _ _ h1
  have e2 := foldlM_same (·.spends) (fun s x s' hs => by cases hs; simp) _ _ _ h2
  have e3 := foldlM_spends_cons (fun sfi : SfIn2 => sfi.parent.id)
    (fun s x s' hs => by
      unfold a2SfIn at hs
      obtain ⟨c, _, hs⟩ := bind_ok_iff.1 hs
      cases hs; simp) _ _ _ h3
  have e4 := foldlM_same (·.spends) (fun s x s' hs => by cases hs; simp) _ _ _ h4
  have e5 := foldlM_same (·.spends) (fun s x s' hs => createFc2_spends hs) _ _ _ h5
  have e6 := foldlM_same (·.spends) (fun s x s' hs => by cases hs; simp) _ _ _ h6
  have e7 := foldlM_spends_cons (fun r : Resolution2 => r.parent.id)
    (fun s x s' hs => by
      unfold a2Res at hs
      obtain ⟨r1, hr1, hs⟩ := bind_ok_iff.1 hs
      obtain ⟨r2, hr2, hs⟩ := bind_ok_iff.1 hs
      cases hs
      have : r2.spends = r1.spends := by
        unfold a2ResNew at hr2
        split at hr2
        · exact createFc2_spends hr2
        · simp at hr2; rw [hr2]
      simp [this, resolveFc2_spends hr1]) _ _ _ h7
  rw [e7, e6, e5, e4, e3, e2, e1]

theorem applyTransaction_spends {ms ms' : Mid} {t : Txn1} (h : applyTransaction ms t = .ok ms') :
    ms'.spends = (t.proofs.map (·.parent)).reverse ++ ((t.sfIns.map (·.parent)).reverse ++
      ((t.scIns.map (·.parent)).reverse ++ ms.spends)) := by
  obtain ⟨s1, h1, s2, h2, s3, h3, s4, h4, s5, h5, s6, h6, s7, h7, rfl⟩ := applyTransaction_ok h
  rw [a1Final_spends]
  have e1 := foldlM_spends_cons (fun sci : ScIn1 => sci.parent)
    (fun s x s' hs => by
      unfold a1ScIn at hs
      split at hs
      · cases hs
      · rename_i e he; cases hs; simp [scElement_id he]) _ _ _ h1
  have e2 := foldlM_same (·.spends) (fun s x s' hs => by cases hs; simp) _ _ _ h2
  have e3 := foldlM_spends_cons (fun sfi : SfIn1 => sfi.parent)
    (fun s x s' hs => by
      unfold a1SfIn at hs
      split at hs
      · cases hs
      · rename_i e he
        obtain ⟨c, _, hs⟩ := bind_ok_iff.1 hs
        cases hs; simp [sfElement_id he]) _ _ _ h3
  have e4 := foldlM_same (·.spends) (fun s x s' hs => by cases hs; simp) _ _ _ h4
  have e5 := foldlM_same (·.spends) (fun s x s' hs => createFc1_spends hs) _ _ _ h5
  have e6 := foldlM_same (·.spends) (fun s x s' hs => by
      unfold a1Rev at hs
      split at hs
      · cases hs
      · cases hs; simp) _ _ _ h6
  have e7 := foldlM_spends_cons (fun sp : Proof1 => sp.parent)
    (fun s x s' hs => by
      unfold a1Proof at hs
      split at hs
      · cases hs
      · rename_i e he
        have := foldlM_same (·.spends) (fun s x s' hs => by cases hs; simp) _ _ _ hs
        rw [this]; simp [fc1Element_id he]) _ _ _ h7
  rw [e7, e6, e5, e4, e3, e2, e1]

end Sia.Ledger
