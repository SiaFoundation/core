import SiaProofs.Lemmas.StorageProofBits
/-!
  C07 (storage proofs): the verifier's fold as a chain with a
  direction rule, the honest path `spPath`, completeness.
-/
namespace Sia.SP
open Sia.Rhp Sia.Rhp.HashOps

variable {H : Type} [HashOps H]

/-- fold a proof from the leaf with a direction rule (`true` = sibling on the left) -/
def chainD (dirs : Nat → Bool) : Nat → H → List H → H
  | _, r, [] => r
  | j, r, p :: ps => chainD dirs (j + 1) (if dirs j then node p r else node r p) ps

theorem spLoop_eq_chainD (i sh : Nat) : ∀ (ps : List H) (j : Nat) (r : H),
    spLoop i sh j r ps = chainD (dirOf i sh) j r ps := by
  intro ps
  induction ps with
  | nil => intro j r; rfl
  | cons p ps ih =>
    intro j r
    rw [spLoop, chainD, ih]
    simp only [dirOf_iff]

theorem chainD_append (dirs : Nat → Bool) : ∀ (a b : List H) (j : Nat) (r : H),
    chainD dirs j r (a ++ b) = chainD dirs (j + a.length) (chainD dirs j r a) b := by
  intro a
  induction a with
  | nil => intro b j r; rfl
  | cons p a ih =>
    intro b j r
    rw [List.cons_append, chainD, ih, List.length_cons, Nat.add_assoc, Nat.add_comm 1]
    rfl

theorem chainD_snoc (dirs : Nat → Bool) (ps : List H) (j : Nat) (r p : H) :
    chainD dirs j r (ps ++ [p]) =
      if dirs (j + ps.length) then node p (chainD dirs j r ps) else node (chainD dirs j r ps) p := by
  rw [chainD_append]; rfl

theorem chainD_congr (d1 d2 : Nat → Bool) : ∀ (ps : List H) (j : Nat) (r : H),
    (∀ x, j ≤ x → x < j + ps.length → d1 x = d2 x) → chainD d1 j r ps = chainD d2 j r ps := by
  intro ps
  induction ps with
  | nil => intro j r _; rfl
  | cons p ps ih =>
    intro j r h
    rw [chainD, chainD, h j (Nat.le_refl _) (Nat.lt_add_of_pos_right (Nat.succ_pos _)),
      ih (j + 1) _ (fun x h1 h2 => h x (Nat.le_of_succ_le h1) (by rw [List.length_cons]; omega))]

theorem foldl_left_eq_chainD : ∀ (ps : List H) (j : Nat) (r : H),
    ps.foldl (fun root h => node h root) r = chainD (fun _ => true) j r ps := by
  intro ps
  induction ps with
  | nil => intro j r; rfl
  | cons p ps ih => intro j r; exact ih (j + 1) _

theorem leafToRoot_eq_chainD (i : Nat) : ∀ (ps : List H) (j : Nat) (r : H),
    leafToRoot r (i / 2 ^ j) ps = chainD (fun x => i.testBit x) j r ps := by
  intro ps
  induction ps with
  | nil => intro j r; rfl
  | cons p ps ih =>
    intro j r
    rw [leafToRoot, chainD, Nat.div_div_eq_div_mul, ← Nat.pow_succ, ih, Nat.testBit_eq_decide_div_mod_eq]
    simp only [decide_eq_true_eq]

/-- v2 `storageProofRoot` on a proof that passes the guard is the fold of the v1 loop: index bits
below the merge height (`proofRoot`), left siblings above it -/
theorem storageProofRoot_eq_chainD (leafHash : H) (i fs : Nat) (proof : List H)
    (hlen : bitLen (i ^^^ lastLeafIndex fs) ≤ proof.length) :
    storageProofRoot leafHash i fs proof = chainD (dirOf i (bitLen (i ^^^ lastLeafIndex fs))) 0 leafHash proof := by
  unfold storageProofRoot proofRoot storageProofSubtreeHeight
  rw [if_neg (Nat.not_lt_of_le hlen)]
  generalize bitLen (i ^^^ lastLeafIndex fs) = sh at *
  have htl : (proof.take sh).length = sh := List.length_take_of_le hlen
  have h1 := leafToRoot_eq_chainD i (proof.take sh) 0 leafHash
  rw [Nat.pow_zero, Nat.div_one] at h1
  conv => rhs; rw [← List.take_append_drop sh proof, chainD_append, htl]
  rw [h1, foldl_left_eq_chainD _ (0 + sh)]
  rw [chainD_congr _ (dirOf i sh) (proof.drop sh) (0 + sh) _ (fun x hx _ => (dirOf_of_ge (Nat.zero_add sh ▸ hx)).symm),
    chainD_congr _ (dirOf i sh) (proof.take sh) 0 _ (fun x _ hx => (dirOf_of_lt (by omega)).symm)]

theorem spPath_small (ls : List H) (i : Nat) (h : ls.length < 2) : spPath ls i = [] := by
  rw [spPath]; simp [h]

theorem spPath_left (ls : List H) (i : Nat) (h : 2 ≤ ls.length) (hi : i < splitPoint ls.length) :
    spPath ls i = spPath (ls.take (splitPoint ls.length)) i ++ [metaRoot (ls.drop (splitPoint ls.length))] := by
  rw [spPath]
  have : ¬ (ls.length < 2) := by omega
  simp [this, hi]

theorem spPath_right (ls : List H) (i : Nat) (h : 2 ≤ ls.length) (hi : ¬ i < splitPoint ls.length) :
    spPath ls i = spPath (ls.drop (splitPoint ls.length)) (i - splitPoint ls.length)
      ++ [metaRoot (ls.take (splitPoint ls.length))] := by
  rw [spPath]
  have : ¬ (ls.length < 2) := by omega
  simp [this, hi]

theorem spPath_length_pow : ∀ (t : Nat) (ls : List H) (i : Nat), ls.length = 2 ^ t → (spPath ls i).length = t := by
  intro t
  induction t with
  | zero => intro ls i h; rw [spPath_small ls i (by rw [h]; decide)]; rfl
  | succ t ih =>
    intro ls i h
    have h1 : 2 ^ t < ls.length := h ▸ Nat.pow_lt_pow_right (by decide) (Nat.lt_succ_self t)
    have hk : splitPoint ls.length = 2 ^ t := splitPoint_eq h1 (Nat.le_of_eq h)
    have h2 : 2 ≤ ls.length := Nat.lt_of_le_of_lt (Nat.two_pow_pos t) h1
    by_cases hi : i < splitPoint ls.length
    · rw [spPath_left ls i h2 hi, hk, List.length_append, ih _ i (List.length_take_of_le (Nat.le_of_lt h1))]; rfl
    · rw [spPath_right ls i h2 hi, hk, List.length_append,
        ih _ _ (by rw [List.length_drop, h, Nat.pow_succ', Nat.two_mul, Nat.add_sub_cancel])]; rfl


theorem spPath_append (l r : List H) (k : Nat) (hl : l.length = 2 ^ k) (hr0 : 0 < r.length)
    (hr : r.length ≤ 2 ^ k) :
    (∀ j, j < 2 ^ k → spPath (l ++ r) j = spPath l j ++ [metaRoot r]) ∧
    (∀ j, spPath (l ++ r) (2 ^ k + j) = spPath r j ++ [metaRoot l]) := by
  have hp := Nat.two_pow_pos k
  have hk : splitPoint (l ++ r).length = 2 ^ k :=
    splitPoint_eq (by rw [List.length_append]; omega) (by rw [List.length_append, Nat.pow_succ']; omega)
  have h2 : 2 ≤ (l ++ r).length := by rw [List.length_append]; omega
  constructor
  · intro j hj
    rw [spPath_left _ j h2 (by rw [hk]; exact hj), hk, List.take_left' hl, List.drop_left' hl]
  · intro j
    rw [spPath_right _ _ h2 (by rw [hk]; omega), hk, List.take_left' hl, List.drop_left' hl,
      Nat.add_sub_cancel_left]

theorem chainD_spPath : ∀ (m : Nat) (ls : List H) (i : Nat), ls.length = m + 1 → i ≤ m →
    chainD (dirOf i (bitLen (i ^^^ m))) 0 (ls.getD i zero) (spPath ls i) = metaRoot ls ∧
    bitLen (i ^^^ m) ≤ (spPath ls i).length := by
  intro m ls
  induction ls using split_induction generalizing m with
  | nil => intro i hm; cases hm
  | one x =>
    intro i hm hi
    obtain rfl : 0 = m := Nat.succ.inj hm
    obtain rfl := Nat.le_zero.1 hi
    rw [spPath_small [x] 0 (Nat.lt_succ_self 1)]
    exact ⟨(metaRoot_singleton x).symm, Nat.le_refl 0⟩
  | node l r T hl hr0 hr ihl ihr =>
    intro i hm hi
    -- the last leaf is `m = 2^T + b`, leaf `b` of the right part
    obtain ⟨b, hb⟩ := Nat.exists_eq_succ_of_ne_zero (Nat.ne_of_gt hr0)
    rw [List.length_append, hl, hb] at hm
    obtain rfl : 2 ^ T + b = m := Nat.succ.inj hm
    have hp := Nat.two_pow_pos T
    have hbT : b < 2 ^ T := Nat.lt_of_succ_le (hb ▸ hr)
    obtain ⟨pl, pr⟩ := spPath_append l r T hl hr0 hr
    rw [metaRoot_append l r T hl hr0 hr, List.getD_eq_getElem?_getD]
    by_cases hik : i < 2 ^ T
    · -- left (perfect) half: the path has length `T`, its directions are the index bits
      have hrec := (ihl (2 ^ T - 1) i (hl.trans (Nat.sub_add_cancel hp).symm) (Nat.le_sub_one_of_lt hik)).1
      rw [pl i hik, bitLen_xor_top hik (Nat.le_add_right _ _)
          (by rw [Nat.pow_succ', Nat.two_mul]; exact Nat.add_lt_add_left hbT _),
        chainD_snoc, List.length_append, Nat.zero_add, spPath_length_pow T l i hl,
        dirOf_of_lt (Nat.lt_succ_self T), Nat.testBit_lt_two_pow hik,
        chainD_congr _ (dirOf i (bitLen (i ^^^ (2 ^ T - 1)))) _ 0 _ (fun j _ hj => by
          rw [Nat.zero_add, spPath_length_pow T l i hl] at hj
          rw [dirOf_of_lt (Nat.lt_succ_of_lt hj), dirOf_perfect hj]),
        List.getElem?_append_left (hl ▸ hik), ← List.getD_eq_getElem?_getD, hrec]
      exact ⟨rfl, Nat.le_refl _⟩
    · -- right half: same merge height and directions as for the relative indices
      obtain ⟨a, rfl⟩ := Nat.exists_eq_add_of_le (Nat.le_of_not_lt hik)
      have hab := Nat.le_of_add_le_add_left hi
      have ha : a < 2 ^ T := Nat.lt_of_le_of_lt hab hbT
      have hrec := ihr b a hb hab
      rw [pr a, xor_two_pow_add ha hbT,
        funext (dirOf_two_pow_add (a := a) ((bitLen_le_iff _ _).2 (Nat.xor_lt_two_pow ha hbT))),
        chainD_snoc, Nat.zero_add, dirOf_of_ge hrec.2, if_pos rfl,
        List.getElem?_append_right (hl ▸ Nat.le_add_right _ _), hl, Nat.add_sub_cancel_left,
        ← List.getD_eq_getElem?_getD, hrec.1, List.length_append]
      exact ⟨rfl, Nat.le_trans hrec.2 (Nat.le_add_right _ _)⟩

end Sia.SP
