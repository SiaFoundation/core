import SiaModel.Prim.GoSem
/-!
Inversion lemmas for the code the translator prints (`Except String` binds, early exits, `Go.forRange`).

* `Chain R xs st st'`: the per-iteration relation `R` chains through the list, in order; `Chain.all`, `Chain.forall`,
  `Chain.sum`, `Chain.sum_mod` read facts off a chain.
* binds and exits: `of_bind_ok` (`bind_ok_iff` as a rewrite), `pure_ok_iff`, `ite_ok_iff` / `ite_error_iff` for a checked
  operation, `ite_exit`, `ite_else`, `err_else`, `ite_cases`, and the `ite_…_eq_…` rewrites that turn a rejection chain
  into a conjunction. They hold in `Except ε` for any `ε`; the hand-written `Except String` models (C13) use them too.
* loops: one induction, `forRangeFrom_ok`, over both exits of a loop; `forRange_none` / `forRange_some` are its two
  halves; `forRange_accept` and `forRange_bind` are the forms applied to a hypothesis as printed (a loop followed by
  the rest of the function); `forRangeFrom_total`, `forRange_total_bind`, `forRangeFrom_none_iff` for check-only loops
  that cannot fail.
-/
namespace GoLoops

/-- `R` relates the loop state before and after each element, in order. -/
def Chain {α σ : Type} (R : α → σ → σ → Prop) : List α → σ → σ → Prop
  | [], st, st' => st = st'
  | x :: xs, st, st'' => ∃ st', R x st st' ∧ Chain R xs st' st''

theorem forRangeFrom_ok {α σ ρ : Type} {f : Int → α → σ → Except String (Option ρ × σ)}
    {R : α → σ → σ → Prop} {P : ρ → Prop}
    (hf : ∀ i x st t st', f i x st = .ok (t, st') → t.elim (R x st st') P) :
    ∀ (xs : List α) (i : Int) (st : σ) (t : Option ρ) (st' : σ),
      Go.forRangeFrom f xs i st = .ok (t, st') → t.elim (Chain R xs st st') P := by
  intro xs
  induction xs with
  | nil => intro i st t st' h; cases h; exact rfl
  | cons x xs ih =>
    intro i st t st' h
    unfold Go.forRangeFrom at h
    split at h
    · cases h
    · rename_i hx; cases h; exact hf _ _ _ _ _ hx
    · rename_i st1 hx
      have tl := ih _ _ _ _ h
      cases t with
      | none => exact ⟨st1, hf _ _ _ _ _ hx, tl⟩
      | some r => exact tl

theorem forRange_none {α σ ρ : Type} {f : Int → α → σ → Except String (Option ρ × σ)}
    {R : α → σ → σ → Prop}
    (hf : ∀ i x st st', f i x st = .ok (none, st') → R x st st')
    (xs : List α) (st st' : σ) (h : Go.forRange xs st f = .ok (none, st')) : Chain R xs st st' :=
  forRangeFrom_ok (P := fun _ => True)
    (fun i x st t st' hx => by cases t; exact hf i x st st' hx; trivial) xs 0 st none st' h

theorem Chain.all {α σ : Type} {R : α → σ → σ → Prop} {Q : α → Prop}
    (hq : ∀ x st st', R x st st' → Q x) : ∀ (xs : List α) (st st' : σ), Chain R xs st st' → ∀ x ∈ xs, Q x := by
  intro xs
  induction xs with
  | nil => intro _ _ _ x hx; cases hx
  | cons y ys ih =>
    intro st st' h x hx
    obtain ⟨st1, r, c⟩ := h
    cases hx with
    | head => exact hq _ _ _ r
    | tail _ hm => exact ih st1 st' c x hm

theorem Chain.forall {α σ : Type} {Q : α → Prop} {xs : List α} {st st' : σ} (h : Chain (fun x _ _ => Q x) xs st st') :
    ∀ x ∈ xs, Q x :=
  Chain.all (Q := Q) (fun _ _ _ r => r) xs st st' h

theorem forRange_some {α σ ρ : Type} {f : Int → α → σ → Except String (Option ρ × σ)} {P : ρ → Prop}
    (hf : ∀ i x st r st', f i x st = .ok (some r, st') → P r)
    (xs : List α) (st : σ) (r : ρ) (st' : σ) (h : Go.forRange xs st f = .ok (some r, st')) : P r :=
  forRangeFrom_ok (R := fun _ _ _ => True)
    (fun i x st t st' hx => by cases t; trivial; exact hf i x st _ st' hx) xs 0 st (some r) st' h

/-! ### Statements in `Except`, read backwards from their result

The translator prints `let x ← a; k`, `if c then pure e else k` and `let (t, st) ← Go.forRange …; match t with …`.
Each lemma below turns one such statement with a known result into facts about its parts; it is applied to the
hypothesis as it stands (the printed term unfolds to the stated shape by definitional unfolding). -/

theorem ok_bind {ε α β : Type} (a : α) (k : α → Except ε β) : (Except.ok a >>= k) = k a := rfl

theorem of_bind_ok {ε α β : Type} {a : Except ε α} {k : α → Except ε β} {r : β}
    (h : (a >>= k) = .ok r) : ∃ x, a = .ok x ∧ k x = .ok r := by
  cases a with
  | error e => cases h
  | ok x => exact ⟨x, rfl, h⟩

theorem bind_ok_iff {ε α β : Type} {a : Except ε α} {k : α → Except ε β} {r : β} :
    (a >>= k) = .ok r ↔ ∃ x, a = .ok x ∧ k x = .ok r :=
  ⟨of_bind_ok, fun ⟨_, ha, hk⟩ => ha ▸ hk⟩

theorem pure_ok_iff {ε α : Type} {a b : α} : (pure a : Except ε α) = .ok b ↔ a = b :=
  ⟨fun h => Except.ok.inj h, congrArg _⟩

theorem ite_ok_iff {ε α : Type} {c : Prop} [Decidable c] {e : ε} {a b : α} :
    (if c then Except.ok a else .error e) = .ok b ↔ c ∧ b = a := by
  split <;> simp [*, eq_comm]

theorem ite_error_iff {ε α : Type} {c : Prop} [Decidable c] {e : ε} {a b : α} :
    (if c then Except.error e else .ok a) = .ok b ↔ ¬ c ∧ b = a := by
  split <;> simp [*, eq_comm]

/-- `if c { return … }` in front of `b`, when the overall result is not the returned one -/
theorem ite_else {α : Type} {c : Prop} [Decidable c] {a b r : α} (h : (if c then a else b) = r) (ha : a ≠ r) :
    ¬ c ∧ b = r := by
  split at h
  · exact absurd h ha
  · exact ⟨‹_›, h⟩

/-- `if err != nil { return err }` in front of `k`, in a function that returned `nil` -/
theorem err_else {ε : Type} {err : Option ε} {k : Except String (Option ε)}
    (h : (if decide (err ≠ none) = true then pure err else k) = .ok none) : err = none ∧ k = .ok none := by
  cases err with
  | none => exact ⟨rfl, h⟩
  | some e => cases h

/-- `if c { return e }` in front of `b` inside a loop body: the returned value is in `P`, what is left is `b` -/
theorem ite_exit {σ ρ : Type} {c : Prop} [Decidable c] {e : ρ} {s : σ} {b : Except String (Option ρ × σ)}
    {t : Option ρ} {st' : σ} {N : Prop} {P : ρ → Prop}
    (h : (if c then pure (some e, s) else b) = .ok (t, st')) (he : P e)
    (hb : ¬ c → b = .ok (t, st') → t.elim N P) : t.elim N P := by
  split at h
  · cases h; exact he
  · exact hb ‹_› h

theorem ite_cases {α : Type} {c : Prop} [Decidable c] {a b r : α} (h : (if c then a else b) = r) :
    (c ∧ a = r) ∨ (¬ c ∧ b = r) := by
  split at h
  · exact .inl ⟨‹_›, h⟩
  · exact .inr ⟨‹_›, h⟩

/-! A chain of `if c { return err }` that returned `nil` is the conjunction of the negated conditions: rewriting with
these turns "accepted" into a conjunction, linear in the length of the chain. -/

theorem ite_some_eq_none {α : Type} {c : Prop} [Decidable c] {e : α} {a : Option α} :
    ((if c then some e else a) = none) ↔ (¬ c ∧ a = none) := by
  split <;> simp [*]

theorem ite_ok_some_eq_ok_none {ε α : Type} {c : Prop} [Decidable c] {e : α} {a : Except ε (Option α)} :
    ((if c then Except.ok (some e) else a) = Except.ok none) ↔ (¬ c ∧ a = .ok none) := by
  split <;> simp [*]

theorem ite_ok_eq_error {ε α : Type} {c : Prop} [Decidable c] {x : α} {a : Except ε α} {m : ε} :
    ((if c then Except.ok x else a) = Except.error m) ↔ (¬ c ∧ a = .error m) := by
  split <;> simp [*]

theorem forRange_bind {α σ ρ β : Type} {f : Int → α → σ → Except String (Option ρ × σ)}
    {R : α → σ → σ → Prop} {P : ρ → Prop} {K : Option ρ × σ → Except String β} {r : β} {xs : List α} {st : σ}
    (h : (Go.forRange xs st f >>= K) = .ok r)
    (hf : ∀ i x st t st', f i x st = .ok (t, st') → t.elim (R x st st') P) :
    (∃ q st', P q ∧ K (some q, st') = .ok r) ∨ (∃ st', Chain R xs st st' ∧ K (none, st') = .ok r) := by
  obtain ⟨⟨t, st'⟩, hl, hk⟩ := of_bind_ok h
  have := forRangeFrom_ok hf xs 0 st t st' hl
  cases t with
  | none => exact .inr ⟨st', this, hk⟩
  | some q => exact .inl ⟨q, st', this, hk⟩

/-- The common case: errors are `Option`s, every early return of the loop is an error (`≠ none`) that the function
returns as it is, and the function as a whole returned `none`.  Then the loop ran through. -/
theorem forRange_accept {α σ ε : Type} {f : Int → α → σ → Except String (Option (Option ε) × σ)}
    {R : α → σ → σ → Prop} {K : Option (Option ε) × σ → Except String (Option ε)} {xs : List α} {st : σ}
    (h : (Go.forRange xs st f >>= K) = .ok none)
    (hK : ∀ q st', K (some q, st') = .ok q)
    (hf : ∀ i x st t st', f i x st = .ok (t, st') → t.elim (R x st st') (· ≠ none)) :
    ∃ st', Chain R xs st st' ∧ K (none, st') = .ok none := by
  obtain ⟨q, st', hq, hk⟩ | ok := forRange_bind h hf
  · rw [hK] at hk; cases hk; exact absurd rfl hq
  · exact ok

theorem Chain.sum {α σ : Type} {R : α → σ → σ → Prop} {m : σ → Nat} {I : σ → Prop} {wt : α → Nat} {ok : α → Prop}
    (hR : ∀ x st st', R x st st' → ok x → I st → I st' ∧ m st' = m st + wt x) :
    ∀ (xs : List α) (st st' : σ), Chain R xs st st' → (∀ x ∈ xs, ok x) → I st →
      I st' ∧ m st' = m st + (xs.map wt).sum := by
  intro xs
  induction xs with
  | nil => intro st st' h _ hi; cases h; simp [hi]
  | cons y ys ih =>
    intro st st' h hok hi
    obtain ⟨st1, r, c⟩ := h
    obtain ⟨i1, m1⟩ := hR y st st1 r (hok y (List.mem_cons_self)) hi
    obtain ⟨i2, m2⟩ := ih st1 st' c (fun x hx => hok x (List.mem_cons_of_mem _ hx)) i1
    refine ⟨i2, ?_⟩
    simp [List.map_cons, List.sum_cons]; omega

theorem Chain.sum_mod {α σ : Type} {R : α → σ → σ → Prop} {m : σ → Nat} {wt : α → Nat} {n : Nat}
    (hR : ∀ x st st', R x st st' → m st' % n = (m st + wt x) % n) :
    ∀ (xs : List α) (st st' : σ), Chain R xs st st' → m st' % n = (m st + (xs.map wt).sum) % n := by
  intro xs
  induction xs with
  | nil => intro st st' h; cases h; rfl
  | cons y ys ih =>
    intro st st' h
    obtain ⟨st1, r, c⟩ := h
    rw [ih st1 st' c, List.map_cons, List.sum_cons, Nat.add_mod, hR y st st1 r, ← Nat.add_mod, Nat.add_assoc]

theorem forRangeFrom_total {α σ ρ : Type} {f : Int → α → σ → Except String (Option ρ × σ)} {good : α → Prop} {P : ρ → Prop}
    (hf : ∀ i x st, ∃ t st', f i x st = .ok (t, st') ∧ t.elim (good x) (fun r => ¬ good x ∧ P r)) :
    ∀ (xs : List α) (k : Int) (st : σ), ∃ t st', Go.forRangeFrom f xs k st = .ok (t, st') ∧
      t.elim (∀ x ∈ xs, good x) (fun r => (¬ ∀ x ∈ xs, good x) ∧ P r) := by
  intro xs
  induction xs with
  | nil => intro k st; exact ⟨none, st, rfl, nofun⟩
  | cons x xs ih =>
    intro k st
    obtain ⟨t, st1, e, g⟩ := hf k x st
    unfold Go.forRangeFrom
    rw [e]
    cases t with
    | some v => exact ⟨some v, st1, rfl, fun h => g.1 (h x List.mem_cons_self), g.2⟩
    | none =>
      obtain ⟨t2, st2, e2, g2⟩ := ih (k + 1) st1
      refine ⟨t2, st2, e2, ?_⟩
      cases t2 with
      | none => exact List.forall_mem_cons.mpr ⟨g, g2⟩
      | some v => exact ⟨fun h => g2.1 (List.forall_mem_cons.mp h).2, g2.2⟩

theorem forRangeFrom_none_iff {α σ ρ : Type} {f : Int → α → σ → Except String (Option ρ × σ)} {good : α → Prop}
    (hf : ∀ i x st, ∃ r st', f i x st = .ok (r, st') ∧ (r = none ↔ good x)) :
    ∀ (xs : List α) (k : Int) (st : σ), ∃ r st', Go.forRangeFrom f xs k st = .ok (r, st') ∧ (r = none ↔ ∀ x ∈ xs, good x) := by
  intro xs k st
  obtain ⟨t, st', e, g⟩ := forRangeFrom_total (P := fun _ => True)
    (fun i x st => by
      obtain ⟨r, st', e, g⟩ := hf i x st
      refine ⟨r, st', e, ?_⟩
      cases r with
      | none => exact g.mp rfl
      | some v => exact ⟨fun h => (by cases g.mpr h), trivial⟩) xs k st
  refine ⟨t, st', e, ?_⟩
  cases t with
  | none => exact ⟨fun _ => g, fun _ => rfl⟩
  | some v => exact ⟨nofun, fun h => absurd h g.1⟩

theorem forRange_total_bind {α σ ρ β : Type} {f : Int → α → σ → Except String (Option ρ × σ)} {good : α → Prop}
    {P : ρ → Prop} {K : Option ρ × σ → Except String β} {Q : β → Prop} {xs : List α} {st : σ}
    (hf : ∀ i x st, ∃ t st', f i x st = .ok (t, st') ∧ t.elim (good x) (fun r => ¬ good x ∧ P r))
    (hnone : ∀ st', (∀ x ∈ xs, good x) → ∃ r, K (none, st') = .ok r ∧ Q r)
    (hsome : ∀ q st', (¬ ∀ x ∈ xs, good x) → P q → ∃ r, K (some q, st') = .ok r ∧ Q r) :
    ∃ r, (Go.forRange xs st f >>= K) = .ok r ∧ Q r := by
  obtain ⟨t, st', e, g⟩ := forRangeFrom_total hf xs 0 st
  unfold Go.forRange
  rw [e]
  cases t with
  | none => exact hnone st' g
  | some q => exact hsome q st' g.1 g.2

end GoLoops
