/-
  SiaProofs.Lemmas.Forest — structural facts about the naive forest (`subRoot`,
  `subPath`) and their relation to `proofRoot`. `subPath` is defined by descent from a subtree
  root; what walks a path upwards (`proofRoot`, `updateProof`, `ForEachTreeNode`) reads it by rows
  instead: `subPath_eq_sibs`, the path of `p` is the list of the nodes `nodeAt ls r (sibCol (p / 2 ^ r))`.
-/
import SiaProofs.Lemmas.Bits
namespace Sia.ElemAcc

/-- hash injectivity of interior nodes (a hypothesis of the soundness theorems, never an axiom) -/
def NodeInj (H : Type) [Hasher H] : Prop := ∀ a b c d : H, node a b = node c d → a = c ∧ b = d

theorem set_append_cons {α : Type} (A B : List α) (y x : α) : (A ++ y :: B).set A.length x = A ++ x :: B := by
  simp

theorem take_succ_split {α : Type} [Inhabited α] {p A : List α} {x : α} {k : Nat} (hA : A.length = k)
    (h : p.take (k + 1) = A ++ [x]) :
    p.take k = A ∧ p.getD k default = x := by
  subst hA
  have hp : p = A ++ ([x] ++ p.drop (A.length + 1)) := by
    rw [← List.append_assoc, ← h, List.take_append_drop]
  generalize p.drop (A.length + 1) = t at hp
  subst hp
  refine ⟨List.take_left .., ?_⟩
  rw [List.getD, List.getElem?_append_right (Nat.le_refl _), Nat.sub_self]; rfl

section
variable {H : Type} [Hasher H] [Inhabited H]

theorem subRoot_ext {ls ls' : List H} : ∀ (h s : Nat),
    (∀ q, s ≤ q → q < s + 2 ^ h → ls.getD q default = ls'.getD q default) →
    subRoot ls h s = subRoot ls' h s := by
  intro h
  induction h with
  | zero => intro s hq; simp only [subRoot]; exact hq s (Nat.le_refl _) (by simp)
  | succ h ih =>
    intro s hq
    simp only [subRoot]
    have hp := pow_succ2 h
    rw [ih s (fun q h1 h2 => hq q h1 (by omega)), ih (s + 2 ^ h) (fun q h1 h2 => hq q (by omega) (by omega))]

theorem getD_append_left (L ext : List H) {q : Nat} (hq : q < L.length) : (L ++ ext).getD q default = L.getD q default := by
  rw [List.getD, List.getD, List.getElem?_append_left hq]

theorem subRoot_append (L ext : List H) {h s : Nat} (hs : s + 2 ^ h ≤ L.length) : subRoot (L ++ ext) h s = subRoot L h s :=
  subRoot_ext h s fun _ _ h2 => getD_append_left L ext (by omega)

theorem halvingRoot_take (h : Nat) : ∀ (l : List H), halvingRoot h (l.take (2 ^ h)) = halvingRoot h l := by
  induction h with
  | zero => intro l; cases l <;> simp [halvingRoot, List.take]
  | succ h ih =>
    intro l
    have hp := pow_succ2 h
    simp only [halvingRoot]
    rw [List.take_take, List.drop_take, hp]
    have e1 : min (2 ^ h) (2 * 2 ^ h) = 2 ^ h := by omega
    have e2 : 2 * 2 ^ h - 2 ^ h = 2 ^ h := by omega
    rw [e1, e2, ih (l.drop (2 ^ h))]

theorem subRoot_eq_halving (ls : List H) : ∀ (h s : Nat), subRoot ls h s = halvingRoot h (ls.drop s) := by
  intro h
  induction h with
  | zero => intro s; simp [subRoot, halvingRoot, List.getD, List.head?_drop, List.headD_eq_head?_getD]
  | succ h ih =>
    intro s
    simp only [subRoot, halvingRoot]
    rw [ih s, ih (s + 2 ^ h), halvingRoot_take, List.drop_drop]

theorem subPath_ext {ls ls' : List H} (h p : Nat) : ∀ (Ht S : Nat),
    (∀ q, S ≤ q → q < S + 2 ^ Ht → ls.getD q default = ls'.getD q default) →
    subPath ls h p Ht S = subPath ls' h p Ht S := by
  intro Ht
  induction Ht with
  | zero => intro S _; simp [subPath]
  | succ Ht ih =>
    intro S hq
    have hp := pow_succ2 Ht
    simp only [subPath]
    rw [ih S (fun q h1 h2 => hq q h1 (by omega)), ih (S + 2 ^ Ht) (fun q h1 h2 => hq q (by omega) (by omega)),
      subRoot_ext Ht S (fun q h1 h2 => hq q h1 (by omega)),
      subRoot_ext Ht (S + 2 ^ Ht) (fun q h1 h2 => hq q (by omega) (by omega))]

theorem subPath_append (L ext : List H) (h p : Nat) {Ht S : Nat} (hs : S + 2 ^ Ht ≤ L.length) :
    subPath (L ++ ext) h p Ht S = subPath L h p Ht S :=
  subPath_ext h p Ht S fun _ _ h2 => getD_append_left L ext (by omega)

theorem subPath_self (ls : List H) (h p S : Nat) : subPath ls h p h S = [] := by
  cases h with
  | zero => simp [subPath]
  | succ h => simp [subPath]

theorem subPath_left (ls : List H) {h p Ht S : Nat} (hh : h ≤ Ht) (hp : p < S + 2 ^ Ht) :
    subPath ls h p (Ht + 1) S = subPath ls h p Ht S ++ [subRoot ls Ht (S + 2 ^ Ht)] := by
  simp only [subPath]
  rw [if_neg (by omega), if_pos hp]

theorem subPath_right (ls : List H) {h p Ht S : Nat} (hh : h ≤ Ht) (hp : S + 2 ^ Ht ≤ p) :
    subPath ls h p (Ht + 1) S = subPath ls h p Ht (S + 2 ^ Ht) ++ [subRoot ls Ht S] := by
  simp only [subPath]
  rw [if_neg (by omega), if_neg (by omega)]

theorem subPath_length (ls : List H) (h p : Nat) : ∀ (Ht S : Nat), (subPath ls h p Ht S).length = Ht - h := by
  intro Ht
  induction Ht with
  | zero => intro S; simp [subPath]
  | succ Ht ih =>
    intro S
    by_cases hle : Ht + 1 ≤ h
    · rw [subPath, if_pos hle, Nat.sub_eq_zero_of_le hle]; rfl
    · by_cases hp : p < S + 2 ^ Ht
      · rw [subPath_left ls (by omega) hp, List.length_append, ih, List.length_singleton]; omega
      · rw [subPath_right ls (by omega) (by omega), List.length_append, ih, List.length_singleton]; omega

/-- the naive forest's node at `(row, col)`: the root of the subtree of height `row` over the
    leaves `col·2^row … (col+1)·2^row − 1` -/
def nodeAt (ls : List H) (row col : Nat) : H := subRoot ls row (col * 2 ^ row)

theorem nodeAt_zero (ls : List H) (p : Nat) : nodeAt ls 0 p = ls.getD p default := by
  simp [nodeAt, subRoot]

theorem nodeAt_succ (ls : List H) (r c : Nat) :
    nodeAt ls (r + 1) c = node (nodeAt ls r (2 * c)) (nodeAt ls r (2 * c + 1)) := by
  have e : c * 2 ^ (r + 1) = 2 * c * 2 ^ r := by rw [pow_succ2, Nat.mul_left_comm, Nat.mul_assoc]
  simp only [nodeAt, subRoot]
  rw [Nat.succ_mul (2 * c), e]

/-- the sibling roots of position `p` at the rows `h, …, Ht − 1` -/
def sibs (ls : List H) (p h Ht : Nat) : List H :=
  (List.range' h (Ht - h)).map fun r => nodeAt ls r (sibCol (p / 2 ^ r))

theorem sibs_nil (ls : List H) (p : Nat) {h Ht : Nat} (hle : Ht ≤ h) : sibs ls p h Ht = [] := by
  rw [sibs, Nat.sub_eq_zero_of_le hle]; rfl

theorem sibs_length (ls : List H) (p h Ht : Nat) : (sibs ls p h Ht).length = Ht - h := by
  rw [sibs, List.length_map, List.length_range']

theorem sibs_cons (ls : List H) (p : Nat) {h Ht : Nat} (hlt : h < Ht) :
    sibs ls p h Ht = nodeAt ls h (sibCol (p / 2 ^ h)) :: sibs ls p (h + 1) Ht := by
  rw [sibs, show Ht - h = Ht - (h + 1) + 1 by omega, List.range'_succ]; rfl

theorem sibs_append (ls : List H) (p : Nat) {h k Ht : Nat} (hk : h ≤ k) (hH : k ≤ Ht) :
    sibs ls p h Ht = sibs ls p h k ++ sibs ls p k Ht := by
  simp only [sibs]
  rw [← List.map_append, show Ht - h = (k - h) + (Ht - k) by omega, ← List.range'_append_1, Nat.add_sub_cancel' hk]

theorem sibs_concat (ls : List H) (p : Nat) {h Ht : Nat} (hle : h ≤ Ht) :
    sibs ls p h (Ht + 1) = sibs ls p h Ht ++ [nodeAt ls Ht (sibCol (p / 2 ^ Ht))] := by
  rw [sibs_append ls p hle (Nat.le_succ Ht), sibs_cons ls p (Nat.lt_succ_self Ht), sibs_nil ls p (Nat.le_refl _)]

theorem sibs_congr {ls ls' : List H} {p q h Ht : Nat}
    (hr : ∀ r, h ≤ r → r < Ht → nodeAt ls r (sibCol (p / 2 ^ r)) = nodeAt ls' r (sibCol (q / 2 ^ r))) :
    sibs ls p h Ht = sibs ls' q h Ht :=
  List.map_congr_left fun r hm => by
    obtain ⟨h1, h2⟩ := List.mem_range'_1.1 hm
    exact hr r h1 (by omega)

theorem subPath_eq_sibs (ls : List H) (h p : Nat) : ∀ (Ht S : Nat), 2 ^ Ht ∣ S → S ≤ p → p < S + 2 ^ Ht →
    subPath ls h p Ht S = sibs ls p h Ht := by
  intro Ht
  induction Ht with
  | zero => intro S _ _ _; rw [sibs_nil ls p (Nat.zero_le _)]; rfl
  | succ Ht ih =>
    intro S hS h1 h2
    have hp := pow_succ2 Ht
    by_cases hle : Ht + 1 ≤ h
    · rw [subPath, if_pos hle, sibs_nil ls p hle]
    · have hsib := sibCol_half hS h1 h2
      rw [sibs_concat ls p (by omega), nodeAt, hsib]
      by_cases hl : p < S + 2 ^ Ht
      · rw [subPath_left ls (by omega) hl, ih S (dvd_of_dvd_succ hS) h1 hl, if_pos hl]
      · rw [subPath_right ls (by omega) (by omega), ih _ (dvd_add_pow hS) (by omega) (by omega), if_neg hl]

theorem node_step (ls : List H) (p r : Nat) :
    (if p.testBit r then node (nodeAt ls r (sibCol (p / 2 ^ r))) (nodeAt ls r (p / 2 ^ r))
      else node (nodeAt ls r (p / 2 ^ r)) (nodeAt ls r (sibCol (p / 2 ^ r)))) = nodeAt ls (r + 1) (p / 2 ^ (r + 1)) := by
  rw [nodeAt_succ, ← div_succ_pow, Nat.testBit_eq_decide_div_mod_eq]
  generalize p / 2 ^ r = q
  rcases Nat.mod_two_eq_zero_or_one q with h | h
  · have e : 2 * (q / 2) = q := by omega
    rw [sibCol, if_pos h, h, e]; rfl
  · have e : 2 * (q / 2) + 1 = q := by omega
    have e' : 2 * (q / 2) = q - 1 := by omega
    rw [sibCol, if_neg (by omega : ¬ q % 2 = 0), h, e, e']; rfl

theorem proofRootFrom_sibs (ls : List H) (p : Nat) : ∀ (d r : Nat),
    proofRootFrom p r (nodeAt ls r (p / 2 ^ r)) (sibs ls p r (r + d)) = nodeAt ls (r + d) (p / 2 ^ (r + d)) := by
  intro d
  induction d with
  | zero => intro r; rw [Nat.add_zero, sibs_nil ls p (Nat.le_refl _)]; rfl
  | succ d ih =>
    intro r
    rw [sibs_cons ls p (by omega), proofRootFrom, node_step, ← Nat.add_assoc, Nat.add_right_comm]
    exact ih (r + 1)

theorem proofRoot_sibs (ls : List H) (p k : Nat) :
    proofRoot (ls.getD p default) p (sibs ls p 0 k) = nodeAt ls k (p / 2 ^ k) := by
  have := proofRootFrom_sibs ls p k 0
  rwa [Nat.zero_add, Nat.pow_zero, Nat.div_one, nodeAt_zero] at this

theorem take_subPath_left (ls : List H) {h i p : Nat} {proof : List H} (hlt : p < i + 2 ^ h)
    (hold : proof.take (h + 1) = subPath ls 0 p (h + 1) i) :
    proof.take h = subPath ls 0 p h i ∧ proof.getD h default = subRoot ls h (i + 2 ^ h) := by
  rw [subPath_left ls (Nat.zero_le _) hlt] at hold
  exact take_succ_split (subPath_length ls 0 p h i) hold

theorem take_subPath_right (ls : List H) {h i p : Nat} {proof : List H} (hge : i + 2 ^ h ≤ p)
    (hold : proof.take (h + 1) = subPath ls 0 p (h + 1) i) :
    proof.take h = subPath ls 0 p h (i + 2 ^ h) ∧ proof.getD h default = subRoot ls h i := by
  rw [subPath_right ls (Nat.zero_le _) hge] at hold
  exact take_succ_split (subPath_length ls 0 p h (i + 2 ^ h)) hold

theorem proofRootFrom_append (idx : Nat) (a b : List H) : ∀ (lvl : Nat) (x : H),
    proofRootFrom idx lvl x (a ++ b) = proofRootFrom idx (lvl + a.length) (proofRootFrom idx lvl x a) b := by
  induction a with
  | nil => intro lvl x; simp [proofRootFrom]
  | cons y a ih =>
    intro lvl x
    simp only [List.cons_append, proofRootFrom, List.length_cons]
    rw [ih]; congr 1; omega

theorem subPath_comp (ls : List H) {h0 h s p : Nat} (h0h : h0 ≤ h) (hs : 2 ^ h ∣ s) (h1 : s ≤ p) (h2 : p < s + 2 ^ h)
    {Ht S : Nat} (hH : h ≤ Ht) (hS : 2 ^ Ht ∣ S) (h3 : S ≤ s) (h4 : p < S + 2 ^ Ht) :
    subPath ls h0 p Ht S = subPath ls h0 p h s ++ subPath ls h s Ht S := by
  rw [subPath_eq_sibs ls h0 p Ht S hS (by omega) h4, subPath_eq_sibs ls h0 p h s hs h1 h2,
    subPath_eq_sibs ls h s Ht S hS h3 (by omega), sibs_append ls p h0h hH]
  congr 1
  exact sibs_congr fun r hr _ => by rw [div_pow_of_div_pow (div_eq_of_block hs h1 h2) hr]

theorem subPath_one_left (ls : List H) (k s' : Nat) :
    subPath ls k s' (k + 1) s' = [subRoot ls k (s' + 2 ^ k)] := by
  rw [subPath_left ls (Nat.le_refl k) (Nat.lt_add_of_pos_right (Nat.two_pow_pos k)), subPath_self]; rfl

theorem subPath_one_right (ls : List H) (k s' : Nat) :
    subPath ls k (s' + 2 ^ k) (k + 1) s' = [subRoot ls k s'] := by
  rw [subPath_right ls (Nat.le_refl k) (Nat.le_refl _), subPath_self]; rfl

theorem path_eq (ls : List H) (i : Nat) :
    path ls i = subPath ls 0 i (treeHeight ls.length i) (treeStart ls.length (treeHeight ls.length i)) := rfl

theorem path_length (ls : List H) (i : Nat) : (path ls i).length = treeHeight ls.length i := by
  rw [path_eq, subPath_length]; omega

theorem path_eq_sibs (ls : List H) {i : Nat} (hi : i < ls.length) : path ls i = sibs ls i 0 (treeHeight ls.length i) :=
  have ⟨_, h1, h2⟩ := treeHeight_spec hi
  subPath_eq_sibs ls 0 i _ _ (dvd_of_dvd_succ (treeStart_dvd _ _)) h1 h2

theorem path_append (ls ext : List H) {j : Nat} (hj : j < ls.length) :
    path (ls ++ ext) j = path ls j ++
      subPath (ls ++ ext) (treeHeight ls.length j) (treeStart ls.length (treeHeight ls.length j))
        (treeHeight (ls ++ ext).length j) (treeStart (ls ++ ext).length (treeHeight (ls ++ ext).length j)) := by
  have hn : ls.length ≤ (ls ++ ext).length := by simp
  obtain ⟨hbit, hlo, hhi⟩ := treeHeight_spec hj
  obtain ⟨_, _, hhi'⟩ := treeHeight_spec (Nat.lt_of_lt_of_le hj hn)
  rw [path_eq, path_eq,
    subPath_comp (ls ++ ext) (Nat.zero_le _) (dvd_of_dvd_succ (treeStart_dvd _ _)) hlo hhi (treeHeight_mono hj hn)
      (dvd_of_dvd_succ (treeStart_dvd _ _)) (treeStart_mono hj hn) hhi',
    subPath_append ls ext 0 j (tree_end_le hbit)]

theorem path_append_take (ls1 ext : List H) {j : Nat} (hj : j < ls1.length) :
    (path (ls1 ++ ext) j).take (treeHeight ls1.length j) = path ls1 j := by
  rw [path_append ls1 ext hj, ← path_length ls1 j, List.take_left]

theorem proofRoot_path_block (ls : List H) {Ht S p : Nat} (hS : 2 ^ Ht ∣ S) (h1 : S ≤ p) (h2 : p < S + 2 ^ Ht) :
    proofRoot (ls.getD p default) p (subPath ls 0 p Ht S) = subRoot ls Ht S := by
  rw [subPath_eq_sibs ls 0 p Ht S hS h1 h2, proofRoot_sibs, nodeAt, anc_eq hS h1 h2]

theorem proofRoot_sound (inj : NodeInj H) (ls : List H) (idx : Nat) (x : H) : ∀ (Ht S : Nat) (proof : List H),
    proof.length = Ht → 2 ^ Ht ∣ S → proofRoot x idx proof = subRoot ls Ht S →
    x = ls.getD (S + idx % 2 ^ Ht) default ∧ proof = subPath ls 0 (S + idx % 2 ^ Ht) Ht S := by
  intro Ht
  induction Ht with
  | zero =>
    intro S proof hl _ hr
    have : proof = [] := List.eq_nil_of_length_eq_zero hl
    subst this
    simp [proofRoot, proofRootFrom, subRoot, subPath] at hr ⊢
    simpa [Nat.mod_one] using hr
  | succ Ht ih =>
    intro S proof hl hS hr
    have hp := pow_succ2 Ht
    rcases List.eq_nil_or_concat proof with h0 | ⟨a, q, h0⟩
    · subst h0; simp at hl
    · rw [List.concat_eq_append] at h0
      subst h0
      have hla : a.length = Ht := by simpa using hl
      unfold proofRoot at hr
      rw [proofRootFrom_append] at hr
      simp only [proofRootFrom, Nat.zero_add, hla, subRoot] at hr
      have hmod := mod_succ_testBit idx Ht
      have hlt : idx % 2 ^ Ht < 2 ^ Ht := Nat.mod_lt _ (Nat.two_pow_pos Ht)
      by_cases hb : idx.testBit Ht = true
      · rw [hb] at hr hmod
        simp only [if_true] at hr hmod
        obtain ⟨e1, e2⟩ := inj _ _ _ _ hr
        have := ih (S + 2 ^ Ht) a hla (dvd_add_pow hS) e2
        have hpos : S + idx % 2 ^ (Ht + 1) = S + 2 ^ Ht + idx % 2 ^ Ht := by omega
        rw [hpos, subPath_right ls (Nat.zero_le _) (by omega), ← this.2, e1]
        exact ⟨this.1, rfl⟩
      · have hb' : idx.testBit Ht = false := by simpa using hb
        rw [hb'] at hr hmod
        simp only [Bool.false_eq_true, if_false] at hr hmod
        obtain ⟨e1, e2⟩ := inj _ _ _ _ hr
        have := ih S a hla (dvd_of_dvd_succ hS) e1
        have hpos : S + idx % 2 ^ (Ht + 1) = S + idx % 2 ^ Ht := by omega
        rw [hpos, subPath_left ls (Nat.zero_le _) (by omega), ← this.2, e2]
        exact ⟨this.1, rfl⟩

/-- The forest an accumulator denotes: entries of `trees` at heights without a tree are
    stale in the Go array and are masked. -/
def Acc.toForest (acc : Acc H) : Forest H where
  numLeaves := acc.numLeaves
  trees := fun h => if hasTree acc.numLeaves h then some (acc.trees h) else none

theorem numLeaves_of_toForest {acc : Acc H} {ls : List H} (h : acc.toForest = forestOf ls) :
    acc.numLeaves = ls.length := congrArg Forest.numLeaves h

theorem toForest_eq_iff (acc : Acc H) (ls : List H) :
    acc.toForest = forestOf ls ↔
      acc.numLeaves = ls.length ∧
      ∀ h, ls.length.testBit h = true → acc.trees h = subRoot ls h (treeStart ls.length h) := by
  constructor
  · intro h
    have h1 := numLeaves_of_toForest h
    refine ⟨h1, fun k hk => ?_⟩
    have h2 := congrFun (congrArg Forest.trees h) k
    simp only [Acc.toForest, forestOf, h1, hasTree, hk, if_true] at h2
    exact Option.some.inj h2
  · rintro ⟨h1, h2⟩
    simp only [Acc.toForest, forestOf, h1]
    congr 1
    funext k
    by_cases hk : ls.length.testBit k = true
    · simp [hasTree, hk, h2 k hk]
    · simp [hasTree, hk]

theorem containsLeaf_iff [DecidableEq H] {acc : Acc H} {ls : List H} (hacc : acc.toForest = forestOf ls) (l : Leaf H) :
    acc.containsLeaf l = true ↔ ls.length.testBit l.proof.length = true ∧
      subRoot ls l.proof.length (treeStart ls.length l.proof.length) = l.proofRoot := by
  obtain ⟨hn, htrees⟩ := (toForest_eq_iff acc ls).1 hacc
  simp only [Acc.containsLeaf, Acc.hasTreeAtHeight, hasTree, Bool.and_eq_true, decide_eq_true_eq, hn]
  exact and_congr_right fun hbit => by rw [htrees _ hbit]

end
end Sia.ElemAcc
