import SiaProofs.Lemmas.LedgerPrim
import SiaProofs.Lemmas.LedgerItems
import SiaProofs.Lemmas.LedgerFees
/-!
# The primitive operations as items

`Op.step_frame` says what an operation does to the base ledger, the keys of the index and the pool in any state; the
specifications of `LedgerPrim` (under `Inv`) and `Op.wi` of `LedgerWeakInv` (without it) say the rest.
-/
namespace Sia.Ledger

/-- the operations transactions and blocks are made of.  `createSc id o imm`: an output, immature if `imm`;
`claim id e addr`: the claim output of the siafund element `e`, computed from the pool as it stands -/
inductive Op where
  | spendSc (e : ScElem)
  | createSc (id : Id) (o : ScOut) (imm : Bool)
  | spendSf (e : SfElem)
  | claim (id : Id) (e : SfElem) (addr : Addr)
  | createSf (id : Id) (v : Nat) (a : Addr)
  | createFc1 (id : Id) (fc : Fc1)
  | reviseFc1 (e : Fc1Elem) (rev : Fc1)
  | resolveFc1 (e : Fc1Elem) (valid : Bool)
  | createFc2 (id : Id) (fc : Fc2)
  | reviseFc2 (e : Fc2Elem) (rev : Fc2)
  | resolveFc2 (e : Fc2Elem) (k : ResKind)

def Op.step (ms : Mid) : Op → VM Mid
  | .spendSc e => pure (ms.spendSc e)
  | .createSc id o imm => pure (ms.createSc id o (if imm then maturityHeight ms.base else 0))
  | .spendSf e => pure (ms.spendSf e)
  | .claim id e addr => do
    let c ← claimPortion ms.pool e.claimStart e.value
    pure (ms.createImmatureSc id { value := c, addr := addr })
  | .createSf id v a => pure (ms.createSf id v a)
  | .createFc1 id fc => ms.createFc1 id fc
  | .reviseFc1 e rev => pure (ms.reviseFc1 e rev)
  | .resolveFc1 e v => pure (ms.resolveFc1 e v)
  | .createFc2 id fc => ms.createFc2 id fc
  | .reviseFc2 e rev => pure (ms.reviseFc2 e rev)
  | .resolveFc2 e k => ms.resolveFc2 e k

def Op.keys : Op → List (Kind × Id)
  | .spendSc e => [(.sc, e.id)]
  | .spendSf e => [(.sf, e.id)]
  | .reviseFc1 e _ => [(.fc1, e.id)]
  | .resolveFc1 e _ => [(.fc1, e.id)]
  | .reviseFc2 e _ => [(.fc2, e.id)]
  | .resolveFc2 e _ => [(.fc2, e.id)]
  | _ => []

def Op.created : Op → List (Kind × Id)
  | .createSc id _ _ => [(.sc, id)]
  | .claim id _ _ => [(.sc, id)]
  | .createSf id _ _ => [(.sf, id)]
  | .createFc1 id _ => [(.fc1, id)]
  | .createFc2 id _ => [(.fc2, id)]
  | _ => []

def Op.tax (L : Ledger) : Op → Nat
  | .createFc1 _ fc => fileContractTax L fc.payout
  | .createFc2 _ fc => fc.val / 25
  | _ => 0

/-- what validation has to establish, against the state before the transaction -/
def Op.Pre (T : Kind → Id → Prop) (ms : Mid) : Op → Prop
  | .spendSc e => SpendableSc T ms e
  | .spendSf e => SpendableSf T ms e
  | .createFc1 _ fc => sumVals fc.valid = sumVals fc.missed
  | .reviseFc1 e rev => LiveFc1 T ms e ∧ sumVals rev.valid = sumVals e.fc.valid ∧ sumVals rev.missed = sumVals e.fc.missed
  | .resolveFc1 e _ => ResolvableFc1 T ms e ∧ ms.isSpent e.id = false
  | .createFc2 _ fc => fc.missedHost ≤ fc.host.value
  | .reviseFc2 e rev => LiveFc2 T ms e ∧ rev.val = e.fc.val ∧ rev.missedHost ≤ rev.host.value
  | .resolveFc2 e _ => LiveFc2 T ms e ∧ e.fc.missedHost ≤ e.fc.host.value
  | _ => True

def Op.out (_ : Ledger) (_ : Cur) (o : Op) (W : Wt) : Nat :=
  match o with
  | .spendSc e => W.sc e
  | .spendSf e => W.sf e
  | .resolveFc1 e _ => W.fc * e.fc.val
  | .resolveFc2 e _ => W.fc * e.fc.val
  | _ => 0

def Op.inn (L : Ledger) (p : Cur) (o : Op) (W : Wt) : Nat :=
  match o with
  | .createSc id x imm => W.sc ⟨id, x.value, x.addr, if imm then maturityHeight L else 0, none⟩
  | .claim id e addr => W.sc ⟨id, claimVal p e.claimStart e.value, addr, maturityHeight L, none⟩
  | .createSf id v a => W.sf ⟨id, v, a, p, none⟩
  | .createFc1 _ fc => W.fc * fc.val
  | .createFc2 _ fc => W.fc * fc.val
  | _ => 0

/-- the base ledger is kept and keys of the index are never removed -/
def Ext (ms ms' : Mid) : Prop := ms'.base = ms.base ∧ ∀ x, ms.lookup x ≠ none → ms'.lookup x ≠ none

theorem Ext.refl (ms : Mid) : Ext ms ms := ⟨rfl, fun _ h => h⟩
theorem Ext.trans {a b c : Mid} (h1 : Ext a b) (h2 : Ext b c) : Ext a c :=
  ⟨h2.1.trans h1.1, fun x h => h2.2 x (h1.2 x h)⟩

theorem putSc_ext (ms : Mid) (id : Id) (f : ScDiff → ScDiff) : Ext ms (ms.putSc id f) :=
  ⟨putSc_base _ _ _, fun _ => put_lookup_keeps scSlice ms id f⟩
theorem putSf_ext (ms : Mid) (id : Id) (f : SfDiff → SfDiff) : Ext ms (ms.putSf id f) :=
  ⟨putSf_base _ _ _, fun _ => put_lookup_keeps sfSlice ms id f⟩
theorem putFc1_ext (ms : Mid) (id : Id) (f : Fc1Diff → Fc1Diff) : Ext ms (ms.putFc1 id f) :=
  ⟨putFc1_base _ _ _, fun _ => put_lookup_keeps fc1Slice ms id f⟩
theorem putFc2_ext (ms : Mid) (id : Id) (f : Fc2Diff → Fc2Diff) : Ext ms (ms.putFc2 id f) :=
  ⟨putFc2_base _ _ _, fun _ => put_lookup_keeps fc2Slice ms id f⟩

theorem Op.step_frame {ms ms' : Mid} {o : Op} (h : o.step ms = .ok ms') : Ext ms ms' ∧ ms'.pool = ms.pool + o.tax ms.base := by
  cases o with
  | spendSc e => exact Except.ok.inj h ▸ ⟨putSc_ext .., putSc_pool ..⟩
  | createSc id x imm => exact Except.ok.inj h ▸ ⟨putSc_ext .., putSc_pool ..⟩
  | spendSf e => exact Except.ok.inj h ▸ ⟨putSf_ext .., putSf_pool ..⟩
  | claim id e a => obtain ⟨c, _, h⟩ := bind_ok_iff.1 h; exact Except.ok.inj h ▸ ⟨putSc_ext .., putSc_pool ..⟩
  | createSf id v a => exact Except.ok.inj h ▸ ⟨putSf_ext .., putSf_pool ..⟩
  | createFc1 id fc => obtain ⟨_, rfl⟩ := createFc1_ok_iff.1 h; exact ⟨putFc1_ext .., rfl⟩
  | reviseFc1 e r => exact Except.ok.inj h ▸ ⟨putFc1_ext .., putFc1_pool ..⟩
  | resolveFc1 e v => exact Except.ok.inj h ▸ ⟨putFc1_ext .., putFc1_pool ..⟩
  | createFc2 id fc => obtain ⟨_, _, rfl⟩ := createFc2_ok_iff.1 h; exact ⟨putFc2_ext .., rfl⟩
  | reviseFc2 e r => exact Except.ok.inj h ▸ ⟨putFc2_ext .., putFc2_pool ..⟩
  | resolveFc2 e k => obtain ⟨_, rfl⟩ := resolveFc2_ok_iff.1 h; exact ⟨putFc2_ext .., putFc2_pool ..⟩

def ops : Items Op := ⟨Op.step, Op.keys, Op.created, Op.tax, Op.Pre, Op.out, Op.inn⟩

theorem Agree.ids {ms ms' : Mid} {id : Id} (h : Agree ms ms' (· = id)) {l : List Id} (hl : id ∈ l) : Agree ms ms' (· ∈ l) :=
  h.mono (fun _ hx => hx ▸ hl)

theorem ops_ok : ops.Ok where
  typed {T ms a} h q hq := by
    cases a <;> simp only [ops, Op.keys, List.mem_singleton, List.not_mem_nil] at hq <;> subst hq
    · exact h.1
    · exact h.1
    · exact h.1.1
    · exact h.1.1
    · exact h.1.1
    · exact h.1.1
  agree {T ms ms' a P} h hA hk := by
    cases a <;> try trivial
    · exact SpendableSc.agree h hA (hk _ List.mem_cons_self)
    · exact SpendableSf.agree h hA (hk _ List.mem_cons_self)
    · exact ⟨h.1.agree hA (hk _ List.mem_cons_self), h.2⟩
    · exact ⟨h.1.agree hA (hk _ List.mem_cons_self), (hA.2 _ (hk _ List.mem_cons_self)).2.2.2.2.2.trans h.2⟩
    · exact ⟨h.1.agree hA (hk _ List.mem_cons_self), h.2⟩
    · exact ⟨h.1.agree hA (hk _ List.mem_cons_self), h.2⟩
  known {T ms a} h q hq := by
    cases a <;> simp only [ops, Op.keys, List.mem_singleton, List.not_mem_nil] at hq <;> subst hq
    · exact SpendableSc.known h
    · exact SpendableSf.known h
    · exact h.1.known
    · exact h.1.known
    · exact h.1.known
    · exact h.1.known
  spec {T ms ms' a R} hc hI hp hF h := by
    obtain ⟨hx, hpl⟩ := Op.step_frame h
    cases a with
    | spendSc e =>
      cases h
      obtain ⟨hI', hA, hW⟩ := spendSc_spec hc hI hp
      exact ⟨hI', hA.ids List.mem_cons_self, hF.agree hA (hF.ne_of_known hp.known), hx.1, hpl,
        fun W => (hW W).trans (Nat.add_zero _).symm⟩
    | createSc id o imm =>
      cases h
      obtain ⟨hI', hA, hF', hW⟩ := createSc_spec hc hI hF o (if imm then maturityHeight ms.base else 0)
      exact ⟨hI', hA.ids List.mem_cons_self, hF', hx.1, hpl, fun W => (Nat.add_zero _).trans (hW W)⟩
    | spendSf e =>
      cases h
      obtain ⟨hI', hA, hW⟩ := spendSf_spec hc hI hp
      exact ⟨hI', hA.ids List.mem_cons_self, hF.agree hA (hF.ne_of_known hp.known), hx.1, hpl,
        fun W => (hW W).trans (Nat.add_zero _).symm⟩
    | claim id e addr =>
      obtain ⟨c, hcl, h⟩ := bind_ok_iff.1 h
      cases h
      obtain ⟨_, _, rfl⟩ := claimPortion_ok.1 hcl
      obtain ⟨hI', hA, hF', hW⟩ := createSc_spec hc hI hF { value := _, addr := addr } (maturityHeight ms.base)
      exact ⟨hI', hA.ids List.mem_cons_self, hF', hx.1, hpl, fun W => (Nat.add_zero _).trans (hW W)⟩
    | createSf id v a =>
      cases h
      obtain ⟨hI', hA, hF', hW⟩ := createSf_spec hc hI hF v a
      exact ⟨hI', hA.ids List.mem_cons_self, hF', hx.1, hpl, fun W => (Nat.add_zero _).trans (hW W)⟩
    | createFc1 id fc =>
      obtain ⟨hI', hA, hF', hW⟩ := createFc1_spec hc hI hF hp h
      exact ⟨hI', hA.ids List.mem_cons_self, hF', hx.1, hpl, fun W => (Nat.add_zero _).trans (hW W)⟩
    | reviseFc1 e rev =>
      cases h
      obtain ⟨hI', hA, hW⟩ := reviseFc1_spec hc hI hp.1 hp.2.1 hp.2.2
      exact ⟨hI', hA.ids List.mem_cons_self, hF.agree hA (hF.ne_of_known hp.1.known), hx.1, hpl,
        fun W => congrArg (· + 0) (hW W)⟩
    | resolveFc1 e v =>
      cases h
      obtain ⟨hI', hA, hW⟩ := resolveFc1_spec hc hI hp.1 hp.2 v
      exact ⟨hI', hA.ids List.mem_cons_self, hF.agree hA (hF.ne_of_known hp.1.known), hx.1, hpl,
        fun W => (hW W).trans (Nat.add_zero _).symm⟩
    | createFc2 id fc =>
      obtain ⟨hI', hA, hF', hW⟩ := createFc2_spec hc hI hF hp h
      exact ⟨hI', hA.ids List.mem_cons_self, hF', hx.1, hpl, fun W => (Nat.add_zero _).trans (hW W)⟩
    | reviseFc2 e rev =>
      cases h
      obtain ⟨hI', hA, hW⟩ := reviseFc2_spec hc hI hp.1 hp.2.1 hp.2.2
      exact ⟨hI', hA.ids List.mem_cons_self, hF.agree hA (hF.ne_of_known hp.1.known), hx.1, hpl,
        fun W => congrArg (· + 0) (hW W)⟩
    | resolveFc2 e k =>
      obtain ⟨hI', hA, hW⟩ := resolveFc2_spec hc hI hp.1 hp.2 h
      exact ⟨hI', hA.ids List.mem_cons_self, hF.agree hA (hF.ne_of_known hp.1.known), hx.1, hpl,
        fun W => (hW W).trans (Nat.add_zero _).symm⟩

theorem creates_run {T} {ms ms' : Mid} (hc : Ctx T ms.base) (hI : Inv T ms) (l : List (Id × ScOut)) (imm : Bool)
    {R : List (Kind × Id)} (hF : Fresh T ms (l.map (fun x => (Kind.sc, x.1)) ++ R))
    (h : (l.map (fun x => Op.createSc x.1 x.2 imm)).foldlM Op.step ms = .ok ms') :
    Inv T ms' ∧ Agree ms ms' (· ∈ l.map (·.1)) ∧ Fresh T ms' R ∧ ms'.base = ms.base ∧ ms'.pool = ms.pool ∧
    ∀ W, census W ms' = census W ms +
      (l.map (fun x => W.sc ⟨x.1, x.2.value, x.2.addr, if imm then maturityHeight ms.base else 0, none⟩)).sum := by
  have hk : (l.map (fun x => Op.createSc x.1 x.2 imm)).flatMap Op.keys = [] := by
    rw [List.flatMap_map]; exact flatMap_nil_fun _
  have hcr : (l.map (fun x => Op.createSc x.1 x.2 imm)).flatMap Op.created = l.map (fun x => (Kind.sc, x.1)) := by
    rw [List.flatMap_map, List.map_eq_flatMap]; rfl
  have hid : (l.map (fun x => Op.createSc x.1 x.2 imm)).flatMap ops.ids = l.map (·.1) := by
    rw [List.flatMap_map, List.map_eq_flatMap]; rfl
  obtain ⟨h1, h2, h3, h4, h5, h6⟩ := ops_ok.fold (l.map (fun x : Id × ScOut => Op.createSc x.1 x.2 imm)) ms ms' R hc hI
    (List.forall_mem_map.2 (fun _ _ => trivial)) (hk ▸ List.nodup_nil)
    (ops.quiet_of_tax (List.forall_mem_map.2 (fun _ _ _ => rfl))) (hcr.symm ▸ hF) h
  refine ⟨h1, hid ▸ h2, h3, h4, ?_, fun W => ?_⟩
  · rw [h5, List.map_map]; exact congrArg _ (sum_map_zero l _ (fun _ _ => rfl))
  · have := h6 W
    simp only [List.map_map, Function.comp_def, ops, Op.out, Op.inn, sum_const_zero, Nat.add_zero] at this
    exact this

end Sia.Ledger
