import SiaModel.Policy.Address
import SiaProofs.Lemmas.CodecPrim
/-! The unlock-conditions Merkle root determines the unlock conditions (C14), over an
    abstract hash algebra whose constructors are injective and disjoint (`HashInj`). -/
namespace Sia.Policy

/-- symbolic collision-freeness of the two Merkle hash constructors
    (`leaf d` = BLAKE2b(0x00 ‖ d), `node l r` = BLAKE2b(0x01 ‖ l ‖ r)); a hypothesis, never an axiom -/
structure HashInj {D : Type} (leaf : ByteArray → D) (node : D → D → D) : Prop where
  leaf_inj : ∀ a b, leaf a = leaf b → a = b
  node_inj : ∀ a b c d, node a b = node c d → a = c ∧ b = d
  leaf_ne_node : ∀ a b c, leaf a ≠ node b c

/-- the free algebra: Merkle trees as terms -/
inductive MTree where
  | leaf (d : ByteArray)
  | node (l r : MTree)

namespace MTree
def eval {D : Type} (lf : ByteArray → D) (nd : D → D → D) : MTree → D
  | .leaf d => lf d
  | .node l r => nd (eval lf nd l) (eval lf nd r)
def fringe : MTree → List ByteArray
  | .leaf d => [d]
  | .node l r => fringe l ++ fringe r

theorem eval_inj {D : Type} {lf : ByteArray → D} {nd : D → D → D} (h : HashInj lf nd) :
    ∀ t t' : MTree, eval lf nd t = eval lf nd t' → t = t'
  | .leaf a, .leaf b, e => by rw [h.leaf_inj a b e]
  | .leaf a, .node l r, e => absurd e (h.leaf_ne_node _ _ _)
  | .node l r, .leaf a, e => absurd e.symm (h.leaf_ne_node _ _ _)
  | .node l r, .node l' r', e => by
    obtain ⟨e1, e2⟩ := h.node_inj _ _ _ _ e
    rw [eval_inj h l l' e1, eval_inj h r r' e2]

/-- the free algebra is a model of `HashInj`: the hypothesis is satisfiable -/
theorem hashInj_free : HashInj MTree.leaf MTree.node :=
  ⟨fun _ _ e => by cases e; rfl, fun _ _ _ _ e => by cases e; exact ⟨rfl, rfl⟩, fun _ _ _ e => by cases e⟩
end MTree

section hom
variable {D : Type} (lf : ByteArray → D) (nd : D → D → D)

/-- evaluate every tree of an accumulator stack -/
def smap (st : List (Nat × MTree)) : List (Nat × D) := st.map (fun x => (x.1, MTree.eval lf nd x.2))

theorem accAddG_hom (st : List (Nat × MTree)) (i : Nat) (t : MTree) :
    accAddG nd (smap lf nd st) i (MTree.eval lf nd t) = smap lf nd (accAddG MTree.node st i t) := by
  induction st generalizing i t with
  | nil => simp [accAddG, smap]
  | cons x rest ih =>
    obtain ⟨ht, u⟩ := x
    simp only [smap, List.map_cons, accAddG]
    by_cases h : ht = i
    · simp only [h, if_true]
      have := ih (i + 1) (.node u t)
      simpa [smap, MTree.eval] using this
    · simp [h]

theorem fold_hom (ts : List MTree) (st : List (Nat × MTree)) :
    (ts.map (MTree.eval lf nd)).foldl (fun acc l => accAddG nd acc 0 l) (smap lf nd st)
      = smap lf nd (ts.foldl (fun acc t => accAddG MTree.node acc 0 t) st) := by
  induction ts generalizing st with
  | nil => rfl
  | cons t ts ih => simp only [List.map_cons, List.foldl_cons]; rw [accAddG_hom, ih]

theorem rootFold_hom (rest : List (Nat × MTree)) (t : MTree) :
    (smap lf nd rest).foldl (fun root x => nd x.2 root) (MTree.eval lf nd t)
      = MTree.eval lf nd (rest.foldl (fun root x => MTree.node x.2 root) t) := by
  induction rest generalizing t with
  | nil => rfl
  | cons x xs ih =>
    simp only [smap, List.map_cons, List.foldl_cons]
    exact ih (.node x.2 t)
end hom

/-- fringes of a stack, oldest (largest) tree first -/
def sfr (st : List (Nat × MTree)) : List ByteArray := st.reverse.flatMap (fun x => x.2.fringe)

theorem sfr_cons (x : Nat × MTree) (st : List (Nat × MTree)) : sfr (x :: st) = sfr st ++ x.2.fringe := by
  simp [sfr]

theorem sfr_accAdd (st : List (Nat × MTree)) (i : Nat) (t : MTree) :
    sfr (accAddG MTree.node st i t) = sfr st ++ t.fringe := by
  induction st generalizing i t with
  | nil => simp [accAddG, sfr]
  | cons x rest ih =>
    obtain ⟨ht, u⟩ := x
    simp only [accAddG]
    by_cases h : ht = i
    · simp only [h, if_true]; rw [ih, sfr_cons]; simp [MTree.fringe]
    · simp only [h, if_false]; rw [sfr_cons]

theorem sfr_fold (ts : List MTree) (st : List (Nat × MTree)) :
    sfr (ts.foldl (fun acc t => accAddG MTree.node acc 0 t) st) = sfr st ++ ts.flatMap MTree.fringe := by
  induction ts generalizing st with
  | nil => simp
  | cons t ts ih => simp only [List.foldl_cons]; rw [ih, sfr_accAdd]; simp

theorem fringe_rootFold (rest : List (Nat × MTree)) (t : MTree) :
    (rest.foldl (fun root x => MTree.node x.2 root) t).fringe = sfr rest ++ t.fringe := by
  induction rest generalizing t with
  | nil => simp [sfr]
  | cons x xs ih => simp only [List.foldl_cons]; rw [ih, sfr_cons]; simp [MTree.fringe]

theorem merkleRootG_tree {D : Type} (lf : ByteArray → D) (nd : D → D → D) (zero : D)
    (l : List ByteArray) (hl : l ≠ []) :
    ∃ T : MTree, merkleRootG nd zero (l.map lf) = T.eval lf nd ∧ T.fringe = l := by
  have e : l.map lf = (l.map MTree.leaf).map (MTree.eval lf nd) := by simp [MTree.eval]
  have hf := fold_hom lf nd (l.map MTree.leaf) []
  simp only [smap, List.map_nil] at hf
  have hfr : sfr ((l.map MTree.leaf).foldl (fun acc t => accAddG MTree.node acc 0 t) []) = l := by
    rw [sfr_fold]; simp [sfr, MTree.fringe, List.flatMap_map]
  unfold merkleRootG
  rw [e, hf]
  cases hs : (l.map MTree.leaf).foldl (fun acc t => accAddG MTree.node acc 0 t) [] with
  | nil => rw [hs] at hfr; exact absurd hfr.symm hl
  | cons x rest =>
    obtain ⟨hx, t⟩ := x
    refine ⟨rest.foldl (fun root x => MTree.node x.2 root) t, ?_, ?_⟩
    · simp only [List.map_cons, accRootG]
      exact rootFold_hom lf nd rest t
    · rw [fringe_rootFold, ← sfr_cons (hx, t) rest, ← hs, hfr]

theorem merkleRootG_inj {D : Type} {lf : ByteArray → D} {nd : D → D → D} (h : HashInj lf nd) (zero : D)
    (l l' : List ByteArray) (hl : l ≠ []) (hl' : l' ≠ [])
    (e : merkleRootG nd zero (l.map lf) = merkleRootG nd zero (l'.map lf)) : l = l' := by
  obtain ⟨T, h1, h2⟩ := merkleRootG_tree lf nd zero l hl
  obtain ⟨T', h1', h2'⟩ := merkleRootG_tree lf nd zero l' hl'
  rw [h1, h1'] at e
  rw [← h2, ← h2', MTree.eval_inj h T T' e]

/-! ### the encodings under the leaves are injective on well-formed unlock conditions -/

theorem shr_toUInt8 (n k : Nat) (hk : k < 8) :
    (UInt64.ofNat n >>> UInt64.ofNat (8 * k)).toUInt8 = UInt8.ofNat (n / 256 ^ k % 256) := by
  apply UInt8.toNat_inj.1
  have h8k : (UInt64.ofNat (8 * k)).toNat % 64 = 8 * k := by
    rw [UInt64.toNat_ofNat']; omega
  have e : 2 ^ 64 = 256 ^ k * (256 * 256 ^ (7 - k)) := by
    rw [← Nat.pow_succ', ← Nat.pow_add, show k + (7 - k + 1) = 8 by omega]
  rw [UInt64.toNat_toUInt8, UInt64.toNat_shiftRight, UInt8.toNat_ofNat', h8k, UInt64.toNat_ofNat',
    Nat.shiftRight_eq_div_pow, Nat.pow_mul, e, Nat.mod_mul_right_div_self, Nat.mod_mul_right_mod]
  exact (Nat.mod_mod _ 256).symm

/-- `le64` (on `ByteArray`, by shifts) and `Codec.u64le` (on lists, by digits) both model
    `binary.LittleEndian.PutUint64`. -/
theorem le64_toList (n : Nat) : (le64 n).data.toList = Codec.u64le n := by
  rw [Codec.u64le, Codec.leBytes_eq_map,
    List.map_congr_left fun k hk => (shr_toUInt8 n k (List.mem_range.1 hk)).symm]
  rfl

theorem le64_inj {a b : Nat} (ha : a < 18446744073709551616) (hb : b < 18446744073709551616)
    (h : le64 a = le64 b) : a = b :=
  Codec.u64le_inj ha hb (by rw [← le64_toList, ← le64_toList, h])

theorem le64_size (n : Nat) : (le64 n).size = 8 := by
  rw [ByteArray.size, ← Array.length_toList, le64_toList, Codec.u64le_length]

theorem ba_append_inj {a b c d : ByteArray} (h : a ++ b = c ++ d) (hs : a.size = c.size) : a = c ∧ b = d := by
  have := congrArg ByteArray.data h
  simp only [ByteArray.data_append] at this
  obtain ⟨h1, h2⟩ := Array.append_inj this hs
  exact ⟨ByteArray.ext h1, ByteArray.ext h2⟩

/-- well-formed unlock key: a 16-byte specifier and a key whose length fits a uint64 -/
def UnlockKey.WF (k : UnlockKey) : Prop := k.algorithm.size = 16 ∧ k.key.size < 18446744073709551616

/-- well-formed unlock conditions: uint64 fields, well-formed keys -/
def UnlockConditions.WF (c : UnlockConditions) : Prop :=
  c.timelock < 18446744073709551616 ∧ c.signaturesRequired < 18446744073709551616 ∧ ∀ k ∈ c.publicKeys, k.WF

theorem encUnlockKey_inj {k k' : UnlockKey} (hk : k.WF) (hk' : k'.WF) (h : encUnlockKey k = encUnlockKey k') : k = k' := by
  unfold encUnlockKey at h
  rw [ByteArray.append_assoc, ByteArray.append_assoc] at h
  obtain ⟨e1, e2⟩ := ba_append_inj h (hk.1.trans hk'.1.symm)
  obtain ⟨-, e3⟩ := ba_append_inj e2 ((le64_size _).trans (le64_size _).symm)
  obtain ⟨a, b⟩ := k
  obtain ⟨a', b'⟩ := k'
  exact congr (congrArg UnlockKey.mk e1) e3

theorem ucRootG_inj {D : Type} {lf : ByteArray → D} {nd : D → D → D} (h : HashInj lf nd) (zero : D)
    (c c' : UnlockConditions) (hc : c.WF) (hc' : c'.WF)
    (e : ucRootG lf nd zero c = ucRootG lf nd zero c') : c = c' := by
  unfold ucRootG at e
  have m : ∀ c : UnlockConditions,
      [lf (le64 c.timelock)] ++ c.publicKeys.map (fun k => lf (encUnlockKey k)) ++ [lf (le64 c.signaturesRequired)]
        = ([le64 c.timelock] ++ c.publicKeys.map encUnlockKey ++ [le64 c.signaturesRequired]).map lf := by
    intro c; simp
  rw [m c, m c'] at e
  have := merkleRootG_inj h zero _ _ (by simp) (by simp) e
  simp only [List.cons_append, List.cons.injEq] at this
  obtain ⟨e1, e2⟩ := this
  -- `rfl` for the lengths would first try `le64 _ = le64 _` by unfolding both sides
  obtain ⟨e3, e4⟩ := List.append_inj' e2 (List.length_singleton.trans List.length_singleton.symm)
  obtain ⟨tl, ks, sr⟩ := c
  obtain ⟨tl', ks', sr'⟩ := c'
  have t : tl = tl' := le64_inj hc.1 hc'.1 e1
  have r : sr = sr' := le64_inj hc.2.1 hc'.2.1 (List.cons.inj e4).1
  have k : ks = ks' := by
    simpa using Codec.map_eq_of_map_eq (g := id) (fun a ha a' ha' => encUnlockKey_inj (hc.2.2 a ha) (hc'.2.2 a' ha')) e3
  rw [t, r, k]

end Sia.Policy
