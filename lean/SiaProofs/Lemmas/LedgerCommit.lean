import SiaProofs.Lemmas.LedgerVM
/-!
# What `Mid.commit` keeps live
-/
namespace Sia.Ledger

/-- every slice of `Mid.commit`: the base elements no diff speaks of, then the images of the kept diffs -/
theorem mem_commit {α δ} (key : α → Id) (dkey : δ → Id) (keep : δ → Bool) (out : δ → α)
    (base : List α) (ds : List δ) (e : α) :
    e ∈ base.filter (fun e => ¬ ds.any (fun d => dkey d = key e)) ++ (ds.filter keep).map out ↔
      ((e ∈ base ∧ ∀ d ∈ ds, dkey d ≠ key e) ∨ ∃ d ∈ ds, keep d = true ∧ out d = e) := by
  simp [and_assoc]

theorem commit_sc_mem (ms : Mid) (bid : Id) (e : ScElem) :
    e ∈ (ms.commit bid).sc ↔
      ((e ∈ ms.base.sc ∧ ∀ d ∈ ms.sces, d.e.id ≠ e.id) ∨ (∃ d ∈ ms.sces, d.spent = false ∧ d.e = e)) := by
  refine (mem_commit (fun e : ScElem => e.id) (fun d : ScDiff => d.e.id) (fun d => ¬ d.spent) (fun d => d.e)
    ms.base.sc ms.sces e).trans ?_
  simp only [decide_eq_true_eq, Bool.not_eq_true]

theorem commit_sf_mem (ms : Mid) (bid : Id) (e : SfElem) :
    e ∈ (ms.commit bid).sf ↔
      ((e ∈ ms.base.sf ∧ ∀ d ∈ ms.sfes, d.e.id ≠ e.id) ∨ (∃ d ∈ ms.sfes, d.spent = false ∧ d.e = e)) := by
  refine (mem_commit (fun e : SfElem => e.id) (fun d : SfDiff => d.e.id) (fun d => ¬ d.spent) (fun d => d.e)
    ms.base.sf ms.sfes e).trans ?_
  simp only [decide_eq_true_eq, Bool.not_eq_true]

theorem commit_fc1_mem (ms : Mid) (bid : Id) (e : Fc1Elem) :
    e ∈ (ms.commit bid).fc1 ↔
      ((e ∈ ms.base.fc1 ∧ ∀ d ∈ ms.fces, d.e.id ≠ e.id) ∨ (∃ d ∈ ms.fces, d.resolved = false ∧ d.current = e)) := by
  refine (mem_commit (fun e : Fc1Elem => e.id) (fun d : Fc1Diff => d.e.id) (fun d => ¬ d.resolved) (fun d => d.current)
    ms.base.fc1 ms.fces e).trans ?_
  simp only [decide_eq_true_eq, Bool.not_eq_true]

theorem commit_fc2_mem (ms : Mid) (bid : Id) (e : Fc2Elem) :
    e ∈ (ms.commit bid).fc2 ↔
      ((e ∈ ms.base.fc2 ∧ ∀ d ∈ ms.v2fces, d.e.id ≠ e.id) ∨
        (∃ d ∈ ms.v2fces, d.resolution = none ∧
          (match d.revision with | some r => { d.e with fc := r } | none => d.e) = e)) := by
  refine (mem_commit (fun e : Fc2Elem => e.id) (fun d : Fc2Diff => d.e.id) (fun d => d.resolution.isNone) _
    ms.base.fc2 ms.v2fces e).trans ?_
  simp only [Option.isNone_iff_eq_none]
  refine or_congr Iff.rfl (exists_congr fun d => and_congr Iff.rfl (and_congr Iff.rfl ?_))
  cases d.revision <;> exact Iff.rfl

end Sia.Ledger
