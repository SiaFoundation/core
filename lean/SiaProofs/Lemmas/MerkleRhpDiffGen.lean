import SiaProofs.Lemmas.MerkleRhpDiffOps
/-!
  C16: the compressed bookkeeping of `VerifyDiffProof` (`sectorsChanged`,
  `modifyLeaves`, `modifyProofRanges`) against the full-list meaning of the actions
  (`applyActions`), for every valid list of Append / Swap / Trim actions.

  `S` is the sorted duplicate-free list of all indices the actions ever touch (`modifyLeaves`'
  `indexMap`). Invariant while the actions are performed one by one on the full list `l`:
  the proof indices are `below S |l|`, the compressed leaf hashes are `l` at these positions, and
  `l` still agrees with the initial list outside `S`.
-/
set_option linter.unusedSectionVars false
namespace Sia.Rhp
open HashOps

variable {H : Type} [HashOps H]

/-- the prefix of a sorted index list below `m` -/
def below (S : List Nat) (m : Nat) : List Nat := S.filter (fun x => decide (x < m))

theorem mem_below {S : List Nat} {m x : Nat} : x ∈ below S m ↔ x ∈ S ∧ x < m := by
  simp [below, List.mem_filter]

theorem sorted_below {S : List Nat} (hS : Sorted S) (m : Nat) : Sorted (below S m) :=
  List.Pairwise.filter _ hS

theorem IdxOK_below {S : List Nat} (hS : Sorted S) (m : Nat) : IdxOK 0 (below S m) m :=
  IdxOK_of_sorted _ 0 m (sorted_below hS m) (fun _ hx => ⟨Nat.zero_le _, (mem_below.1 hx).2⟩) (Nat.zero_le _)

theorem below_split (S : List Nat) (hS : Sorted S) (b k : Nat) (hk : k ≤ b)
    (hall : ∀ j, b - k ≤ j → j < b → j ∈ S) :
    below S b = below S (b - k) ++ List.range' (b - k) k := by
  refine Sorted.ext (sorted_below hS b) ?_ ?_
  · refine List.pairwise_append.2 ⟨sorted_below hS _, List.pairwise_lt_range', fun x hx y hy => ?_⟩
    have := (mem_below.1 hx).2
    have := (List.mem_range'_1.1 hy).1
    omega
  · intro x
    rw [List.mem_append, mem_below, mem_below, List.mem_range'_1]
    constructor
    · intro ⟨h1, h2⟩
      by_cases h : x < b - k
      · exact Or.inl ⟨h1, h⟩
      · exact Or.inr ⟨by omega, by omega⟩
    · rintro (⟨h1, h2⟩ | ⟨h1, h2⟩)
      · exact ⟨h1, by omega⟩
      · exact ⟨hall x h1 (by omega), by omega⟩

theorem below_succ (S : List Nat) (hS : Sorted S) (m : Nat) (hm : m ∈ S) : below S (m + 1) = below S m ++ [m] :=
  below_split S hS (m + 1) 1 (by omega) (fun j h1 h2 => (show j = m by omega) ▸ hm)

theorem sorted_split (m : Nat) : ∀ (S : List Nat), Sorted S → ∃ Q, S = below S m ++ Q := by
  intro S
  induction S with
  | nil => intro _; exact ⟨[], rfl⟩
  | cons x xs ih =>
    intro hS
    have hS' := hS
    unfold Sorted at hS'
    rw [List.pairwise_cons] at hS'
    by_cases hx : x < m
    · obtain ⟨Q, hQ⟩ := ih hS'.2
      refine ⟨Q, ?_⟩
      simp only [below, List.filter_cons, hx, decide_true, if_true, List.cons_append]
      unfold below at hQ
      rw [← hQ]
    · refine ⟨x :: xs, ?_⟩
      have : below (x :: xs) m = [] := by
        unfold below
        rw [List.filter_eq_nil_iff]
        intro y hy
        cases hy with
        | head => simpa using hx
        | tail _ hy => have := hS'.1 y hy; simp; omega
      rw [this]; rfl

theorem indexOf_append_left (a : Nat) : ∀ (P Q : List Nat) (k : Nat), a ∈ P → indexOf a (P ++ Q) k = indexOf a P k := by
  intro P
  induction P with
  | nil => intro Q k h; simp at h
  | cons y ys ih =>
    intro Q k h
    simp only [List.cons_append, indexOf]
    by_cases hy : a = y
    · simp [hy]
    · simp only [hy, if_false]
      cases h with
      | head => exact absurd rfl hy
      | tail _ h => exact ih Q (k + 1) h

theorem indexOf_below (S : List Nat) (hS : Sorted S) (m a : Nat) (ha : a ∈ S) (ham : a < m) :
    indexOf a S 0 = indexOf a (below S m) 0 := by
  obtain ⟨Q, hQ⟩ := sorted_split m S hS
  have hmem : a ∈ below S m := mem_below.2 ⟨ha, ham⟩
  conv => lhs; rw [hQ]
  exact indexOf_append_left a _ Q 0 hmem

/-- Append / Swap / Trim only, swap indices and trim sizes within the current count, counts below 2^64 -/
def ValidActs : Nat → List (Action H) → Prop
  | m, [] => m < 18446744073709551616
  | m, .append _ :: as => m + 1 < 18446744073709551616 ∧ ValidActs (m + 1) as
  | m, .trim k :: as => m < 18446744073709551616 ∧ k ≤ m ∧ ValidActs (m - k) as
  | m, .swap a b :: as => a < m ∧ b < m ∧ ValidActs m as
  | _, .other :: _ => False

theorem validActs_swaps_trim (sw : List (Nat × Nat)) (k n : Nat) (hn : n < 18446744073709551616) (hk : k ≤ n)
    (hsw : ∀ p ∈ sw, p.1 < n ∧ p.2 < n) : ValidActs n (swapActs sw ++ [Action.trim k] : List (Action H)) := by
  induction sw with
  | nil => exact ⟨hn, hk, Nat.lt_of_le_of_lt (Nat.sub_le n k) hn⟩
  | cons p sw ih =>
    have hp := hsw p List.mem_cons_self
    exact ⟨hp.1, hp.2, ih (fun q hq => hsw q (List.mem_cons_of_mem _ hq))⟩

/-- the actions, performed from `m` sectors on, are valid and touch only indices in `S`: `ValidActs` without
its 2^64 bounds, and with every index that `actionIndices` lists required in `S` (`covers_of_valid`).
The recursion of `acts_compress` runs over this form. -/
def Covers (S : List Nat) : Nat → List (Action H) → Prop
  | _, [] => True
  | m, .append _ :: as => m ∈ S ∧ Covers S (m + 1) as
  | m, .trim k :: as => k ≤ m ∧ (∀ j, m - k ≤ j → j < m → j ∈ S) ∧ Covers S (m - k) as
  | m, .swap a b :: as => (a < m ∧ a ∈ S) ∧ (b < m ∧ b ∈ S) ∧ Covers S m as
  | _, .other :: _ => False

theorem covers_of_valid : ∀ (acts : List (Action H)) (m : Nat), ValidActs m acts →
    ∃ raw, actionIndices acts m = .ok raw ∧ ∀ S, (∀ x ∈ raw, x ∈ S) → Covers S m acts := by
  intro acts
  induction acts with
  | nil => intro m _; exact ⟨[], rfl, fun _ _ => trivial⟩
  | cons a acts ih =>
    intro m hv
    cases a with
    | other => exact absurd hv id
    | append r =>
      obtain ⟨raw, hr, hc⟩ := ih (m + 1) hv.2
      refine ⟨m :: raw, ?_, fun S hS => ⟨hS m List.mem_cons_self, hc S (fun x hx => hS x (List.mem_cons_of_mem _ hx))⟩⟩
      show (actionIndices acts (m + 1) >>= fun r => pure (m :: r)) = _
      rw [hr]; rfl
    | trim k =>
      obtain ⟨hb, hk, hv'⟩ := hv
      obtain ⟨ht1, ht2⟩ := trimIndices_spec k m hk hb
      obtain ⟨raw, hr, hc⟩ := ih (m - k) hv'
      refine ⟨(trimIndices k m).2 ++ raw, ?_, fun S hS => ⟨hk,
        fun j h1 h2 => hS j (List.mem_append_left _ ((ht2 j).2 ⟨h1, h2⟩)),
        hc S (fun x hx => hS x (List.mem_append_right _ hx))⟩⟩
      show (actionIndices acts (trimIndices k m).1 >>= fun r => pure ((trimIndices k m).2 ++ r)) = _
      rw [ht1, hr]; rfl
    | swap a b =>
      obtain ⟨ha, hb, hv'⟩ := hv
      obtain ⟨raw, hr, hc⟩ := ih m hv'
      refine ⟨a :: b :: raw, ?_, fun S hS => ⟨⟨ha, hS a List.mem_cons_self⟩,
        ⟨hb, hS b (List.mem_cons_of_mem _ List.mem_cons_self)⟩,
        hc S (fun x hx => hS x (List.mem_cons_of_mem _ (List.mem_cons_of_mem _ hx)))⟩⟩
      show (actionIndices acts m >>= fun r => pure (a :: b :: r)) = _
      rw [hr]; rfl

theorem map_getD_congr (I : List Nat) (l1 l2 : List H) (h : ∀ j ∈ I, l1[j]? = l2[j]?) :
    I.map (fun j => l1.getD j zero) = I.map (fun j => l2.getD j zero) := by
  apply List.map_congr_left
  intro j hj
  rw [List.getD_eq_getElem?_getD, List.getD_eq_getElem?_getD, h j hj]

/-- what Trim does to a list that ends with `k` entries to be dropped -/
theorem take_sub_append {α : Type} (A B : List α) (k : Nat) (hB : B.length = k) :
    ¬ (k > (A ++ B).length) ∧ (A ++ B).take ((A ++ B).length - k) = A := by
  rw [List.length_append, hB, Nat.add_sub_cancel]
  exact ⟨by omega, List.take_left' rfl⟩

theorem acts_compress (S : List Nat) (hS : Sorted S) : ∀ (acts : List (Action H)) (l : List H),
    Covers S l.length acts →
    ∃ l', applyActions l acts = .ok l' ∧
      applyLeafActions S ((below S l.length).map (fun j => l.getD j zero)) acts
        = .ok ((below S l'.length).map (fun j => l'.getD j zero)) ∧
      modifyProofRanges (below S l.length) acts l.length = .ok (below S l'.length) ∧
      (∀ j, j ∉ S → l'[j]? = l[j]?) := by
  intro acts
  induction acts with
  | nil => intro l _; exact ⟨l, rfl, rfl, rfl, fun _ _ => rfl⟩
  | cons act acts ih =>
    intro l hc
    cases act with
    | other => exact absurd hc id
    | append r =>
      obtain ⟨hmS, hc'⟩ := hc
      have hlen : (l ++ [r]).length = l.length + 1 := List.length_append
      obtain ⟨l', e1, e2, e3, ag⟩ := ih (l ++ [r]) (hlen ▸ hc')
      rw [hlen, below_succ S hS _ hmS] at e2 e3
      refine ⟨l', e1, ?_, e3, fun j hj => ?_⟩
      · rw [← e2, List.map_append]
        show applyLeafActions S (_ ++ [r]) acts = _
        congr 2
        · exact map_getD_congr _ _ _ (fun j hj => (List.getElem?_append_left (mem_below.1 hj).2).symm)
        · show [r] = [(l ++ [r]).getD l.length zero]
          rw [List.getD_eq_getElem?_getD, List.getElem?_append_right (Nat.le_refl _), Nat.sub_self]
          rfl
      · rw [ag j hj]
        by_cases hlt : j < l.length
        · exact List.getElem?_append_left hlt
        · have hgt : l.length < j := Nat.lt_of_le_of_ne (Nat.not_lt.1 hlt) (fun h => hj (h ▸ hmS))
          rw [List.getElem?_eq_none (hlen ▸ hgt), List.getElem?_eq_none (Nat.le_of_lt hgt)]
    | trim k =>
      obtain ⟨hk, htail, hc'⟩ := hc
      have hlen : (l.take (l.length - k)).length = l.length - k := List.length_take_of_le (Nat.sub_le _ _)
      obtain ⟨l', e1, e2, e3, ag⟩ := ih (l.take (l.length - k)) (hlen.symm ▸ hc')
      rw [hlen] at e2 e3
      have hsplit := below_split S hS l.length k hk htail
      refine ⟨l', ?_, ?_, ?_, fun j hj => ?_⟩
      · simp only [applyActions, Nat.not_lt.2 hk, if_false]; exact e1
      · obtain ⟨h1, h2⟩ := take_sub_append ((below S (l.length - k)).map (fun j => l.getD j zero))
          ((List.range' (l.length - k) k).map (fun j => l.getD j zero)) k
          ((List.length_map _).trans List.length_range')
        rw [hsplit, List.map_append]
        simp only [applyLeafActions, h1, if_false, h2]
        rw [← e2]
        congr 1
        exact map_getD_congr _ _ _ (fun j hj => by
          rw [List.getElem?_take, if_pos (mem_below.1 hj).2])
      · obtain ⟨h1, h2⟩ := take_sub_append (below S (l.length - k)) (List.range' (l.length - k) k) k
          List.length_range'
        rw [hsplit]
        simp only [modifyProofRanges, h1, if_false, h2]
        exact e3
      · rw [ag j hj, List.getElem?_take]
        by_cases hlt : j < l.length - k
        · rw [if_pos hlt]
        · rw [if_neg hlt, List.getElem?_eq_none]
          exact Nat.not_lt.1 (fun h => hj (htail j (Nat.not_lt.1 hlt) h))
    | swap a b =>
      obtain ⟨⟨ha, haS⟩, ⟨hb, hbS⟩, hc'⟩ := hc
      obtain ⟨l1, s1, len1, ag1, c1⟩ := swap_compress (below S l.length) (sorted_below hS _) l
        (fun x hx => (mem_below.1 hx).2) a b (mem_below.2 ⟨haS, ha⟩) (mem_below.2 ⟨hbS, hb⟩)
      obtain ⟨l', e1, e2, e3, ag⟩ := ih l1 (len1 ▸ hc')
      rw [len1] at e2 e3
      refine ⟨l', ?_, ?_, e3, fun j hj => ?_⟩
      · simp only [applyActions, s1, bind, Except.bind]; exact e1
      · simp only [applyLeafActions]
        rw [indexOf_below S hS l.length a haS ha, indexOf_below S hS l.length b hbS hb, c1]
        exact e2
      · rw [ag j hj]
        exact ag1 j (fun h => hj (mem_below.1 h).1)

theorem gapHashes_congr (l1 l2 : List H) (n : Nat) (h1 : n ≤ l1.length) (h2 : n ≤ l2.length) :
    ∀ (idx : List Nat) (start : Nat), IdxOK start idx n →
      (∀ x, start ≤ x → x < n → x ∉ idx → l2[x]? = l1[x]?) →
      gapHashes l1 idx start n = gapHashes l2 idx start n := by
  intro idx
  induction idx with
  | nil =>
    intro start hok hag
    exact buildRange_congr l1 l2 n h1 h2 start (fun x a b => hag x a b List.not_mem_nil)
  | cons e es ih =>
    intro start hok hag
    obtain ⟨a1, a2, a3⟩ := hok
    show buildRange l1 start e ++ gapHashes l1 es (e + 1) n = buildRange l2 start e ++ gapHashes l2 es (e + 1) n
    rw [buildRange_congr l1 l2 e (by omega) (by omega) start (fun x b1 b2 => hag x b1 (by omega) (fun hm => by
        rcases List.mem_cons.1 hm with hm | hm
        · omega
        · have := a3.ge x hm; omega)),
      ih (e + 1) a3 (fun x b1 b2 b3 => hag x (by omega) b2 (fun hm => by
        rcases List.mem_cons.1 hm with hm | hm
        · omega
        · exact b3 hm))]

theorem below_of_agree (S : List Nat) (hS : Sorted S) (la lb : List H) (hle : la.length ≤ lb.length)
    (hag : ∀ j, j ∉ S → lb[j]? = la[j]?) :
    below S lb.length = below S la.length ++ List.range' la.length (lb.length - la.length) := by
  have := below_split S hS lb.length (lb.length - la.length) (Nat.sub_le _ _) (fun j h1 h2 => by
    apply Decidable.byContradiction
    intro hj
    have := hag j hj
    rw [List.getElem?_eq_getElem h2, List.getElem?_eq_none (show la.length ≤ j by omega)] at this
    cases this)
  rwa [Nat.sub_sub_self hle] at this

/-- the same tree hashes serve both passes -/
theorem gapHashes_passes (S : List Nat) (hS : Sorted S) (l1 l2 : List H)
    (hag : ∀ j, j ∉ S → l2[j]? = l1[j]?) :
    gapHashes l1 (below S l1.length) 0 l1.length = gapHashes l2 (below S l2.length) 0 l2.length := by
  have key : ∀ (la lb : List H), la.length ≤ lb.length → (∀ j, j ∉ S → lb[j]? = la[j]?) →
      gapHashes la (below S la.length) 0 la.length = gapHashes lb (below S lb.length) 0 lb.length := by
    intro la lb hle hag'
    have h := gapHashes_append_range lb la.length (lb.length - la.length) (below S la.length) 0 (IdxOK_below hS _)
    rw [← below_of_agree S hS la lb hle hag', Nat.add_sub_cancel' hle] at h
    rw [h]
    exact gapHashes_congr la lb la.length (Nat.le_refl _) hle _ 0 (IdxOK_below hS _)
      (fun x _ b c => hag' x (fun hm => c (mem_below.2 ⟨hm, b⟩)))
  rcases Nat.le_total l1.length l2.length with hle | hle
  · exact key l1 l2 hle hag
  · exact (key l2 l1 hle (fun j hj => (hag j hj).symm)).symm

/-- the second pass's leaf count, as `VerifyDiffProof` computes it -/
theorem below_length_diff (S : List Nat) (hS : Sorted S) (l1 l2 : List H)
    (hag : ∀ j, j ∉ S → l2[j]? = l1[j]?) :
    l1.length + (below S l2.length).length - (below S l1.length).length = l2.length := by
  rcases Nat.le_total l1.length l2.length with hle | hle
  · rw [below_of_agree S hS l1 l2 hle hag, List.length_append, List.length_range']
    omega
  · have := congrArg List.length (below_of_agree S hS l2 l1 hle (fun j hj => (hag j hj).symm))
    rw [List.length_append, List.length_range'] at this
    omega

/-- everything `VerifyDiffProof` derives from valid actions, in terms of the full list `ls` and the
list `l'` the actions produce -/
theorem actions_bookkeeping (ls : List H) (acts : List (Action H)) (hv : ValidActs ls.length acts) :
    ∃ (S : List Nat) (l' : List H), Sorted S ∧
      sectorsChanged acts ls.length = .ok (below S ls.length) ∧
      applyActions ls acts = .ok l' ∧
      modifyLeaves ((below S ls.length).map (fun j => ls.getD j zero)) acts ls.length
        = .ok ((below S l'.length).map (fun j => l'.getD j zero)) ∧
      modifyProofRanges (below S ls.length) acts ls.length = .ok (below S l'.length) ∧
      ls.length + (below S l'.length).length - (below S ls.length).length = l'.length ∧
      gapHashes ls (below S ls.length) 0 ls.length = gapHashes l' (below S l'.length) 0 l'.length := by
  obtain ⟨raw, hraw, hc⟩ := covers_of_valid acts ls.length hv
  have hS := sorted_sortDedup raw
  obtain ⟨l', e1, e2, e3, ag⟩ := acts_compress (sortDedup raw) hS acts ls
    (hc _ (fun x hx => (mem_sortDedup x raw).2 hx))
  refine ⟨sortDedup raw, l', hS, ?_, e1, ?_, e3, below_length_diff _ hS ls l' ag, gapHashes_passes _ hS ls l' ag⟩
  · unfold sectorsChanged; rw [hraw]; rfl
  · unfold modifyLeaves; rw [hraw]; exact e2

end Sia.Rhp
