import SiaModel.Text.JsonUpdate
import SiaProofs.Lemmas.TextPolicy
/-! Helper lemmas for the JSON tree model (C20). -/
namespace Sia.Text
open Json

theorem getF_cons_ne {k k' : Txt} {v : Json} {r : List (Txt × Json)} (h : k' ≠ k) :
    getF k ((k', v) :: r) = getF k r := by
  simp only [getF, h, if_false]
  cases getF k r <;> rfl

theorem getF_append (k : Txt) (a b : List (Txt × Json)) : getF k (a ++ b) = (getF k b).or (getF k a) := by
  induction a with
  | nil => simp [getF]
  | cons x xs ih =>
    simp only [List.cons_append, getF, ih]
    cases getF k b <;> cases getF k xs <;> rfl

theorem getF_append_right {k : Txt} {a b : List (Txt × Json)} {v : Json} (h : getF k b = some v) :
    getF k (a ++ b) = some v := by
  rw [getF_append, h]; rfl

theorem getF_append_left {k : Txt} {a b : List (Txt × Json)} (h : getF k b = none) :
    getF k (a ++ b) = getF k a := by
  rw [getF_append, h]; rfl

theorem getF_append_of_none {k : Txt} {a b : List (Txt × Json)} (h : getF k a = none) :
    getF k (a ++ b) = getF k b := by
  rw [getF_append, h, Option.or_none]

theorem getF_eq_none {k : Txt} {fs : List (Txt × Json)} (h : k ∉ fs.map (·.1)) : getF k fs = none := by
  induction fs with
  | nil => rfl
  | cons x xs ih =>
    rw [List.map_cons, List.mem_cons, not_or] at h
    simp only [getF, ih h.2, if_neg (Ne.symm h.1)]

theorem getF_nth {fs : List (Txt × Json)} {keys : List Txt} (nd : keys.Nodup) (hk : fs.map (·.1) = keys)
    (i : Nat) {k : Txt} {v : Json} (hi : fs[i]? = some (k, v)) : getF k fs = some v := by
  subst hk
  induction fs generalizing i with
  | nil => simp at hi
  | cons x xs ih =>
    rw [List.map_cons, List.nodup_cons] at nd
    cases i with
    | zero =>
      cases hi
      simp only [getF, getF_eq_none nd.1, if_true]
    | succ j => simp only [getF, ih j (by simpa using hi) nd.2]

theorem decList_map_gen {α β : Type} (enc : α → Json) (dec : Json → Option β) (φ : α → β) (l : List α)
    (h : ∀ a ∈ l, dec (enc a) = some (φ a)) : decList dec (l.map enc) = some (l.map φ) := by
  induction l with
  | nil => rfl
  | cons a as ih =>
    simp [decList, h a (by simp), ih (fun x hx => h x (by simp [hx]))]

theorem decList_map {α : Type} (enc : α → Json) (dec : Json → Option α) (l : List α)
    (h : ∀ a ∈ l, dec (enc a) = some a) : decList dec (l.map enc) = some l :=
  (decList_map_gen enc dec id l h).trans (congrArg some (List.map_id l))

theorem toSlice_ofSlice {α : Type} (enc : α → Json) (dec : Json → Option α) (s : Option (List α))
    (h : ∀ l, s = some l → ∀ a ∈ l, dec (enc a) = some a) : toSlice dec (ofSlice enc s) = some s := by
  cases s with
  | none => rfl
  | some l => simp [ofSlice, toSlice, decList_map enc dec l (h l rfl)]

theorem toNatBits_ofNat (bits n : Nat) (h : n < 2 ^ bits) : toNatBits bits (ofNat n) = some n := by
  simp only [toNatBits, ofNat]
  have : (0 : Int) ≤ (n : Int) ∧ (n : Int) < 2 ^ bits := ⟨by omega, by exact_mod_cast h⟩
  simp [this]

theorem toHex_ofHex (n : Nat) (b : List UInt8) (h : b.length = n) : toHex n (ofHex b) = some b := by
  simp [toHex, ofHex, unmarshalHex, hexEnc_length, hexDec_hexEnc, h]

theorem toCurrency_ofCurrency (c : Nat) (h : c < 2 ^ 128) : toCurrency (ofCurrency c) = some c := by
  simp [toCurrency, ofCurrency, parseUint_natToDec 128 c h]

theorem intToDec_ofNat (n : Nat) : intToDec (n : Int) = natToDec n := by
  simp [intToDec]

theorem parseInt64_natToDec (n : Nat) (h : n < 2 ^ 63) : parseInt64 (natToDec n) = some (n : Int) := by
  rw [← intToDec_ofNat]
  exact parseInt64_intToDec n (by omega) (by exact_mod_cast h)

theorem fieldOr_hit {α : Type} (fs : List (Txt × Json)) (k : Txt) (d : α) (dec : Json → Option α) (v : Json)
    (h : getF k fs = some v) (hv : v ≠ .null) : fieldOr fs k d dec = dec v := by
  unfold fieldOr
  rw [h]
  cases v <;> simp at hv ⊢

theorem fieldOr_miss {α : Type} (fs : List (Txt × Json)) (k : Txt) (d : α) (dec : Json → Option α)
    (h : getF k fs = none) : fieldOr fs k d dec = some d := by
  unfold fieldOr
  rw [h]

/-! list fields that may be left out when empty (`omitempty`) -/

/-- such a field holds the array `l`, or is absent and `l` is empty -/
def OptArr (g : Option Json) (l : List Json) : Prop := g = some (.arr l) ∨ g = none ∧ l = []

theorem fieldOr_optArr {α : Type} (fs : List (Txt × Json)) (k : Txt) (l : List Json) (dec : Json → Option α)
    (h : OptArr (getF k fs) l) :
    fieldOr fs k [] (fun j => (toSlice dec j).map (·.getD [])) = decList dec l := by
  unfold fieldOr
  rcases h with h | ⟨h, rfl⟩ <;> rw [h]
  · simp only [toSlice]
    cases decList dec l <;> rfl
  · rfl

theorem getF_omitEmpty_ne {k k' : Txt} (h : k' ≠ k) (l : List Json) : getF k (omitEmpty k' l) = none := by
  unfold omitEmpty
  split
  · rfl
  · simp only [getF, if_neg h]

theorem optArr_omitEmpty (k : Txt) (l : List Json) : OptArr (getF k (omitEmpty k l)) l := by
  cases l with
  | nil => exact Or.inr ⟨rfl, rfl⟩
  | cons x xs => exact Or.inl (by simp [omitEmpty, getF])

theorem fieldOr_get {α : Type} (fs : List (Txt × Json)) (k : Txt) (d : α) (dec : Json → Option α) (v : Json)
    (h : getF k fs = some v) (hnull : dec .null = some d) : fieldOr fs k d dec = dec v := by
  unfold fieldOr
  rw [h]
  cases v <;> first | rfl | exact hnull.symm

/-! Reading field `i` of a written object.  The names of the object are given once, as the
    closed list `keys` with a proof `nd` (by evaluation) that they are distinct; that `fs` has
    these names and holds `(k, v)` at position `i` is then a matter of unfolding (`h`). -/

section
variable {α : Type} {fs : List (Txt × Json)} {keys : List Txt} (nd : keys.Nodup) (i : Nat) {k : Txt} {v : Json}
  {d : α} {dec : Json → Option α}
include nd

theorem fieldOr_nth (h : fs.map (·.1) = keys ∧ fs[i]? = some (k, v) := by exact ⟨rfl, rfl⟩)
    (hnull : dec .null = some d := by rfl) : fieldOr fs k d dec = dec v :=
  fieldOr_get fs k d dec v (getF_nth nd h.1 i h.2) hnull

/-- for a decoder that does not accept `null` -/
theorem fieldOr_nth_ne (h : fs.map (·.1) = keys ∧ fs[i]? = some (k, v) := by exact ⟨rfl, rfl⟩)
    (hv : v ≠ .null := by nofun) : fieldOr fs k d dec = dec v :=
  fieldOr_hit fs k d dec v (getF_nth nd h.1 i h.2) hv

end

end Sia.Text
