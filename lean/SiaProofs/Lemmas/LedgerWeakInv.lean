import SiaProofs.Lemmas.LedgerTxnV1
import SiaProofs.Lemmas.LedgerWF
import SiaProofs.Lemmas.LedgerPrechecks
/-!
# Invariants of the mid-state that survive the legacy window (C10)

Below `EphemeralOutputHeight` a v2 transaction may spend an "ephemeral" parent whose claimed record is not compared
with the diff it indexes, so the shared `elements` index can point a siacoin / siafund id at a diff that carries a
different id: `Struct` (and with it `Inv`) no longer holds.  What still holds, and suffices for the absence of
panics and for a well-formed committed ledger, is collected here:

* `LiveW T ms`: the *live* (unspent / unresolved) diffs of every kind carry pairwise distinct, correctly typed ids
  that are keys of the index;
* `KeyOk T ms .fc2`: a key typed as the id of a v2 contract points at the diff that carries it (what `resolveFc2`
  reads before it writes);
* membership invariants (`Num`): bounds on the diffs that do not depend on the index at all.

`LI` bundles the first two with the per-diff clauses `liC` (`BalP`, `NcP`); `WI T ms R` is `LI`, `Fresh T ms R` and
`Num`; `NumL` is the counterpart of `Num` for a ledger.  `put_wi` says when a `Mid.put` keeps `WI`, `Op.Safe` / `Op.wi`
when an operation of a v2 transaction or of the block tail does (`createFc1`, `reviseFc1` are not covered: v1
transactions keep `Inv`, by `v1txn_weak`, and `Num`, by `v1txn_num`), `weak_fold` / `weak_ops` what a run of such
operations keeps.  `v2txn_weak`, `v1txn_weak`: an accepted transaction is applied without panic.
-/
namespace Sia.Ledger

theorem filter_map_set_sublist {D : Type} (l : List D) (i : Nat) (x : D) (live : D → Bool) (g : D → Id)
    (h : ∀ d, l[i]? = some d → live x = true → live d = true ∧ g x = g d) :
    (((l.set i x).filter live).map g).Sublist ((l.filter live).map g) := by
  induction l generalizing i with
  | nil => simp
  | cons a l ih =>
    cases i with
    | zero =>
      rw [List.set_cons_zero]
      cases hx : live x with
      | true =>
        obtain ⟨h1, h2⟩ := h a rfl hx
        rw [List.filter_cons_of_pos hx, List.filter_cons_of_pos h1, List.map_cons, List.map_cons, h2]
        exact List.Sublist.refl _
      | false =>
        rw [List.filter_cons_of_neg (by simp [hx])]
        exact ((List.sublist_cons_self a l).filter live).map g
    | succ i =>
      rw [List.set_cons_succ]
      have ih' := ih i (fun d hd => h d (by simpa using hd))
      cases ha : live a with
      | true =>
        rw [List.filter_cons_of_pos ha, List.filter_cons_of_pos ha, List.map_cons, List.map_cons]
        exact ih'.cons_cons _
      | false =>
        rw [List.filter_cons_of_neg (by simp [ha]), List.filter_cons_of_neg (by simp [ha])]
        exact ih'

structure LiveW (T : Kind → Id → Prop) (ms : Mid) : Prop where
  typed : ∀ k, ∀ id ∈ ms.liveIds k, T k id ∧ ms.lookup id ≠ none
  nodup : ∀ k, (ms.liveIds k).Nodup

/-- a key typed with kind `k` points at the diff of kind `k` that carries it -/
def KeyOk (T : Kind → Id → Prop) (ms : Mid) (k : Kind) : Prop :=
  ∀ id i, T k id → ms.lookup id = some i → (ms.idsOf k)[i]? = some id

section put
variable {D : Type} [Inhabited D]

theorem put_liveIds_other (s : Slice D) {k : Kind} (hk : k ≠ s.kind) (ms : Mid) (id : Id) (f : D → D) :
    (ms.put s id f).liveIds k = ms.liveIds k := by
  cases k with
  | sc => simp only [Mid.liveIds, put_sces s hk.symm]
  | sf => simp only [Mid.liveIds, put_sfes s hk.symm]
  | fc1 => simp only [Mid.liveIds, put_fces s hk.symm]
  | fc2 => simp only [Mid.liveIds, put_v2fces s hk.symm]
  | att => rfl

theorem put_liveIds (s : Slice D) (ms : Mid) (id : Id) (f : D → D)
    (hfound : ∀ i d, ms.lookup id = some i → (s.get ms)[i]? = some d → s.live (f d) = true →
      s.live d = true ∧ s.idOf (f d) = s.idOf d) :
    ((ms.put s id f).liveIds s.kind).Sublist (ms.liveIds s.kind) ∨
    (ms.lookup id = none ∧ s.live (f default) = true ∧
      (ms.put s id f).liveIds s.kind = ms.liveIds s.kind ++ [s.idOf (f default)]) := by
  rw [s.lives, s.lives]
  rcases put_raw s ms id f with ⟨i, hi, hg, _⟩ | ⟨hn, hg, _⟩
  · left
    rw [hg]
    refine filter_map_set_sublist _ i _ s.live s.idOf (fun d hd hl => ?_)
    rw [getD_of_getElem? hd] at hl ⊢
    exact hfound i d hi hd hl
  · rw [hg, List.filter_append, List.map_append]
    cases hl : s.live (f default) with
    | true => right; rw [List.filter_cons_of_pos hl]; exact ⟨hn, rfl, rfl⟩
    | false => left; rw [List.filter_cons_of_neg (by simp [hl])]; simp

theorem put_live {T} {ms : Mid} (s : Slice D) (hL : LiveW T ms) (id : Id) (f : D → D)
    (hnew : ms.lookup id = none → s.live (f default) = true → s.idOf (f default) = id ∧ T s.kind id)
    (hfound : ∀ i d, ms.lookup id = some i → (s.get ms)[i]? = some d → s.live (f d) = true →
      s.live d = true ∧ s.idOf (f d) = s.idOf d) :
    LiveW T (ms.put s id f) := by
  have hold : ∀ k, ∀ x ∈ ms.liveIds k, T k x ∧ (ms.put s id f).lookup x ≠ none := fun k x hx =>
    ⟨(hL.typed k x hx).1, put_lookup_keeps s ms id f (hL.typed k x hx).2⟩
  constructor
  · intro k x hx
    by_cases hk : k = s.kind
    · subst hk
      rcases put_liveIds s ms id f hfound with hsub | ⟨hn, hl, he⟩
      · exact hold _ x (hsub.subset hx)
      · rw [he] at hx
        rcases List.mem_append.mp hx with h1 | h1
        · exact hold _ x h1
        · rw [List.mem_singleton] at h1
          obtain ⟨h2, h3⟩ := hnew hn hl
          rw [h1, h2]; exact ⟨h3, put_lookup_self s ms id f⟩
    · rw [put_liveIds_other s hk] at hx
      exact hold k x hx
  · intro k
    by_cases hk : k = s.kind
    · subst hk
      rcases put_liveIds s ms id f hfound with hsub | ⟨hn, hl, he⟩
      · exact hsub.nodup (hL.nodup _)
      · rw [he, List.nodup_append]
        refine ⟨hL.nodup _, by simp, ?_⟩
        intro a ha b hb hab
        rw [List.mem_singleton] at hb
        have := (hL.typed _ a ha).2
        rw [hab, hb, (hnew hn hl).1] at this
        exact this hn
    · rw [put_liveIds_other s hk]; exact hL.nodup k

theorem put_key_other {T} {ms : Mid} (hd : TDisj T) (s : Slice D) {k : Kind} (hk : k ≠ s.kind) (hK : KeyOk T ms k) (id : Id)
    (f : D → D) (hT : ms.lookup id = none → T s.kind id) : KeyOk T (ms.put s id f) k := by
  intro x i hx hl
  rw [put_idsOf_other s hk]
  rcases put_lookup_cases s hl with h1 | ⟨h1, h2, _⟩
  · exact hK x i hx h1
  · subst h2; exact absurd (hd _ _ _ hx (hT h1)) hk

theorem put_key_self {T} {ms : Mid} (s : Slice D) (hK : KeyOk T ms s.kind) (id : Id) (f : D → D)
    (hnew : ms.lookup id = none → s.idOf (f default) = id)
    (hfound : ∀ i d, ms.lookup id = some i → (s.get ms)[i]? = some d → s.idOf (f d) = s.idOf d) :
    KeyOk T (ms.put s id f) s.kind := by
  intro x j hx hl
  rw [s.ids]
  rcases put_raw s ms id f with ⟨i, hi, hg, _⟩ | ⟨hn, hg, _⟩
  · rw [hg, map_set_same_w _ _ _ _ (fun d hd => by rw [getD_of_getElem? hd]; exact hfound i d hi hd), ← s.ids]
    rcases put_lookup_cases s hl with h1 | ⟨h1, _, _⟩
    · exact hK x j hx h1
    · rw [hi] at h1; cases h1
  · rw [hg, List.map_append, List.map_cons, List.map_nil, hnew hn, ← s.ids]
    rcases put_lookup_cases s hl with h1 | ⟨_, h2, h3⟩
    · have := hK x j hx h1
      rw [List.getElem?_append_left (lt_length_of_getElem? this)]; exact this
    · subst h2; subst h3
      have : (s.get ms).length = (ms.idsOf s.kind).length := by rw [s.ids, List.length_map]
      rw [this, List.getElem?_append_right (Nat.le_refl _)]; simp

end put

theorem putSc_spends_w (ms : Mid) (id : Id) (f : ScDiff → ScDiff) : (ms.putSc id f).spends = ms.spends :=
  put_spends scSlice ms id f
theorem putSf_sces_w (ms : Mid) (id : Id) (f : SfDiff → SfDiff) : (ms.putSf id f).sces = ms.sces :=
  put_sces sfSlice (by decide) ms id f
theorem putSf_spends_w (ms : Mid) (id : Id) (f : SfDiff → SfDiff) : (ms.putSf id f).spends = ms.spends :=
  put_spends sfSlice ms id f
theorem putFc1_sces_w (ms : Mid) (id : Id) (f : Fc1Diff → Fc1Diff) : (ms.putFc1 id f).sces = ms.sces :=
  put_sces fc1Slice (by decide) ms id f
theorem putFc1_spends_w (ms : Mid) (id : Id) (f : Fc1Diff → Fc1Diff) : (ms.putFc1 id f).spends = ms.spends :=
  put_spends fc1Slice ms id f
theorem putFc2_sces_w (ms : Mid) (id : Id) (f : Fc2Diff → Fc2Diff) : (ms.putFc2 id f).sces = ms.sces :=
  put_sces fc2Slice (by decide) ms id f
theorem putFc2_spends_w (ms : Mid) (id : Id) (f : Fc2Diff → Fc2Diff) : (ms.putFc2 id f).spends = ms.spends :=
  put_spends fc2Slice ms id f

theorem putSc_forall {P : ScDiff → Prop} (ms : Mid) (id : Id) (f : ScDiff → ScDiff) (h : ∀ d ∈ ms.sces, P d)
    (hf : ∀ d, (d ∈ ms.sces ∨ d = default) → P (f d)) : ∀ d ∈ (ms.putSc id f).sces, P d :=
  put_forall scSlice ms id f h hf

theorem putFc1_forall {P : Fc1Diff → Prop} (ms : Mid) (id : Id) (f : Fc1Diff → Fc1Diff) (h : ∀ d ∈ ms.fces, P d)
    (hf : ∀ d, (d ∈ ms.fces ∨ d = default) → P (f d)) : ∀ d ∈ (ms.putFc1 id f).fces, P d :=
  put_forall fc1Slice ms id f h hf

theorem putFc2_forall {P : Fc2Diff → Prop} (ms : Mid) (id : Id) (f : Fc2Diff → Fc2Diff) (h : ∀ d ∈ ms.v2fces, P d)
    (hf : ∀ d, (d ∈ ms.v2fces ∨ d = default) → P (f d)) : ∀ d ∈ (ms.putFc2 id f).v2fces, P d :=
  put_forall fc2Slice ms id f h hf

theorem putSc_forall' {P : ScDiff → Prop} (ms : Mid) (id : Id) (f : ScDiff → ScDiff) (h : ∀ d ∈ ms.sces, P d)
    (hfound : ∀ i d, ms.lookup id = some i → ms.sces[i]? = some d → P d → P (f d))
    (hnew : ms.lookup id = none → P (f default)) : ∀ d ∈ (ms.putSc id f).sces, P d :=
  put_forall' scSlice ms id f h hfound hnew

theorem putSc_key_self {T} {ms : Mid} (hK : KeyOk T ms Kind.sc) (id : Id) (f : ScDiff → ScDiff)
    (hnew : ms.lookup id = none → (f default).e.id = id)
    (hfound : ∀ i d, ms.lookup id = some i → ms.sces[i]? = some d → (f d).e.id = d.e.id) :
    KeyOk T (ms.putSc id f) Kind.sc :=
  put_key_self scSlice hK id f hnew hfound

theorem putSf_key_self {T} {ms : Mid} (hK : KeyOk T ms Kind.sf) (id : Id) (f : SfDiff → SfDiff)
    (hnew : ms.lookup id = none → (f default).e.id = id)
    (hfound : ∀ i d, ms.lookup id = some i → ms.sfes[i]? = some d → (f d).e.id = d.e.id) :
    KeyOk T (ms.putSf id f) Kind.sf :=
  put_key_self sfSlice hK id f hnew hfound

/-- per-diff clauses of the weak invariant.  `NcP`: a created v2 contract has a fresh id; `Fc2P`: element and
revision values are representable; `BalP`: an unresolved v1 contract is balanced; `Fc1P`: both v1 payout sums
are representable; `SfP`: an unspent siafund diff has `claimStart ≤ pool` and at most the whole supply -/
def NcP (L : Ledger) (d : Fc2Diff) : Prop := d.created = true → d.e.id ∉ baseIds L .fc2
def Fc2P (d : Fc2Diff) : Prop := d.e.fc.val < curLimit ∧ ∀ r, d.revision = some r → r.val < curLimit
def BalP (d : Fc1Diff) : Prop := d.resolved = false → sumVals d.current.fc.valid = sumVals d.current.fc.missed
def Fc1P (d : Fc1Diff) : Prop := sumVals d.current.fc.valid < curLimit ∧ sumVals d.current.fc.missed < curLimit
def SfP (pool : Cur) (d : SfDiff) : Prop := d.spent = false → d.e.claimStart ≤ pool ∧ d.e.value ≤ 10000

/-- the clauses of the structural part, kind by kind -/
abbrev liC (L : Ledger) : Clauses := ⟨fun _ => True, fun _ => True, BalP, NcP L⟩

/-- the clauses of the numeric part, kind by kind -/
abbrev numC (pool : Cur) : Clauses := ⟨fun _ => True, SfP pool, Fc1P, Fc2P⟩

/-- the structural part: what is left of `Inv` when ephemeral parents are not compared with their diffs -/
structure LI (T : Kind → Id → Prop) (ms : Mid) : Prop where
  live : LiveW T ms
  key : KeyOk T ms .fc2
  per : (liC ms.base).On ms

/-- the numeric part: bounds on single diffs, none on their sum -/
structure Num (ms : Mid) : Prop where
  per : (numC ms.pool).On ms
  lo : ms.base.pool ≤ ms.pool
  hi : ms.pool < curLimit

/-- bounds on the single elements of a ledger -/
structure NumL (L : Ledger) : Prop where
  sf : ∀ e ∈ L.sf, e.claimStart ≤ L.pool ∧ e.value ≤ 10000
  fc1 : ∀ e ∈ L.fc1, sumVals e.fc.valid < curLimit ∧ sumVals e.fc.missed < curLimit
  fc2 : ∀ e ∈ L.fc2, e.fc.val < curLimit
  pool : L.pool < curLimit

/-- the weak invariant of a mid-state: structural part `LI`, the ids `R` still to be created are fresh, numeric
part `Num` -/
structure WI (T : Kind → Id → Prop) (ms : Mid) (R : List (Kind × Id)) : Prop where
  li : LI T ms
  fresh : Fresh T ms R
  num : Num ms

theorem LI.congr {T} {ms ms' : Mid} (h : LI T ms) (hb : ms'.base = ms.base) (he : ms'.elements = ms.elements)
    (h1 : ms'.sces = ms.sces) (h2 : ms'.sfes = ms.sfes) (h3 : ms'.fces = ms.fces) (h4 : ms'.v2fces = ms.v2fces) :
    LI T ms' := by
  have hl : ∀ k, ms'.liveIds k = ms.liveIds k := by intro k; cases k <;> simp only [Mid.liveIds, h1, h2, h3, h4]
  have hi : ∀ k, ms'.idsOf k = ms.idsOf k := by
    intro k; cases k <;> simp only [Mid.idsOf, Mid.scIds, Mid.sfIds, Mid.fc1Ids, Mid.fc2Ids, h1, h2, h3, h4]
  have hlk : ∀ x, ms'.lookup x = ms.lookup x := by intro x; unfold Mid.lookup; rw [he]
  refine ⟨⟨?_, ?_⟩, fun x i hx hlx => ?_, by rw [hb]; exact h.per.congr h1 h2 h3 h4⟩
  · intro k id hid; rw [hl] at hid; rw [hlk]; exact h.live.typed k id hid
  · intro k; rw [hl]; exact h.live.nodup k
  · rw [hi]; rw [hlk] at hlx; exact h.key x i hx hlx

theorem Fresh.of_lookup {T} {ms ms' : Mid} {R} (h : Fresh T ms R) (hb : ms'.base = ms.base)
    (hl : ∀ p ∈ R, ms'.lookup p.2 = ms.lookup p.2) : Fresh T ms' R := by
  refine ⟨h.1, fun p hp => ?_⟩
  obtain ⟨a, b, c⟩ := h.2 p hp
  exact ⟨a, by rw [hl p hp]; exact b, by rw [hb]; exact c⟩

theorem Num.pool {ms ms' : Mid} (h : Num ms) (hb : ms'.base = ms.base) (hp : ms.pool ≤ ms'.pool) (hh : ms'.pool < curLimit)
    (h2 : ms'.sfes = ms.sfes) (h3 : ms'.fces = ms.fces) (h4 : ms'.v2fces = ms.v2fces) : Num ms' :=
  ⟨⟨fun _ _ => trivial, by rw [h2]; intro d hd hs; obtain ⟨a, b⟩ := h.per.sf d hd hs; exact ⟨Nat.le_trans a hp, b⟩,
      by rw [h3]; exact h.per.fc1, by rw [h4]; exact h.per.fc2⟩, by rw [hb]; exact Nat.le_trans h.lo hp, hh⟩

theorem Num.congr {ms ms' : Mid} (h : Num ms) (hb : ms'.base = ms.base) (hp : ms'.pool = ms.pool)
    (h2 : ms'.sfes = ms.sfes) (h3 : ms'.fces = ms.fces) (h4 : ms'.v2fces = ms.v2fces) : Num ms' :=
  h.pool hb (Nat.le_of_eq hp.symm) (hp ▸ h.hi) h2 h3 h4

theorem WI.congr {T} {ms ms' : Mid} {R} (h : WI T ms R) (hb : ms'.base = ms.base) (he : ms'.elements = ms.elements)
    (hp : ms'.pool = ms.pool)
    (h1 : ms'.sces = ms.sces) (h2 : ms'.sfes = ms.sfes) (h3 : ms'.fces = ms.fces) (h4 : ms'.v2fces = ms.v2fces) :
    WI T ms' R :=
  ⟨h.li.congr hb he h1 h2 h3 h4, h.fresh.of_lookup hb (fun _ _ => by unfold Mid.lookup; rw [he]), h.num.congr hb hp h2 h3 h4⟩

theorem WI.sub {T} {ms : Mid} {R R'} (h : WI T ms R) (hs : R'.Sublist R) : WI T ms R' := ⟨h.li, h.fresh.sublist hs, h.num⟩

theorem KeyOk.elem_id {T} {ms : Mid} {k : Kind} (hK : KeyOk T ms k) {id : Id} {i : Nat} (hT : T k id)
    (hl : ms.lookup id = some i) : (ms.idsOf k)[i]? = some id := hK id i hT hl

theorem KeyOk.at {T} {ms : Mid} {k : Kind} (hK : KeyOk T ms k) {id : Id} {i : Nat} (hT : T k id)
    (hl : ms.lookup id = some i) : (ms.idsOf k)[i]? = some id := hK id i hT hl

theorem KeyOk.found {D : Type} {T} {ms : Mid} (s : Slice D) (hK : KeyOk T ms s.kind) {id : Id} {i : Nat} {d : D}
    (hT : T s.kind id) (hl : ms.lookup id = some i) (hd : (s.get ms)[i]? = some d) : d ∈ s.get ms ∧ s.idOf d = id := by
  have := hK id i hT hl
  rw [s.ids, List.getElem?_map, hd] at this
  exact ⟨List.mem_of_getElem? hd, Option.some.inj this⟩

section put
variable {D : Type} [Inhabited D]

theorem Num.put {ms : Mid} (h : Num ms) (s : Slice D) (id : Id) (f : D → D)
    (hs : ∀ d ∈ s.get (ms.put s id f), s.pick (numC ms.pool) d) : Num (ms.put s id f) :=
  ⟨by rw [put_pool]; exact put_on s h.per id f hs, by rw [put_pool, put_base]; exact h.lo, by rw [put_pool]; exact h.hi⟩

/-- `Mid.put` on any slice keeps the weak invariant.  `id` is typed (if new, or if the slice is that of the v2 contracts)
and not among the ids still to be created.  A new diff carries `id` if it is live or a v2 contract, and satisfies the
structural clause.  The image of a diff found under `id` (which, if a v2 contract, carries `id`): if live, is the image
of a live diff with the same id; a v2 contract keeps its id in any case; satisfies the structural clause.  The numeric
part is proved apart (`Num.put`). -/
theorem put_wi {T} {ms : Mid} {R} (s : Slice D) (hd : TDisj T) (h : WI T ms R) (id : Id)
    (f : D → D) (hT : ms.lookup id = none ∨ s.kind = .fc2 → T s.kind id) (hne : ∀ p ∈ R, p.2 ≠ id)
    (hnew : ms.lookup id = none →
      (s.live (f default) = true ∨ s.kind = .fc2 → s.idOf (f default) = id) ∧ s.pick (liC ms.base) (f default))
    (hfound : ∀ d ∈ s.get ms, ms.lookup id ≠ none → (s.kind = .fc2 → s.idOf d = id) → s.pick (liC ms.base) d →
      (s.live (f d) = true → s.live d = true ∧ s.idOf (f d) = s.idOf d) ∧ (s.kind = .fc2 → s.idOf (f d) = s.idOf d) ∧
      s.pick (liC ms.base) (f d))
    (hnum : Num (ms.put s id f)) : WI T (ms.put s id f) R := by
  have hf : ∀ i d, ms.lookup id = some i → (s.get ms)[i]? = some d →
      (s.live (f d) = true → s.live d = true ∧ s.idOf (f d) = s.idOf d) ∧ (s.kind = .fc2 → s.idOf (f d) = s.idOf d) ∧
      s.pick (liC ms.base) (f d) := fun i d hl hdi =>
    hfound d (List.mem_of_getElem? hdi) (by rw [hl]; exact nofun)
      (fun hk => (KeyOk.found s (hk ▸ h.li.key) (hT (.inr hk)) hl hdi).2)
      (s.on_get h.li.per d (List.mem_of_getElem? hdi))
  have key : KeyOk T (ms.put s id f) .fc2 := by
    by_cases he : s.kind = .fc2
    · rw [← he]
      exact put_key_self s (he ▸ h.li.key) id f (fun hn => (hnew hn).1 (.inr he)) (fun i d hl hdi => (hf i d hl hdi).2.1 he)
    · exact put_key_other hd s (Ne.symm he) h.li.key id f (fun hn => hT (.inl hn))
  refine ⟨⟨put_live s h.li.live id f (fun hn hl => ⟨(hnew hn).1 (.inl hl), hT (.inl hn)⟩)
      (fun i d hl hdi => (hf i d hl hdi).1), key, ?_⟩,
    h.fresh.of_lookup (put_base s _ _ _) (fun p hp => put_lookup_ne s (hne p hp)), hnum⟩
  rw [put_base]
  exact put_on s h.li.per id f (put_forall' s ms id f (s.on_get h.li.per) (fun i d hl hdi _ => (hf i d hl hdi).2.2)
    (fun hn => (hnew hn).2))

end put

theorem Known.ext {ms ms' : Mid} {k : Kind} {id : Id} (h : Known ms k id) (hx : Ext ms ms') : Known ms' k id :=
  fun hn => hx.1 ▸ h (Decidable.by_contra fun hne => hx.2 _ hne hn)

/-- A write under a known id that leaves a dead diff, on a slice other than the v2 contracts: a spend, whether the
parent is genuine or forged, and the resolution of a v1 contract.  Nothing that is read later changes. -/
theorem put_wi_dead {D : Type} [Inhabited D] {T} {ms : Mid} {R} (s : Slice D) (hk : s.kind ≠ .fc2) (hc : Ctx T ms.base)
    (h : WI T ms R) {id : Id} (hK : Known ms s.kind id) (f : D → D) (hdead : ∀ d, s.live (f d) = false)
    (hli : ∀ d, s.pick (liC ms.base) (f d)) (hnum : Num (ms.put s id f)) : WI T (ms.put s id f) R :=
  put_wi s hc.disj h id f (fun hn => hc.base _ _ (hK (hn.resolve_right hk))) (h.fresh.ne_of_known hK)
    (fun _ => ⟨fun hl => hl.elim (fun hl => by rw [hdead] at hl; cases hl) (fun e => absurd e hk), hli _⟩)
    (fun d _ _ _ _ => ⟨fun hl => (by rw [hdead] at hl; cases hl), fun e => absurd e hk, hli _⟩) hnum

theorem put_wi_fresh {D : Type} [Inhabited D] {T} {ms : Mid} {R} (s : Slice D) (hc : Ctx T ms.base) {id : Id}
    (h : WI T ms ((s.kind, id) :: R)) (f : D → D) (hid : s.idOf (f default) = id)
    (hli : (∀ k, id ∉ baseIds ms.base k) → s.pick (liC ms.base) (f default)) (hnum : Num (ms.put s id f)) :
    WI T (ms.put s id f) R := by
  obtain ⟨hT, hn, hb⟩ := h.fresh.2 _ List.mem_cons_self
  exact put_wi s hc.disj (h.sub (List.sublist_cons_self _ _)) id f (fun _ => hT) (fun p hp => h.fresh.head_not_mem p hp)
    (fun _ => ⟨fun _ => hid, hli hb⟩) (fun _ _ hl => absurd hn hl) hnum

/-! The numeric part under each primitive: used for v1, where `Inv` does the rest, and for the weak invariant. -/

theorem num_spendSc {ms : Mid} (h : Num ms) (e : ScElem) : Num (ms.spendSc e) := by
  have := h.put scSlice e.id (fun d => { d with e := e, spent := true }) (fun _ _ => trivial)
  rw [← putSc_eq] at this
  exact this.congr rfl rfl rfl rfl rfl

theorem num_createSc {ms : Mid} (h : Num ms) (id : Id) (o : ScOut) (m : Nat) : Num (ms.createSc id o m) := by
  unfold Mid.createSc; rw [putSc_eq]; exact h.put scSlice id _ (fun _ _ => trivial)

theorem num_spendSf {ms : Mid} (h : Num ms) (e : SfElem) : Num (ms.spendSf e) := by
  have := h.put sfSlice e.id (fun d => { d with e := e, spent := true })
    (put_forall sfSlice ms e.id _ h.per.sf (fun d _ hl => Bool.noConfusion hl))
  rw [← putSf_eq] at this
  exact this.congr rfl rfl rfl rfl rfl

theorem num_createSf {ms : Mid} (h : Num ms) (id : Id) (v : Nat) (a : Addr) (hv : v ≤ 10000) : Num (ms.createSf id v a) := by
  unfold Mid.createSf; rw [putSf_eq]
  exact h.put sfSlice id _ (put_forall sfSlice ms id _ h.per.sf (fun d _ _ => ⟨Nat.le_refl _, hv⟩))

theorem num_putFc1_create {ms : Mid} (h : Num ms) (id : Id) (fc : Fc1)
    (hv : sumVals fc.valid < curLimit ∧ sumVals fc.missed < curLimit) :
    Num (ms.putFc1 id fun d => { d with e := { id := id, fc := fc, leaf := none }, created := true }) := by
  rw [putFc1_eq]
  refine h.put fc1Slice id _ (put_forall' fc1Slice ms id _ h.per.fc1 (fun i d _ _ (hP : Fc1P d) => ?_) (fun _ => hv))
  show Fc1P _
  unfold Fc1P Fc1Diff.current at hP ⊢
  cases hr : d.revision with
  | none => simp only []; exact hv
  | some r => rw [hr] at hP; simp only [] at hP ⊢; exact hP

theorem num_createFc1 {ms ms' : Mid} (h : Num ms) (id : Id) (fc : Fc1)
    (hv : sumVals fc.valid < curLimit ∧ sumVals fc.missed < curLimit) (ha : ms.createFc1 id fc = .ok ms') :
    Num ms' ∧ ms'.base = ms.base := by
  obtain ⟨hp, rfl⟩ := createFc1_ok_iff.1 ha
  exact ⟨(num_putFc1_create h id fc hv).pool rfl (by rw [putFc1_pool]; exact Nat.le_add_right _ _) hp rfl rfl rfl,
    putFc1_base _ _ _⟩

theorem num_reviseFc1 {ms : Mid} (h : Num ms) (e : Fc1Elem) (rev : Fc1)
    (hv : sumVals rev.valid < curLimit ∧ sumVals rev.missed < curLimit) : Num (ms.reviseFc1 e rev) := by
  have hstep : ∀ d : Fc1Diff, (d.created = true → Fc1P d) → Fc1P
      (if d.created then { d with e := { d.e with fc := { rev with payout := e.fc.payout } } }
        else if d.revision.isSome then { d with revision := some { rev with payout := e.fc.payout } }
        else { d with e := e, revision := some { rev with payout := e.fc.payout } }) := by
    intro d hP
    by_cases h1 : d.created = true
    · rw [if_pos h1]
      have hP := hP h1
      unfold Fc1P Fc1Diff.current at hP ⊢
      cases hr : d.revision with
      | none => simp only []; exact hv
      | some r => rw [hr] at hP; simp only [] at hP ⊢; exact hP
    · rw [if_neg h1]
      by_cases h2 : d.revision.isSome = true
      · rw [if_pos h2]; exact hv
      · rw [if_neg h2]; exact hv
  unfold Mid.reviseFc1; rw [putFc1_eq]
  exact h.put fc1Slice e.id _ (put_forall' fc1Slice ms e.id _ h.per.fc1 (fun i d _ _ hP => hstep d (fun _ => hP))
    (fun _ => hstep default nofun))

theorem num_putFc1_resolve {ms : Mid} (h : Num ms) (e : Fc1Elem) (v : Bool)
    (hv : sumVals e.fc.valid < curLimit ∧ sumVals e.fc.missed < curLimit) :
    Num (ms.putFc1 e.id fun d =>
      if d.revision.isSome then { d with resolved := true, valid := v } else { d with e := e, resolved := true, valid := v }) := by
  rw [putFc1_eq]
  refine h.put fc1Slice e.id _ (put_forall' fc1Slice ms e.id _ h.per.fc1 (fun i d _ _ (hP : Fc1P d) => ?_) (fun _ => hv))
  show Fc1P _
  by_cases h2 : d.revision.isSome = true
  · rw [if_pos h2]; exact hP
  · rw [if_neg h2]
    have hn : d.revision = none := by
      cases hr : d.revision with
      | none => rfl
      | some r => rw [hr] at h2; exact absurd rfl h2
    unfold Fc1P Fc1Diff.current; simp only [hn]; exact hv

theorem num_resolveFc1 {ms : Mid} (h : Num ms) (e : Fc1Elem) (v : Bool)
    (hv : sumVals e.fc.valid < curLimit ∧ sumVals e.fc.missed < curLimit) : Num (ms.resolveFc1 e v) :=
  (num_putFc1_resolve h e v hv).congr rfl rfl rfl rfl rfl

theorem default_fc2P : Fc2P (default : Fc2Diff) := ⟨by decide, fun r hr => by cases hr⟩

theorem num_putFc2_create {ms : Mid} (h : Num ms) (id : Id) (fc : Fc2) (hv : fc.val < curLimit) :
    Num (ms.putFc2 id fun d => { d with e := { id := id, fc := fc, leaf := none }, created := true }) := by
  rw [putFc2_eq]
  exact h.put fc2Slice id _ (put_forall' fc2Slice ms id _ h.per.fc2 (fun _ _ _ _ hP => ⟨hv, hP.2⟩) (fun _ => ⟨hv, nofun⟩))

theorem num_reviseFc2 {ms : Mid} (h : Num ms) (e : Fc2Elem) (rev : Fc2) (hev : e.fc.val < curLimit)
    (hrv : rev.val < curLimit) : Num (ms.reviseFc2 e rev) := by
  unfold Mid.reviseFc2; rw [putFc2_eq]
  refine h.put fc2Slice e.id _ (put_forall fc2Slice ms e.id _ h.per.fc2 (fun d hd => ?_))
  have hP : Fc2P d := hd.elim (h.per.fc2 d) (· ▸ default_fc2P)
  show Fc2P _
  by_cases h1 : d.created = true
  · rw [if_pos h1]; exact ⟨hrv, hP.2⟩
  · rw [if_neg h1]
    by_cases h2 : d.revision.isSome = true
    · rw [if_pos h2]; exact ⟨hP.1, fun r hr => by cases hr; exact hrv⟩
    · rw [if_neg h2]; exact ⟨hev, fun r hr => by cases hr; exact hrv⟩

theorem num_putFc2_resolve {ms : Mid} (h : Num ms) (e : Fc2Elem) (k : ResKind) (hev : e.fc.val < curLimit) :
    Num (ms.putFc2 e.id fun d => { d with e := e, resolution := some k }) := by
  rw [putFc2_eq]
  exact h.put fc2Slice e.id _ (put_forall fc2Slice ms e.id _ h.per.fc2
    (fun d hd => ⟨hev, (hd.elim (h.per.fc2 d) (· ▸ default_fc2P)).2⟩))

theorem createSc_wi {T} {ms : Mid} {R} (hc : Ctx T ms.base) {id : Id} (h : WI T ms ((Kind.sc, id) :: R)) (o : ScOut) (m : Nat) :
    WI T (ms.createSc id o m) R :=
  put_wi_fresh scSlice hc h
    (fun d => { d with e := { id := id, value := o.value, addr := o.addr, maturity := m, leaf := none }, created := true })
    rfl (fun _ => trivial) (num_createSc h.num id o m)

theorem mem_base_fc2 {L : Ledger} {e : Fc2Elem} (h : L.hasFc2 e = true) : e ∈ L.fc2 ∧ e.id ∈ baseIds L .fc2 := by
  have : e ∈ L.fc2 := by unfold Ledger.hasFc2 at h; exact List.contains_iff_mem.mp h
  exact ⟨this, List.mem_map_of_mem this⟩

theorem resolveFc1_wi {T} {ms : Mid} {R} (hc : Ctx T ms.base) (h : WI T ms R) (e : Fc1Elem) (v : Bool)
    (he : e ∈ ms.base.fc1) (hev : sumVals e.fc.valid < curLimit ∧ sumVals e.fc.missed < curLimit) :
    WI T (ms.resolveFc1 e v) R := by
  refine WI.congr (ms := ms.putFc1 e.id _) ?_ rfl rfl rfl rfl rfl rfl rfl
  have hnum := num_putFc1_resolve h.num e v hev
  rw [putFc1_eq] at hnum ⊢
  exact put_wi_dead fc1Slice (by decide) hc h (fun _ => List.mem_map_of_mem he) _ (fun d => by split <;> rfl)
    (fun d hr => by split at hr <;> cases hr) hnum

/-- A loop whose steps keep the weak invariant.  `crs rest` are the fresh ids the rest of the loop still consumes,
`txs rest` what it still adds to the pool; a step may use that its element is one of `l`, that the base ledger and the
keys of `ms0` are still there, and where the pool stands. -/
theorem weak_fold {T} {α : Type} {step : Mid → α → VM Mid} (crs : List α → List (Kind × Id)) (txs : List α → Nat)
    {ms0 : Mid} {R : List (Kind × Id)} (l : List α)
    (hstep : ∀ ms a rest, a ∈ l → Ctx T ms.base → Ext ms0 ms → ms.pool + txs (a :: rest) = ms0.pool + txs l →
      WI T ms (crs (a :: rest) ++ R) →
      ∃ ms', step ms a = .ok ms' ∧ WI T ms' (crs rest ++ R) ∧ Ext ms ms' ∧ ms'.pool + txs rest = ms.pool + txs (a :: rest))
    (hc : Ctx T ms0.base) (h : WI T ms0 (crs l ++ R)) :
    ∃ ms', l.foldlM step ms0 = .ok ms' ∧ WI T ms' (crs [] ++ R) ∧ Ext ms0 ms' ∧ ms'.pool + txs [] = ms0.pool + txs l := by
  obtain ⟨ms', h1, w, x, p, _⟩ := foldlM_ok_inv step
    (fun ms rest => WI T ms (crs rest ++ R) ∧ Ext ms0 ms ∧ ms.pool + txs rest = ms0.pool + txs l ∧ ∀ a ∈ rest, a ∈ l)
    (by
      rintro ms a rest ⟨hw, hx, hp, hm⟩
      obtain ⟨ms1, e, w, x, p⟩ := hstep ms a rest (hm a List.mem_cons_self) (by rw [hx.1]; exact hc) hx hp hw
      exact ⟨ms1, e, w, hx.trans x, p.trans hp, fun b hb => hm b (List.mem_cons_of_mem _ hb)⟩)
    l ms0 ⟨h, Ext.refl _, rfl, fun _ ha => ha⟩
  exact ⟨ms', h1, w, x, p⟩

theorem known_of_ScIn2Rules {ms : Mid} {sci : ScIn2} (h : ScIn2Rules ms sci) : Known ms .sc sci.parent.id := by
  intro hn
  have h3 := h.present
  unfold ScIn2Present at h3
  cases hl : sci.parent.leaf with
  | none =>
    rw [hl] at h3; simp only [] at h3
    unfold validateEphemeralSc at h3; rw [hn] at h3; cases h3
  | some _ =>
    rw [hl] at h3; simp only [] at h3
    unfold Ledger.hasSc at h3
    exact List.mem_map_of_mem (List.contains_iff_mem.mp h3)

/-- the claim of an accepted v2 siafund input is computable at pool `p` -/
def ClaimOk (p : Cur) (sfi : SfIn2) : Prop :=
  sfi.parent.claimStart ≤ p ∧ (p - sfi.parent.claimStart) / 10000 * sfi.parent.value < curLimit

theorem claim_of_SfIn2Rules {ms : Mid} {sfi : SfIn2} (hN : NumL ms.base) (hn : Num ms) (h : SfIn2Rules ms sfi) :
    Known ms .sf sfi.parent.id ∧ ClaimOk ms.pool sfi := by
  have h3 := h.present
  unfold SfIn2Present at h3
  cases hl : sfi.parent.leaf with
  | none =>
    rw [hl] at h3; simp only [] at h3
    obtain ⟨⟨j, hj, _⟩, _, h1, h2⟩ := validateEphemeralSf_ok h3
    exact ⟨fun hn => absurd (hj.symm.trans hn) nofun, h1, h2⟩
  | some _ =>
    rw [hl] at h3; simp only [] at h3
    unfold Ledger.hasSf at h3
    have hm : sfi.parent ∈ ms.base.sf := List.contains_iff_mem.mp h3
    refine ⟨fun _ => List.mem_map_of_mem hm, ?_⟩
    obtain ⟨a, b⟩ := hN.sf _ hm
    exact ⟨Nat.le_trans a hn.lo, claim_fits b hn.hi⟩

/-- what an operation of a v2 transaction or of the tail of a block needs, besides the weak invariant, to return -/
def Op.Safe (ms : Mid) : Op → Prop
  | .spendSc e => Known ms .sc e.id
  | .spendSf e => Known ms .sf e.id
  | .claim _ e _ => e.claimStart ≤ ms.pool ∧ (ms.pool - e.claimStart) / 10000 * e.value < curLimit
  | .createSf _ v _ => v ≤ 10000
  | .createFc2 _ fc => fc.val < curLimit ∧ ms.pool + fc.val / 25 < curLimit
  | .reviseFc2 e rev => e ∈ ms.base.fc2 ∧ rev.val < curLimit
  | .resolveFc2 e _ => e ∈ ms.base.fc2
  | .resolveFc1 e _ => e ∈ ms.base.fc1
  | .createSc _ _ _ => True
  | _ => False

theorem Op.wi {T} {ms : Mid} {R} (hc : Ctx T ms.base) (hN : NumL ms.base) (o : Op) (h : WI T ms (o.created ++ R))
    (hs : o.Safe ms) : ∃ ms', o.step ms = .ok ms' ∧ WI T ms' R := by
  cases o with
  | spendSc e =>
    have hput := put_wi_dead scSlice (by decide) hc h hs (fun d => { d with e := e, spent := true }) (fun _ => rfl)
      (fun _ => trivial) (h.num.put scSlice _ _ (fun _ _ => trivial))
    rw [← putSc_eq] at hput
    exact ⟨_, rfl, hput.congr rfl rfl rfl rfl rfl rfl rfl⟩
  | createSc id x imm => exact ⟨_, rfl, createSc_wi hc h x _⟩
  | spendSf e =>
    have hput := put_wi_dead sfSlice (by decide) hc h hs (fun d => { d with e := e, spent := true }) (fun _ => rfl)
      (fun _ => trivial) (h.num.put sfSlice _ _ (put_forall sfSlice ms e.id _ h.num.per.sf (fun d _ hl => Bool.noConfusion hl)))
    rw [← putSf_eq] at hput
    exact ⟨_, rfl, hput.congr rfl rfl rfl rfl rfl rfl rfl⟩
  | claim id e addr =>
    refine ⟨_, ?_, createSc_wi hc h { value := (ms.pool - e.claimStart) / 10000 * e.value, addr := addr } (maturityHeight ms.base)⟩
    show (claimPortion ms.pool e.claimStart e.value >>= _) = _
    rw [claimPortion_ok.mpr ⟨hs.1, hs.2, rfl⟩]; rfl
  | createSf id v a =>
    exact ⟨_, rfl, put_wi_fresh sfSlice hc h
      (fun d => { d with e := { id := id, value := v, addr := a, claimStart := ms.pool, leaf := none }, created := true })
      rfl (fun _ => trivial) (num_createSf h.num id v a hs)⟩
  | createFc2 id fc =>
    have hput := put_wi_fresh fc2Slice hc h (fun d => { d with e := { id := id, fc := fc, leaf := none }, created := true })
      rfl (fun hb _ => hb _) (num_putFc2_create h.num id fc hs.1)
    rw [← putFc2_eq] at hput
    exact ⟨_, createFc2_ok_iff.2 ⟨hs.1, hs.2, rfl⟩, ⟨hput.li.congr rfl rfl rfl rfl rfl rfl, hput.fresh.of_lookup rfl (fun _ _ => rfl),
      hput.num.pool rfl (by rw [putFc2_pool]; exact Nat.le_add_right _ _) hs.2 rfl rfl rfl⟩⟩
  | reviseFc2 e rev =>
    have hid : e.id ∈ baseIds ms.base .fc2 := List.mem_map_of_mem hs.1
    refine ⟨_, rfl, ?_⟩
    have hnum := num_reviseFc2 h.num e rev (hN.fc2 _ hs.1) hs.2
    unfold Mid.reviseFc2 at hnum ⊢
    rw [putFc2_eq] at hnum ⊢
    refine put_wi fc2Slice hc.disj h e.id _ (fun _ => hc.base _ _ hid) (h.fresh.ne_of_known (fun _ => hid))
      (fun _ => ⟨fun _ => rfl, fun hcr => Bool.noConfusion hcr⟩) (fun d _ _ hde hNc => ?_) hnum
    have hde : d.e.id = e.id := hde rfl
    have hNc : NcP ms.base d := hNc
    by_cases h1 : d.created = true
    · rw [if_pos h1]; exact ⟨fun hl => ⟨hl, rfl⟩, fun _ => rfl, fun _ => hNc h1⟩
    · rw [if_neg h1]
      by_cases h2 : d.revision.isSome = true
      · rw [if_pos h2]; exact ⟨fun hl => ⟨hl, rfl⟩, fun _ => rfl, fun hcr => absurd hcr h1⟩
      · rw [if_neg h2]; exact ⟨fun hl => ⟨hl, hde.symm⟩, fun _ => hde.symm, fun hcr => absurd hcr h1⟩
  | resolveFc2 e k =>
    have hid : e.id ∈ baseIds ms.base .fc2 := List.mem_map_of_mem hs
    have hput := put_wi fc2Slice hc.disj h e.id (fun d => { d with e := e, resolution := some k })
      (fun _ => hc.base _ _ hid) (h.fresh.ne_of_known (fun _ => hid)) (fun _ => ⟨fun _ => rfl, nofun⟩)
      (fun d _ _ hde hNc => have hde : d.e.id = e.id := hde rfl
        ⟨fun hl => Bool.noConfusion hl, fun _ => hde.symm, fun hcr => absurd (hde ▸ hid) (hNc hcr)⟩)
      (num_putFc2_resolve h.num e k (hN.fc2 _ hs))
    rw [← putFc2_eq] at hput
    refine ⟨_, resolveFc2_ok_iff.2 ⟨?_, rfl⟩, hput.congr rfl rfl rfl rfl rfl rfl rfl⟩
    -- the diff found under the id of a ledger contract was not created in the block
    unfold Slice.target
    cases hlk : ms.lookup e.id with
    | none => rfl
    | some i =>
      show (ms.v2fces.getD i default).created = false
      rw [List.getD_eq_getElem?_getD]
      cases hdi : ms.v2fces[i]? with
      | none => rfl
      | some d =>
        obtain ⟨hm, (hde : d.e.id = e.id)⟩ := KeyOk.found fc2Slice h.li.key (hc.base _ _ hid) hlk hdi
        cases hcr : d.created with
        | false => exact hcr
        | true => exact absurd (hde ▸ hid) (h.li.per.fc2 d hm hcr)
  | resolveFc1 e v => exact ⟨_, rfl, resolveFc1_wi hc h e v hs (hN.fc1 _ hs)⟩
  | createFc1 id fc => exact hs.elim
  | reviseFc1 e rev => exact hs.elim

/-- a run of operations, each safe in the state it finds provided the base ledger and the keys of `ms0` are still
there and the pool stands where the taxes `tx` of the operations before it put it -/
theorem weak_ops {T} {ms0 : Mid} {R} (hc : Ctx T ms0.base) (hN : NumL ms0.base) (l : List Op) (tx : Op → Nat)
    (htx : ∀ o ∈ l, o.tax ms0.base = tx o) (h : WI T ms0 (l.flatMap Op.created ++ R))
    (hs : ∀ o ∈ l, ∀ m rest, Ext ms0 m → m.pool + ((o :: rest).map tx).sum = ms0.pool + (l.map tx).sum → o.Safe m) :
    ∃ ms', l.foldlM Op.step ms0 = .ok ms' ∧ WI T ms' R ∧ Ext ms0 ms' ∧ ms'.pool = ms0.pool + (l.map tx).sum := by
  obtain ⟨ms', h1, w, x, p⟩ := weak_fold (fun l => l.flatMap Op.created) (fun l => (l.map tx).sum) l
    (fun m o rest ho hc' hx hp hw => by
      rw [List.flatMap_cons, List.append_assoc] at hw
      obtain ⟨m', e, w⟩ := Op.wi hc' (hx.1 ▸ hN) o hw (hs o ho m rest hx hp)
      obtain ⟨x, p⟩ := Op.step_frame e
      exact ⟨m', e, w, x, by rw [p, hx.1, htx o ho, List.map_cons, List.sum_cons]; exact Nat.add_assoc _ _ _⟩) hc h
  exact ⟨ms', h1, w, x, p⟩

theorem Ext.of_scalars {ms ms' : Mid} (hb : ms'.base = ms.base) (he : ms'.elements = ms.elements) : Ext ms ms' :=
  ⟨hb, fun x h => by unfold Mid.lookup at *; rw [he]; exact h⟩

/-- an accepted v2 transaction is applied without panic and keeps the weak invariant; no hypothesis on the
ephemeral-output height -/
theorem v2txn_weak {T} {ms : Mid} {t : Txn2} {mw : Nat} {R : List (Kind × Id)}
    (hc : Ctx T ms.base) (hN : NumL ms.base) (h : WI T ms (t.created ++ R))
    (hv : validateV2Transaction ms t mw = .ok ()) :
    ∃ ms', applyV2Transaction ms t = .ok ms' ∧ WI T ms' R ∧ Ext ms ms' ∧ ms'.pool = ms.pool + t.taxes := by
  have A := validateV2Transaction_ok_rules hv
  -- the two pre-checks: every value `apply` writes is representable, and the taxes fit the pool
  obtain ⟨_, ⟨hov, htp⟩, _⟩ := (validateV2Transaction_ok_iff ms t mw).1 hv
  obtain ⟨hfcv, hrnv, hrevv⟩ := v2_created_bounds hov
  have hsfv := ((validateV2CurrencyOverflow_ok_iff t).1 hov).2.2
  have hpool : ms.pool + t.taxes < curLimit := (validateV2TaxPool_ok_iff ms t).1 htp
  rw [← t.ops_created, Txn2.ops, List.flatMap_append, List.append_assoc] at h
  have htax1 : ∀ o ∈ t.ops1, ∀ L, Op.tax L o = 0 := by
    simp only [Txn2.ops1, List.forall_mem_append, List.forall_mem_map, List.forall_mem_flatMap, List.forall_mem_cons]
    exact ⟨fun _ _ _ => rfl, fun _ _ _ => rfl, fun _ _ => ⟨fun _ => rfl, fun _ => rfl, fun _ h => nomatch h⟩, fun _ _ _ => rfl⟩
  -- inputs and outputs: the pool stands still, so the claims validation found computable are computable
  obtain ⟨ms4, a4, w4, x4, p4⟩ := weak_ops hc hN t.ops1 (fun _ => 0) (fun o ho => htax1 o ho _) h (by
    simp only [Txn2.ops1, List.forall_mem_append, List.forall_mem_map, List.forall_mem_flatMap, List.forall_mem_cons]
    refine ⟨fun i hi m _ hx _ => (known_of_ScIn2Rules (A.scIn i hi)).ext hx, fun _ _ _ _ _ _ => trivial,
      fun i hi => ⟨fun m _ hx _ => (claim_of_SfIn2Rules hN h.num (A.sfIn i hi)).1.ext hx, fun m rest _ hp => ?_, fun _ h => nomatch h⟩,
      fun x hx _ _ _ _ => hsfv x hx⟩
    have : m.pool = ms.pool := by simp only [sum_const_zero, Nat.add_zero] at hp; exact hp
    show i.parent.claimStart ≤ m.pool ∧ _
    rw [this]
    exact (claim_of_SfIn2Rules hN h.num (A.sfIn i hi)).2)
  rw [sum_const_zero, Nat.add_zero] at p4
  have htax2 : (t.ops2.map (Op.tax ms4.base)).sum = t.taxes := by
    have := t.ops_tax ms4.base
    rwa [Txn2.ops, List.map_append, List.sum_append, sum_map_zero _ _ (fun o ho => htax1 o ho _), Nat.zero_add] at this
  -- contracts: the taxes fit the pool
  obtain ⟨ms7, a7, w7, x7, p7⟩ := weak_ops (x4.1 ▸ hc) (x4.1 ▸ hN) t.ops2 _ (fun _ _ => rfl) w4 (by
    intro o ho m rest hx hp
    rw [htax2, p4] at hp
    have htop : m.pool + o.tax ms4.base < curLimit := by
      simp only [List.map_cons, List.sum_cons] at hp; cur_omega
    simp only [Txn2.ops2, List.mem_append, List.mem_map, List.mem_flatMap] at ho
    rcases ho with ⟨x, hx', rfl⟩ | ⟨r, hr, rfl⟩ | ⟨r, hr, ho⟩
    · exact ⟨hfcv x hx', htop⟩
    · exact ⟨by rw [hx.1, x4.1]; exact (mem_base_fc2 (A.rev r hr).present).1, hrevv r hr⟩
    · rcases r.mem_ops ho with rfl | ⟨rn, hres, rfl⟩ | ⟨_, _, rfl⟩
      · show r.parent ∈ m.base.fc2
        rw [hx.1, x4.1]; exact (mem_base_fc2 (A.res r hr).present).1
      · exact ⟨hrnv r hr rn hres, htop⟩
      · trivial)
  rw [htax2, p4] at p7
  obtain ⟨f1, f2, f3, f4, f5, f6, f7, f8⟩ := a2Final_fields ms7 t
  refine ⟨a2Final ms7 t, ?_, w7.congr f1 f2 f8 f4 f5 f6 f7, (x4.trans x7).trans (Ext.of_scalars f1 f2), f8.trans p7⟩
  rw [applyV2Transaction_ops, Txn2.ops, List.foldlM_append, a4]
  show (t.ops2.foldlM Op.step ms4 >>= _) = _
  rw [a7]; rfl

theorem li_of_inv {T} {ms : Mid} (hc : Ctx T ms.base) (hI : Inv T ms) : LI T ms := by
  have hsub : ∀ k, (ms.liveIds k).Sublist (ms.idsOf k) := by
    intro k
    cases k
    · exact (List.filter_sublist (l := ms.sces)).map _
    · exact (List.filter_sublist (l := ms.sfes)).map _
    · exact (List.filter_sublist (l := ms.fces)).map _
    · exact (List.filter_sublist (l := ms.v2fces)).map _
    · exact List.Sublist.refl _
  refine ⟨⟨?_, fun k => (hsub k).nodup (hI.struct.nodup_ids k)⟩, fun _ _ => hI.struct.lookup_kind hc.disj,
    ⟨fun _ _ => trivial, fun _ _ => trivial, fun d hd hr => ((hI.fc1 d hd).2.2.2 hr).2, fun d hd => (hI.fc2 d hd).1⟩⟩
  intro k id hid
  have hm := (hsub k).subset hid
  refine ⟨hI.struct.typed k id hm, ?_⟩
  obtain ⟨i, hi, he⟩ := List.mem_iff_getElem.mp hm
  rw [hI.struct.idx k i id (by rw [List.getElem?_eq_getElem hi, he])]; simp

theorem fc1P_of_element {ms : Mid} {supp : Supp1} (hn : Num ms) (hN : NumL ms.base) (hs : SuppOk ms.base supp)
    {id : Id} {p : Fc1Elem} (h : ms.fc1Element supp id = some p) :
    sumVals p.fc.valid < curLimit ∧ sumVals p.fc.missed < curLimit := by
  unfold Mid.fc1Element at h
  cases hd : ms.fc1Diff? id with
  | some d =>
    rw [hd] at h; simp only [] at h; cases h
    exact hn.per.fc1 d (fc1Diff?_mem hd).1
  | none =>
    rw [hd] at h; simp only [] at h
    cases hr : supp.revised.find? (·.id = id) with
    | some e =>
      rw [hr] at h; simp only [] at h; cases h
      exact hN.fc1 _ (hs.rev _ (List.mem_of_find?_eq_some hr))
    | none =>
      rw [hr] at h; simp only [] at h
      cases hp : supp.proofs.find? (·.1.id = id) with
      | none => rw [hp] at h; cases h
      | some q =>
        rw [hp] at h; simp only [Option.map_some] at h; cases h
        exact hN.fc1 _ (hs.proof _ (List.mem_of_find?_eq_some hp))

/-- `Num`, with the base ledger it refers to -/
def NumB (L : Ledger) (ms : Mid) : Prop := Num ms ∧ ms.base = L

/-- `Num` is kept by an accepted v1 transaction: the values it creates passed the overflow pre-check -/
theorem v1txn_num {ms ms' : Mid} {t : Txn1} {pid : Id} {mw : Nat} (hn : Num ms) (hN : NumL ms.base)
    (hs : SuppOk ms.base t.supp) (hv : validateTransaction ms t pid mw = .ok ())
    (ha : applyTransaction ms t = .ok ms') : Num ms' := by
  have hov := ((validateTransaction_ok_iff ms t pid mw).1 hv).2.1.1
  have hsfv := ((validateCurrencyOverflow_ok_iff t).1 hov).2
  have hfcv : ∀ x ∈ t.fcs, sumVals x.2.valid < curLimit ∧ sumVals x.2.missed < curLimit := fun x hx => by
    have := (v1_overflow_bounds hov).1 x hx; constructor <;> cur_omega
  have hrevv : ∀ r ∈ t.revs, sumVals r.fc.valid < curLimit ∧ sumVals r.fc.missed < curLimit := fun r hr => by
    have := (v1_overflow_bounds hov).2 r hr; constructor <;> cur_omega
  obtain ⟨s, h7, rfl⟩ := applyTransaction_walk (I := NumB ms.base) ha ⟨hn, rfl⟩
    (fun _ _ _ _ h => ⟨num_spendSc h.1 _, (putSc_base _ _ _).trans h.2⟩)
    (fun _ _ _ _ h => ⟨num_createSc h.1 _ _ _, (putSc_base _ _ _).trans h.2⟩)
    (fun _ _ _ _ h => ⟨num_spendSf h.1 _, (putSf_base _ _ _).trans h.2⟩)
    (fun _ x hx h => ⟨num_createSf h.1 _ _ _ (hsfv x hx), (putSf_base _ _ _).trans h.2⟩)
    (fun _ _ x hx h hst => (num_createFc1 h.1 _ _ (hfcv x hx) hst).imp id (·.trans h.2))
    (fun _ e r hr _ h => ⟨num_reviseFc1 h.1 e r.fc (hrevv r hr), (putFc1_base _ _ _).trans h.2⟩)
    (fun _ _ e he h => ⟨num_resolveFc1 h.1 e true (fc1P_of_element h.1 (h.2 ▸ hN) (h.2 ▸ hs) he),
      (putFc1_base _ _ _).trans h.2⟩)
  obtain ⟨f1, f2, f3, f4, f5, f6, f7, f8⟩ := a1Final_fields s t
  exact h7.1.congr f1 f8 f5 f6 f7

theorem sfElement_bounds {T} {ms : Mid} {t : Txn1} (hI : Inv T ms) (hn : Num ms) (hN : NumL ms.base)
    (hsu : SuppOk ms.base t.supp) {sfi : SfIn1} (hns : ms.isSpent sfi.parent = false) {e : SfElem}
    (he : ms.sfElement t.supp sfi.parent = some e) : e.claimStart ≤ ms.pool ∧ e.value ≤ 10000 := by
  unfold Mid.sfElement at he
  cases hd : ms.sfDiff? sfi.parent with
  | some d =>
    rw [hd] at he; simp only [] at he; cases he
    obtain ⟨hm, hid⟩ := sfDiff?_mem hd
    exact hn.per.sf d hm (Bool.eq_false_iff.2 (hI.live sfRule hd ((isSpent_false_iff _ _).1 hns)))
  | none =>
    rw [hd] at he; simp only [] at he
    obtain ⟨a, b⟩ := hN.sf e (hsu.sf e (List.mem_of_find?_eq_some he))
    exact ⟨Nat.le_trans a hn.lo, b⟩

/-- an accepted v1 transaction is applied without panic and keeps the structural invariant: every error of
`applyTransaction` is a Go panic, and each of its items returns, since `Inv` gives the lookups, `Num` the bounds on
the siafund parents and `validateTaxPool` room for the collected tax (no solvency) -/
theorem v1txn_weak {T} {ms : Mid} {t : Txn1} {pid : Id} {mw : Nat} {R : List (Kind × Id)}
    (hc : Ctx T ms.base) (hI : Inv T ms) (hn : Num ms) (hN : NumL ms.base) (hsupp : SuppOk ms.base t.supp)
    (hF : Fresh T ms (t.created ++ R)) (hv : validateTransaction ms t pid mw = .ok ()) :
    ∃ ms', applyTransaction ms t = .ok ms' ∧ Inv T ms' ∧ Fresh T ms' R ∧ ms'.base = ms.base ∧
      ms'.pool = ms.pool + t.taxes ms.base := by
  have hpool : ms.pool + t.taxes ms.base < curLimit :=
    (validateTaxPool_ok_iff ms t).1 ((validateTransaction_ok_iff ms t pid mw).1 hv).2.1.2
  obtain ⟨hpre, hkeys, hq⟩ := v1_run hc hI hsupp hv
  have hF' : Fresh T ms ((t.items ms).flatMap Item1.created ++ R) := (t.items_created ms).symm ▸ hF
  have hgo : ∀ a ∈ t.items ms, ∀ m : Mid, m.base = ms.base → Item1.Pre t.supp T m a → ms.pool ≤ m.pool →
      m.pool + Item1.tax m.base a ≤ ms.pool + t.taxes ms.base → ∃ m', Item1.step t m a = .ok m' := by
    simp only [Txn1.items, Txn1.items1, Txn1.items2, List.forall_mem_append, List.forall_mem_map]
    refine ⟨⟨fun i _ m _ hp _ _ => ⟨_, by simp only [Item1.step, a1ScIn]; rw [hp.1]; rfl⟩, fun _ _ _ _ _ _ _ => ⟨_, rfl⟩,
      fun i hi m _ hp hle htop => ?_, fun _ _ _ _ _ _ _ => ⟨_, rfl⟩⟩,
      fun x _ m _ _ _ htop => ?_, fun r _ m _ hp _ _ => ⟨_, by simp only [Item1.step, a1Rev]; rw [hp.1]; rfl⟩,
      fun sp _ m _ hp _ _ => by
        simp only [Item1.step, a1Proof]; rw [hp.1]
        exact foldlM_total_pure (fun (m : Mid) (x : ScOut × Id) => m.createImmatureSc x.2 x.1) _ _⟩
    · have h0 : Item1.Pre t.supp T ms (.sfIn i (t.sfEl ms i)) := hpre _ (by
        simp only [Txn1.items, Txn1.items1, List.mem_append, List.mem_map]
        exact .inl (.inr (.inr (.inl ⟨i, hi, rfl⟩))))
      have h0 := h0.1
      obtain ⟨b1, b2⟩ := ((validateTransaction_ok_rules hv).sfIn i hi).elim fun _ h =>
        sfElement_bounds hI hn hN hsupp h.2.notSpent h0
      obtain ⟨c, hc'⟩ := claimPortion_total (Nat.le_trans b1 hle) b2 (by simp only [Item1.tax] at htop; cur_omega)
      exact ⟨_, by simp only [Item1.step, a1SfIn]; rw [hp.1]; simp only []; rw [hc']; rfl⟩
    · exact ⟨_, createFc1_ok_iff.2 ⟨by simp only [Item1.tax, Op.tax] at htop; cur_omega, rfl⟩⟩
  obtain ⟨ms7, a⟩ := (items1_ok t).total (t.items ms) ms R _ hc hI hpre hkeys hF'
    (Nat.le_of_eq (congrArg _ (t.items_tax ms _))) (fun m a ha => hgo a ha m)
  obtain ⟨hI7, _, hF7, hb7, hp7, _⟩ := (items1_ok t).fold (t.items ms) ms ms7 R hc hI hpre hkeys hq hF' a
  obtain ⟨f1, f2, f3, f4, f5, f6, f7, f8⟩ := a1Final_fields ms7 t
  have a : (t.items ms).foldlM (Item1.step t) ms = .ok ms7 := a
  exact ⟨a1Final ms7 t, by rw [applyTransaction_items ms, a]; rfl, hI7.scalars f1 f2 f3 f4 f5 f6 f7,
    hF7.agree (agree_scalars f1 f2 f3 f4 f5 f6 f7 (fun _ => False)) (fun _ _ h => h), f1.trans hb7,
    f8.trans (hp7.trans (congrArg _ (t.items_tax ms _)))⟩

theorem weak_creates {T} {ms0 : Mid} {R} (hc : Ctx T ms0.base) (hN : NumL ms0.base) (l : List (Id × ScOut)) (imm : Bool)
    (h : WI T ms0 (l.map (fun x => (Kind.sc, x.1)) ++ R)) :
    ∃ ms', (l.map (fun x : Id × ScOut => Op.createSc x.1 x.2 imm)).foldlM Op.step ms0 = .ok ms' ∧ WI T ms' R ∧ Ext ms0 ms' := by
  obtain ⟨ms', e, w, x, _⟩ := weak_ops hc hN (l.map (fun x : Id × ScOut => Op.createSc x.1 x.2 imm)) (fun _ => 0)
    (List.forall_mem_map.2 (fun _ _ => rfl)) (by rw [List.flatMap_map]; exact List.map_eq_flatMap ▸ h)
    (List.forall_mem_map.2 (fun _ _ _ _ _ _ => trivial))
  exact ⟨ms', e, w, x⟩

theorem weak_expire {T} {ms0 : Mid} {R} (hc : Ctx T ms0.base) (hN : NumL ms0.base) (l : List (Fc1Elem × List Id))
    (h : WI T ms0 (l.flatMap (fun x => x.2.map (fun i => (Kind.sc, i))) ++ R)) (hk : ∀ x ∈ l, x.1 ∈ ms0.base.fc1) :
    ∃ ms', l.foldlM mbExpire ms0 = .ok ms' ∧ WI T ms' R ∧ Ext ms0 ms' ∧ ms'.pool + 0 = ms0.pool + 0 :=
  weak_fold (fun l => l.flatMap (fun x => x.2.map (fun i => (Kind.sc, i)))) (fun _ => 0) l
    (fun ms a rest ha hc' hx _ hw => by
      simp only [List.flatMap_cons, List.append_assoc] at hw
      unfold mbExpire
      by_cases hsp : ms.isSpent a.1.id = true
      · rw [if_pos hsp]
        exact ⟨_, rfl, hw.sub (List.sublist_append_right _ _), Ext.refl _, rfl⟩
      · rw [if_neg hsp]
        have hm := hk a ha
        have w1 := resolveFc1_wi hc' hw a.1 false (by rw [hx.1]; exact hm) (hN.fc1 _ hm)
        obtain ⟨x1, p1⟩ := Op.step_frame (ms := ms) (o := .resolveFc1 a.1 false) rfl
        -- the outputs paid are the missed outputs zipped with the ids: a sublist of the ids reserved
        have hsub : (((a.1.fc.missed.zip a.2).map (fun x => (x.2, x.1))).map (fun x => (Kind.sc, x.1)) ++
            (rest.flatMap (fun x => x.2.map (fun i => (Kind.sc, i))) ++ R)).Sublist
            (a.2.map (fun i => (Kind.sc, i)) ++ (rest.flatMap (fun x => x.2.map (fun i => (Kind.sc, i))) ++ R)) := by
          apply List.Sublist.append_right
          rw [List.map_map]
          exact (List.map_map ▸ (zip_snd_sublist a.1.fc.missed a.2).map (fun i => (Kind.sc, i)) :)
        obtain ⟨m2, e2, w2, x2⟩ := weak_creates (by rw [x1.1]; exact hc') (by rw [x1.1, hx.1]; exact hN) _ true (w1.sub hsub)
        rw [List.map_map] at e2
        refine ⟨m2, (payOps_run _ _).symm.trans e2, w2, x1.trans x2, ?_⟩
        have := foldlM_inv (fun m : Mid => m.pool = (ms.resolveFc1 a.1 false).pool)
          (fun m x m' hm h => by cases h; exact (putSc_pool _ _ _).trans hm) _ _ _ rfl ((payOps_run _ _).symm.trans e2)
        rw [this, p1]; rfl) hc h

theorem weak_block_tail {T} {L : Ledger} {b : Block} {ms : Mid} (hc : Ctx T L) (hN : NumL L) (hb : ms.base = L)
    (hw : WI T ms (b.payouts.map (fun x => (Kind.sc, x.1)) ++
      ((Kind.sc, b.foundationOutId) :: b.expiring.flatMap (fun x => x.2.map (fun i => (Kind.sc, i))))))
    (hexp : ∀ x ∈ b.expiring, x.1 ∈ L.fc1) (hp : ParamsOk L.P) :
    ∃ ms5, blockTail ms b = .ok ms5 ∧ WI T ms5 [] ∧ ms5.base = L := by
  obtain ⟨ms3, a3, w3, x3⟩ := weak_creates (hb ▸ hc) (hb ▸ hN) b.payouts true hw
  rw [List.foldlM_map] at a3
  have hb3 : ms3.base = L := x3.1.trans hb
  obtain ⟨sub, hsub⟩ := foundationSubsidy_ok L hp
  obtain ⟨w4, hb4⟩ : WI T (match (generalizing := false) sub with | some o => ms3.createImmatureSc b.foundationOutId o | none => ms3)
      (b.expiring.flatMap (fun x => x.2.map (fun i => (Kind.sc, i))) ++ []) ∧
      (match (generalizing := false) sub with | some o => ms3.createImmatureSc b.foundationOutId o | none => ms3).base = L := by
    rw [List.append_nil]
    cases sub with
    | none => exact ⟨w3.sub (List.sublist_cons_self _ _), hb3⟩
    | some o => exact ⟨createSc_wi (hb3 ▸ hc) w3 o _, (putSc_base _ _ _).trans hb3⟩
  obtain ⟨ms5, a5, w5, x5, _⟩ := weak_expire (hb4 ▸ hc) (hb4 ▸ hN) b.expiring w4 (fun x hx => hb4 ▸ hexp x hx)
  refine ⟨ms5, ?_, w5, x5.1.trans hb4⟩
  unfold blockTail
  rw [show b.payouts.foldlM mbPayout ms = .ok ms3 from a3]; simp only [ok_bind]; rw [hb3, hsub]; exact a5

theorem commit_kind {T} {ms : Mid} (hc : Ctx T ms.base) (hL : LI T ms) (bid : Id) (k : Kind) :
    (baseIds (ms.commit bid) k).Nodup ∧ ∀ id ∈ baseIds (ms.commit bid) k, T k id := by
  have typed : ∀ {l : List Id}, (∀ x ∈ l, x ∈ baseIds ms.base k ∨ x ∈ ms.liveIds k) → ∀ id ∈ l, T k id :=
    fun h id hid => (h id hid).elim (hc.base k id) (fun h => (hL.live.typed k id h).1)
  cases k
  · have := commit_ids_live ms.base.sc (·.id) ms.sces (·.e.id) (fun d => ¬ d.spent) (·.e) (fun _ => rfl)
      (hc.nodup Kind.sc) (hL.live.nodup Kind.sc)
    unfold baseIds; simp only []; rw [commit_sc]; exact ⟨this.1, typed this.2⟩
  · have := commit_ids_live ms.base.sf (·.id) ms.sfes (·.e.id) (fun d => ¬ d.spent) (·.e) (fun _ => rfl)
      (hc.nodup Kind.sf) (hL.live.nodup Kind.sf)
    unfold baseIds; simp only []; rw [commit_sf]; exact ⟨this.1, typed this.2⟩
  · have := commit_ids_live ms.base.fc1 (·.id) ms.fces (·.e.id) (fun d => ¬ d.resolved) (·.current) Fc1Diff.current_id
      (hc.nodup Kind.fc1) (hL.live.nodup Kind.fc1)
    unfold baseIds; simp only []; rw [commit_fc1]; exact ⟨this.1, typed this.2⟩
  · have := commit_ids_live ms.base.fc2 (·.id) ms.v2fces (·.e.id) (fun d => d.resolution.isNone) (·.current) Fc2Diff.current_id
      (hc.nodup Kind.fc2) (hL.live.nodup Kind.fc2)
    unfold baseIds; simp only []; rw [commit_fc2]; exact ⟨this.1, typed this.2⟩
  · exact ⟨List.nodup_nil, fun _ h => by cases h⟩

theorem weak_commit_struct {T} {ms : Mid} (hc : Ctx T ms.base) (hL : LI T ms) (bid : Id) :
    (baseIds (ms.commit bid) .sc ++ baseIds (ms.commit bid) .sf ++ baseIds (ms.commit bid) .fc1 ++
      baseIds (ms.commit bid) .fc2).Nodup ∧
    ∀ e ∈ (ms.commit bid).fc1, sumVals e.fc.valid = sumVals e.fc.missed := by
  have K := commit_kind hc hL bid
  refine ⟨nodup_four hc.disj _ _ _ _ (K .sc).1 (K .sf).1 (K .fc1).1 (K .fc2).1 (K .sc).2 (K .sf).2 (K .fc1).2 (K .fc2).2, ?_⟩
  · intro e he
    rcases (commit_fc1_mem ms bid e).1 he with ⟨h, _⟩ | ⟨d, hm, hnr, rfl⟩
    · exact hc.fc1_bal e h
    · exact hL.per.fc1 d hm hnr

/-- the committed ledger is well-formed: distinct ids and balanced v1 contracts already follow from the weak invariant
(`weak_commit_struct`), which `Inv` implies; `Inv` adds `missedHost ≤ host` for the v2 contracts -/
theorem wf_commit {T} {ms : Mid} (hc : Ctx T ms.base) (hw : WF ms.base) (hI : Inv T ms)
    (hsf : sfTot ms = SFtot ms.base) (bid : Id) : WF (ms.commit bid) := by
  obtain ⟨s1, s2⟩ := weak_commit_struct hc (li_of_inv hc hI) bid
  refine ⟨s1, s2, fun e he => ?_, by rw [SF_commit, hsf]; exact hw.sf_bound, hw.params⟩
  rcases (commit_fc2_mem ms bid e).1 he with ⟨h, _⟩ | ⟨d, hm, _, rfl⟩
  · exact hw.fc2_missed e h
  · exact (hI.fc2 d hm).2.2.2.2

theorem commit_pool (ms : Mid) (bid : Id) : (ms.commit bid).pool = ms.pool := rfl

theorem weak_commit_num {ms : Mid} (hn : Num ms) (hN : NumL ms.base) (bid : Id) : NumL (ms.commit bid) := by
  refine ⟨?_, ?_, ?_, by rw [commit_pool]; exact hn.hi⟩
  · intro e he
    rw [commit_pool]
    rcases (commit_sf_mem ms bid e).1 he with ⟨h, _⟩ | ⟨d, hm, hl, rfl⟩
    · exact ⟨Nat.le_trans (hN.sf e h).1 hn.lo, (hN.sf e h).2⟩
    · exact hn.per.sf d hm hl
  · intro e he
    rcases (commit_fc1_mem ms bid e).1 he with ⟨h, _⟩ | ⟨d, hm, _, rfl⟩
    · exact hN.fc1 e h
    · exact hn.per.fc1 d hm
  · intro e he
    rcases (commit_fc2_mem ms bid e).1 he with ⟨h, _⟩ | ⟨d, hm, _, rfl⟩
    · exact hN.fc2 e h
    · obtain ⟨a, b⟩ := hn.per.fc2 d hm
      cases hr : d.revision with
      | none => exact a
      | some r => exact b r hr

theorem num_newMid {L : Ledger} (hN : NumL L) : Num (newMid L) :=
  ⟨⟨fun d hd => (by cases hd), fun d hd => (by cases hd), fun d hd => (by cases hd), fun d hd => (by cases hd)⟩,
    Nat.le_refl _, hN.pool⟩

end Sia.Ledger

