import SiaModel.Merkle.Rhp
/-!
  C16 (RHP Merkle roots and proofs): the plain tree (`metaRoot`), the stack view of the
  binary-counter accumulators, and the representation invariant that links them.
-/
set_option linter.unusedSectionVars false
namespace Sia.Rhp
open HashOps

variable {H : Type} [HashOps H]

theorem splitPoint_eq {n k : Nat} (h1 : 2 ^ k < n) (h2 : n ≤ 2 ^ (k + 1)) : splitPoint n = 2 ^ k := by
  unfold splitPoint
  have hp := Nat.two_pow_pos k
  have : (n - 1).log2 = k := by
    rw [Nat.log2_eq_iff (by omega)]
    rw [Nat.pow_succ'] at *
    omega
  rw [this]

theorem metaRoot_nil : metaRoot ([] : List H) = zero := by
  rw [metaRoot]

theorem metaRoot_singleton (x : H) : metaRoot [x] = x := by
  rw [metaRoot]

theorem metaRoot_split (ls : List H) (h : 2 ≤ ls.length) :
    metaRoot ls = node (metaRoot (ls.take (splitPoint ls.length))) (metaRoot (ls.drop (splitPoint ls.length))) := by
  match ls, h with
  | x :: y :: r, _ =>
    rw [metaRoot]
    simp only [List.length_cons]

theorem metaRoot_append (l r : List H) (k : Nat) (hl : l.length = 2 ^ k)
    (hr0 : 0 < r.length) (hr : r.length ≤ 2 ^ k) :
    metaRoot (l ++ r) = node (metaRoot l) (metaRoot r) := by
  have hp := Nat.two_pow_pos k
  have hlen : (l ++ r).length = 2 ^ k + r.length := by simp [hl]
  have hsp : splitPoint (l ++ r).length = 2 ^ k := by
    apply splitPoint_eq
    · omega
    · rw [Nat.pow_succ']; omega
  rw [metaRoot_split (l ++ r) (by omega), hsp, List.take_left' hl, List.drop_left' hl]


/-- induction along the shape of the plain tree: a list of two or more elements is a full left
part of `2^T` elements followed by at least one and at most `2^T` more (the two subtrees of
`metaRoot_append`) -/
theorem split_induction {α : Type} {P : List α → Prop} (nil : P []) (one : ∀ x, P [x])
    (node : ∀ (l r : List α) (T : Nat), l.length = 2 ^ T → 0 < r.length → r.length ≤ 2 ^ T →
      P l → P r → P (l ++ r)) (ls : List α) : P ls := by
  generalize hn : ls.length = n
  induction n using Nat.strongRecOn generalizing ls with
  | _ n ih =>
    match ls, hn with
    | [], _ => exact nil
    | [x], _ => exact one x
    | x :: y :: t, hn =>
      obtain ⟨m, rfl⟩ : ∃ m, n = m + 1 := ⟨t.length + 1, hn.symm⟩
      have hm : m ≠ 0 := by rw [← Nat.succ.inj hn]; exact Nat.succ_ne_zero _
      have hlo := Nat.log2_self_le hm
      have hhi := Nat.lt_log2_self (n := m)
      rw [Nat.pow_succ', Nat.two_mul] at hhi
      generalize m.log2 = T at hlo hhi
      have hl : ((x :: y :: t).take (2 ^ T)).length = 2 ^ T :=
        List.length_take_of_le (hn ▸ Nat.le_succ_of_le hlo)
      have hr : ((x :: y :: t).drop (2 ^ T)).length = m - 2 ^ T + 1 := by
        rw [List.length_drop, hn, Nat.succ_sub hlo]
      have := node _ _ T hl (hr ▸ Nat.succ_pos _)
        (hr ▸ Nat.succ_le_of_lt (Nat.sub_lt_left_of_lt_add hlo hhi))
        (ih _ (Nat.lt_succ_of_le hlo) _ hl)
        (ih _ (Nat.succ_lt_succ (Nat.sub_lt (Nat.pos_of_ne_zero hm) (Nat.two_pow_pos T))) _ hr)
      rwa [List.take_append_drop] at this

theorem metaRoot_pair (a b : H) : metaRoot [a, b] = node a b := by
  have := metaRoot_append [a] [b] 0 rfl Nat.zero_lt_one (Nat.le_refl 1)
  rwa [metaRoot_singleton, metaRoot_singleton] at this

theorem metaRoot_triple (a b c : H) : metaRoot [a, b, c] = node (node a b) c := by
  have := metaRoot_append [a, b] [c] 1 rfl Nat.zero_lt_one (Nat.le_succ 1)
  rwa [metaRoot_pair, metaRoot_singleton] at this

/-- induction along `m ↦ m / 2`, the recursion of every loop over the bits of a leaf count -/
theorem halving_induction {P : Nat → Prop} (zero : P 0)
    (odd : ∀ m, m % 2 = 1 → P (m / 2) → P m)
    (even : ∀ m, m ≠ 0 → m % 2 = 0 → P (m / 2) → P m) (m : Nat) : P m := by
  induction m using Nat.strongRecOn with
  | _ m ih =>
    by_cases h0 : m = 0
    · exact h0 ▸ zero
    · by_cases h1 : m % 2 = 1
      · exact odd m h1 (ih _ (by omega))
      · exact even m h0 (by omega) (ih _ (by omega))

/-- induction for the walks `i ↦ i + size` towards a bound `j`: before the bound the claim may be
assumed at every later position -/
theorem walk_induction (j : Nat) {P : Nat → Prop}
    (step : ∀ i, (i < j → ∀ i', i < i' → P i') → P i) (i : Nat) : P i := by
  generalize hd : j - i = d
  induction d using Nat.strongRecOn generalizing i with
  | _ d ih => exact step i fun hlt i' hi' => ih (j - i') (by omega) i' rfl

/-- `(height, subtree root)` pairs, lowest height first -/
abbrev Stack (H : Type) := List (Nat × H)

/-- insert a subtree root at `height`, merging with equal-height neighbours (the carry chain) -/
def sInsert : Stack H → H → Nat → Stack H
  | [], h, i => [(i, h)]
  | (j, t) :: rest, h, i => if j = i then sInsert rest (node t h) (i + 1) else (i, h) :: (j, t) :: rest

theorem sInsert_of_lt (s : Stack H) (h : H) (i : Nat) (hs : ∀ x ∈ s, i < x.1) :
    sInsert s h i = (i, h) :: s := by
  match s, hs with
  | [], _ => rfl
  | (j, t) :: rest, hs =>
    have : j ≠ i := Nat.ne_of_gt (hs (j, t) List.mem_cons_self)
    simp only [sInsert, this, if_false]

/-- the occupied slots of `trees` according to the bits of `m = numLeaves >> i` -/
def toStack (t : Nat → H) (m i : Nat) : Stack H :=
  if h : m = 0 then []
  else if m % 2 = 1 then (i, t i) :: toStack t (m / 2) (i + 1)
  else toStack t (m / 2) (i + 1)
termination_by m
decreasing_by all_goals omega

def Acc.stack (a : Acc H) : Stack H := toStack a.trees a.n 0

theorem toStack_zero (t : Nat → H) (i : Nat) : toStack t 0 i = [] := by
  rw [toStack]; simp

theorem toStack_odd (t : Nat → H) (m i : Nat) (h : m % 2 = 1) :
    toStack t m i = (i, t i) :: toStack t (m / 2) (i + 1) := by
  rw [toStack]
  have : m ≠ 0 := by omega
  simp [this, h]

theorem toStack_even (t : Nat → H) (m i : Nat) (h : m % 2 = 0) :
    toStack t m i = toStack t (m / 2) (i + 1) := by
  by_cases h0 : m = 0
  · subst h0; simp [toStack_zero]
  · rw [toStack]
    have : ¬ (m % 2 = 1) := by omega
    simp [h0, this]

theorem toStack_heights (t : Nat → H) (m i : Nat) : ∀ x ∈ toStack t m i, i ≤ x.1 := by
  induction m using halving_induction generalizing i with
  | zero => simp [toStack_zero]
  | odd m h1 ih =>
    rw [toStack_odd t m i h1]
    intro x hx
    cases hx with
    | head => exact Nat.le_refl _
    | tail _ hx => exact Nat.le_of_succ_le (ih (i + 1) x hx)
  | even m _ h ih =>
    rw [toStack_even t m i h]
    exact fun x hx => Nat.le_of_succ_le (ih (i + 1) x hx)

theorem toStack_frame (t t' : Nat → H) (m i : Nat) (hf : ∀ j, i ≤ j → t j = t' j) :
    toStack t m i = toStack t' m i := by
  induction m using halving_induction generalizing i with
  | zero => rw [toStack_zero, toStack_zero]
  | odd m h1 ih =>
    rw [toStack_odd t m i h1, toStack_odd t' m i h1, hf i (Nat.le_refl _),
      ih (i + 1) fun j hj => hf j (Nat.le_of_succ_le hj)]
  | even m _ h ih =>
    rw [toStack_even t m i h, toStack_even t' m i h]
    exact ih (i + 1) fun j hj => hf j (Nat.le_of_succ_le hj)

theorem toStack_shift (t : Nat → H) (m : Nat) : ∀ (k i : Nat), toStack t (2 ^ k * m) i = toStack t m (i + k) := by
  intro k
  induction k with
  | zero => intro i; simp
  | succ k ih =>
    intro i
    have e : 2 ^ (k + 1) * m = 2 * (2 ^ k * m) := by rw [Nat.pow_succ', Nat.mul_assoc]
    rw [e, toStack_even t _ i (Nat.mul_mod_right 2 _), Nat.mul_div_cancel_left _ (by omega : 0 < 2), ih (i + 1),
      Nat.add_assoc, Nat.add_comm 1 k]

theorem setTree_self (t : Nat → H) (i : Nat) (h : H) : setTree t i h i = h := if_pos rfl

theorem setTree_ne (t : Nat → H) {i j : Nat} (h : H) (hji : j ≠ i) : setTree t i h j = t j := if_neg hji

theorem carry_odd (t : Nat → H) (m i : Nat) (h : H) (hm : m % 2 = 1) :
    carry t m i h = carry t (m / 2) (i + 1) (node (t i) h) := by
  rw [carry]; simp [hm]

theorem carry_even (t : Nat → H) (m i : Nat) (h : H) (hm : m % 2 = 0) :
    carry t m i h = (i, h) := by
  rw [carry]
  have : ¬ (m % 2 = 1) := by omega
  simp [this]

/-- one `insertNode`/`AddLeaf` on the slot array is `sInsert` on the stack view -/
theorem toStack_carry (t : Nat → H) (m i : Nat) (h : H) :
    toStack (setTree t (carry t m i h).1 (carry t m i h).2) (m + 1) i = sInsert (toStack t m i) h i := by
  -- no carry: slot `i` is free and every occupied slot lies above it
  have even : ∀ m i h, m % 2 = 0 →
      toStack (setTree t (carry t m i h).1 (carry t m i h).2) (m + 1) i = sInsert (toStack t m i) h i := by
    intro m i h hm
    rw [carry_even t m i h hm, toStack_odd _ (m + 1) i (by omega), setTree_self,
      show (m + 1) / 2 = m / 2 by omega,
      toStack_frame (setTree t i h) t (m / 2) (i + 1) fun j hj => setTree_ne t h (by omega),
      toStack_even t m i hm, sInsert_of_lt _ h i (toStack_heights t (m / 2) (i + 1))]
  induction m using halving_induction generalizing i h with
  | zero => exact even 0 i h rfl
  | even m _ hm _ => exact even m i h hm
  | odd m h1 ih =>
    rw [carry_odd t m i h h1, toStack_odd t m i h1]
    simp only [sInsert, if_true]
    rw [← ih (i + 1) (node (t i) h), toStack_even _ (m + 1) i (by omega),
      show (m + 1) / 2 = m / 2 + 1 by omega]

theorem stack_insertNode (a : Acc H) (h : H) (k : Nat) (hd : 2 ^ k ∣ a.n) :
    (a.insertNode h k).stack = sInsert a.stack h k := by
  obtain ⟨m, hm⟩ := hd
  have hp := Nat.two_pow_pos k
  unfold Acc.stack Acc.insertNode
  simp only
  have e1 : a.n / 2 ^ k = m := by rw [hm]; exact Nat.mul_div_cancel_left m hp
  have e2 : a.n + 2 ^ k = 2 ^ k * (m + 1) := by rw [hm, Nat.mul_add]; omega
  rw [e1, e2, toStack_shift, hm, toStack_shift]
  simp only [Nat.zero_add]
  exact toStack_carry a.trees m k h

theorem stack_heights_of_dvd (a : Acc H) (k : Nat) (hd : 2 ^ k ∣ a.n) : ∀ x ∈ a.stack, k ≤ x.1 := by
  obtain ⟨m, hm⟩ := hd
  unfold Acc.stack
  rw [hm, toStack_shift, Nat.zero_add]
  exact toStack_heights a.trees m k

theorem addLeaf_eq_insertNode (a : Acc H) (h : H) : a.addLeaf h = a.insertNode h 0 := by
  unfold Acc.addLeaf Acc.insertNode
  simp

def sStep (r : Option H) (x : Nat × H) : Option H :=
  some (match r with | none => x.2 | some y => node x.2 y)

def sRoot (s : Stack H) : H := (s.foldl sStep none).getD zero

/-- the loop of `root()` over the slots `f ∘ t` folds the occupied slots of `t`; `sStep` does not
look at the heights, so they may be relabelled by any `g` -/
theorem rootLoop_map {X : Type} [HashOps X] (f : X → H) (g : Nat → Nat) (t : Nat → X) (m i : Nat) (r : Option H) :
    rootLoop (fun l => f (t l)) m i r = ((toStack t m i).map fun x => (g x.1, f x.2)).foldl sStep r := by
  induction m using halving_induction generalizing i r with
  | zero => rw [rootLoop.eq_def, dif_pos rfl, toStack_zero]; rfl
  | odd m h1 ih =>
    rw [rootLoop.eq_def, dif_neg (by omega), if_pos h1, ih, toStack_odd t m i h1]
    cases r <;> rfl
  | even m h0 h ih =>
    rw [rootLoop.eq_def, dif_neg h0, if_neg (by omega), ih, toStack_even t m i h]

theorem root_stack (a : Acc H) : a.root = sRoot a.stack :=
  congrArg (·.getD zero) ((rootLoop_map id id a.trees a.n 0 none).trans (congrArg (List.foldl sStep none) (List.map_id _)))

/-- `Repr s ls`: the stack `s` (heights strictly increasing from the head) holds the plain
roots of the aligned blocks of sizes `2^height` that `ls` decomposes into (head = last block). -/
inductive Repr : Stack H → List H → Prop
  | nil : Repr [] []
  | cons {s : Stack H} {ls : List H} (h : Nat) (B : List H) :
      Repr s ls → (∀ x ∈ s, h < x.1) → B.length = 2 ^ h → Repr ((h, metaRoot B) :: s) (ls ++ B)

/-- as `Repr`, but the last block may be clipped (`0 < |B| ≤ 2^h`), as at the right end of a list
whose length is not a power of two -/
inductive ReprC : Stack H → List H → Prop
  | nil : ReprC [] []
  | cons {s : Stack H} {ls : List H} (h : Nat) (B : List H) :
      Repr s ls → (∀ x ∈ s, h < x.1) → 0 < B.length → B.length ≤ 2 ^ h → ReprC ((h, metaRoot B) :: s) (ls ++ B)

theorem Repr.toC {s : Stack H} {ls : List H} (r : Repr s ls) : ReprC s ls := by
  cases r with
  | nil => exact ReprC.nil
  | cons h B r hs hB =>
    have := Nat.two_pow_pos h
    exact ReprC.cons h B r hs (by omega) (by omega)

theorem foldl_sStep_repr {s : Stack H} {ls : List H} (r : Repr s ls) :
    ∀ (X : List H) (b : Nat), 0 < X.length → X.length ≤ 2 ^ b → (∀ x ∈ s, b ≤ x.1) →
      s.foldl sStep (some (metaRoot X)) = some (metaRoot (ls ++ X)) := by
  induction r with
  | nil => intro X b _ _ _; simp
  | @cons s ls h B r hs hB ih =>
    intro X b hX0 hXb hall
    have hbh : b ≤ h := hall (h, metaRoot B) List.mem_cons_self
    have hpow : 2 ^ b ≤ 2 ^ h := Nat.pow_le_pow_right (by omega) hbh
    simp only [List.foldl_cons, sStep]
    rw [← metaRoot_append B X h hB hX0 (by omega)]
    rw [ih (B ++ X) (h + 1) (by simp; omega) (by simp [Nat.pow_succ']; omega)
      (fun x hx => hs x hx)]
    simp [List.append_assoc]

theorem sRoot_spec {s : Stack H} {ls : List H} (r : ReprC s ls) : sRoot s = metaRoot ls := by
  cases r with
  | nil => simp [sRoot, metaRoot_nil]
  | @cons s ls h B r hs hB0 hB =>
    show (s.foldl sStep (some (metaRoot B))).getD zero = _
    rw [foldl_sStep_repr r B h hB0 hB (fun x hx => Nat.le_of_lt (hs x hx))]
    rfl

/-- inserting the root of a last block `B`, which may be clipped (`0 < |B| ≤ 2^h`): the carry chain
merges it into ever larger last blocks, and a full `B` leaves every block full -/
theorem sInsert_repr {s : Stack H} {ls : List H} (r : Repr s ls) :
    ∀ (B : List H) (h : Nat), 0 < B.length → B.length ≤ 2 ^ h → (∀ x ∈ s, h ≤ x.1) →
      ReprC (sInsert s (metaRoot B) h) (ls ++ B) ∧
      (B.length = 2 ^ h → Repr (sInsert s (metaRoot B) h) (ls ++ B)) := by
  induction r with
  | nil =>
    intro B h hB0 hB _
    exact ⟨ReprC.cons h B Repr.nil (by simp) hB0 hB, Repr.cons h B Repr.nil (by simp)⟩
  | @cons s ls h' B' r hs hB' ih =>
    intro B h hB0 hB hall
    have hle : h ≤ h' := hall (h', metaRoot B') List.mem_cons_self
    simp only [sInsert]
    by_cases heq : h' = h
    · subst heq
      simp only [if_true]
      rw [← metaRoot_append B' B h' hB' hB0 hB, List.append_assoc]
      have := ih (B' ++ B) (h' + 1) (by simp; omega) (by simp [Nat.pow_succ']; omega) (fun x hx => hs x hx)
      exact ⟨this.1, fun e => this.2 (by simp [Nat.pow_succ']; omega)⟩
    · simp only [heq, if_false]
      have hlt : ∀ x ∈ (h', metaRoot B') :: s, h < x.1 := by
        intro x hx
        cases hx with
        | head => show h < h'; omega
        | tail _ hx => have := hs x hx; omega
      exact ⟨ReprC.cons h B (Repr.cons h' B' r hs hB') hlt hB0 hB, Repr.cons h B (Repr.cons h' B' r hs hB') hlt⟩

/-- the accumulator `a` holds exactly the leaves `ls` -/
def Inv (a : Acc H) (ls : List H) : Prop := Repr a.stack ls ∧ a.n = ls.length

/-- `a` holds the leaves `ls`, the last block possibly clipped: the state after the last, clipped
insertion of a range proof. Unlike `Inv` it says nothing of the count, which is no longer `|ls|` (a clipped
block still counts `2^h`); only the root is read from such a state (`InvC.root`). -/
def InvC (a : Acc H) (ls : List H) : Prop := ReprC a.stack ls

theorem Inv.empty : Inv (Acc.empty : Acc H) [] := by
  refine ⟨?_, rfl⟩
  show Repr (toStack _ 0 0) []
  rw [toStack_zero]; exact Repr.nil

theorem Inv.insertNode {a : Acc H} {ls : List H} (hi : Inv a ls) (B : List H) (k : Nat)
    (hB : B.length = 2 ^ k) (hd : 2 ^ k ∣ ls.length) : Inv (a.insertNode (metaRoot B) k) (ls ++ B) := by
  obtain ⟨hr, hn⟩ := hi
  have hd' : 2 ^ k ∣ a.n := by rw [hn]; exact hd
  refine ⟨?_, ?_⟩
  · rw [stack_insertNode a _ k hd']
    exact (sInsert_repr hr B k (hB ▸ Nat.two_pow_pos k) (Nat.le_of_eq hB) (stack_heights_of_dvd a k hd')).2 hB
  · simp [Acc.insertNode, hn, hB]

theorem Inv.toC {a : Acc H} {ls : List H} (h : Inv a ls) : InvC a ls := h.1.toC

theorem Inv.insertNodeC {a : Acc H} {ls : List H} (hi : Inv a ls) (B : List H) (k : Nat)
    (hB0 : 0 < B.length) (hB : B.length ≤ 2 ^ k) (hd : 2 ^ k ∣ ls.length) :
    InvC (a.insertNode (metaRoot B) k) (ls ++ B) := by
  have hd' : 2 ^ k ∣ a.n := hi.2 ▸ hd
  show ReprC _ _
  rw [stack_insertNode a _ k hd']
  exact (sInsert_repr hi.1 B k hB0 hB (stack_heights_of_dvd a k hd')).1

theorem InvC.root {a : Acc H} {ls : List H} (h : InvC a ls) : a.root = metaRoot ls := by
  rw [root_stack]; exact sRoot_spec h

theorem Inv.root {a : Acc H} {ls : List H} (h : Inv a ls) : a.root = metaRoot ls := h.toC.root

theorem Inv.insertLeaf {a : Acc H} {ls : List H} (hi : Inv a ls) (x : H) : Inv (a.insertNode x 0) (ls ++ [x]) := by
  have := hi.insertNode [x] 0 (by simp) (by simp)
  rwa [metaRoot_singleton] at this

theorem Inv.foldl_insertLeaf {a : Acc H} {l0 : List H} (hi : Inv a l0) (ls : List H) :
    Inv (ls.foldl (fun a h => a.insertNode h 0) a) (l0 ++ ls) := by
  induction ls generalizing a l0 with
  | nil => simpa using hi
  | cons x xs ih =>
    simp only [List.foldl_cons]
    have := ih (hi.insertLeaf x)
    simpa [List.append_assoc] using this

theorem Inv.foldl_addLeaf {a : Acc H} {l0 : List H} (hi : Inv a l0) (ls : List H) :
    Inv (ls.foldl Acc.addLeaf a) (l0 ++ ls) := by
  have e : (Acc.addLeaf : Acc H → H → Acc H) = (fun a h => a.insertNode h 0) := by
    funext a h; exact addLeaf_eq_insertNode a h
  rw [e]; exact hi.foldl_insertLeaf ls

theorem Inv.ofList (ls : List H) : Inv (ls.foldl Acc.addLeaf (Acc.empty : Acc H)) ls := by
  simpa using (Inv.empty (H := H)).foldl_addLeaf ls

end Sia.Rhp
