import SiaProofs.Lemmas.MerkleRhp
/-!
  C16: the 4-lane `sectorAccumulator`.
  Rows of four subtree roots are merged by the same carry loop as single hashes (`quadOps`), so
  the stack view (`toStack`, `sInsert`, `toStack_carry`) is reused at type `Quad H`.
-/
set_option linter.unusedSectionVars false
namespace Sia.Rhp
open HashOps

variable {H : Type} [HashOps H]

/-- the roots of the four quarters of a block of `4 * 2^l` leaves -/
def quarters (l : Nat) (B : List H) : Quad H :=
  ⟨metaRoot (B.take (2 ^ l)), metaRoot ((B.drop (2 ^ l)).take (2 ^ l)),
   metaRoot ((B.drop (2 * 2 ^ l)).take (2 ^ l)), metaRoot ((B.drop (3 * 2 ^ l)).take (2 ^ l))⟩

theorem metaRoot_two_blocks (B : List H) (l off : Nat) (h : off + 2 * 2 ^ l ≤ B.length) :
    node (metaRoot ((B.drop off).take (2 ^ l))) (metaRoot ((B.drop (off + 2 ^ l)).take (2 ^ l)))
      = metaRoot ((B.drop off).take (2 * 2 ^ l)) := by
  have hp := Nat.two_pow_pos l
  have e : 2 * 2 ^ l = 2 ^ l + 2 ^ l := by omega
  rw [e, List.take_add, List.drop_drop]
  exact (metaRoot_append _ _ l (by simp [List.length_take, List.length_drop]; omega)
    (by simp [List.length_take, List.length_drop]; omega)
    (by simp [List.length_take, List.length_drop]; omega)).symm

theorem root4_quarters (l : Nat) (B : List H) (h : B.length = 4 * 2 ^ l) :
    root4 (quarters l B) = metaRoot B := by
  have hp := Nat.two_pow_pos l
  unfold root4 quarters
  simp only
  have h1 := metaRoot_two_blocks B l 0 (by omega)
  have h2 := metaRoot_two_blocks B l (2 * 2 ^ l) (by omega)
  simp only [List.drop_zero, Nat.zero_add] at h1
  have e3 : 2 * 2 ^ l + 2 ^ l = 3 * 2 ^ l := by omega
  rw [e3] at h2
  rw [h1, h2]
  have e4 : 2 * 2 ^ l = 2 ^ (l + 1) := Nat.pow_succ'.symm
  rw [e4]
  have := metaRoot_two_blocks B (l + 1) 0 (by rw [Nat.pow_succ']; omega)
  simp only [List.drop_zero, Nat.zero_add] at this
  rw [this, Nat.pow_succ']
  congr 1
  apply List.take_of_length_le; omega

theorem merge_quarters (l : Nat) (A B : List H) (hA : A.length = 4 * 2 ^ l) (hB : B.length = 4 * 2 ^ l) :
    mergeQuads (quarters l A) (quarters l B) = quarters (l + 1) (A ++ B) := by
  have hp := Nat.two_pow_pos l
  have e2 : (2:Nat) ^ (l + 1) = 2 * 2 ^ l := Nat.pow_succ'
  unfold mergeQuads quarters
  simp only [e2]
  have a1 := metaRoot_two_blocks A l 0 (by omega)
  have a2 := metaRoot_two_blocks A l (2 * 2 ^ l) (by omega)
  have b1 := metaRoot_two_blocks B l 0 (by omega)
  have b2 := metaRoot_two_blocks B l (2 * 2 ^ l) (by omega)
  simp only [List.drop_zero, Nat.zero_add] at a1 b1
  have e3 : 2 * 2 ^ l + 2 ^ l = 3 * 2 ^ l := by omega
  rw [e3] at a2 b2
  rw [a1, a2, b1, b2]
  have t1 : (A ++ B).take (2 * 2 ^ l) = A.take (2 * 2 ^ l) := List.take_append_of_le_length (by omega)
  have t2 : ((A ++ B).drop (2 * 2 ^ l)).take (2 * 2 ^ l) = (A.drop (2 * 2 ^ l)).take (2 * 2 ^ l) := by
    rw [List.drop_append_of_le_length (by omega)]
    exact List.take_append_of_le_length (by simp [List.length_drop]; omega)
  have t3 : (A ++ B).drop (2 * (2 * 2 ^ l)) = B := List.drop_left' (by omega)
  have t4 : (A ++ B).drop (3 * (2 * 2 ^ l)) = B.drop (2 * 2 ^ l) := by
    have : 3 * (2 * 2 ^ l) = A.length + 2 * 2 ^ l := by omega
    rw [this, ← List.drop_drop, List.drop_left' rfl]
  rw [t1, t2, t3, t4]

/-- rows of the sector accumulator represent `ls` -/
inductive QRepr : Stack (Quad H) → List H → Prop
  | nil : QRepr [] []
  | cons {s : Stack (Quad H)} {ls : List H} (l : Nat) (B : List H) :
      QRepr s ls → (∀ x ∈ s, l < x.1) → B.length = 4 * 2 ^ l → QRepr ((l, quarters l B) :: s) (ls ++ B)

theorem qInsert_repr {s : Stack (Quad H)} {ls : List H} (r : QRepr s ls) :
    ∀ (B : List H) (l : Nat), B.length = 4 * 2 ^ l → (∀ x ∈ s, l ≤ x.1) →
      QRepr (sInsert s (quarters l B) l) (ls ++ B) := by
  induction r with
  | nil =>
    intro B l hB _
    exact QRepr.cons l B QRepr.nil (by simp) hB
  | @cons s ls l' B' r hs hB' ih =>
    intro B l hB hall
    have hle : l ≤ l' := hall (l', quarters l' B') List.mem_cons_self
    simp only [sInsert]
    by_cases heq : l' = l
    · subst heq
      simp only [if_true]
      have hm : (node (quarters l' B') (quarters l' B) : Quad H) = quarters (l' + 1) (B' ++ B) :=
        merge_quarters l' B' B hB' hB
      rw [hm]
      have := ih (B' ++ B) (l' + 1) (by simp [Nat.pow_succ']; omega) (fun x hx => hs x hx)
      rw [List.append_assoc]
      exact this
    · simp only [heq, if_false]
      refine QRepr.cons l B (QRepr.cons l' B' r hs hB') ?_ hB
      intro x hx
      cases hx with
      | head => show l < l'; omega
      | tail _ hx => have := hs x hx; omega

/-- forgetting the quarters: a row of level `l` is one subtree of height `l + 2` -/
theorem QRepr.toRepr {s : Stack (Quad H)} {ls : List H} (r : QRepr s ls) :
    Repr (s.map (fun x => (x.1 + 2, root4 x.2))) ls := by
  induction r with
  | nil => exact Repr.nil
  | @cons s ls l B r hs hB ih =>
    simp only [List.map_cons]
    rw [root4_quarters l B hB]
    refine Repr.cons (l + 2) B ih ?_ ?_
    · intro x hx
      simp only [List.mem_map] at hx
      obtain ⟨y, hy, rfl⟩ := hx
      have := hs y hy
      simp; omega
    · rw [hB, Nat.pow_add]; omega

theorem QRepr.length {s : Stack (Quad H)} {ls : List H} (r : QRepr s ls) (hs : s = []) : ls = [] := by
  cases r with
  | nil => rfl
  | cons l B r _ _ => simp at hs

def Quad.get (q : Quad H) (i : Nat) : H :=
  match i with
  | 0 => q.a
  | 1 => q.b
  | 2 => q.c
  | _ => q.d

/-- `sa` holds the nodes `ls`: whole groups of four in the rows, the last `numLeaves % 4` in `nodeBuf` -/
def SInv (sa : SecAcc H) (ls : List H) : Prop :=
  ∃ big tail, ls = big ++ tail ∧ tail.length = sa.numLeaves % 4 ∧
    QRepr (toStack sa.trees (sa.numLeaves / 4) 0) big ∧
    (∀ j (hj : j < tail.length), tail[j] = sa.nodeBuf.get j)

theorem SInv.empty : SInv (SecAcc.empty : SecAcc H) [] := by
  refine ⟨[], [], rfl, rfl, ?_, ?_⟩
  · show QRepr (toStack _ (0 / 4) 0) []
    simp [toStack_zero]; exact QRepr.nil
  · intro j hj; simp at hj

theorem quarters_zero (w x y z : H) : quarters 0 [w, x, y, z] = ⟨w, x, y, z⟩ := by
  simp [quarters, metaRoot_singleton]

theorem SInv.merge {sa : SecAcc H} {big : List H} (w x y z : H)
    (hq : QRepr (toStack sa.trees (sa.numLeaves / 4) 0) big) (h4 : sa.numLeaves % 4 = 0) :
    SInv ({ sa with nodeBuf := ⟨w, x, y, z⟩ }.mergeNodeBuf) (big ++ [w, x, y, z]) := by
  refine ⟨big ++ [w, x, y, z], [], by simp, ?_, ?_, ?_⟩
  · simp [SecAcc.mergeNodeBuf]; omega
  · simp only [SecAcc.mergeNodeBuf]
    have e : (sa.numLeaves + 4) / 4 = sa.numLeaves / 4 + 1 := by omega
    rw [e, toStack_carry sa.trees (sa.numLeaves / 4) 0 ⟨w, x, y, z⟩, ← quarters_zero w x y z]
    exact qInsert_repr hq [w, x, y, z] 0 (by simp) (fun x _ => Nat.zero_le _)
  · intro j hj; simp at hj

theorem Quad.get_set (q : Quad H) (i j : Nat) (h : H) (hi : i < 4) (hj : j < 4) :
    (q.set i h).get j = if j = i then h else q.get j := by
  obtain rfl | rfl | rfl | rfl : i = 0 ∨ i = 1 ∨ i = 2 ∨ i = 3 := by omega
  all_goals obtain rfl | rfl | rfl | rfl : j = 0 ∨ j = 1 ∨ j = 2 ∨ j = 3 := by omega
  all_goals rfl

theorem SInv.appendNode {sa : SecAcc H} {ls : List H} (hi : SInv sa ls) (h : H) :
    SInv (sa.appendNode h) (ls ++ [h]) := by
  obtain ⟨big, tail, rfl, hlen, hq, hbuf⟩ := hi
  unfold SecAcc.appendNode
  simp only
  by_cases h3 : (sa.numLeaves + 1) % 4 = 0
  · rw [if_pos h3]
    have hr : sa.numLeaves % 4 = 3 := by omega
    match tail, hr ▸ hlen, hbuf with
    | [t0, t1, t2], _, hbuf =>
      obtain rfl : t0 = sa.nodeBuf.a := hbuf 0 (by simp)
      obtain rfl : t1 = sa.nodeBuf.b := hbuf 1 (by simp)
      obtain rfl : t2 = sa.nodeBuf.c := hbuf 2 (by simp)
      have e : (sa.numLeaves + 1 - 4) / 4 = sa.numLeaves / 4 := by omega
      have := SInv.merge (sa := { sa with numLeaves := sa.numLeaves + 1 - 4 }) sa.nodeBuf.a sa.nodeBuf.b
        sa.nodeBuf.c h (e ▸ hq) (by show (sa.numLeaves + 1 - 4) % 4 = 0; omega)
      rw [hr, List.append_assoc]
      exact this
  · rw [if_neg h3]
    refine ⟨big, tail ++ [h], List.append_assoc _ _ _, ?_, ?_, ?_⟩
    · show (tail ++ [h]).length = (sa.numLeaves + 1) % 4
      rw [List.length_append, hlen, List.length_singleton]; omega
    · show QRepr (toStack sa.trees ((sa.numLeaves + 1) / 4) 0) big
      rwa [show (sa.numLeaves + 1) / 4 = sa.numLeaves / 4 by omega]
    · intro j hj
      rw [List.length_append, List.length_singleton] at hj
      show (tail ++ [h])[j] = (sa.nodeBuf.set (sa.numLeaves % 4) h).get j
      rw [Quad.get_set _ _ _ _ (by omega) (by omega), ← hlen]
      by_cases hjl : j < tail.length
      · rw [List.getElem_append_left hjl, hbuf j hjl, if_neg (by omega)]
      · obtain rfl : j = tail.length := by omega
        rw [List.getElem_append_right (Nat.le_refl _), if_pos rfl]
        simp

theorem SInv.foldl_appendNode {sa : SecAcc H} {l0 : List H} (hi : SInv sa l0) (ls : List H) :
    SInv (ls.foldl SecAcc.appendNode sa) (l0 ++ ls) := by
  induction ls generalizing sa l0 with
  | nil => simpa using hi
  | cons x xs ih =>
    simp only [List.foldl_cons]
    have := ih (hi.appendNode x)
    simpa [List.append_assoc] using this

theorem SInv.root {sa : SecAcc H} {ls : List H} (hi : SInv sa ls) : sa.root = metaRoot ls := by
  obtain ⟨big, tail, rfl, hlen, hq, hbuf⟩ := hi
  unfold SecAcc.root
  by_cases h0 : sa.numLeaves = 0
  · rw [if_pos h0]
    rw [h0] at hq hlen
    rw [Nat.zero_div, toStack_zero] at hq
    rw [hq.length rfl, List.eq_nil_of_length_eq_zero hlen]
    exact metaRoot_nil.symm
  · -- the rows, read as single subtrees of height `level + 2`; the buffered nodes are a last,
    -- clipped subtree below them
    have hR := hq.toRepr
    have hh : ∀ x ∈ (toStack sa.trees (sa.numLeaves / 4) 0).map (fun x => (x.1 + 2, root4 x.2)), 2 ≤ x.1 := by
      intro x hx
      obtain ⟨y, _, rfl⟩ := List.mem_map.1 hx
      exact Nat.le_add_left 2 y.1
    rw [if_neg h0]
    simp only
    rw [rootLoop_map root4 (· + 2), ← hlen]
    match tail, hlen, hbuf with
    | [], _, _ => rw [List.append_nil]; exact sRoot_spec hR.toC
    | [t0], _, hbuf =>
      obtain rfl : t0 = sa.nodeBuf.a := hbuf 0 (by simp)
      have e := foldl_sStep_repr hR [sa.nodeBuf.a] 2 (by simp) (by simp) hh
      rw [metaRoot_singleton] at e
      exact congrArg (·.getD zero) e
    | [t0, t1], _, hbuf =>
      obtain rfl : t0 = sa.nodeBuf.a := hbuf 0 (by simp)
      obtain rfl : t1 = sa.nodeBuf.b := hbuf 1 (by simp)
      have e := foldl_sStep_repr hR [sa.nodeBuf.a, sa.nodeBuf.b] 2 (by simp) (by simp) hh
      rw [metaRoot_pair] at e
      exact congrArg (·.getD zero) e
    | [t0, t1, t2], _, hbuf =>
      obtain rfl : t0 = sa.nodeBuf.a := hbuf 0 (by simp)
      obtain rfl : t1 = sa.nodeBuf.b := hbuf 1 (by simp)
      obtain rfl : t2 = sa.nodeBuf.c := hbuf 2 (by simp)
      have e := foldl_sStep_repr hR [sa.nodeBuf.a, sa.nodeBuf.b, sa.nodeBuf.c] 2 (by simp) (by simp) hh
      rw [metaRoot_triple] at e
      exact congrArg (·.getD zero) e
    | _ :: _ :: _ :: _ :: _, hlen, _ => simp at hlen; omega

/-- `appendLeaves` under Go's precondition: four or more leaves only on a 4-aligned count -/
theorem SInv.appendLeafHashes (hs : List H) (sa : SecAcc H) (ls : List H) (hi : SInv sa ls)
    (hpre : sa.numLeaves % 4 = 0 ∨ hs.length < 4) : SInv (sa.appendLeafHashes hs) (ls ++ hs) := by
  match hs with
  | w :: x :: y :: z :: rest =>
    have h4 : sa.numLeaves % 4 = 0 := hpre.resolve_right (by simp)
    obtain ⟨big, tail, rfl, hlen, hq, hbuf⟩ := hi
    obtain rfl := List.eq_nil_of_length_eq_zero (hlen.trans h4)
    rw [List.append_nil]
    have := SInv.appendLeafHashes rest _ _ (SInv.merge (sa := sa) w x y z hq h4)
      (Or.inl (by simp [SecAcc.mergeNodeBuf]; omega))
    simpa [SecAcc.appendLeafHashes, List.append_assoc] using this
  | [] => simpa [SecAcc.appendLeafHashes] using hi
  | [a] => simpa [SecAcc.appendLeafHashes] using hi.foldl_appendNode [a]
  | [a, b] => simpa [SecAcc.appendLeafHashes] using hi.foldl_appendNode [a, b]
  | [a, b, c] => simpa [SecAcc.appendLeafHashes] using hi.foldl_appendNode [a, b, c]
termination_by hs.length

end Sia.Rhp
