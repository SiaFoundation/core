import SiaModel.Text.Policy
import SiaProofs.Lemmas.TextQuote
/-! Helper lemmas for C20: the tokenizer and parser of ParseSpendPolicy on printed policies. -/
namespace Sia.Text

/-- the text does not end in (ASCII) white space -/
def EndsOK (s : Txt) : Prop := s = [] ∨ ∃ init c, s = init ++ [c] ∧ isSpace c = false

theorem EndsOK.suffix {a b : Txt} (h : EndsOK (a ++ b)) : EndsOK b := by
  by_cases hb : b = []
  · left; exact hb
  · right
    rcases h with h | ⟨init, c, h, hc⟩
    · simp at h; exact absurd h.2 hb
    · obtain ⟨b', l, rfl⟩ : ∃ b' l, b = b' ++ [l] := ⟨b.dropLast, b.getLast hb, (List.dropLast_concat_getLast hb).symm⟩
      rw [← List.append_assoc] at h
      have := List.append_inj' h rfl
      simp at this
      exact ⟨b', l, rfl, by rw [this.2]; exact hc⟩

theorem EndsOK.tail {c : UInt8} {s : Txt} (h : EndsOK (c :: s)) : EndsOK s :=
  EndsOK.suffix (a := [c]) (by simpa using h)

theorem EndsOK.snoc (init : Txt) (c : UInt8) (hc : isSpace c = false) : EndsOK (init ++ [c]) :=
  Or.inr ⟨init, c, rfl, hc⟩

theorem EndsOK.append_left (a : Txt) {b : Txt} (h : EndsOK b) (hb : b ≠ []) : EndsOK (a ++ b) := by
  rcases h with h | ⟨init, c, rfl, hc⟩
  · exact absurd h hb
  · exact Or.inr ⟨a ++ init, c, by simp, hc⟩

theorem trimLeft_id (c : UInt8) (s : Txt) (h : isSpace c = false) : trimLeft (c :: s) = c :: s := by
  simp [trimLeft, h]

theorem trimRight_id {s : Txt} (h : EndsOK s) : trimRight s = s := by
  rcases h with rfl | ⟨init, c, rfl, hc⟩
  · rfl
  · simp [trimRight, trimLeft, hc]

theorem trimSpace_id (c : UInt8) (s : Txt) (hc : isSpace c = false) (h : EndsOK (c :: s)) :
    trimSpace (c :: s) = c :: s := by
  unfold trimSpace
  rw [trimLeft_id c s hc, trimRight_id h]

theorem trimSpace_nil : trimSpace [] = [] := rfl

def stdDelims : List UInt8 := [40, 41, 44, 91, 93]

def isDelim (c : UInt8) : Bool := stdDelims.contains c

theorem splitAny_tok (tok : Txt) (d : UInt8) (r : Txt) (ht : ∀ c ∈ tok, isDelim c = false) (hd : isDelim d = true) :
    splitAny stdDelims (tok ++ d :: r) = some (tok, d :: r) := by
  induction tok with
  | nil =>
    have hd' : stdDelims.contains d = true := hd
    simp only [List.nil_append, splitAny, hd', if_true]
  | cons c cs ih =>
    have hc : stdDelims.contains c = false := ht c (by simp)
    have := ih (fun x hx => ht x (by simp [hx]))
    simp only [List.cons_append, splitAny, hc, this]
    simp

theorem isDelim_not_space {d : UInt8} (h : isDelim d = true) : isSpace d = false := by
  unfold isDelim stdDelims at h
  simp at h
  rcases h with rfl | rfl | rfl | rfl | rfl <;> decide

/-- a token: free of delimiters, and trimming leaves it alone -/
structure TokOK (tok : Txt) : Prop where
  nodelim : ∀ c ∈ tok, isDelim c = false
  tight : trimSpace tok = tok
  start : ∀ c rest, tok = c :: rest → isSpace c = false

/-- a byte the tokenizer neither cuts at nor trims -/
abbrev Plain (c : UInt8) : Prop := isDelim c = false ∧ isSpace c = false

theorem tokOK_of_plain (tok : Txt) (h : ∀ c ∈ tok, Plain c) : TokOK tok := by
  refine ⟨fun c hc => (h c hc).1, ?_, fun c rest e => (h c (by simp [e])).2⟩
  match tok, h with
  | [], _ => rfl
  | c :: cs, h =>
    have hne : (c :: cs) ≠ [] := by simp
    exact trimSpace_id c cs (h c (by simp)).2
      (Or.inr ⟨_, _, (List.dropLast_concat_getLast hne).symm, (h _ (List.getLast_mem hne)).2⟩)

variable {cfg : Cfg}

theorem nextToken_tok (hcfg : cfg.delims = stdDelims) (tok : Txt) (d : UInt8) (r : Txt) (ht : TokOK tok)
    (hd : isDelim d = true) (he : EndsOK (d :: r)) :
    nextToken cfg ⟨tok ++ d :: r, false⟩ = (tok, ⟨d :: r, false⟩) := by
  have htrim : trimSpace (tok ++ d :: r) = tok ++ d :: r := by
    match tok, ht with
    | [], _ => exact trimSpace_id d r (isDelim_not_space hd) he
    | c :: cs, ht =>
      exact trimSpace_id c (cs ++ d :: r) (ht.start c cs rfl) (EndsOK.append_left (c :: cs) he (by simp))
  simp only [nextToken, htrim, hcfg, splitAny_tok tok d r ht.nodelim hd, ht.tight]
  simp

theorem consume_ok (d : UInt8) (r : Txt) (hd : isSpace d = false) (he : EndsOK (d :: r)) :
    consume d ⟨d :: r, false⟩ = ⟨r, false⟩ := by
  simp [consume, trimSpace_id d r hd he]

theorem peek_ok (d : UInt8) (r : Txt) (hd : isSpace d = false) (he : EndsOK (d :: r)) :
    peek ⟨d :: r, false⟩ = (d, ⟨d :: r, false⟩) := by
  simp [peek, trimSpace_id d r hd he]

theorem isAlnum_plain {c : UInt8} (h : isAlnum c = true) : Plain c := by
  have h : (65 ≤ c.toNat ∧ c.toNat ≤ 90) ∨ (97 ≤ c.toNat ∧ c.toNat ≤ 122) ∨ (48 ≤ c.toNat ∧ c.toNat ≤ 57) := by
    simpa [isAlnum] using h
  constructor
  · cases hd : isDelim c with
    | false => rfl
    | true =>
      have : c = 40 ∨ c = 41 ∨ c = 44 ∨ c = 91 ∨ c = 93 := by simpa [isDelim, stdDelims] using hd
      rcases this with rfl | rfl | rfl | rfl | rfl <;> simp at h
  · cases hs : isSpace c with
    | false => rfl
    | true =>
      have : c = 32 ∨ 9 ≤ c.toNat ∧ c.toNat ≤ 13 := by simpa [isSpace] using hs
      rcases this with rfl | this
      · simp at h
      · omega

theorem isDigit_plain {c : UInt8} (h : isDigit c = true) : Plain c :=
  isAlnum_plain (by have := isDigit_range h; simp [isAlnum]; omega)

theorem isHex_plain {c : UInt8} (h : isHex c = true) : Plain c :=
  isAlnum_plain (by have := isHex_range h; simp [isAlnum]; omega)

theorem tokOK_natToDec (n : Nat) : TokOK (natToDec n) :=
  tokOK_of_plain _ fun c hc => isDigit_plain (natToDec_digits n c hc)

theorem tokOK_intToDec (t : Int) : TokOK (intToDec t) := by
  unfold intToDec
  split
  · exact tokOK_of_plain _ (List.forall_mem_cons.2 ⟨by decide, fun c hc => isDigit_plain (natToDec_digits _ c hc)⟩)
  · exact tokOK_natToDec _

theorem hexEnc_plain (k : List UInt8) : ∀ c ∈ hexEnc k, Plain c :=
  fun c hc => isHex_plain (hexEnc_isHex k c hc)

theorem tokOK_hex0x (k : List UInt8) : TokOK (hex0x k) :=
  tokOK_of_plain _ (List.forall_mem_cons.2 ⟨by decide, List.forall_mem_cons.2 ⟨by decide, hexEnc_plain k⟩⟩)

theorem specString_cases (hi : Nat → Bool) (s : List UInt8) :
    (trimZeros s).all isAlnum = true ∧ specString hi s = trimZeros s
    ∨ (trimZeros s).all isAlnum ≠ true ∧ specString hi s = quote hi (trimZeros s) := by
  unfold specString
  by_cases h : (trimZeros s).all isAlnum = true
  · exact Or.inl ⟨h, by simp only [h, if_true]⟩
  · exact Or.inr ⟨h, by simp only [h]; rfl⟩

theorem ukText_plain_of_alnum (hi : Nat → Bool) (k : UnlockKey) (h : (trimZeros k.alg).all isAlnum = true) :
    ∀ c ∈ ukText hi k, Plain c ∧ c ≠ 34 := by
  intro c hc
  have e : specString hi k.alg = trimZeros k.alg := by
    rcases specString_cases hi k.alg with ⟨_, e⟩ | ⟨h', _⟩
    · exact e
    · exact absurd h h'
  rw [ukText, e, List.mem_append, List.mem_cons] at hc
  rcases hc with hc | rfl | hc
  · have := List.all_eq_true.mp h c hc
    exact ⟨isAlnum_plain this, isAlnum_ne_quote this⟩
  · decide
  · have := isHex_range (hexEnc_isHex k.key c hc)
    exact ⟨isHex_plain (hexEnc_isHex k.key c hc), ne_of_toNat_ne (by simp; omega)⟩

theorem ukText_safe_of_alnum (hi : Nat → Bool) (k : UnlockKey) (h : (trimZeros k.alg).all isAlnum = true) :
    ∀ c ∈ ukText hi k, isDelim c = false :=
  fun c hc => (ukText_plain_of_alnum hi k h c hc).1.1

theorem ukText_head (hi : Nat → Bool) (k : UnlockKey) :
    ∃ c cs, ukText hi k = c :: cs ∧ c ≠ 93 ∧ isSpace c = false := by
  rcases specString_cases hi k.alg with ⟨hal, e⟩ | ⟨_, e⟩
  · cases hk : ukText hi k with
    | nil => simp [ukText] at hk
    | cons c cs =>
      have := (ukText_plain_of_alnum hi k hal c (by simp [hk])).1
      exact ⟨c, cs, rfl, fun e => by rw [e] at this; exact absurd this.1 (by decide), this.2⟩
  · exact ⟨34, _, by rw [ukText, e]; rfl, by decide, by decide⟩

theorem tokOK_ukText (hi : Nat → Bool) (uk : UnlockKey) (h : ∀ c ∈ ukText hi uk, isDelim c = false) :
    TokOK (ukText hi uk) := by
  obtain ⟨c, cs, hc, _, hsp⟩ := ukText_head hi uk
  have hend : EndsOK (ukText hi uk) := by
    unfold ukText
    refine EndsOK.append_left _ ?_ (by simp)
    by_cases hk : hexEnc uk.key = []
    · rw [hk]; exact EndsOK.snoc [] 58 (by decide)
    · rw [← List.dropLast_concat_getLast hk, ← List.cons_append]
      exact EndsOK.snoc _ _ (hexEnc_plain uk.key _ (List.getLast_mem hk)).2
  refine ⟨h, ?_, fun c' rest e => by rw [hc] at e; cases e; exact hsp⟩
  rw [hc] at hend ⊢
  exact trimSpace_id c cs hsp hend

section
variable (hcfg : cfg.delims = stdDelims)
include hcfg

theorem parseIntTok_ok (bits n : Nat) (hn : n < 2 ^ bits) (d : UInt8) (r : Txt) (hd : isDelim d = true)
    (he : EndsOK (d :: r)) :
    parseIntTok cfg bits ⟨natToDec n ++ d :: r, false⟩ = (n, ⟨d :: r, false⟩) := by
  simp [parseIntTok, nextToken_tok hcfg _ d r (tokOK_natToDec n) hd he, parseUint_natToDec bits n hn]

theorem parseTimeTok_ok (t : Int) (h1 : -(2 ^ 63 : Int) ≤ t) (h2 : t < 2 ^ 63) (d : UInt8) (r : Txt)
    (hd : isDelim d = true) (he : EndsOK (d :: r)) :
    parseTimeTok cfg ⟨intToDec t ++ d :: r, false⟩ = (t, ⟨d :: r, false⟩) := by
  simp [parseTimeTok, nextToken_tok hcfg _ d r (tokOK_intToDec t) hd he, parseInt64_intToDec t h1 h2]

theorem parseHexTok_ok (k : List UInt8) (hk : k.length = 32) (d : UInt8) (r : Txt)
    (hd : isDelim d = true) (he : EndsOK (d :: r)) :
    parseHexTok cfg ⟨hex0x k ++ d :: r, false⟩ = (k, ⟨d :: r, false⟩) := by
  simp only [parseHexTok, nextToken_tok hcfg _ d r (tokOK_hex0x k) hd he]
  simp [hex0x, hexDec_hexEnc, hexEnc_length, hk]

omit hcfg in
theorem quotedPrefix_quote (hi : Nat → Bool) (b tail : Txt) :
    quotedPrefix (quote hi b ++ tail) = some (quote hi b, tail) := by
  have e : quote hi b ++ tail = 34 :: (quoteBody hi b.length b ++ 34 :: tail) := by simp [quote]
  rw [e]
  simp only [quotedPrefix]
  rw [unquoteLoop_quoteBody hi b.length b (Nat.le_refl _) tail [] _ (by simp)]
  simp only [Option.some.injEq, Prod.mk.injEq, and_true]
  rw [← e]
  have : (quote hi b ++ tail).length - tail.length = (quote hi b).length := by simp
  rw [this, List.take_left']
  rfl

omit hcfg in
theorem quotedPrefix_none (c : UInt8) (t : Txt) (h : c ≠ 34) : quotedPrefix (c :: t) = none := by
  unfold quotedPrefix
  split
  · rename_i rest heq
    simp at heq
    exact absurd heq.1 h
  · rfl

/-- the unlock-key reader on a printed key.  With the quoted-prefix step the printed key
    is always read back; without it the key text must be free of delimiters. -/
theorem parseKeyTok_ok (hi : Nat → Bool) (uk : UnlockKey) (hlen : uk.alg.length = cfg.specLen)
    (hq : cfg.quotedKeys = true ∨ ∀ c ∈ ukText hi uk, isDelim c = false) (d : UInt8) (r : Txt)
    (hd : isDelim d = true) (he : EndsOK (d :: r)) :
    parseKeyTok cfg ⟨ukText hi uk ++ d :: r, false⟩ = (uk, ⟨d :: r, false⟩) := by
  obtain ⟨c, cs, hc, _, hsp⟩ := ukText_head hi uk
  have htrim : trimSpace (ukText hi uk ++ d :: r) = ukText hi uk ++ d :: r := by
    have hE : EndsOK (ukText hi uk ++ d :: r) := EndsOK.append_left _ he (by simp)
    rw [hc] at hE ⊢
    exact trimSpace_id c _ hsp hE
  have plain : (∀ c ∈ ukText hi uk, isDelim c = false) →
      (cfg.quotedKeys = true → quotedPrefix (ukText hi uk ++ d :: r) = none) →
      parseKeyTok cfg ⟨ukText hi uk ++ d :: r, false⟩ = (uk, ⟨d :: r, false⟩) := by
    intro hsafe hnone
    have ht := nextToken_tok hcfg _ d r (tokOK_ukText hi uk hsafe) hd he
    by_cases hflag : cfg.quotedKeys = true
    · simp only [parseKeyTok, hflag, if_true, htrim, Bool.false_eq_true, if_false, hnone hflag, ht,
        List.nil_append, parseUk_ukText hi _ uk hlen]
    · simp only [parseKeyTok, hflag, Bool.false_eq_true, if_false, ht, List.nil_append, parseUk_ukText hi _ uk hlen]
  rcases specString_cases hi uk.alg with ⟨hal, _⟩ | ⟨_, hspec⟩
  · refine plain (ukText_safe_of_alnum hi uk hal) fun _ => ?_
    rw [hc]
    exact quotedPrefix_none c _ (ukText_plain_of_alnum hi uk hal c (by simp [hc])).2
  · by_cases hflag : cfg.quotedKeys = true
    · -- the quoted specifier is lifted off, the next token is ":<hex>"
      have e : ukText hi uk = quote hi (trimZeros uk.alg) ++ 58 :: hexEnc uk.key := by rw [ukText, hspec]
      have htok : TokOK (58 :: hexEnc uk.key) :=
        tokOK_of_plain _ (List.forall_mem_cons.2 ⟨by decide, hexEnc_plain uk.key⟩)
      simp only [parseKeyTok, hflag, if_true, htrim, Bool.false_eq_true, if_false]
      rw [e, List.append_assoc, quotedPrefix_quote]
      simp only [nextToken_tok hcfg _ d r htok hd he, Bool.false_eq_true, if_false, ← e,
        parseUk_ukText hi _ uk hlen]
    · exact plain (hq.resolve_left hflag) fun h => absurd h hflag

end

/-! ## well-formedness of policy values, and the two exclusions -/

mutual
  /-- every field fits its Go type (uint64 heights/timelocks/counts, uint8 threshold,
      int64 Unix seconds, 32-byte keys/hashes/addresses, 16-byte specifiers) -/
  def Policy.WF : Policy → Prop
    | .above h => h < 2 ^ 64
    | .after t => -(2 ^ 63 : Int) ≤ t ∧ t < 2 ^ 63
    | .pk k => k.length = 32
    | .hash h => h.length = 32
    | .thresh n ps => n < 2 ^ 8 ∧ PolicyList.WF ps
    | .opaque a => a.length = 32
    | .uc tl ks sg => tl < 2 ^ 64 ∧ sg < 2 ^ 64 ∧ ∀ k ∈ ks, k.alg.length = 16
  def PolicyList.WF : PolicyList → Prop
    | .nil => True
    | .cons p ps => Policy.WF p ∧ PolicyList.WF ps
end

mutual
  /-- exclusion F2: every `uc` signature count fits the bit size the parser uses -/
  def Policy.SigFits (bits : Nat) : Policy → Prop
    | .thresh _ ps => PolicyList.SigFits bits ps
    | .uc _ _ sg => sg < 2 ^ bits
    | _ => True
  def PolicyList.SigFits (bits : Nat) : PolicyList → Prop
    | .nil => True
    | .cons p ps => Policy.SigFits bits p ∧ PolicyList.SigFits bits ps
end

mutual
  /-- exclusion F3: no `uc` key text contains one of the tokenizer's delimiters
      (hex and alphanumeric specifiers never do; a quoted specifier may) -/
  def Policy.KeysSafe (hi : Nat → Bool) : Policy → Prop
    | .thresh _ ps => PolicyList.KeysSafe hi ps
    | .uc _ ks _ => ∀ k ∈ ks, ∀ c ∈ ukText hi k, isDelim c = false
    | _ => True
  def PolicyList.KeysSafe (hi : Nat → Bool) : PolicyList → Prop
    | .nil => True
    | .cons p ps => Policy.KeysSafe hi p ∧ PolicyList.KeysSafe hi ps
end

mutual
  def Policy.size : Policy → Nat
    | .thresh _ ps => 1 + PolicyList.size ps
    | _ => 1
  def PolicyList.size : PolicyList → Nat
    | .nil => 1
    | .cons p ps => 1 + Policy.size p + PolicyList.size ps
end

/-- the parser configuration the proofs are written for (shown of `goCfg` by `tie_policy_cfg`) -/
structure CfgStd (cfg : Cfg) : Prop where
  delims : cfg.delims = stdDelims
  above : cfg.aboveBits = 64
  thresh : cfg.threshBits = 8
  timelock : cfg.ucTimelockBits = 64
  spec : cfg.specLen = 16

/-! ## bracketed, comma-separated lists (the keys of `uc`, the sub-policies of `thresh`) -/

theorem EndsOK.cons (d : UInt8) {t : Txt} (hd : isSpace d = false) (h : EndsOK t) : EndsOK (d :: t) := by
  by_cases ht : t = []
  · subst ht; exact EndsOK.snoc [] d hd
  · exact EndsOK.append_left [d] h ht

theorem peek_append {s : Txt} {c : UInt8} {cs : Txt} (hs : s = c :: cs) (hc : isSpace c = false) {t : Txt}
    (ht : EndsOK t) (hne : t ≠ []) : peek ⟨s ++ t, false⟩ = (c, ⟨s ++ t, false⟩) := by
  have hE := EndsOK.append_left s ht hne
  rw [hs] at hE ⊢
  exact peek_ok c _ hc hE

/-- what follows an item of such a list: `]` after the last one, else `,` and the other items `t` -/
def sep (last : Bool) (t r : Txt) : Txt := if last then 93 :: r else 44 :: (t ++ 93 :: r)

/-- it starts with a delimiter, and the loop's `if peek() != ']' { consume(',') }` leaves `t ++ "]" ++ r` -/
theorem sep_ok (last : Bool) (t r : Txt) (he : EndsOK (93 :: r)) (ht : last = true → t = []) :
    ∃ d r', sep last t r = d :: r' ∧ isDelim d = true ∧ EndsOK (d :: r') ∧
      peek ⟨d :: r', false⟩ = (d, ⟨d :: r', false⟩) ∧
      (if d ≠ 93 then consume 44 ⟨d :: r', false⟩ else ⟨d :: r', false⟩) = ⟨t ++ 93 :: r, false⟩ := by
  cases last with
  | true => exact ⟨93, r, rfl, by decide, he, peek_ok 93 r (by decide) he, by simp [ht rfl]⟩
  | false =>
    have he' : EndsOK (44 :: (t ++ 93 :: r)) := .cons 44 (by decide) (.append_left _ he (by simp))
    exact ⟨44, _, rfl, by decide, he', peek_ok 44 _ (by decide) he', by simp [consume_ok 44 _ (by decide) he']⟩

theorem joinKeys_cons (hi : Nat → Bool) (k : UnlockKey) (ks : List UnlockKey) (r : Txt) :
    joinKeys hi (k :: ks) ++ 93 :: r = ukText hi k ++ sep ks.isEmpty (joinKeys hi ks) r := by
  cases ks <;> simp [joinKeys, sep]

theorem parseKeys_ok (hcfg : cfg.delims = stdDelims) (hi : Nat → Bool) :
    ∀ (ks : List UnlockKey) (fuel : Nat) (r : Txt), ks.length + 1 ≤ fuel →
    (∀ k ∈ ks, k.alg.length = cfg.specLen) →
    (cfg.quotedKeys = true ∨ ∀ k ∈ ks, ∀ c ∈ ukText hi k, isDelim c = false) →
    EndsOK (93 :: r) →
    parseKeys cfg fuel ⟨joinKeys hi ks ++ 93 :: r, false⟩ = (ks, ⟨93 :: r, false⟩)
  | _, 0, _, hf, _, _, _ => absurd hf (by simp)
  | [], f + 1, r, _, _, _, he => by simp [parseKeys, joinKeys, peek_ok 93 r (by decide) he]
  | k :: ks, f + 1, r, hf, hlen, hsafe, he => by
    obtain ⟨c, cs, hc, hne, hsp⟩ := ukText_head hi k
    obtain ⟨d, r', hd, hdel, hE, hpk, hstep⟩ := sep_ok ks.isEmpty (joinKeys hi ks) r he
      (by cases ks <;> simp [joinKeys])
    rw [joinKeys_cons, hd]
    simp only [parseKeys, Bool.false_eq_true, if_false, peek_append hc hsp hE (by simp), hne,
      parseKeyTok_ok hcfg hi k (hlen k (by simp)) (hsafe.imp id fun h => h k (by simp)) d r' hdel hE, hpk, hstep,
      parseKeys_ok hcfg hi ks f r (by simp at hf ⊢; omega) (fun x hx => hlen x (by simp [hx]))
        (hsafe.imp id fun h x hx => h x (by simp [hx])) he]

theorem joinKeys_length (hi : Nat → Bool) (ks : List UnlockKey) : ks.length ≤ (joinKeys hi ks).length := by
  induction ks with
  | nil => simp [joinKeys]
  | cons k ks ih =>
    have : 1 ≤ (ukText hi k).length := by
      obtain ⟨c, cs, h, _⟩ := ukText_head hi k
      simp [h]
    cases ks with
    | nil => simpa [joinKeys] using this
    | cons k' ks' => simp [joinKeys] at ih ⊢; omega

/-- `parseSP` between "kw(" and ")": the `switch typ` that reads the arguments -/
def spArgs (cfg : Cfg) (f : Nat) (typ : Txt) (st : St) : Policy × St :=
  if typ = kwAbove then
    let (u, st) := parseIntTok cfg cfg.aboveBits st
    (.above u, st)
  else if typ = kwAfter then
    let (t, st) := parseTimeTok cfg st
    (.after t, st)
  else if typ = kwPk then
    let (k, st) := parseHexTok cfg st
    (.pk k, st)
  else if typ = kwH then
    let (k, st) := parseHexTok cfg st
    (.hash k, st)
  else if typ = kwThresh then
    let (n, st) := parseIntTok cfg cfg.threshBits st
    let st := consume 44 st
    let st := consume 91 st
    let (ps, st) := parseSPList cfg f st
    let st := consume 93 st
    (.thresh n ps, st)
  else if typ = kwOpaque then
    let (k, st) := parseHexTok cfg st
    (.opaque k, st)
  else if typ = kwUc then
    let (tl, st) := parseIntTok cfg cfg.ucTimelockBits st
    let st := consume 44 st
    let st := consume 91 st
    let (ks, st) := parseKeys cfg (st.s.length + 1) st
    let st := consume 93 st
    let st := consume 44 st
    let (sg, st) := parseIntTok cfg cfg.ucSigBits st
    (.uc tl ks sg, st)
  else (.above 0, { st with err := true })

theorem parseSP_succ (f : Nat) (st : St) : parseSP cfg (f + 1) st =
    (let (typ, st) := nextToken cfg st
     let (p, st) := spArgs cfg f typ (consume 40 st)
     (p, consume 41 st)) := by
  simp only [parseSP, spArgs]

/-- "kw(" body ")" where the arguments of kind `kw` read `p` off `body` up to the ")" -/
theorem parseSP_frame (hd : cfg.delims = stdDelims) (f : Nat) {kw body rest : Txt} {p : Policy}
    (hk : ∀ c ∈ kw, Plain c) (hb : EndsOK (40 :: body)) (he : EndsOK rest)
    (harg : spArgs cfg f kw ⟨body, false⟩ = (p, ⟨41 :: rest, false⟩)) :
    parseSP cfg (f + 1) ⟨kw ++ 40 :: body, false⟩ = (p, ⟨rest, false⟩) := by
  rw [parseSP_succ, nextToken_tok hd kw 40 body (tokOK_of_plain kw hk) (by decide) hb]
  simp only [consume_ok 40 body (by decide) hb, harg, consume_ok 41 rest (by decide) (.cons 41 (by decide) he)]

/-- the kinds with one argument: `reader` reads the value `v` that `C` wraps -/
theorem parseSP_leaf (hd : cfg.delims = stdDelims) (f : Nat) {α : Type} (reader : St → α × St) (C : α → Policy)
    {kw arg rest : Txt} {v : α} (hk : ∀ c ∈ kw, Plain c)
    (hkw : ∀ st, spArgs cfg f kw st = (C (reader st).1, (reader st).2)) (he : EndsOK rest)
    (hread : EndsOK (41 :: rest) → reader ⟨arg ++ 41 :: rest, false⟩ = (v, ⟨41 :: rest, false⟩)) :
    parseSP cfg (f + 1) ⟨(kw ++ 40 :: (arg ++ [41])) ++ rest, false⟩ = (C v, ⟨rest, false⟩) := by
  have e41 := EndsOK.cons 41 (by decide) he
  have e : (kw ++ 40 :: (arg ++ [41])) ++ rest = kw ++ 40 :: (arg ++ 41 :: rest) := by simp
  rw [e]
  exact parseSP_frame hd f hk (.cons 40 (by decide) (.append_left _ e41 (by simp))) he (by rw [hkw, hread e41])

theorem Policy.size_pos (p : Policy) : 0 < p.size := by
  cases p <;> simp only [Policy.size] <;> omega

theorem str_head (hi : Nat → Bool) (p : Policy) :
    ∃ c cs, Policy.str hi p = c :: cs ∧ c ≠ 93 ∧ isSpace c = false := by
  cases p <;> exact ⟨_, _, rfl, by decide, by decide⟩

section
set_option linter.unusedSectionVars false
variable (hc : CfgStd cfg) (hi : Nat → Bool)
include hc

mutual
  theorem parseSP_str : ∀ (p : Policy) (f : Nat) (rest : Txt), p.WF → p.SigFits cfg.ucSigBits →
      (cfg.quotedKeys = true ∨ p.KeysSafe hi) →
      p.size ≤ f → EndsOK rest →
      parseSP cfg f ⟨Policy.str hi p ++ rest, false⟩ = (p, ⟨rest, false⟩)
    | p, 0, _, _, _, _, hf, _ => absurd hf (Nat.not_le.2 p.size_pos)
    | .above h, f + 1, rest, hwf, _, _, _, he =>
      parseSP_leaf hc.delims f (parseIntTok cfg cfg.aboveBits) .above (by decide) (fun _ => rfl) he
        (hc.above ▸ parseIntTok_ok hc.delims 64 h hwf 41 rest (by decide))
    | .after t, f + 1, rest, hwf, _, _, _, he =>
      parseSP_leaf hc.delims f (parseTimeTok cfg) .after (by decide) (fun _ => rfl) he
        (parseTimeTok_ok hc.delims t hwf.1 hwf.2 41 rest (by decide))
    | .pk k, f + 1, rest, hwf, _, _, _, he =>
      parseSP_leaf hc.delims f (parseHexTok cfg) .pk (by decide) (fun _ => rfl) he
        (parseHexTok_ok hc.delims k hwf 41 rest (by decide))
    | .hash k, f + 1, rest, hwf, _, _, _, he =>
      parseSP_leaf hc.delims f (parseHexTok cfg) .hash (by decide) (fun _ => rfl) he
        (parseHexTok_ok hc.delims k hwf 41 rest (by decide))
    | .opaque k, f + 1, rest, hwf, _, _, _, he =>
      parseSP_leaf hc.delims f (parseHexTok cfg) .opaque (by decide) (fun _ => rfl) he
        (parseHexTok_ok hc.delims k hwf 41 rest (by decide))
    | .uc tl ks sg, f + 1, rest, hwf, hsig, hkeys, _, he => by
      -- uc( tl ,[ keys ], sg )
      have e41 := EndsOK.cons 41 (by decide) he
      let t5 := natToDec sg ++ 41 :: rest
      have e5 : EndsOK (44 :: t5) := .cons 44 (by decide) (.append_left _ e41 (by simp))
      have e4 : EndsOK (93 :: 44 :: t5) := .cons 93 (by decide) e5
      have e3 : EndsOK (91 :: (joinKeys hi ks ++ 93 :: 44 :: t5)) := .cons 91 (by decide) (.append_left _ e4 (by simp))
      have e2 : EndsOK (44 :: 91 :: (joinKeys hi ks ++ 93 :: 44 :: t5)) := .cons 44 (by decide) e3
      have e : Policy.str hi (.uc tl ks sg) ++ rest
          = kwUc ++ 40 :: (natToDec tl ++ 44 :: 91 :: (joinKeys hi ks ++ 93 :: 44 :: t5)) := by simp [Policy.str, t5]
      have hkeysOK := parseKeys_ok hc.delims hi ks ((joinKeys hi ks ++ 93 :: 44 :: t5).length + 1) (44 :: t5)
        (by have := joinKeys_length hi ks; simp; omega)
        (fun k hk => by rw [hc.spec]; exact hwf.2.2 k hk) hkeys e4
      rw [e]
      refine parseSP_frame hc.delims f (by decide) (.cons 40 (by decide) (.append_left _ e2 (by simp))) he ?_
      simp (decide := true) only [spArgs, if_false, if_true, hc.timelock,
        parseIntTok_ok hc.delims 64 tl hwf.1 44 _ (by decide) e2, consume_ok 44 _ (by decide) e2,
        consume_ok 91 _ (by decide) e3, hkeysOK, consume_ok 93 _ (by decide) e4, consume_ok 44 _ (by decide) e5,
        parseIntTok_ok hc.delims cfg.ucSigBits sg hsig 41 rest (by decide) e41, t5]
    | .thresh n ps, f + 1, rest, hwf, hsig, hkeys, hf, he => by
      have e4 : EndsOK (93 :: 41 :: rest) := .cons 93 (by decide) (.cons 41 (by decide) he)
      have e3 : EndsOK (91 :: (PolicyList.str hi ps ++ 93 :: 41 :: rest)) := .cons 91 (by decide) (.append_left _ e4 (by simp))
      have e2 : EndsOK (44 :: 91 :: (PolicyList.str hi ps ++ 93 :: 41 :: rest)) := .cons 44 (by decide) e3
      have e : Policy.str hi (.thresh n ps) ++ rest
          = kwThresh ++ 40 :: (natToDec n ++ 44 :: 91 :: (PolicyList.str hi ps ++ 93 :: 41 :: rest)) := by simp [Policy.str]
      have hlist := parseSPList_str ps f (41 :: rest) hwf.2 hsig hkeys (by simp [Policy.size] at hf; omega) e4
      rw [e]
      refine parseSP_frame hc.delims f (by decide) (.cons 40 (by decide) (.append_left _ e2 (by simp))) he ?_
      simp (decide := true) only [spArgs, if_false, if_true, hc.thresh,
        parseIntTok_ok hc.delims 8 n hwf.1 44 _ (by decide) e2, consume_ok 44 _ (by decide) e2,
        consume_ok 91 _ (by decide) e3, hlist, consume_ok 93 _ (by decide) e4]
  theorem parseSPList_str : ∀ (ps : PolicyList) (f : Nat) (r : Txt), ps.WF → ps.SigFits cfg.ucSigBits →
      (cfg.quotedKeys = true ∨ ps.KeysSafe hi) →
      ps.size ≤ f → EndsOK (93 :: r) →
      parseSPList cfg f ⟨PolicyList.str hi ps ++ 93 :: r, false⟩ = (ps, ⟨93 :: r, false⟩)
    | ps, 0, _, _, _, _, hf, _ => absurd hf (by cases ps <;> simp [PolicyList.size])
    | .nil, f + 1, r, _, _, _, _, he => by simp [parseSPList, PolicyList.str, peek_ok 93 r (by decide) he]
    | .cons p ps, f + 1, r, hwf, hsig, hkeys, hf, he => by
      obtain ⟨c, cs, hcs, hne, hsp⟩ := str_head hi p
      obtain ⟨last, e, hl⟩ : ∃ last, PolicyList.str hi (.cons p ps) ++ 93 :: r
          = Policy.str hi p ++ sep last (PolicyList.str hi ps) r ∧ (last = true → PolicyList.str hi ps = []) := by
        cases ps
        · exact ⟨true, by simp [PolicyList.str, sep], fun _ => rfl⟩
        · exact ⟨false, by simp [PolicyList.str, sep], nofun⟩
      obtain ⟨d, r', hd, hdel, hE, hpk, hstep⟩ := sep_ok last (PolicyList.str hi ps) r he hl
      simp only [PolicyList.size] at hf
      rw [e, hd]
      simp only [parseSPList, Bool.false_eq_true, if_false, peek_append hcs hsp hE (by simp), hne,
        parseSP_str p f (d :: r') hwf.1 hsig.1 (hkeys.imp id (·.1)) (by omega) hE, hpk, hstep,
        parseSPList_str ps f r hwf.2 hsig.2 (hkeys.imp id (·.2)) (by omega) he]
end

end

/-! ## fuel: the length of the printed text bounds the recursion -/

theorem natToDec_length_pos (n : Nat) : 1 ≤ (natToDec n).length :=
  List.length_pos_iff.2 (natToDec_ne_nil n)

mutual
  theorem size_le_str (hi : Nat → Bool) : ∀ p : Policy, p.size + 2 ≤ (Policy.str hi p).length
    | .above h => by simp [Policy.size, Policy.str, kwAbove]
    | .after t => by simp [Policy.size, Policy.str, kwAfter]
    | .pk k => by simp [Policy.size, Policy.str, kwPk, hex0x]
    | .hash k => by simp [Policy.size, Policy.str, kwH, hex0x]
    | .opaque k => by simp [Policy.size, Policy.str, kwOpaque, hex0x]
    | .uc tl ks sg => by simp [Policy.size, Policy.str, kwUc]
    | .thresh n ps => by
      have := sizeL_le_str hi ps
      simp [Policy.size, Policy.str, kwThresh]; omega
  theorem sizeL_le_str (hi : Nat → Bool) : ∀ ps : PolicyList, ps.size ≤ (PolicyList.str hi ps).length + 1
    | .nil => by simp [PolicyList.size, PolicyList.str]
    | .cons p .nil => by
      have := size_le_str hi p
      simp [PolicyList.size, PolicyList.str]; omega
    | .cons p (.cons p' ps') => by
      have h1 := size_le_str hi p
      have h2 := sizeL_le_str hi (.cons p' ps')
      simp [PolicyList.size, PolicyList.str] at h2 ⊢; omega
end

theorem parsePolicy_str (hc : CfgStd cfg) (hi : Nat → Bool) (p : Policy) (hwf : p.WF)
    (hsig : p.SigFits cfg.ucSigBits) (hkeys : cfg.quotedKeys = true ∨ p.KeysSafe hi) :
    parsePolicy cfg (Policy.str hi p) = some p := by
  have hsz := size_le_str hi p
  have := parseSP_str hc hi p ((Policy.str hi p).length + 1) [] hwf hsig hkeys (by omega) (Or.inl rfl)
  rw [List.append_nil] at this
  simp [parsePolicy, this]

mutual
  theorem sigFits_of_wf : ∀ p : Policy, p.WF → p.SigFits 64
    | .above _, _ => trivial
    | .after _, _ => trivial
    | .pk _, _ => trivial
    | .hash _, _ => trivial
    | .opaque _, _ => trivial
    | .uc _ _ _, h => h.2.1
    | .thresh _ ps, h => sigFitsL_of_wf ps h.2
  theorem sigFitsL_of_wf : ∀ ps : PolicyList, ps.WF → ps.SigFits 64
    | .nil, _ => trivial
    | .cons p ps, h => ⟨sigFits_of_wf p h.1, sigFitsL_of_wf ps h.2⟩
end

end Sia.Text
