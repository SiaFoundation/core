/-
  SiaProofs.Lemmas.MultiproofBits — the numLeaves inference of
  V2TransactionsMultiproof.EncodeTo recovers every proof length in DecodeFrom.
-/
import SiaProofs.Lemmas.Bits
namespace Sia.Multiproof
open Sia.ElemAcc

/-- the term a leaf of the tree of height `h` contributes is `N` with its low `h` bits cleared -/
theorem term_eq {N h idx : Nat} (hin : InTree N h idx) : clearBits idx h ||| 2 ^ h = clearBits N h := by
  have hS : clearBits idx h = treeStart N h := by
    rw [clearBits_eq_anc]
    exact anc_eq (Nat.dvd_trans (Nat.pow_dvd_pow 2 (Nat.le_succ h)) (treeStart_dvd N h)) hin.2.1 hin.2.2
  rw [hS, clearBits_of_testBit hin.1, treeStart, Nat.mul_comm]
  exact (Nat.two_pow_add_eq_or_of_lt (Nat.pow_lt_pow_right (by decide) (Nat.lt_succ_self h)) _).symm

theorem testBit_foldl_or {α : Type} (f : α → Nat) (l : List α) (acc j : Nat) :
    (l.foldl (fun a x => a ||| f x) acc).testBit j = true ↔ acc.testBit j = true ∨ ∃ x ∈ l, (f x).testBit j = true := by
  induction l generalizing acc with
  | nil => simp
  | cons a l ih =>
    rw [List.foldl_cons, ih, Nat.testBit_or, Bool.or_eq_true, or_assoc]
    simp only [List.mem_cons, exists_eq_or_imp]

theorem div_eq_of_testBit_ge {A B k : Nat} (h : ∀ j, k ≤ j → A.testBit j = B.testBit j) : A / 2 ^ k = B / 2 ^ k := by
  apply Nat.eq_of_testBit_eq
  intro i
  rw [Nat.testBit_div_two_pow, Nat.testBit_div_two_pow]
  exact h _ (Nat.le_add_left k i)

/-- **The numLeaves inference recovers every proof length.** For leaves `(idx_i, len_i)`
    of one forest with `N` leaves (`InTree N len_i idx_i`), the value
    `N' = OR_i ((idx_i &^ (2^len_i − 1)) | 2^len_i)` written by the encoder need not be
    `N`, but `idx_i < N'` and `bits.Len64(idx_i ^ N') − 1 = len_i` for every leaf. -/
theorem numLeaves_recovers (N : Nat) {α : Type} (idx len : α → Nat) (leaves : List α)
    (hin : ∀ l ∈ leaves, InTree N (len l) (idx l)) :
    let N' := leaves.foldl (fun acc l => acc ||| (clearBits (idx l) (len l) ||| 2 ^ len l)) 0
    ∀ l ∈ leaves, idx l < N' ∧ bitLen (idx l ^^^ N') - 1 = len l := by
  intro N' l hl
  -- `N'` is the OR of copies of `N` with low bits cleared, `len l` of them in one copy
  have hbits : ∀ j, len l ≤ j → N'.testBit j = N.testBit j := by
    intro j hj
    have hiff := testBit_foldl_or (fun l => clearBits (idx l) (len l) ||| 2 ^ len l) leaves 0 j
    cases hN : N.testBit j with
    | true =>
      refine hiff.2 (Or.inr ⟨l, hl, ?_⟩)
      rw [term_eq (hin l hl), testBit_clearBits, hN, decide_eq_true hj]; rfl
    | false =>
      refine Bool.eq_false_iff.2 fun hN' => ?_
      rcases hiff.1 hN' with h0 | ⟨x, hx, hxb⟩
      · rw [Nat.zero_testBit] at h0; cases h0
      · rw [term_eq (hin x hx), testBit_clearBits, hN, Bool.and_false] at hxb; cases hxb
  have hd1 : N' / 2 ^ (len l + 1) = N / 2 ^ (len l + 1) := div_eq_of_testBit_ge fun j hj => hbits j (Nat.le_of_succ_le hj)
  obtain ⟨hbit, hlo, hhi⟩ := hin l hl
  have hin' : InTree N' (len l) (idx l) := by
    refine ⟨by rw [hbits _ (Nat.le_refl _)]; exact hbit, ?_, ?_⟩ <;> (unfold treeStart at *; rw [hd1]; assumption)
  refine ⟨inTree_lt hin', ?_⟩
  have := treeHeight_unique hin'
  unfold treeHeight at this
  rw [Nat.xor_comm]; exact this

end Sia.Multiproof
