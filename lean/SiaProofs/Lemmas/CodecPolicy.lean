import SiaProofs.Lemmas.CodecBitmap
import SiaModel.Codec.Policy
/-! The policy codec satisfies the leaf laws (`CodecOK`): `Codec.fail`, `Codec.list8`, and the
recursion on the remaining depth. -/
namespace Sia.Codec

theorem Codec.fail_ok : CodecOK Codec.fail := by
  constructor <;> simp [Codec.fail]

theorem list8_pays {c : Codec} (hc : CodecOK c) (hm : 1 ≤ c.minLen) (hg : c.guarded = true) (k : Nat) :
    Pays ((Codec.list8 c).dec false k) ((Codec.list8 c).alloc k) (c.depth + 256) k := by
  -- the count byte pays for the (at most 255) slots claimed at once
  have hdr : Pays (takeN 1) (fun bs => match takeN 1 bs with | .ok (a, _) => leVal a | .error _ => 0) (c.depth + 256) k := by
    intro bs
    dsimp only
    split
    · rename_i a r h
      obtain ⟨hb, hl⟩ := takeN_ok h
      have := leVal_one_lt hl
      have e1 : bs.length = r.length + 1 := by rw [hb, List.length_append, hl, Nat.add_comm]
      simp only [e1, Nat.mul_add, Nat.add_mul, Nat.mul_one]
      exact ⟨by omega, fun a' r' h' => by cases h.symm.trans h'; exact ⟨by omega, by omega⟩⟩
    · rename_i e h
      exact ⟨Nat.zero_le _, fun a r h' => by cases h.symm.trans h'⟩
  exact hdr.seq (fun bs a r h => ⟨_, _,
      (((hc.pays hg k).rep (fun _ _ _ hd => Nat.le_trans (Nat.add_le_add_left hm _) (hc.consumes hd))
        (leVal a)).mono (Nat.add_le_add_left (by decide) _)),
      by simp only [Codec.list8, h], fun v rest hv => by
        simp only [Codec.list8, h] at hv
        exact let ⟨vs, hvs, _⟩ := okList_ok hv; ⟨vs, hvs⟩⟩)
    (fun bs e h => by simp only [Codec.list8, h]; exact ⟨trivial, nofun⟩)

theorem list8_ok {c : Codec} (hc : CodecOK c) (hm : 1 ≤ c.minLen) : CodecOK (Codec.list8 c) := by
  have canon_inv : ∀ {v}, (Codec.list8 c).canon v = true →
      ∃ vs, v = .list vs ∧ vs.length < 256 ∧ ∀ w ∈ vs, c.canon w = true := fun {v} h =>
    match v, h with
    | .list vs, h =>
      have h := (Bool.and_eq_true _ _).mp h
      ⟨vs, rfl, of_decide_eq_true h.1, List.all_eq_true.mp h.2⟩
  refine .of_sound ?_ ?_ ?_ ?_ ?_
  · intro st k v rest hcan
    obtain ⟨vs, rfl, hn, hall⟩ := canon_inv hcan
    simp only [Codec.list8, List.append_assoc]
    rw [takeN_append' _ _ (leBytes_length 1 vs.length)]
    simp only [leVal_leBytes_one hn]
    rw [decRep_roundtrip (fun w hw r => hc.roundtrip st k w r (hall w hw))]
    rfl
  · intro st k bs v rest h
    simp only [Codec.list8] at h ⊢
    split at h
    · rename_i a r h1
      obtain ⟨hb, hl⟩ := takeN_ok h1
      obtain ⟨vs, h2, rfl⟩ := okList_ok h
      obtain ⟨hlen, hall, cs, hcs, hs⟩ := decRep_sound (g := c.enc) (P := fun v => c.canon v = true)
        (str := st = true) (fun bs v r hf => let ⟨cn, cs, hb, _, hs⟩ := hc.sound hf; ⟨cn, cs, hb, hs⟩) h2
      refine ⟨(Bool.and_eq_true _ _).mpr ⟨decide_eq_true (hlen ▸ leVal_one_lt hl), List.all_eq_true.mpr hall⟩,
        a ++ cs, by rw [hb, hcs, List.append_assoc], by rw [List.length_append, hl]; exact Nat.le_add_right 1 _,
        fun e => ?_⟩
      show a ++ cs = leBytes 1 vs.length ++ encList c.enc vs
      rw [hs e, hlen, leBytes_one_leVal hl]
    · cases h
  · intro st k v p q hcan h hq
    obtain ⟨vs, rfl, hn, hall⟩ := canon_inv hcan
    simp only [Codec.list8] at h ⊢
    rcases prefix_split h with ⟨q', h1, hq'⟩ | ⟨p', rfl, h2⟩
    · rw [takeN_short (Nat.lt_of_lt_of_eq (prefix_len_lt h1 hq') (leBytes_length 1 _))]; exact ⟨_, rfl⟩
    · rw [takeN_append' _ _ (leBytes_length 1 vs.length)]
      simp only [leVal_leBytes_one hn]
      obtain ⟨e, he⟩ := decRep_trunc (f := c.dec st k) (g := c.enc)
        (fun w hw r => hc.roundtrip st k w r (hall w hw))
        (fun w hw p q hpq hq => hc.trunc st k w p q (hall w hw) hpq hq) h2 hq
      rw [he]; exact ⟨_, rfl⟩
  · intro hg st k bs
    simp only [Codec.list8] at hg ⊢
    split
    · unfold okList
      split
      · simp
      · rename_i e h2; intro h; injection h with h; subst h
        obtain ⟨bs', hb⟩ := decRep_error h2
        exact hc.no_panic hg st k bs' hb
    · rename_i e h1; have := (takeN_error h1).1; subst this; simp
  · exact list8_pays hc hm

namespace Policy

theorem uc_wf (E : Env) : Gen.encSchema_Types_UnlockConditions.wf E = true := by
  simp [Gen.encSchema_Types_UnlockConditions, Gen.encSchema_Types_UnlockKey, Gen.encSchema_Types_Specifier,
    Sch.wf, Sch.minLen, Atom.codec]

theorem thresh_wf (E : Env) : threshSch.wf E = true := by
  simp [threshSch, Sch.seq, Sch.wf]

theorem node_minLen (E : Env) (f : Nat) : (node E f).minLen = 1 := by
  cases f <;> rfl

theorem node_ok {E : Env} (hE : EnvOK E) (f : Nat) : CodecOK (node E f) := by
  induction f with
  | zero =>
    have hch : EnvOK (childEnv E Codec.fail) := Env.with_ok hE _ (list8_ok Codec.fail_ok (by simp [Codec.fail]))
    exact tagged_ok (tagsOK_cons (ofSch_ok hE _ rfl) <| tagsOK_cons (ofSch_ok hE _ rfl) <|
      tagsOK_cons (ofSch_ok hE _ rfl) <| tagsOK_cons (ofSch_ok hE _ rfl) <|
      tagsOK_cons (ofSch_ok hch _ (thresh_wf _)) <| tagsOK_cons (ofSch_ok hE _ rfl) <|
      tagsOK_cons (ofSch_ok hE _ (uc_wf E)) tagsOK_nil)
  | succ f ih =>
    have hch : EnvOK (childEnv E (node E f)) :=
      Env.with_ok hE _ (list8_ok ih (by rw [node_minLen]; exact Nat.le_refl 1))
    exact tagged_ok (tagsOK_cons (ofSch_ok hE _ rfl) <| tagsOK_cons (ofSch_ok hE _ rfl) <|
      tagsOK_cons (ofSch_ok hE _ rfl) <| tagsOK_cons (ofSch_ok hE _ rfl) <|
      tagsOK_cons (ofSch_ok hch _ (thresh_wf _)) <| tagsOK_cons (ofSch_ok hE _ rfl) <|
      tagsOK_cons (ofSch_ok hE _ (uc_wf E)) tagsOK_nil)

theorem codec_ok {E : Env} (hE : EnvOK E) : CodecOK (codec E) :=
  tagged_ok (tagsOK_cons (node_ok hE maxDepth) tagsOK_nil)

end Policy

end Sia.Codec
