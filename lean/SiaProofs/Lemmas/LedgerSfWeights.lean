import SiaProofs.Lemmas.LedgerCensus
import SiaProofs.Lemmas.LedgerFees
/-!
# Pool solvency as weighted sums over live siafund elements

`Psi` (claimable amount, times 10000) is `sfW` at the weight `w o = o.value * (pool − o.claimStart)`; `CsOk` (every
live element has `claimStart ≤ pool`) is the vanishing of an indicator weight.  `psi_txn` is what one transaction does
to them.
-/
namespace Sia.Ledger

/-- claimable amount (times 10000) of one live element when the pool stands at `pool` -/
def psiW (pool : Cur) : SfElem → Nat := fun o => o.value * (pool - o.claimStart)

/-- 1 iff the element's claim start lies above `pool` (a later `claimPortion` would underflow) -/
def csBad (pool : Cur) : SfElem → Nat := fun o => if o.claimStart ≤ pool then 0 else 1

def Psi (ms : Mid) : Nat := sfW (psiW ms.pool) ms
def CsOk (ms : Mid) : Prop := sfW (csBad ms.pool) ms = 0

theorem sum_rel {α : Type} (l : List α) (bad f g h : α → Nat) (D : Nat)
    (hz : (l.map bad).sum = 0) (hr : ∀ x, bad x = 0 → f x = g x + D * h x) :
    (l.map f).sum = (l.map g).sum + D * (l.map h).sum := by
  induction l with
  | nil => simp
  | cons a l ih =>
    simp only [List.map_cons, List.sum_cons] at hz ⊢
    have h1 : bad a = 0 := by omega
    have h2 : (l.map bad).sum = 0 := by omega
    rw [ih h2, hr a h1, Nat.mul_add]; omega

theorem sum_zero_mono {α : Type} (l : List α) (bad bad' : α → Nat)
    (hz : (l.map bad).sum = 0) (hr : ∀ x, bad x = 0 → bad' x = 0) : (l.map bad').sum = 0 :=
  sum_map_zero l bad' (fun x hx => hr x (List.sum_eq_zero_iff_forall_eq_nat.1 hz _ (List.mem_map_of_mem hx)))

theorem sfW_pool_shift (ms : Mid) (p D : Nat) (hz : sfW (csBad p) ms = 0) :
    sfW (psiW (p + D)) ms = sfW (psiW p) ms + D * sfW (·.value) ms ∧ sfW (csBad (p + D)) ms = 0 := by
  unfold sfW at *
  have hz1 : ((untouched ms.base.sf (·.id) ms.sfIds).map (csBad p)).sum = 0 := by omega
  have hz2 : (ms.sfes.map (sfDvW (csBad p))).sum = 0 := by omega
  have key : ∀ o : SfElem, csBad p o = 0 → psiW (p + D) o = psiW p o + D * o.value := by
    intro o ho
    unfold csBad at ho; unfold psiW
    have hle : o.claimStart ≤ p := by
      by_cases h : o.claimStart ≤ p
      · exact h
      · rw [if_neg h] at ho; cases ho
    have : p + D - o.claimStart = (p - o.claimStart) + D := by unfold Cur at *; omega
    rw [this, Nat.mul_add, Nat.mul_comm o.value D]
  have key2 : ∀ o : SfElem, csBad p o = 0 → csBad (p + D) o = 0 := by
    intro o ho
    unfold csBad at ho ⊢
    by_cases h : o.claimStart ≤ p
    · have : o.claimStart ≤ p + D := by unfold Cur at *; omega
      rw [if_pos this]
    · rw [if_neg h] at ho; cases ho
  constructor
  · rw [sum_rel _ (csBad p) (psiW (p + D)) (psiW p) (·.value) D hz1 key,
      sum_rel _ (sfDvW (csBad p)) (sfDvW (psiW (p + D))) (sfDvW (psiW p)) (sfDvW (·.value)) D hz2 (by
        intro d hd
        unfold sfDvW at hd ⊢
        cases hs : d.spent with
        | true => simp
        | false => rw [hs] at hd; simp only [Bool.false_eq_true, if_false] at hd ⊢; exact key d.e hd)]
    rw [Nat.mul_add]; omega
  · rw [sum_zero_mono _ (csBad p) (csBad (p + D)) hz1 key2,
      sum_zero_mono _ (sfDvW (csBad p)) (sfDvW (csBad (p + D))) hz2 (by
        intro d hd
        unfold sfDvW at hd ⊢
        cases hs : d.spent with
        | true => simp
        | false => rw [hs] at hd; simp only [Bool.false_eq_true, if_false] at hd ⊢; exact key2 d.e hd)]

theorem claimVal_le_psiW (p cs : Cur) (v : Nat) : 10000 * claimVal p cs v ≤ v * (p - cs) := by
  unfold claimVal
  have := Nat.div_mul_le_self (p - cs) 10000
  calc 10000 * ((p - cs) / 10000 * v) = ((p - cs) / 10000 * 10000) * v := by
        rw [Nat.mul_comm 10000, Nat.mul_assoc, Nat.mul_comm v, ← Nat.mul_assoc]
    _ ≤ (p - cs) * v := Nat.mul_le_mul_right v this
    _ = v * (p - cs) := Nat.mul_comm _ _

/-- siafunds spent (`i`) and created (`o`) balance modulo 2^64; below that bound the supply is unchanged -/
theorem sfTot_balanced {S S' i o : Nat} (h : S' + i = S + o) (hS : S < u64Limit) (ho : o < u64Limit)
    (hmod : i % u64Limit = o % u64Limit) : S' = S := by
  unfold u64Limit at *; omega

/-- One transaction and the pool: the siafund elements `ins` leave, `outs` enter with the pool `ms.pool` as their claim
start, and afterwards the pool has risen by `D`.  What was claimable drops by the weight of `ins`, which pays for the
claims `c`; the new elements have nothing to claim; the rise is shared by the unchanged supply. -/
theorem psi_txn {ms ms' : Mid} {D c : Nat} (ins outs : List SfElem)
    (hw : ∀ w : SfElem → Nat, sfW w ms' + (ins.map w).sum = sfW w ms + (outs.map w).sum)
    (ho : ∀ o ∈ outs, o.claimStart = ms.pool) (hp : ms'.pool = ms.pool + D) (hS : sfTot ms' = sfTot ms)
    (hcl : 10000 * c ≤ (ins.map (psiW ms.pool)).sum) (hcs : CsOk ms) :
    CsOk ms' ∧ Psi ms' + 10000 * c ≤ Psi ms + (ms'.pool - ms.pool) * sfTot ms := by
  have hz : sfW (csBad ms.pool) ms' = 0 := by
    have := hw (csBad ms.pool)
    rw [show sfW (csBad ms.pool) ms = 0 from hcs,
      sum_map_zero outs _ (fun o h => by unfold csBad; rw [ho o h]; simp)] at this
    omega
  obtain ⟨q, c'⟩ := sfW_pool_shift ms' ms.pool D hz
  unfold CsOk Psi
  rw [hp, q, ← sfTot_eq_sfW, hS, Nat.add_sub_cancel_left, Nat.mul_comm]
  refine ⟨c', ?_⟩
  have h1 := hw (psiW ms.pool)
  rw [sum_map_zero outs _ (fun o h => by unfold psiW; rw [ho o h]; simp)] at h1
  omega

end Sia.Ledger
