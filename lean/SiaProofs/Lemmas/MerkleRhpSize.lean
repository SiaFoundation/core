import SiaProofs.Lemmas.MerkleRhpRange
/-!
  C16: counting the hashes of a range proof
  (`RangeProofSize` = popcount(start) + zero bits of `end-1` below the top differing bit).
-/
set_option linter.unusedSectionVars false
namespace Sia.Rhp
open HashOps

variable {H : Type} [HashOps H]

theorem popcount_unfold (x : Nat) : popcount x = x % 2 + popcount (x / 2) := by
  by_cases h : x = 0
  · subst h; rw [popcount]; simp
  · rw [popcount]; simp [h]

theorem popcount_zero : popcount 0 = 0 := by rw [popcount]; simp

theorem popcount_pow_add : ∀ (k m : Nat), m < 2 ^ k → popcount (2 ^ k + m) = 1 + popcount m := by
  intro k
  induction k with
  | zero =>
    intro m hm
    have : m = 0 := by simpa using hm
    subst this
    rw [popcount_unfold]
  | succ k ih =>
    intro m hm
    rw [Nat.pow_succ'] at hm
    rw [popcount_unfold (2 ^ (k + 1) + m), popcount_unfold m, Nat.pow_succ']
    have e1 : (2 * 2 ^ k + m) % 2 = m % 2 := by omega
    have e2 : (2 * 2 ^ k + m) / 2 = 2 ^ k + m / 2 := by omega
    rw [e1, e2, ih (m / 2) (by omega)]
    omega

theorem popcount_high {r : Nat} (hr : r ≠ 0) : popcount r = 1 + popcount (r - 2 ^ r.log2) := by
  have h1 := Nat.log2_self_le hr
  have h2 := @Nat.lt_log2_self r
  rw [Nat.pow_succ'] at h2
  have := popcount_pow_add r.log2 (r - 2 ^ r.log2) (by omega)
  rw [← this]
  congr 1; omega

theorem diffRangeCount_unfold (i j : Nat) :
    diffRangeCount i j = if i < j then 1 + diffRangeCount (i + nextSubtreeSize i j) j else 0 := by
  rw [diffRangeCount]
  by_cases h : i < j <;> simp [h]

theorem length_rangeSubtreeRoots (l : List H) (i j : Nat) :
    (rangeSubtreeRoots l i j).length = diffRangeCount i j := by
  induction i using walk_induction j generalizing l with
  | step i ih =>
    rw [diffRangeCount_unfold]
    by_cases hlt : i < j
    · have hp := nextSubtreeSize_pos i j
      rw [rangeSubtreeRoots_step l i j hlt, if_pos hlt, List.length_cons, ih hlt _ (by omega), Nat.add_comm]
    · rw [rangeSubtreeRoots_done l i j hlt, if_neg hlt]; rfl

theorem rangeSubtreeRoots_length (l : List H) : ∀ (d i j : Nat), j - i = d →
    (rangeSubtreeRoots l i j).length = diffRangeCount i j :=
  fun _ i j _ => length_rangeSubtreeRoots l i j

theorem buildRange_length_inner (ls : List H) (j : Nat) (hj : j ≤ ls.length) (i : Nat) :
    (buildRange ls i j).length = diffRangeCount i j := by
  rw [← rangeSubtreeRoots_eq_buildRange ls j hj i, length_rangeSubtreeRoots]

/-- left of the range the walk starts aligned (`i = 0`) and stays so: the remainder `r` is below
`2^tz i`. Then the next subtree is the top bit of `r` … -/
theorem nss_aligned {i r : Nat} (hr : r ≠ 0) (hal : i = 0 ∨ r < 2 ^ tz i) :
    nextSubtreeSize i (i + r) = 2 ^ r.log2 := by
  unfold nextSubtreeSize
  rw [Nat.add_sub_cancel_left]
  exact if_pos (hal.imp id fun h => (Nat.log2_lt hr).2 h)

/-- … and the new position has exactly that many trailing zeros -/
theorem tz_add_top_bit {i r : Nat} (hr : r ≠ 0) (hal : i = 0 ∨ r < 2 ^ tz i) :
    tz (i + 2 ^ r.log2) = r.log2 := by
  have hdvd : 2 ^ (r.log2 + 1) ∣ i := by
    cases hal with
    | inl h0 => rw [h0]; exact Nat.dvd_zero _
    | inr h1 =>
      have hi : i ≠ 0 := by
        intro h; subst h; simp [tz] at h1; omega
      exact (pow_dvd_iff_le_tz _ i hi).2 ((Nat.log2_lt hr).2 h1)
  rw [tz_add_aligned hdvd (Nat.two_pow_pos _) (Nat.pow_lt_pow_right (by decide) (Nat.lt_succ_self _)),
    tz_two_pow]

theorem diffRangeCount_popcount :
    ∀ (r i : Nat), (i = 0 ∨ r < 2 ^ tz i) → diffRangeCount i (i + r) = popcount r := by
  intro r
  induction r using Nat.strongRecOn with
  | _ r ih =>
    intro i hal
    rw [diffRangeCount_unfold]
    by_cases hr : r = 0
    · rw [hr, Nat.add_zero, if_neg (Nat.lt_irrefl _), popcount_zero]
    · have hl1 := Nat.log2_self_le hr
      have hl2 := @Nat.lt_log2_self r
      rw [Nat.pow_succ'] at hl2
      rw [if_pos (by omega), nss_aligned hr hal, popcount_high hr,
        ← ih (r - 2 ^ r.log2) (by omega) (i + 2 ^ r.log2) (Or.inr (by rw [tz_add_top_bit hr hal]; omega)),
        show i + 2 ^ r.log2 + (r - 2 ^ r.log2) = i + r by omega]

theorem buildRange_length_left (ls : List H) (s : Nat) (hs : s ≤ ls.length) :
    (buildRange ls 0 s).length = popcount s := by
  rw [buildRange_length_inner ls s hs 0, ← diffRangeCount_popcount s 0 (Or.inl rfl), Nat.zero_add]

/-- steps `x ↦ x + 2^tz(x+1)` (set the lowest zero bit) until `x ≥ m`. At `x = i - 1`, `m = n - 1` these are
the steps `i ↦ i + 2^tz i` of `buildRange` from `i` to the end of `n` leaves (`buildRange_length_right`);
shifted by one, because the count is read off the bits of `i - 1` and `n - 1` (`rcount_eq`). -/
def rcount (x m : Nat) : Nat :=
  if h : x < m then 1 + rcount (x + 2 ^ tz (x + 1)) m else 0
termination_by m - x
decreasing_by
  have := Nat.two_pow_pos (tz (x + 1))
  omega

theorem rcount_unfold (x m : Nat) :
    rcount x m = if x < m then 1 + rcount (x + 2 ^ tz (x + 1)) m else 0 := by
  rw [rcount]
  by_cases h : x < m <;> simp [h]

theorem rcount_odd (x m : Nat) (hodd : x % 2 = 1) : rcount x m = rcount (x / 2) (m / 2) := by
  induction x using walk_induction m with
  | step x ih =>
    rw [rcount_unfold x m, rcount_unfold (x / 2) (m / 2)]
    by_cases hlt : x < m
    · have hp := Nat.two_pow_pos (tz (x / 2 + 1))
      have e : 2 ^ tz (x + 1) = 2 * 2 ^ tz (x / 2 + 1) := by
        rw [tz_even (by omega) (by omega), Nat.add_comm 1, Nat.pow_succ',
          show (x + 1) / 2 = x / 2 + 1 by omega]
      rw [if_pos hlt, if_pos (by omega), e, ih hlt _ (by omega) (by omega),
        show (x + 2 * 2 ^ tz (x / 2 + 1)) / 2 = x / 2 + 2 ^ tz (x / 2 + 1) by omega]
    · rw [if_neg hlt, if_neg (by omega)]

theorem diffLen_self (x : Nat) : diffLen x x = 0 := by rw [diffLen]; simp

theorem diffLen_ne {x m : Nat} (h : x ≠ m) : diffLen x m = diffLen (x / 2) (m / 2) + 1 := by
  rw [diffLen]; simp [h]; omega

/-- by the recursion of `diffLen`: both sides halve `x` and `m` until they meet -/
theorem rcount_eq {x m : Nat} (hxm : x ≤ m) : rcount x m = zerosBelow x (diffLen x m) := by
  induction x, m using diffLen.induct with
  | case1 x => rw [rcount_unfold, diffLen_self]; simp [zerosBelow]
  | case2 x m heq ih =>
    have hlt : x < m := by omega
    rw [diffLen_ne heq]
    simp only [zerosBelow]
    rw [← ih (by omega)]
    by_cases hodd : x % 2 = 1
    · rw [rcount_odd x m hodd]; omega
    · rw [rcount_unfold]
      simp only [hlt, if_true]
      have e1 : tz (x + 1) = 0 := tz_odd (by omega)
      rw [e1]
      simp only [Nat.pow_zero]
      rw [rcount_odd (x + 1) m (by omega)]
      have e2 : (x + 1) / 2 = x / 2 := by omega
      rw [e2]; omega

theorem buildRange_length_right (ls : List H) (J : Nat) (hJ : 2 * (ls.length - 1) ≤ J) (i : Nat)
    (hi0 : 0 < i) : (buildRange ls i J).length = rcount (i - 1) (ls.length - 1) := by
  induction i using walk_induction ls.length with
  | step i ih =>
    rw [rcount_unfold]
    by_cases hlt : i < ls.length
    · have hp := Nat.two_pow_pos (tz i)
      rw [buildRange_cons ls i J ⟨by omega, hlt⟩, nss_big hi0 (by omega), List.length_cons,
        if_pos (by omega), ih hlt _ (by omega) (by omega),
        show i - 1 + 1 = i by omega, show i + 2 ^ tz i - 1 = i - 1 + 2 ^ tz i by omega, Nat.add_comm]
    · rw [buildRange_done ls _ J (by omega), if_neg (by omega)]; rfl

/-- the proof `BuildSectorRangeProof` emits has `RangeProofSize` hashes -/
theorem buildRange_total_length (ls : List H) (s e J : Nat) (hse : s < e) (hen : e ≤ ls.length)
    (hJ : 2 * (ls.length - 1) ≤ J) :
    (buildRange ls 0 s ++ buildRange ls e J).length = rangeProofSize ls.length s e := by
  rw [List.length_append, buildRange_length_left ls s (by omega),
    buildRange_length_right ls J hJ e (by omega)]
  unfold rangeProofSize
  congr 1
  exact rcount_eq (by omega)

end Sia.Rhp
