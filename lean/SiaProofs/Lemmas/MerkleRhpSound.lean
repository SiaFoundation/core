import SiaProofs.Lemmas.MerkleRhpRange
/-!
  C16: under node-hash injectivity the verifier's computation
  is injective in the hashes it is fed (soundness of range proofs): an accepted run is compared,
  phase by phase (`Lock`), with the run on the honest proof. That run (`rangeAcc_honest`, the
  completeness of range proofs) is therefore here too; `leafAcc_honest` in `MerkleRhpLeaf` is its
  counterpart for proofs inside a sector.
-/
set_option linter.unusedSectionVars false
namespace Sia.Rhp
open HashOps

variable {H : Type} [HashOps H]

def NodeInj (H : Type) [HashOps H] : Prop := ∀ a b c d : H, node a b = node c d → a = c ∧ b = d

/-- two stacks with the same heights -/
inductive SameShape : Stack H → Stack H → Prop
  | nil : SameShape [] []
  | cons (j : Nat) (a b : H) {r1 r2 : Stack H} : SameShape r1 r2 → SameShape ((j, a) :: r1) ((j, b) :: r2)

theorem toStack_sameShape (t t' : Nat → H) (m i : Nat) : SameShape (toStack t m i) (toStack t' m i) := by
  induction m using halving_induction generalizing i with
  | zero => rw [toStack_zero, toStack_zero]; exact .nil
  | odd m h1 ih => rw [toStack_odd t m i h1, toStack_odd t' m i h1]; exact .cons i _ _ (ih (i + 1))
  | even m _ h ih => rw [toStack_even t m i h, toStack_even t' m i h]; exact ih (i + 1)

theorem stack_sameShape {a1 a2 : Acc H} (h : a1.n = a2.n) : SameShape a1.stack a2.stack := by
  unfold Acc.stack; rw [h]; exact toStack_sameShape _ _ _ _

theorem sInsert_inj (hinj : NodeInj H) {s1 s2 : Stack H} (hs : SameShape s1 s2) :
    ∀ (x y : H) (i : Nat), sInsert s1 x i = sInsert s2 y i → s1 = s2 ∧ x = y := by
  induction hs with
  | nil => intro x y i heq; simp [sInsert] at heq; exact ⟨rfl, heq⟩
  | cons j a b _ ih =>
    intro x y i heq
    simp only [sInsert] at heq
    by_cases hji : j = i
    · simp only [hji, if_true] at heq
      obtain ⟨h1, h2⟩ := ih (node a x) (node b y) (i + 1) heq
      obtain ⟨h3, h4⟩ := hinj _ _ _ _ h2
      subst h1 h3 h4
      exact ⟨rfl, rfl⟩
    · simp only [hji, if_false, List.cons.injEq, Prod.mk.injEq, true_and] at heq
      obtain ⟨hx, hta, hr'⟩ := heq
      subst hx hta hr'
      exact ⟨rfl, rfl⟩

theorem foldl_sStep_inj (hinj : NodeInj H) {r1 r2 : Stack H} (hs : SameShape r1 r2) : ∀ (t1 t2 : H),
    (r1.foldl sStep (some t1)).getD zero = (r2.foldl sStep (some t2)).getD zero → t1 = t2 ∧ r1 = r2 := by
  induction hs with
  | nil => intro t1 t2 heq; exact ⟨heq, rfl⟩
  | cons j a b _ ih =>
    intro t1 t2 heq
    obtain ⟨h1, h2⟩ := ih (node a t1) (node b t2) heq
    obtain ⟨h3, h4⟩ := hinj _ _ _ _ h1
    subst h2 h3 h4
    exact ⟨rfl, rfl⟩

theorem sRoot_inj (hinj : NodeInj H) {s1 s2 : Stack H} (hs : SameShape s1 s2)
    (heq : sRoot s1 = sRoot s2) : s1 = s2 := by
  cases hs with
  | nil => rfl
  | cons j a b hr =>
    obtain ⟨h1, h2⟩ := foldl_sStep_inj hinj hr a b heq
    subst h1 h2
    rfl

/-- the plain root is injective on lists of one length: the lists split at the same place, and `node`
separates the halves -/
theorem metaRoot_inj (hinj : NodeInj H) {l1 l2 : List H} (hlen : l1.length = l2.length)
    (h : metaRoot l1 = metaRoot l2) : l1 = l2 := by
  induction l1 using split_induction generalizing l2 with
  | nil => exact (List.eq_nil_of_length_eq_zero hlen.symm).symm
  | one x =>
    obtain ⟨y, rfl⟩ := List.length_eq_one_iff.1 hlen.symm
    rwa [metaRoot_singleton, metaRoot_singleton, ← List.singleton_inj] at h
  | node l r T hl hr0 hr ihl ihr =>
    obtain ⟨l', r', rfl, hl', hr'⟩ : ∃ l' r', l2 = l' ++ r' ∧ l.length = l'.length ∧ r.length = r'.length :=
      ⟨l2.take l.length, l2.drop l.length, (List.take_append_drop _ _).symm,
        by rw [List.length_take, ← hlen, List.length_append]; omega,
        by rw [List.length_drop, ← hlen, List.length_append]; omega⟩
    rw [metaRoot_append l r T hl hr0 hr, metaRoot_append l' r' T (hl' ▸ hl) (hr' ▸ hr0) (hr' ▸ hr)] at h
    obtain ⟨ha, hb⟩ := hinj _ _ _ _ h
    rw [ihl hl' ha, ihr hr' hb]

theorem insertNode_n (a : Acc H) (x : H) (k : Nat) : (a.insertNode x k).n = a.n + 2 ^ k := rfl

theorem insertNode_inj (hinj : NodeInj H) (a1 a2 : Acc H) (x y : H) (k : Nat)
    (hn : a1.n = a2.n) (hd : 2 ^ k ∣ a1.n)
    (heq : (a1.insertNode x k).stack = (a2.insertNode y k).stack) : a1.stack = a2.stack ∧ x = y := by
  rw [stack_insertNode a1 x k hd, stack_insertNode a2 y k (by rw [← hn]; exact hd)] at heq
  exact sInsert_inj hinj (stack_sameShape hn) x y k heq

theorem root_inj (hinj : NodeInj H) (a1 a2 : Acc H) (hn : a1.n = a2.n) (heq : a1.root = a2.root) :
    a1.stack = a2.stack := by
  rw [root_stack, root_stack] at heq
  exact sRoot_inj hinj (stack_sameShape hn) heq

theorem foldl_insertLeaf_n (a : Acc H) (d : List H) :
    (d.foldl (fun a h => a.insertNode h 0) a).n = a.n + d.length := by
  induction d generalizing a with
  | nil => simp
  | cons x xs ih => simp only [List.foldl_cons, List.length_cons]; rw [ih]; simp [insertNode_n]; omega

/-! ### two runs of a verifier in lock step

The state of a verifier is its accumulator together with the proof hashes it has not consumed yet.
What it does next depends only on the leaf count and on how many hashes are left, so two runs on
equally long inputs stay `InStep`; under node injectivity, if they reach the `SameState` they came
from the same state and were fed the same input. `Lock` says both of one phase, and phases compose
(`Lock.trans`); a verifier is sound because its last state is pinned by the root (`SameState.of_root`). -/

def InStep (x y : Acc H × List H) : Prop := x.1.n = y.1.n ∧ x.2.length = y.2.length

def SameState (x y : Acc H × List H) : Prop := x.1.stack = y.1.stack ∧ x.2 = y.2

/-- a phase takes `x` to `x'` in one run and `y` to `y'` in the other; `E`: they were fed the same -/
def Lock (x y x' y' : Acc H × List H) (E : Prop) : Prop :=
  InStep x' y' ∧ (SameState x' y' → SameState x y ∧ E)

theorem Lock.trans {x y x' y' x'' y'' : Acc H × List H} {E E' : Prop}
    (h : Lock x y x' y' E) (h' : Lock x' y' x'' y'' E') : Lock x y x'' y'' (E ∧ E') :=
  ⟨h'.1, fun s => ⟨(h.2 (h'.2 s).1).1, (h.2 (h'.2 s).1).2, (h'.2 s).2⟩⟩

theorem Lock.imp {x y x' y' : Acc H × List H} {E E' : Prop} (h : Lock x y x' y' E) (f : E → E') :
    Lock x y x' y' E' :=
  ⟨h.1, fun s => ⟨(h.2 s).1, f (h.2 s).2⟩⟩

theorem SameState.of_stack {x y : Acc H × List H} (hs : InStep x y) (h : x.1.stack = y.1.stack)
    (hy : y.2 = []) : SameState x y :=
  ⟨h, by rw [hy]; exact List.eq_nil_of_length_eq_zero (by rw [hs.2, hy]; rfl)⟩

theorem SameState.of_root (hinj : NodeInj H) {x y : Acc H × List H} (hs : InStep x y)
    (hr : x.1.root = y.1.root) (hy : y.2 = []) : SameState x y :=
  SameState.of_stack hs (root_inj hinj _ _ hs.1 hr) hy

theorem Lock.node (hinj : NodeInj H) {x y : Acc H × List H} (hs : InStep x y) (l1 l2 : H) (k : Nat)
    (hd : 2 ^ k ∣ y.1.n) : Lock x y (x.1.insertNode l1 k, x.2) (y.1.insertNode l2 k, y.2) (l1 = l2) :=
  ⟨⟨congrArg (· + 2 ^ k) hs.1, hs.2⟩, fun s =>
    ⟨⟨(insertNode_inj hinj x.1 y.1 l1 l2 k hs.1 (hs.1 ▸ hd) s.1).1, s.2⟩,
      (insertNode_inj hinj x.1 y.1 l1 l2 k hs.1 (hs.1 ▸ hd) s.1).2⟩⟩

theorem lock_insertRange (hinj : NodeInj H) : ∀ (p1 p2 : List H) (a1 a2 : Acc H) (i j : Nat),
    p1.length = p2.length → a1.n = i → a2.n = i →
    Lock (a1, p1) (a2, p2) (insertRange a1 p1 i j) (insertRange a2 p2 i j) True := by
  intro p1
  induction p1 with
  | nil =>
    intro p2 a1 a2 i j hl h1 h2
    obtain rfl := List.eq_nil_of_length_eq_zero hl.symm
    exact ⟨⟨h1.trans h2.symm, rfl⟩, fun s => ⟨s, trivial⟩⟩
  | cons x xs ih =>
    intro p2 a1 a2 i j hl h1 h2
    cases p2 with
    | nil => cases hl
    | cons y ys =>
      by_cases hlt : i < j
      · obtain ⟨k, hk, hdvd, -⟩ := nss_spec hlt
        rw [insertRange_cons a1 x xs i j hlt, insertRange_cons a2 y ys i j hlt, hk, tz_two_pow]
        have L1 := Lock.node hinj (x := (a1, xs)) (y := (a2, ys)) ⟨h1.trans h2.symm, Nat.succ.inj hl⟩
          x y k (h2 ▸ hdvd)
        obtain ⟨f, b⟩ := L1.trans (ih ys _ _ (i + 2 ^ k) j (Nat.succ.inj hl)
          (congrArg (· + 2 ^ k) h1) (congrArg (· + 2 ^ k) h2))
        exact ⟨f, fun s => ⟨⟨(b s).1.1, (b s).2.1 ▸ congrArg (x :: ·) (b s).1.2⟩, trivial⟩⟩
      · rw [insertRange_done a1 _ i j hlt, insertRange_done a2 _ i j hlt]
        exact ⟨⟨h1.trans h2.symm, hl⟩, fun s => ⟨s, trivial⟩⟩

theorem Lock.range (hinj : NodeInj H) {x y : Acc H × List H} (hs : InStep x y) (i j : Nat)
    (hn : y.1.n = i) : Lock x y (insertRange x.1 x.2 i j) (insertRange y.1 y.2 i j) True :=
  lock_insertRange hinj x.2 y.2 x.1 y.1 i j hs.2 (hs.1.trans hn) hn

/-- a walk over hashes of its own (the subtree roots of the streamed leaves), all of which the
second run consumes -/
theorem Lock.own (hinj : NodeInj H) {x y : Acc H × List H} (hs : InStep x y) (r1 r2 : List H)
    (hl : r1.length = r2.length) (i j : Nat) (hn : y.1.n = i) (hfull : (insertRange y.1 r2 i j).2 = []) :
    Lock x y ((insertRange x.1 r1 i j).1, x.2) ((insertRange y.1 r2 i j).1, y.2) (r1 = r2) := by
  obtain ⟨f, b⟩ := lock_insertRange hinj r1 r2 x.1 y.1 i j hl (hs.1.trans hn) hn
  refine ⟨⟨f.1, hs.2⟩, fun s => ?_⟩
  obtain ⟨⟨hst, hr⟩, -⟩ := b (SameState.of_stack f s.1 hfull)
  exact ⟨⟨hst, s.2⟩, hr⟩

theorem Lock.leaves (hinj : NodeInj H) : ∀ (d1 d2 : List H) {x y : Acc H × List H}, InStep x y →
    d1.length = d2.length →
    Lock x y (d1.foldl (fun a h => a.insertNode h 0) x.1, x.2) (d2.foldl (fun a h => a.insertNode h 0) y.1, y.2)
      (d1 = d2) := by
  intro d1
  induction d1 with
  | nil =>
    intro d2 x y hs hl
    obtain rfl := List.eq_nil_of_length_eq_zero hl.symm
    exact ⟨hs, fun s => ⟨s, rfl⟩⟩
  | cons a d1 ih =>
    intro d2 x y hs hl
    cases d2 with
    | nil => cases hl
    | cons b d2 =>
      have L1 := Lock.node hinj hs a b 0 (Nat.one_dvd _)
      exact (L1.trans (ih d2 L1.1 (Nat.succ.inj hl))).imp fun h => by rw [h.1, h.2]

/-- the three phases of `VerifySectorRangeProof` after its guards -/
def rangeAcc (proof data : List H) (s e : Nat) : Acc H × List H :=
  let s1 := insertRange Acc.empty proof 0 s
  let acc := data.foldl (fun a h => a.insertNode h 0) s1.1
  insertRange acc s1.2 e maxUint64

theorem verify_eq [DecidableEq H] (proof data : List H) (s e n : Nat) (root : H)
    (hn : n ≠ 0) (hd : data.length = e - s) (hr : ¬ (e > n ∨ s > e ∨ s = e))
    (hl : proof.length = rangeProofSize n s e) :
    verifySectorRangeProof proof data s e n root = .ok (decide ((rangeAcc proof data s e).1.root = root)) := by
  unfold verifySectorRangeProof rangeAcc
  simp [hn, hd, hr, hl]

theorem verify_accepts [DecidableEq H] {proof data : List H} {s e n : Nat} {root : H}
    (hn : n ≠ 0) (hr : ¬ (e > n ∨ s > e ∨ s = e))
    (hacc : verifySectorRangeProof proof data s e n root = .ok true) :
    data.length = e - s ∧ proof.length = rangeProofSize n s e ∧ (rangeAcc proof data s e).1.root = root := by
  unfold verifySectorRangeProof at hacc
  rw [if_neg hn] at hacc
  split at hacc
  · cases hacc
  · split at hacc
    · cases hacc
    · exact ⟨Decidable.not_not.1 ‹_›, Decidable.not_not.1 ‹_›, of_decide_eq_true (Except.ok.inj hacc)⟩

theorem rangeAcc_honest (ls : List H) (s e : Nat) (hse : s < e) (hen : e ≤ ls.length)
    (hn : ls.length ≤ 2 ^ 30) :
    let P := buildRange ls 0 s ++ buildRange ls e maxInt32
    let D := (ls.drop s).take (e - s)
    (insertRange Acc.empty P 0 s).1.n = s ∧
    (rangeAcc P D s e).2 = [] ∧ (rangeAcc P D s e).1.root = metaRoot ls := by
  intro P D
  have h0 : Inv (Acc.empty : Acc H) (ls.take 0) := by simpa using Inv.empty
  obtain ⟨a1, ha1, hinv1⟩ := insertRange_buildRange_exact ls s (by omega) 0 Acc.empty
    (buildRange ls e maxInt32) (Nat.zero_le _) h0
  have hinv2 := Inv.foldl_range ls s e (by omega) hinv1
  have hJ1 : 2 * (ls.length - 1) ≤ maxInt32 := by unfold maxInt32; omega
  have hJ2 : ∀ i, 0 < i → i < ls.length → nextSubtreeSize i maxUint64 = 2 ^ tz i ∧ i < maxUint64 := by
    intro i h0 hlt
    exact ⟨nss_big h0 (by unfold maxUint64; omega), by unfold maxUint64; omega⟩
  obtain ⟨a3, ha3, hinv3⟩ := insertRange_buildRange_right ls maxInt32 maxUint64 hJ1 hJ2
    e _ (by omega) hen hinv2
  have e1 : insertRange Acc.empty P 0 s = (a1, buildRange ls e maxInt32) := ha1
  refine ⟨?_, ?_, ?_⟩
  · rw [e1]; show a1.n = s
    rw [hinv1.2]; simp; omega
  · show (rangeAcc P D s e).2 = []
    unfold rangeAcc; simp only [e1]; rw [ha3]
  · show (rangeAcc P D s e).1.root = metaRoot ls
    unfold rangeAcc; simp only [e1]; rw [ha3]; exact hinv3.root

end Sia.Rhp
