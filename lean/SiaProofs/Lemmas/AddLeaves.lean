/-
  SiaProofs.Lemmas.AddLeaves — the loop invariants of `addLeaves`
  (consensus/merkle.go:291) against the naive forest.
  A position lies in exactly one tree, so `∀ Ht S, TreeAt m p Ht S → …` (and `∀ Ht S, Cov … → …`, `∀ S, S + 2 ^ ht = … → …`
  in the inner loop) speaks of one `(Ht, S)`: the invariants take it as a hypothesis instead of writing
  `treeHeight m p` and a subtraction, so a loop step only has to say which `(Ht, S)` of the old state covers a given
  one of the new (`treeAt_succ_cov`, `cov_extend`). `m` is the number of leaves already merged; in the inner loop that
  is also the position of the leaf being merged.
-/
import SiaProofs.Lemmas.Forest
set_option linter.unusedSectionVars false
namespace Sia.ElemAcc

/-- `(Ht,S)` is the tree of a forest of `m` leaves that contains position `p` -/
def TreeAt (m p Ht S : Nat) : Prop :=
  m.testBit Ht = true ∧ S = treeStart m Ht ∧ S ≤ p ∧ p < S + 2 ^ Ht

/-- `(Ht,S)` is a tree of the intermediate forest while leaf number `m` is being merged
    at height `ht` (the pending right-hand tree, or an untouched tree of `m` of height
    `≥ ht`), and it contains position `p` -/
def Cov (m ht p Ht S : Nat) : Prop :=
  (Ht = ht ∧ S + 2 ^ ht = m + 1 ∧ S ≤ p ∧ p ≤ m) ∨
  (ht ≤ Ht ∧ TreeAt m p Ht S)

theorem treeAt_succ_cov {m ht p Ht S : Nat} (low : LowOnes m ht) (hb : m.testBit ht = false)
    (h : TreeAt (m + 1) p Ht S) : Cov m ht p Ht S := by
  obtain ⟨hnew, habove, hbelow⟩ := lowOnes_stop low hb
  obtain ⟨hbit, hS, h1, h2⟩ := h
  rcases Nat.lt_trichotomy Ht ht with hlt | rfl | hgt
  · rw [hbelow Ht hlt] at hbit; cases hbit
  · left; exact ⟨rfl, by omega, h1, by omega⟩
  · right
    obtain ⟨e1, e2⟩ := habove Ht hgt
    exact ⟨by omega, by rw [← e1]; exact hbit, by rw [← e2]; exact hS, h1, h2⟩

section
variable {H : Type} [Hasher H] [Inhabited H]

/-- the invariant of the outer loop of `addLeaves` after `i` leaves: `L` = all leaf hashes so far -/
structure OuterInv (new0 : List (Leaf H)) (L : List H) (n i : Nat) (st : AddState H) : Prop where
  len : L.length = n + i
  num : st.numLeaves = n + i
  trees : ∀ h, (n + i).testBit h = true → st.trees h = subRoot L h (treeStart (n + i) h)
  llen : st.leaves.length = i
  fields : ∀ j l, st.leaves[j]? = some l →
    l.index = n + j ∧ ∃ l0, new0[j]? = some l0 ∧ l.elem = l0.elem ∧ l.spent = l0.spent
  proofs : ∀ j l, st.leaves[j]? = some l → ∀ Ht S, TreeAt (n + i) (n + j) Ht S →
    l.proof = subPath L 0 (n + j) Ht S
  /- `b` ranges over the heights of the trees of the INITIAL count `n`: `growth b` is keyed by the old height of a tree and
  holds what a proof of that tree has to be extended by -/
  growth : ∀ b, b < 64 → n.testBit b = true → ∀ Ht S, TreeAt (n + i) (treeStart n b) Ht S →
    b ≤ Ht ∧ st.growth b = subPath L b (treeStart n b) Ht S

/-- the invariant of the inner loop (`for height := range &acc.Trees`) for batch leaf `i` -/
structure LoopInv (new0 : List (Leaf H)) (L' : List H) (n i ht : Nat) (hcur : H) (st : AddState H) : Prop where
  len : L'.length = n + i + 1
  low : LowOnes (n + i) ht
  num : st.numLeaves = n + i
  trees : ∀ h, ht ≤ h → (n + i).testBit h = true → st.trees h = subRoot L' h (treeStart (n + i) h)
  cur : ∀ S, S + 2 ^ ht = n + i + 1 → hcur = subRoot L' ht S
  llen : st.leaves.length = i + 1
  fields : ∀ j l, st.leaves[j]? = some l →
    l.index = n + j ∧ ∃ l0, new0[j]? = some l0 ∧ l.elem = l0.elem ∧ l.spent = l0.spent
  proofs : ∀ j l, st.leaves[j]? = some l → ∀ Ht S, Cov (n + i) ht (n + j) Ht S →
    l.proof = subPath L' 0 (n + j) Ht S
  growth : ∀ b, b < 64 → n.testBit b = true → ∀ Ht S, Cov (n + i) ht (treeStart n b) Ht S →
    b ≤ Ht ∧ st.growth b = subPath L' b (treeStart n b) Ht S

theorem appendSiblings_get {leaves : List (Leaf H)} {i ht : Nat} {o h : H} {j : Nat} {l' : Leaf H}
    (hg : (appendSiblings leaves i ht o h)[j]? = some l') :
    ∃ l, leaves[j]? = some l ∧ l'.elem = l.elem ∧ l'.spent = l.spent ∧ l'.index = l.index ∧
      l'.proof = (if i < j + 2 ^ ht then l.proof ++ [o]
                  else if i < j + 2 ^ (ht + 1) then l.proof ++ [h] else l.proof) := by
  unfold appendSiblings at hg
  rw [List.getElem?_mapIdx] at hg
  cases hl : leaves[j]? with
  | none => rw [hl] at hg; simp at hg
  | some l =>
    rw [hl] at hg
    simp only [Option.map_some, Option.some.injEq] at hg
    refine ⟨l, rfl, ?_⟩
    subst hg
    split
    · exact ⟨rfl, rfl, rfl, rfl⟩
    · split <;> exact ⟨rfl, rfl, rfl, rfl⟩

/-- what `growStep` appends for an old tree `b`, with the loop's index tests read as positions -/
theorem growStep_eq {n m ht b : Nat} (o c : H) (g : Nat → List H) (hb64 : b < 64) (hnb : n.testBit b = true) :
    growStep n m ht o c g b =
      if m < treeStart n b + 2 ^ ht then g b ++ [o]
      else if m < treeStart n b + 2 ^ (ht + 1) then g b ++ [c] else g b := by
  have := pow_succ2 ht
  simp only [growStep, clearBits_eq_treeStart]
  rw [if_pos ⟨hb64, hnb⟩]
  by_cases h1 : m < treeStart n b + 2 ^ ht
  · rw [if_pos h1, if_pos (by omega)]
  · by_cases h3 : m < treeStart n b + 2 ^ (ht + 1)
    · rw [if_neg h1, if_pos h3, if_neg (by omega), if_pos (by omega)]
    · rw [if_neg h1, if_neg h3, if_neg (by omega), if_neg (by omega)]

/-- one merge step on a stored path: if `X` is the path of `p` (from height `h0`) up to every tree of
    the intermediate forest at merge height `ht` that contains `p`, then `X` with the sibling the
    loops append is that path at merge height `ht + 1`. `o` is the old root at height `ht`, `c` the
    pending one. -/
theorem cov_extend {L' : List H} {m ht h0 p : Nat} {o c : H} {X : List H} (low : LowOnes m ht)
    (hb : m.testBit ht = true) (ho : o = subRoot L' ht (treeStart m ht))
    (hc : c = subRoot L' ht (treeStart m ht + 2 ^ ht))
    (hX : ∀ Ht S, Cov m ht p Ht S → h0 ≤ Ht ∧ X = subPath L' h0 p Ht S) :
    ∀ Ht S, Cov m (ht + 1) p Ht S → h0 ≤ Ht ∧
      (if m < p + 2 ^ ht then X ++ [o] else if m < p + 2 ^ (ht + 1) then X ++ [c] else X) =
        subPath L' h0 p Ht S := by
  intro Ht S hcov
  obtain ⟨_, hst⟩ := lowOnes_step low hb
  have hp := pow_succ2 ht
  have hpos := Nat.two_pow_pos ht
  rcases hcov with ⟨rfl, hS, h1, h2⟩ | ⟨hle, hbit, hS, h1, h2⟩
  · -- the tree just merged: `p` is in its right half (the pending tree) or its left half (the old one)
    have hS' : S = treeStart m ht := by omega
    by_cases hr : S + 2 ^ ht ≤ p
    · obtain ⟨g1, g2⟩ := hX ht (S + 2 ^ ht) (.inl ⟨rfl, by omega, hr, h2⟩)
      exact ⟨by omega, by rw [if_pos (by omega), g2, subPath_right L' g1 hr, ho, hS']⟩
    · obtain ⟨g1, g2⟩ := hX ht S (.inr ⟨Nat.le_refl _, hb, hS', h1, by omega⟩)
      exact ⟨by omega, by rw [if_neg (by omega), if_pos (by omega), g2, subPath_left L' g1 (by omega), hc, hS']⟩
  · -- a higher tree, to the left of everything the step touches
    have := tree_order (m := m) (h1 := ht) (h2 := Ht) (by omega) hbit
    obtain ⟨g1, g2⟩ := hX Ht S (.inr ⟨by omega, hbit, hS, h1, h2⟩)
    exact ⟨g1, by rw [if_neg (by omega), if_neg (by omega)]; exact g2⟩

theorem loopInv_step {new0 : List (Leaf H)} {L' : List H} {n i ht : Nat} {hcur : H} {st : AddState H}
    (inv : LoopInv new0 L' n i ht hcur st) (hb : (n + i).testBit ht = true) :
    LoopInv new0 L' n i (ht + 1) (node (st.trees ht) hcur)
      { st with
        leaves := appendSiblings st.leaves i ht (st.trees ht) hcur
        growth := growStep n st.numLeaves ht (st.trees ht) hcur st.growth } := by
  obtain ⟨hlow', hst⟩ := lowOnes_step inv.low hb
  have hp := pow_succ2 ht
  have hold : st.trees ht = subRoot L' ht (treeStart (n + i) ht) := inv.trees ht (Nat.le_refl _) hb
  have hcur' : hcur = subRoot L' ht (treeStart (n + i) ht + 2 ^ ht) := inv.cur _ (by omega)
  refine ⟨inv.len, hlow', inv.num, fun h hh hbit => inv.trees h (by omega) hbit, ?_, ?_, ?_, ?_, ?_⟩
  · intro S hS
    have : S = treeStart (n + i) ht := by omega
    subst this
    simp only [subRoot]
    rw [← hold, ← hcur']
  · simp [appendSiblings, inv.llen]
  · intro j l' hg
    obtain ⟨l, hl, e1, e2, e3, _⟩ := appendSiblings_get hg
    rw [e1, e2, e3]; exact inv.fields j l hl
  · intro j l' hg Ht S hcov
    obtain ⟨l, hl, _, _, _, e4⟩ := appendSiblings_get hg
    rw [e4]
    -- the loop compares batch positions `i`, `j`; the forest positions are `n + i`, `n + j`
    simp only [← Nat.add_lt_add_iff_left (k := n) (n := i), ← Nat.add_assoc]
    exact (cov_extend inv.low hb hold hcur' (fun Ht S h => ⟨Nat.zero_le _, inv.proofs j l hl Ht S h⟩) Ht S hcov).2
  · intro b hb64 hnb Ht S hcov
    show b ≤ Ht ∧ growStep n st.numLeaves ht (st.trees ht) hcur st.growth b = _
    rw [inv.num, growStep_eq _ _ _ hb64 hnb]
    exact cov_extend inv.low hb hold hcur' (inv.growth b hb64 hnb) Ht S hcov

theorem loopInv_exit {new0 : List (Leaf H)} {L' : List H} {n i ht : Nat} {hcur : H} {st : AddState H}
    (inv : LoopInv new0 L' n i ht hcur st) (hb : (n + i).testBit ht = false) :
    OuterInv new0 L' n (i + 1)
      { st with trees := setFn st.trees ht hcur, numLeaves := st.numLeaves + 1 } := by
  obtain ⟨hnew, habove, hbelow⟩ := lowOnes_stop inv.low hb
  refine ⟨inv.len, by simp [inv.num]; omega, ?_, inv.llen, inv.fields, ?_, ?_⟩
  · intro h hbit
    have hbit' : (n + i + 1).testBit h = true := hbit
    show setFn st.trees ht hcur h = subRoot L' h (treeStart (n + i + 1) h)
    rcases Nat.lt_trichotomy h ht with hlt | rfl | hgt
    · rw [hbelow h hlt] at hbit'; cases hbit'
    · simp only [setFn, if_true]
      exact inv.cur _ hnew
    · obtain ⟨e1, e2⟩ := habove h hgt
      have : h ≠ ht := by omega
      simp only [setFn, this, if_false]
      rw [e2]; exact inv.trees h (by omega) (by rw [← e1]; exact hbit')
  · intro j l hl Ht S ht'
    exact inv.proofs j l hl Ht S (treeAt_succ_cov inv.low hb ht')
  · intro b hb64 hnb Ht S ht'
    exact inv.growth b hb64 hnb Ht S (treeAt_succ_cov inv.low hb ht')

theorem addLeafLoop_spec {new0 : List (Leaf H)} {L' : List H} {n i : Nat} (hlt : n + i + 1 < 2 ^ 64) :
    ∀ (fuel ht : Nat) (hcur : H) (st : AddState H), ht + fuel = 64 → LoopInv new0 L' n i ht hcur st →
      OuterInv new0 L' n (i + 1) (addLeafLoop n i fuel ht hcur st) := by
  intro fuel
  induction fuel with
  | zero =>
    intro ht hcur st hf inv
    have := lowOnes_le inv.low
    have : ht = 64 := by omega
    subst this
    omega
  | succ fuel ih =>
    intro ht hcur st hf inv
    unfold addLeafLoop
    by_cases hb : (n + i).testBit ht = true
    · rw [show hasTree st.numLeaves ht = true by rw [hasTree, inv.num]; exact hb, if_neg (by decide)]
      exact ih (ht + 1) _ _ (by omega) (loopInv_step inv hb)
    · have hb' : (n + i).testBit ht = false := Bool.eq_false_iff.2 hb
      rw [show hasTree st.numLeaves ht = false by rw [hasTree, inv.num]; exact hb', if_pos (by decide)]
      exact loopInv_exit inv hb'

theorem outerInv_enter {new0 : List (Leaf H)} {L : List H} {n i : Nat} {st : AddState H}
    (inv : OuterInv new0 L n i st) (el : Leaf H) (hel : new0[i]? = some el) (hproof : el.proof = []) :
    LoopInv new0 (L ++ [Hasher.leaf el.elem (n + i) el.spent]) n i 0 (Hasher.leaf el.elem (n + i) el.spent)
      { st with leaves := st.leaves ++ [{ el with index := st.numLeaves }] } := by
  have hget : ∀ j l, (st.leaves ++ [{ el with index := st.numLeaves }])[j]? = some l →
      (j < i ∧ st.leaves[j]? = some l) ∨ (j = i ∧ l = { el with index := st.numLeaves }) := by
    intro j l hl
    rcases Nat.lt_trichotomy j i with hj | rfl | hj
    · left; rw [List.getElem?_append_left (by rw [inv.llen]; exact hj)] at hl; exact ⟨hj, hl⟩
    · right; rw [← inv.llen, List.getElem?_concat_length] at hl; exact ⟨rfl, (Option.some.inj hl).symm⟩
    · rw [List.getElem?_eq_none (by simp [inv.llen]; omega)] at hl; cases hl
  refine ⟨by simp [inv.len], lowOnes_zero _, inv.num, ?_, ?_, by simp [inv.llen], ?_, ?_, ?_⟩
  · intro h _ hbit
    rw [inv.trees h hbit, subRoot_append L _ (by rw [inv.len]; exact tree_end_le hbit)]
  · intro S hS
    have : S = n + i := by simp at hS; omega
    subst this
    simp only [subRoot]
    rw [← inv.len, List.getD, List.getElem?_concat_length]; rfl
  · intro j l hl
    rcases hget j l hl with ⟨_, hl'⟩ | ⟨rfl, rfl⟩
    · exact inv.fields j l hl'
    · exact ⟨inv.num, el, hel, rfl, rfl⟩
  · intro j l hl Ht S hc
    rcases hget j l hl with ⟨hj, hl'⟩ | ⟨rfl, rfl⟩
    · rcases hc with ⟨_, h1, h2, h3⟩ | ⟨_, ht'⟩
      · simp at h1; omega
      · rw [inv.proofs j l hl' Ht S ht', subPath_append L _ 0 _ (by rw [inv.len, ht'.2.1]; exact tree_end_le ht'.1)]
    · rcases hc with ⟨rfl, _, _, _⟩ | ⟨_, hbit, hS, h1, h2⟩
      · simp [subPath, hproof]
      · have := tree_end_le hbit; omega
  · intro b hb64 hnb Ht S hc
    have hend := tree_end_le hnb
    rcases hc with ⟨_, h1, h2, h3⟩ | ⟨_, ht'⟩
    · simp at h1
      have := Nat.two_pow_pos b
      omega
    · obtain ⟨g1, g2⟩ := inv.growth b hb64 hnb Ht S ht'
      exact ⟨g1, by rw [g2, subPath_append L _ b _ (by rw [inv.len, ht'.2.1]; exact tree_end_le ht'.1)]⟩

/-- leaf hashes of a batch whose first leaf gets index `start` -/
def hashesFrom : Nat → List (Leaf H) → List H
  | _, [] => []
  | start, el :: rest => Hasher.leaf el.elem start el.spent :: hashesFrom (start + 1) rest

theorem hashesFrom_length (start : Nat) (new : List (Leaf H)) : (hashesFrom start new).length = new.length := by
  induction new generalizing start with
  | nil => rfl
  | cons el rest ih => simp [hashesFrom, ih]

theorem hashesFrom_get (start : Nat) (new : List (Leaf H)) (j : Nat) :
    (hashesFrom start new)[j]? = new[j]?.map (fun l0 => (Hasher.leaf l0.elem (start + j) l0.spent : H)) := by
  induction new generalizing start j with
  | nil => rfl
  | cons el rest ih =>
    cases j with
    | zero => rfl
    | succ j => rw [hashesFrom, List.getElem?_cons_succ, List.getElem?_cons_succ, ih, Nat.add_right_comm]; rfl

theorem getD_append_hashesFrom {L : List H} {n : Nat} (hL : L.length = n) {new : List (Leaf H)} {j : Nat} {l0 : Leaf H}
    (h : new[j]? = some l0) :
    (L ++ hashesFrom n new).getD (n + j) default = Hasher.leaf l0.elem (n + j) l0.spent := by
  subst hL
  rw [List.getD, List.getElem?_append_right (Nat.le_add_right _ _), Nat.add_sub_cancel_left, hashesFrom_get, h]; rfl

theorem addLeavesGo_spec {new0 : List (Leaf H)} {n : Nat} (hnp : ∀ l ∈ new0, l.proof = []) :
    ∀ (rest : List (Leaf H)) (L : List H) (i : Nat) (st : AddState H),
      new0.drop i = rest → n + i + rest.length < 2 ^ 64 → OuterInv new0 L n i st →
      OuterInv new0 (L ++ hashesFrom (n + i) rest) n (i + rest.length) (addLeavesGo n rest st) := by
  intro rest
  induction rest with
  | nil => intro L i st _ _ inv; simpa [hashesFrom, addLeavesGo] using inv
  | cons el rest ih =>
    intro L i st hdrop hlt inv
    have hel : new0[i]? = some el := by rw [← Nat.add_zero i, ← List.getElem?_drop, hdrop]; rfl
    have hmem : el ∈ new0 := List.mem_of_getElem? hel
    have hdrop' : new0.drop (i + 1) = rest := by rw [← List.drop_drop, hdrop]; rfl
    simp only [List.length_cons] at hlt
    have h1 := outerInv_enter inv el hel (hnp el hmem)
    have h2 := addLeafLoop_spec (by omega) 64 0 _ _ (by omega) h1
    have h3 := ih _ (i + 1) _ hdrop' (by omega) h2
    simp only [addLeavesGo, addOne, hashesFrom]
    rw [inv.llen, inv.num]
    have e1 : L ++ Hasher.leaf el.elem (n + i) el.spent :: hashesFrom (n + i + 1) rest =
        L ++ [Hasher.leaf el.elem (n + i) el.spent] ++ hashesFrom (n + (i + 1)) rest := by simp [Nat.add_assoc]
    have e2 : i + (el :: rest).length = i + 1 + rest.length := by simp; omega
    rw [e1, e2]
    rw [inv.num] at h3
    exact h3

theorem outerInv_init {new0 : List (Leaf H)} (acc : Acc H) (ls : List H)
    (hn : acc.numLeaves = ls.length)
    (ht : ∀ h, ls.length.testBit h = true → acc.trees h = subRoot ls h (treeStart ls.length h)) :
    OuterInv new0 ls ls.length 0
      { trees := acc.trees, numLeaves := acc.numLeaves, leaves := [], growth := fun _ => [] } := by
  refine ⟨rfl, hn, ht, rfl, ?_, ?_, ?_⟩
  · intro j l hl; simp at hl
  · intro j l hl; simp at hl
  · rintro b _ hnb Ht S ⟨hbit, rfl, h1, h2⟩
    have e1 := treeHeight_unique ⟨hbit, h1, h2⟩
    have e2 := treeHeight_unique (i := treeStart ls.length b) ⟨hnb, Nat.le_refl _, Nat.lt_add_of_pos_right (Nat.two_pow_pos b)⟩
    obtain rfl : Ht = b := e1.symm.trans e2
    exact ⟨Nat.le_refl _, (subPath_self ..).symm⟩

theorem addLeaves_outer (acc : Acc H) (ls : List H) (hacc : acc.toForest = forestOf ls)
    (new : List (Leaf H)) (hnp : ∀ l ∈ new, l.proof = []) (hsz : ls.length + new.length < 2 ^ 64) :
    OuterInv new (ls ++ hashesFrom ls.length new) ls.length new.length
      (addLeavesGo acc.numLeaves new
        { trees := acc.trees, numLeaves := acc.numLeaves, leaves := [], growth := fun _ => [] }) := by
  obtain ⟨hn, ht⟩ := (toForest_eq_iff acc ls).1 hacc
  have h0 := outerInv_init (new0 := new) acc ls hn ht
  have := addLeavesGo_spec (n := ls.length) hnp new ls 0 _ (by simp) (by simpa using hsz) h0
  simpa [hn] using this

theorem path_grow {new0 : List (Leaf H)} {ls ext : List H} {st : AddState H} {k : Nat}
    (inv : OuterInv new0 (ls ++ ext) ls.length k st) (hn : ls.length < 2 ^ 64) {j : Nat} (hj : j < ls.length) :
    path (ls ++ ext) j = path ls j ++ st.growth (path ls j).length := by
  obtain ⟨hb, hlo, _⟩ := treeHeight_spec hj
  have hle : ls.length ≤ ls.length + k := Nat.le_add_right _ _
  obtain ⟨hb', _, hhi'⟩ := treeHeight_spec (Nat.lt_of_lt_of_le hj hle)
  obtain ⟨_, g2⟩ := inv.growth _ (testBit_lt_64 hn hb) hb _ _
    ⟨hb', rfl, treeStart_mono hj hle, Nat.lt_of_le_of_lt hlo hhi'⟩
  rw [path_append ls ext hj, path_length, g2, inv.len]

theorem addLeaves_spec (acc : Acc H) (ls : List H) (hacc : acc.toForest = forestOf ls)
    (new : List (Leaf H)) (hnp : ∀ l ∈ new, l.proof = []) (hsz : ls.length + new.length < 2 ^ 64) :
    let ls' := ls ++ hashesFrom ls.length new
    (acc.addLeaves new).1.toForest = forestOf ls' ∧
    (acc.addLeaves new).2.1.length = new.length ∧
    ∀ j l, (acc.addLeaves new).2.1[j]? = some l →
      l.index = ls.length + j ∧ l.proof = path ls' (ls.length + j) ∧
      ls'.getD (ls.length + j) default = l.hash ∧
      ∃ l0, new[j]? = some l0 ∧ l.elem = l0.elem ∧ l.spent = l0.spent := by
  intro ls'
  have inv := addLeaves_outer acc ls hacc new hnp hsz
  have hlen : ls'.length = ls.length + new.length := inv.len
  refine ⟨?_, inv.llen, ?_⟩
  · rw [toForest_eq_iff]
    exact ⟨by rw [hlen]; exact inv.num, by rw [hlen]; exact inv.trees⟩
  · intro j l hl
    have hj : j < new.length := by
      have := (List.getElem?_eq_some_iff.1 hl).1
      rw [← inv.llen]; exact this
    obtain ⟨f1, l0, f2, f3, f4⟩ := inv.fields j l hl
    refine ⟨f1, ?_, ?_, l0, f2, f3, f4⟩
    · have hin := treeHeight_spec (show ls.length + j < ls.length + new.length by omega)
      rw [path_eq, hlen]
      exact inv.proofs j l hl _ _ ⟨hin.1, rfl, hin.2⟩
    · rw [getD_append_hashesFrom rfl f2, Leaf.hash, f1, f3, f4]

/-- `treeGrowth` is exactly what a holder of an old proof must append -/
theorem addLeaves_growth (acc : Acc H) (ls : List H) (hacc : acc.toForest = forestOf ls)
    (new : List (Leaf H)) (hnp : ∀ l ∈ new, l.proof = []) (hsz : ls.length + new.length < 2 ^ 64)
    (j : Nat) (hj : j < ls.length) :
    path (ls ++ hashesFrom ls.length new) j = path ls j ++ (acc.addLeaves new).2.2 (path ls j).length :=
  path_grow (addLeaves_outer acc ls hacc new hnp hsz) (by omega) hj

end
end Sia.ElemAcc
