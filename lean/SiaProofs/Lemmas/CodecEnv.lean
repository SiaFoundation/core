import SiaProofs.Lemmas.CodecPolicy
/-! `wf` / `guarded` of a schema under `Env.default` (every `ext` leaf one byte long and guarded) carry over to every
environment whose ext codecs occupy ≥ 1 byte and are guarded — so they are decided once and transported. -/
namespace Sia.Codec

structure ExtsFine (E : Env) : Prop where
  min : ∀ n, 1 ≤ (E.ext n).minLen
  grd : ∀ n, (E.ext n).guarded = true

theorem Env.default_fine : ExtsFine Env.default := ⟨fun _ => Nat.le_refl 1, fun _ => rfl⟩

theorem Env.with_fine {E : Env} (hE : ExtsFine E) (name : String) {c : Codec}
    (hm : 1 ≤ c.minLen) (hg : c.guarded = true) : ExtsFine (E.with name c) := by
  constructor <;> intro n <;> simp only [Env.with] <;> split
  · exact hm
  · exact hE.min n
  · exact hg
  · exact hE.grd n

theorem atom_minLen_lim (a : Atom) (l l' : Nat) : (a.codec l).minLen = (a.codec l').minLen := by
  cases a <;> rfl
theorem atom_guarded_lim (a : Atom) (l l' : Nat) : (a.codec l).guarded = (a.codec l').guarded := by
  cases a <;> rfl

theorem minLen_default_le {E : Env} (hE : ExtsFine E) (s : Sch) : s.minLen Env.default ≤ s.minLen E := by
  induction s with
  | atom a => exact Nat.le_of_eq (atom_minLen_lim a _ _)
  | cons l s r ihs ihr => exact Nat.add_le_add ihs ihr
  | ext n => exact hE.min n
  | _ => exact Nat.le_refl _

theorem wf_of_default {E : Env} (hE : ExtsFine E) (s : Sch) (h : s.wf Env.default = true) : s.wf E = true := by
  induction s with
  | cons l s r ihs ihr =>
    simp only [Sch.wf, Bool.and_eq_true] at h ⊢
    exact ⟨ihs h.1, ihr h.2⟩
  | slice s ih | uslice s ih | aslice s ih =>
    simp only [Sch.wf, Bool.and_eq_true, decide_eq_true_eq] at h ⊢
    exact ⟨ih h.1, Nat.le_trans h.2 (minLen_default_le hE s)⟩
  | opt s ih => exact ih h
  | _ => rfl

theorem guarded_of_default {E : Env} (hE : ExtsFine E) (s : Sch) (h : s.guarded Env.default = true) :
    s.guarded E = true := by
  induction s with
  | atom a => exact (atom_guarded_lim a _ _).trans h
  | cons l s r ihs ihr =>
    simp only [Sch.guarded, Bool.and_eq_true] at h ⊢
    exact ⟨ihs h.1, ihr h.2⟩
  | slice s ih | opt s ih | aslice s ih => exact ih h
  | uslice s _ => cases h
  | ext n => exact hE.grd n
  | nil => rfl

namespace Policy

/-- `tagGuarded` of the opcode table reduces to the two entries that are not closed terms: the
children below a threshold and the unlock conditions -/
theorem node_guarded {E : Env} (hE : ExtsFine E) (f : Nat) : (node E f).guarded = true := by
  have huc : Sch.guarded E Gen.encSchema_Types_UnlockConditions = true :=
    guarded_of_default hE _ (by decide)
  induction f with
  | zero =>
    have : (node E 0).guarded = (Sch.guarded E Gen.encSchema_Types_UnlockConditions && true) := rfl
    rw [this, huc]; rfl
  | succ f ih =>
    have : (node E (f + 1)).guarded =
        (((node E f).guarded && true) && (Sch.guarded E Gen.encSchema_Types_UnlockConditions && true)) := rfl
    rw [this, ih, huc]; rfl

theorem codec_guarded {E : Env} (hE : ExtsFine E) : (codec E).guarded = true := by
  simp [codec, Codec.tagged, tagGuarded, node_guarded hE]

theorem codec_minLen (E : Env) : (codec E).minLen = 1 := rfl

end Policy
end Sia.Codec
