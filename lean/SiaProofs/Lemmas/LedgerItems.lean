import SiaProofs.Lemmas.LedgerCensus
/-!
# A run of items

A transaction applies a list of items one after the other (so do the payouts of a block, `creates_run`).  Each item consumes at most a
few existing ids (`keys`), creates fresh ones (`created`), needs a precondition `Pre` that speaks of its keys only (which are known ids, `Known`),
and moves the census by `out` / `inn`.  When the preconditions hold before the run, the keys are pairwise distinct
and the created ids fresh, every item finds its precondition when its turn comes, and the effects add up
(`Items.Ok.fold`); if moreover every item returns in such a state, the run returns (`Items.Ok.total`).
-/
namespace Sia.Ledger

structure Items (α : Type) where
  step : Mid → α → VM Mid
  keys : α → List (Kind × Id)
  created : α → List (Kind × Id)
  /-- what the item adds to the pool -/
  tax : Ledger → α → Nat
  Pre : (Kind → Id → Prop) → Mid → α → Prop
  /-- weight of what leaves / enters the committed ledger; the base ledger and the pool of the state the item is
  applied to are parameters -/
  out : Ledger → Cur → α → Wt → Nat
  inn : Ledger → Cur → α → Wt → Nat

variable {α : Type}

def Items.ids (I : Items α) (a : α) : List Id := (I.keys a ++ I.created a).map (·.2)

/-- the effect of the item does not depend on where the pool stands -/
def Items.Blind (I : Items α) (a : α) : Prop := ∀ L p q, I.out L p a = I.out L q a ∧ I.inn L p a = I.inn L q a

/-- no item that reads the pool comes after one that moves it -/
def Items.Quiet (I : Items α) (l : List α) : Prop := l.Pairwise (fun a b => (∀ L, I.tax L a = 0) ∨ I.Blind b)

theorem Items.quiet_of_tax (I : Items α) {l : List α} (h : ∀ a ∈ l, ∀ L, I.tax L a = 0) : I.Quiet l :=
  List.Pairwise.imp_of_mem (fun ha _ _ => Or.inl (h _ ha)) (List.pairwise_of_forall (fun _ _ => trivial))

theorem Items.quiet_append (I : Items α) {A B : List α} (hA : ∀ a ∈ A, ∀ L, I.tax L a = 0) (hB : ∀ b ∈ B, I.Blind b) :
    I.Quiet (A ++ B) :=
  List.pairwise_append.2 ⟨I.quiet_of_tax hA,
    List.Pairwise.imp_of_mem (fun _ hb _ => Or.inr (hB _ hb)) (List.pairwise_of_forall (fun _ _ => trivial)),
    fun a ha _ _ => Or.inl (hA a ha)⟩

structure Items.Ok (I : Items α) : Prop where
  typed : ∀ {T ms a}, I.Pre T ms a → ∀ q ∈ I.keys a, T q.1 q.2
  agree : ∀ {T ms ms' a} {P : Id → Prop}, I.Pre T ms a → Agree ms ms' P → (∀ q ∈ I.keys a, ¬ P q.2) → I.Pre T ms' a
  known : ∀ {T ms a}, I.Pre T ms a → ∀ q ∈ I.keys a, Known ms q.1 q.2
  spec : ∀ {T ms ms' a R}, Ctx T ms.base → Inv T ms → I.Pre T ms a → Fresh T ms (I.created a ++ R) →
    I.step ms a = .ok ms' →
    Inv T ms' ∧ Agree ms ms' (· ∈ I.ids a) ∧ Fresh T ms' R ∧ ms'.base = ms.base ∧ ms'.pool = ms.pool + I.tax ms.base a ∧
    ∀ W, census W ms' + I.out ms.base ms.pool a W = census W ms + I.inn ms.base ms.pool a W

theorem Items.Ok.keep {I : Items α} (hO : I.Ok) {T} {ms ms1 : Mid} {a : α} {l : List α} {R : List (Kind × Id)}
    (hc : Ctx T ms.base) (hpre : ∀ b ∈ a :: l, I.Pre T ms b) (hn : ((a :: l).flatMap I.keys).Nodup)
    (hF : Fresh T ms (I.created a ++ R)) (hA : Agree ms ms1 (· ∈ I.ids a)) : ∀ b ∈ l, I.Pre T ms1 b := by
  intro b hb
  have hpa := hpre a List.mem_cons_self
  have hpb := hpre b (List.mem_cons_of_mem _ hb)
  refine hO.agree hpb hA (fun q hq hm => ?_)
  obtain ⟨k, hk, hkq⟩ := List.mem_map.1 hm
  rcases List.mem_append.1 hk with hk | hk
  · have hkind := hc.disj _ _ _ (hO.typed hpa k hk) (hkq ▸ hO.typed hpb q hq)
    exact (List.nodup_append.1 hn).2.2 k hk q (List.mem_flatMap.2 ⟨b, hb, hq⟩) (Prod.ext hkind hkq)
  · exact hF.ne_of_known (hO.known hpb q hq) k (List.mem_append_left _ hk) hkq

theorem Items.Ok.fold {I : Items α} (hO : I.Ok) {T} (l : List α) : ∀ (ms ms' : Mid) (R : List (Kind × Id)),
    Ctx T ms.base → Inv T ms → (∀ a ∈ l, I.Pre T ms a) → (l.flatMap I.keys).Nodup → I.Quiet l →
    Fresh T ms (l.flatMap I.created ++ R) → l.foldlM I.step ms = .ok ms' →
    Inv T ms' ∧ Agree ms ms' (· ∈ l.flatMap I.ids) ∧ Fresh T ms' R ∧ ms'.base = ms.base ∧
    ms'.pool = ms.pool + (l.map (I.tax ms.base)).sum ∧
    ∀ W, census W ms' + (l.map (I.out ms.base ms.pool · W)).sum = census W ms + (l.map (I.inn ms.base ms.pool · W)).sum := by
  induction l with
  | nil =>
    intro ms ms' R _ hI _ _ _ hF h
    cases h
    exact ⟨hI, Agree.refl _ _, hF, rfl, rfl, fun _ => rfl⟩
  | cons a l ih =>
    intro ms ms' R hc hI hpre hn hq hF h
    rw [List.foldlM_cons, bind_ok_iff] at h
    obtain ⟨ms1, h1, h2⟩ := h
    obtain ⟨hq1, hq2⟩ := List.pairwise_cons.1 hq
    rw [List.flatMap_cons, List.append_assoc] at hF
    obtain ⟨hI1, hA1, hF1, hb1, hp1, hW1⟩ := hO.spec hc hI (hpre a List.mem_cons_self) hF h1
    obtain ⟨hI2, hA2, hF2, hb2, hp2, hW2⟩ := ih ms1 ms' R (hb1 ▸ hc) hI1 (hO.keep hc hpre hn hF hA1)
      (List.nodup_append.1 hn).2.1 hq2 hF1 h2
    have hpl : ∀ b ∈ l, I.out ms1.base ms1.pool b = I.out ms.base ms.pool b ∧ I.inn ms1.base ms1.pool b = I.inn ms.base ms.pool b := by
      intro b hb
      rw [hb1, hp1]
      rcases hq1 b hb with h0 | hB
      · rw [h0]; exact ⟨rfl, rfl⟩
      · exact hB _ _ _
    refine ⟨hI2, ?_, hF2, hb2.trans hb1, ?_, fun W => ?_⟩
    · refine (hA1.mono (fun x hx => ?_)).trans (hA2.mono (fun x hx => ?_)) <;>
        simp only [List.flatMap_cons, List.mem_append]
      · exact Or.inl hx
      · exact Or.inr hx
    · rw [hp2, hp1, hb1, List.map_cons, List.sum_cons, Nat.add_assoc]
    · have e1 := hW1 W
      have e2 := hW2 W
      rw [List.map_congr_left (fun b hb => congrFun (hpl b hb).1 W),
        List.map_congr_left (fun b hb => congrFun (hpl b hb).2 W)] at e2
      simp only [List.map_cons, List.sum_cons]
      omega

/-- the run returns if every item returns whenever it finds its precondition, in a state whose pool lies between the
pool at the start and what the items after it leave room for -/
theorem Items.Ok.total {I : Items α} (hO : I.Ok) {T} (l : List α) : ∀ (ms : Mid) (R : List (Kind × Id)) (top : Nat),
    Ctx T ms.base → Inv T ms → (∀ a ∈ l, I.Pre T ms a) → (l.flatMap I.keys).Nodup →
    Fresh T ms (l.flatMap I.created ++ R) → ms.pool + (l.map (I.tax ms.base)).sum ≤ top →
    (∀ m a, a ∈ l → m.base = ms.base → I.Pre T m a → ms.pool ≤ m.pool → m.pool + I.tax m.base a ≤ top → ∃ m', I.step m a = .ok m') →
    ∃ ms', l.foldlM I.step ms = .ok ms' := by
  induction l with
  | nil => intro ms _ _ _ _ _ _ _ _ _; exact ⟨ms, rfl⟩
  | cons a l ih =>
    intro ms R top hc hI hpre hn hF htop hgo
    rw [List.map_cons, List.sum_cons] at htop
    obtain ⟨ms1, h1⟩ := hgo ms a List.mem_cons_self rfl (hpre a List.mem_cons_self) (Nat.le_refl _) (by cur_omega)
    rw [List.flatMap_cons, List.append_assoc] at hF
    obtain ⟨hI1, hA1, hF1, hb1, hp1, _⟩ := hO.spec hc hI (hpre a List.mem_cons_self) hF h1
    obtain ⟨ms', h2⟩ := ih ms1 R top (hb1 ▸ hc) hI1 (hO.keep hc hpre hn hF hA1) (List.nodup_append.1 hn).2.1 hF1
      (by rw [hp1, hb1]; cur_omega)
      (fun m b hb hbase hp hle => hgo m b (List.mem_cons_of_mem _ hb) (hbase.trans hb1) hp (by rw [hp1] at hle; cur_omega))
    exact ⟨ms', by rw [List.foldlM_cons, h1]; exact h2⟩

end Sia.Ledger
