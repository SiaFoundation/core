import SiaProofs.Lemmas.LedgerSums
/-!
# The v2 validators of the ledger model as conjunctions of named rules

Each validator of `SiaModel/Ledger/Model.lean` is re-expressed (with a proof of equality to the
model's definition) through a per-item step function, and acceptance of the step is characterised
by an explicit rule structure.  C02 / C07 / C08 read the rules off these characterisations.
-/
namespace Sia.Ledger

/-- per-input body of the first loop of `validateV2Siacoins` (copied verbatim from the model) -/
def scIn2Step (ms : Mid) (seen : List Id) (sci : ScIn2) : VM (List Id) := do
    if ms.isSpent sci.parent.id then reject "siacoin input double-spends parent output"
    else if seen.contains sci.parent.id then reject "siacoin input double-spends parent output (previously spent by input)"
    else if sci.parent.maturity > ms.base.child then reject "siacoin input has immature parent"
    else
      (match sci.parent.leaf with
       | none => validateEphemeralSc ms sci
       | some _ => if ms.base.hasSc sci.parent then pure () else reject "siacoin input spends output not present in the accumulator")
      if ¬ sci.addrOk then reject "claims incorrect policy for parent address"
      else if ¬ sci.authOk then reject "failed to satisfy spend policy"
      else pure (sci.parent.id :: seen)

/-- the balance part of `validateV2Siacoins` (copied verbatim from the model) -/
def v2ScBalance (t : Txn2) : VM Unit := do
  let inputSum0 ← t.scIns.foldlM (fun (s : Cur) sci => if s + sci.parent.value < curLimit then pure (s + sci.parent.value) else reject "siacoin inputs overflow") 0
  let outputSum0 ← t.scOuts.foldlM (fun (s : Cur) o => if o.2.value = 0 then reject "siacoin output has zero value" else addC s o.2.value) 0
  let outputSum1 ← t.fcs.foldlM (fun s (_, fc, _) => do
    let a ← addC s fc.renter.value
    let b ← addC a fc.host.value
    let tax ← v2Tax fc
    addC b tax) outputSum0
  let (inputSum, outputSum2) ← t.ress.foldlM (fun ((i, o) : Cur × Cur) r => match r.res with
    | .renewal rn => do
      let i1 ← if i + rn.renterRollover < curLimit then pure (i + rn.renterRollover) else reject "siacoin inputs overflow"
      let i2 ← if i1 + rn.hostRollover < curLimit then pure (i1 + rn.hostRollover) else reject "siacoin inputs overflow"
      let a ← addC o rn.newContract.renter.value
      let b ← addC a rn.newContract.host.value
      let tax ← v2Tax rn.newContract
      let c ← addC b tax
      pure (i2, c)
    | _ => pure (i, o)) (inputSum0, outputSum1)
  let outputSum ← addC outputSum2 t.fee
  if inputSum ≠ outputSum then reject "siacoin inputs do not equal outputs" else pure ()

/-- adding what forming `fc` costs (both payouts and the tax) to a running sum, the way the siacoin balance does it, is
one unchecked addition: every intermediate failure is the same overflow panic -/
theorem addC_cost_eq (s : Cur) (fc : Fc2) :
    (do let a ← addC s fc.renter.value; let b ← addC a fc.host.value; let tax ← v2Tax fc; addC b tax) =
      addC s (fc.val + fc.val / 25) := by
  unfold v2Tax Fc2.val
  by_cases h1 : s + fc.renter.value < curLimit
  · rw [addC_eq_ok h1, ok_bind]
    by_cases h2 : s + fc.renter.value + fc.host.value < curLimit
    · rw [addC_eq_ok h2, ok_bind, addC_eq_ok (a := fc.renter.value) (by cur_omega), ok_bind, pure_bind]
      simp only [addC, Nat.add_assoc]
    · rw [addC_eq_panic h2, addC_eq_panic (a := s) (by cur_omega)]; rfl
  · rw [addC_eq_panic h1, addC_eq_panic (a := s) (by cur_omega)]; rfl

/-- the rollovers a resolution adds to the input side of the siacoin balance, the cost of the renewed contract it adds
to the output side -/
def resRoll (r : Resolution2) : Nat :=
  match r.res with
  | .renewal rn => rn.renterRollover + rn.hostRollover
  | _ => 0

def resCost (r : Resolution2) : Nat :=
  match r.res with
  | .renewal rn => rn.newContract.val + rn.newContract.val / 25
  | _ => 0

/-- the loop body of `v2ScBalance` over the resolutions, the cost of the new contract added at once -/
def v2ResStep (x : Cur × Cur) (r : Resolution2) : VM (Cur × Cur) :=
  match r.res with
  | .renewal rn => do
    let i1 ← if x.1 + rn.renterRollover < curLimit then pure (x.1 + rn.renterRollover) else reject "siacoin inputs overflow"
    let i2 ← if i1 + rn.hostRollover < curLimit then pure (i1 + rn.hostRollover) else reject "siacoin inputs overflow"
    let c ← addC x.2 (rn.newContract.val + rn.newContract.val / 25)
    pure (i2, c)
  | _ => pure x

theorem v2ScBalance_eq (t : Txn2) : v2ScBalance t = (do
    let inputSum0 ← t.scIns.foldlM (fun (s : Cur) sci => if s + sci.parent.value < curLimit then pure (s + sci.parent.value) else reject "siacoin inputs overflow") 0
    let outputSum0 ← t.scOuts.foldlM (fun (s : Cur) o => if o.2.value = 0 then reject "siacoin output has zero value" else addC s o.2.value) 0
    let outputSum1 ← t.fcs.foldlM (fun s x => addC s (x.2.1.val + x.2.1.val / 25)) outputSum0
    let io ← t.ress.foldlM v2ResStep (inputSum0, outputSum1)
    let outputSum ← addC io.2 t.fee
    if io.1 ≠ outputSum then reject "siacoin inputs do not equal outputs" else pure ()) := by
  unfold v2ScBalance
  refine bind_congr' rfl fun _ => bind_congr' rfl fun _ => bind_congr' ?_ fun _ => bind_congr' ?_ fun _ => rfl
  · exact congrArg (t.fcs.foldlM · _) (funext fun s => funext fun x => addC_cost_eq s x.2.1)
  · refine congrArg (t.ress.foldlM · _) (funext fun x => funext fun r => ?_)
    unfold v2ResStep
    cases r.res with
    | renewal rn =>
      obtain ⟨i, o⟩ := x
      simp only [pure_bind, reject_bind, ← addC_cost_eq, bind_assoc]
    | proof _ _ _ _ => rfl
    | expiration => rfl

theorem validateV2Siacoins_eq (ms : Mid) (t : Txn2) :
    validateV2Siacoins ms t = (do let _ ← t.scIns.foldlM (scIn2Step ms) []; v2ScBalance t) := rfl

/-- existence rule of a v2 siacoin input: a non-ephemeral parent must be an element of the ledger,
an ephemeral one must have been created earlier in the block (with matching content from
`ephemeralFix` on) -/
def ScIn2Present (ms : Mid) (sci : ScIn2) : Prop :=
  match sci.parent.leaf with
  | none => validateEphemeralSc ms sci = .ok ()
  | some _ => ms.base.hasSc sci.parent = true

instance (ms : Mid) (sci : ScIn2) : Decidable (ScIn2Present ms sci) := by
  unfold ScIn2Present; split <;> infer_instance

structure ScIn2Rules (ms : Mid) (sci : ScIn2) : Prop where
  notSpent : ms.isSpent sci.parent.id = false
  mature : sci.parent.maturity ≤ ms.base.child
  present : ScIn2Present ms sci
  addrOk : sci.addrOk = true
  authOk : sci.authOk = true

theorem scIn2Rules_iff (ms : Mid) (sci : ScIn2) : ScIn2Rules ms sci ↔
    (ms.isSpent sci.parent.id = false ∧ sci.parent.maturity ≤ ms.base.child ∧ ScIn2Present ms sci ∧
      sci.addrOk = true ∧ sci.authOk = true) :=
  ⟨fun h => ⟨h.1, h.2, h.3, h.4, h.5⟩, fun h => ⟨h.1, h.2.1, h.2.2.1, h.2.2.2.1, h.2.2.2.2⟩⟩

theorem scIn2Step_ok_iff (ms : Mid) (seen : List Id) (sci : ScIn2) (s' : List Id) :
    scIn2Step ms seen sci = .ok s' ↔ (s' = sci.parent.id :: seen ∧ (sci.parent.id ∉ seen ∧ ScIn2Rules ms sci)) := by
  simp only [scIn2Step, scIn2Rules_iff, ScIn2Present, ite_reject_ok_iff, bind_unit_ok_iff, pure_eq_ok,
    Bool.not_eq_true, Bool.not_eq_false, List.contains_eq_mem, decide_eq_false_iff_not, gt_iff_lt, Nat.not_lt]
  cases sci.parent.leaf <;> simp only [ite_else_reject_ok_iff, pure_eq_ok, and_true] <;>
    exact ⟨fun ⟨h1, h2, h3, h4, h5, h6, h7⟩ => ⟨h7, h2, h1, h3, h4, h5, h6⟩,
      fun ⟨h7, h2, h1, h3, h4, h5, h6⟩ => ⟨h1, h2, h3, h4, h5, h6, h7⟩⟩

/-- `id` is indexed to an in-range siacoin (siafund) diff that is marked created -/
def Mid.scCreatedAt (s : Mid) (id : Id) : Prop :=
  ∃ j, s.lookup id = some j ∧ j < s.sces.length ∧ (s.sces.getD j default).created = true
def Mid.sfCreatedAt (s : Mid) (id : Id) : Prop :=
  ∃ j, s.lookup id = some j ∧ j < s.sfes.length ∧ (s.sfes.getD j default).created = true

theorem ephemeralSc_createdAt {s : Mid} {sci : ScIn2} (h : validateEphemeralSc s sci = .ok ()) :
    s.scCreatedAt sci.parent.id := by
  unfold validateEphemeralSc at h
  cases hl : s.lookup sci.parent.id with
  | none => rw [hl] at h; exact absurd h (reject_ne_ok _ _)
  | some j =>
    simp only [hl, ite_reject_ok_iff, not_or, ge_iff_le, Nat.not_le, Decidable.not_not] at h
    exact ⟨j, hl, h.1.1, h.1.2⟩

/-- what an accepted ephemeral siafund parent satisfies: accepted in the legacy window only, with a computable claim -/
theorem validateEphemeralSf_ok {s : Mid} {sfi : SfIn2} (h : validateEphemeralSf s sfi = .ok ()) :
    s.sfCreatedAt sfi.parent.id ∧ s.base.child < s.base.P.ephemeralFix ∧ sfi.parent.claimStart ≤ s.pool ∧
      (s.pool - sfi.parent.claimStart) / siafundCount * sfi.parent.value < curLimit := by
  unfold validateEphemeralSf at h
  cases hl : s.lookup sfi.parent.id with
  | none => rw [hl] at h; exact absurd h (reject_ne_ok _ _)
  | some j =>
    simp only [hl, ite_reject_ok_iff, not_or, ge_iff_le, gt_iff_lt, Nat.not_le, Nat.not_lt, Decidable.not_not] at h
    exact ⟨⟨j, hl, h.1.1, h.1.2⟩, h.2.1, h.2.2.1, h.2.2.2.1⟩

theorem validateEphemeralSc_noPanic (ms : Mid) (sci : ScIn2) : NoPanic (validateEphemeralSc ms sci) := by
  unfold validateEphemeralSc
  split
  · exact noPanic_reject _
  · simp only [noPanic_ite, noPanic_reject, noPanic_pure, implies_true, and_self]

theorem scIn2Step_noPanic (ms : Mid) (seen : List Id) (sci : ScIn2) : NoPanic (scIn2Step ms seen sci) := by
  simp only [scIn2Step, noPanic_ite, noPanic_reject, implies_true, true_and]
  intro _ _ _
  refine bind_noPanic ?_ fun _ _ => ?_
  · split
    · exact validateEphemeralSc_noPanic ms sci
    · simp only [noPanic_ite, noPanic_reject, noPanic_pure, implies_true, and_self]
  · simp only [noPanic_ite, noPanic_reject, noPanic_pure, implies_true, and_self]

theorem validateV2Siacoins_ok_iff (ms : Mid) (t : Txn2) :
    validateV2Siacoins ms t = .ok () ↔
      ((∀ sci ∈ t.scIns, ScIn2Rules ms sci) ∧ (t.scIns.map (·.parent.id)).Nodup ∧ v2ScBalance t = .ok ()) := by
  rw [validateV2Siacoins_eq, bind_ok_iff]
  simp only [foldlM_seen_ok_iff _ _ (scIn2Step_ok_iff ms), and_assoc, exists_eq_left]

theorem validateV2Siacoins_rejected (ms : Mid) (t : Txn2)
    (h : ¬ ((∀ sci ∈ t.scIns, ScIn2Rules ms sci) ∧ (t.scIns.map (·.parent.id)).Nodup)) :
    Rejected (validateV2Siacoins ms t) := by
  rw [validateV2Siacoins_eq]
  refine bind_rejected_left _ (rejected_of_notOk_noPanic (fun s hs => h ?_) (foldlM_noPanic (scIn2Step_noPanic ms) _ _))
  exact ((foldlM_seen_ok_iff _ _ (scIn2Step_ok_iff ms) _ _).1 hs).2

def sfIn2Step (ms : Mid) (seen : List Id) (sfi : SfIn2) : VM (List Id) := do
    if ms.isSpent sfi.parent.id then reject "siafund input double-spends parent output"
    else if seen.contains sfi.parent.id then reject "siafund input double-spends parent output (previously spent by input)"
    else
      (match sfi.parent.leaf with
       | none => validateEphemeralSf ms sfi
       | some _ => if ms.base.hasSf sfi.parent then pure () else reject "siafund input spends output not present in the accumulator")
      if ¬ sfi.addrOk then reject "claims incorrect policy for parent address"
      else if ¬ sfi.authOk then reject "failed to satisfy spend policy"
      else pure (sfi.parent.id :: seen)

def v2SfBalance (t : Txn2) : VM Unit := do
  let inputSum := t.sfIns.foldl (fun s i => (s + i.parent.value) % u64Limit) 0
  let outputSum ← t.sfOuts.foldlM (fun (s : Nat) (_, v, _) => if v = 0 then reject "siafund output has zero value" else pure ((s + v) % u64Limit)) 0
  if inputSum ≠ outputSum then reject "siafund inputs do not equal outputs" else pure ()

theorem validateV2Siafunds_eq (ms : Mid) (t : Txn2) :
    validateV2Siafunds ms t = (do let _ ← t.sfIns.foldlM (sfIn2Step ms) []; v2SfBalance t) := rfl

def SfIn2Present (ms : Mid) (sfi : SfIn2) : Prop :=
  match sfi.parent.leaf with
  | none => validateEphemeralSf ms sfi = .ok ()
  | some _ => ms.base.hasSf sfi.parent = true

instance (ms : Mid) (sfi : SfIn2) : Decidable (SfIn2Present ms sfi) := by
  unfold SfIn2Present; split <;> infer_instance

structure SfIn2Rules (ms : Mid) (sfi : SfIn2) : Prop where
  notSpent : ms.isSpent sfi.parent.id = false
  present : SfIn2Present ms sfi
  addrOk : sfi.addrOk = true
  authOk : sfi.authOk = true

theorem sfIn2Rules_iff (ms : Mid) (sfi : SfIn2) : SfIn2Rules ms sfi ↔
    (ms.isSpent sfi.parent.id = false ∧ SfIn2Present ms sfi ∧ sfi.addrOk = true ∧ sfi.authOk = true) :=
  ⟨fun h => ⟨h.1, h.2, h.3, h.4⟩, fun h => ⟨h.1, h.2.1, h.2.2.1, h.2.2.2⟩⟩

theorem sfIn2Step_ok_iff (ms : Mid) (seen : List Id) (sfi : SfIn2) (s' : List Id) :
    sfIn2Step ms seen sfi = .ok s' ↔ (s' = sfi.parent.id :: seen ∧ (sfi.parent.id ∉ seen ∧ SfIn2Rules ms sfi)) := by
  simp only [sfIn2Step, sfIn2Rules_iff, SfIn2Present, ite_reject_ok_iff, bind_unit_ok_iff, pure_eq_ok,
    Bool.not_eq_true, Bool.not_eq_false, List.contains_eq_mem, decide_eq_false_iff_not]
  cases sfi.parent.leaf <;> simp only [ite_else_reject_ok_iff, pure_eq_ok, and_true] <;>
    exact ⟨fun ⟨h1, h2, h3, h4, h5, h6⟩ => ⟨h6, h2, h1, h3, h4, h5⟩,
      fun ⟨h6, h2, h1, h3, h4, h5⟩ => ⟨h1, h2, h3, h4, h5, h6⟩⟩

theorem validateEphemeralSf_noPanic (ms : Mid) (sfi : SfIn2) : NoPanic (validateEphemeralSf ms sfi) := by
  unfold validateEphemeralSf
  split
  · exact noPanic_reject _
  · simp only [noPanic_ite, noPanic_reject, noPanic_pure, implies_true, and_self]

theorem sfIn2Step_noPanic (ms : Mid) (seen : List Id) (sfi : SfIn2) : NoPanic (sfIn2Step ms seen sfi) := by
  simp only [sfIn2Step, noPanic_ite, noPanic_reject, implies_true, true_and]
  intro _ _
  refine bind_noPanic ?_ fun _ _ => ?_
  · split
    · exact validateEphemeralSf_noPanic ms sfi
    · simp only [noPanic_ite, noPanic_reject, noPanic_pure, implies_true, and_self]
  · simp only [noPanic_ite, noPanic_reject, noPanic_pure, implies_true, and_self]

theorem validateV2Siafunds_ok_iff (ms : Mid) (t : Txn2) :
    validateV2Siafunds ms t = .ok () ↔
      ((∀ sfi ∈ t.sfIns, SfIn2Rules ms sfi) ∧ (t.sfIns.map (·.parent.id)).Nodup ∧ v2SfBalance t = .ok ()) := by
  rw [validateV2Siafunds_eq, bind_ok_iff]
  simp only [foldlM_seen_ok_iff _ _ (sfIn2Step_ok_iff ms), and_assoc, exists_eq_left]

theorem validateV2Siafunds_rejected (ms : Mid) (t : Txn2)
    (h : ¬ ((∀ sfi ∈ t.sfIns, SfIn2Rules ms sfi) ∧ (t.sfIns.map (·.parent.id)).Nodup)) :
    Rejected (validateV2Siafunds ms t) := by
  rw [validateV2Siafunds_eq]
  refine bind_rejected_left _ (rejected_of_notOk_noPanic (fun s hs => h ?_) (foldlM_noPanic (sfIn2Step_noPanic ms) _ _))
  exact ((foldlM_seen_ok_iff _ _ (sfIn2Step_ok_iff ms) _ _).1 hs).2

theorem v2SfBalance_noPanic (t : Txn2) : NoPanic (v2SfBalance t) := by
  refine bind_noPanic (foldlM_noPanic (fun s x => ?_) _ _) (fun _ _ => ?_) <;>
    simp only [noPanic_ite, noPanic_reject, noPanic_pure, implies_true, and_self]

theorem validateV2Siafunds_noPanic (ms : Mid) (t : Txn2) : NoPanic (validateV2Siafunds ms t) := by
  rw [validateV2Siafunds_eq]
  exact bind_noPanic (foldlM_noPanic (sfIn2Step_noPanic ms) _ _) (fun _ _ => v2SfBalance_noPanic t)

/-- rules of `validateContract2` (formation and renewal's new contract) -/
structure Contract2Rules (child : Nat) (fc : Fc2) (sigOk : Bool) : Prop where
  filesize : fc.filesize ≤ fc.capacity
  proofHeight : child ≤ fc.proofHeight
  exp : fc.proofHeight < fc.expHeight
  value : ¬ (fc.renter.value = 0 ∧ fc.host.value = 0)
  missed : fc.missedHost ≤ fc.host.value
  collateral : fc.totalCollateral ≤ fc.host.value
  sig : sigOk = true

theorem validateContract2_ok_iff (ms : Mid) (fc : Fc2) (sigOk : Bool) :
    validateContract2 ms fc sigOk = .ok () ↔ Contract2Rules ms.base.child fc sigOk := by
  simp only [validateContract2, ite_reject_ok_iff, ite_else_reject_ok_iff, pure_eq_ok, and_true,
    gt_iff_lt, Nat.not_lt, Nat.not_le]
  exact ⟨fun ⟨h1, h2, h3, h4, h5, h6, h7⟩ => ⟨h1, h2, h3, h4, h5, h6, h7⟩,
    fun ⟨h1, h2, h3, h4, h5, h6, h7⟩ => ⟨h1, h2, h3, h4, h5, h6, h7⟩⟩

theorem validateContract2_noPanic (ms : Mid) (fc : Fc2) (sigOk : Bool) : NoPanic (validateContract2 ms fc sigOk) := by
  simp only [validateContract2, noPanic_ite, noPanic_reject, noPanic_pure, implies_true, and_self]

structure Parent2Rules (ms : Mid) (revised resolved : List Id) (e : Fc2Elem) : Prop where
  notSpent : ms.isSpent e.id = false
  notRevised : e.id ∉ revised
  notResolved : e.id ∉ resolved
  present : ms.base.hasFc2 e = true

theorem validateParent2_ok_iff (ms : Mid) (revised resolved : List Id) (e : Fc2Elem) :
    validateParent2 ms revised resolved e = .ok () ↔ Parent2Rules ms revised resolved e := by
  simp only [validateParent2, ite_reject_ok_iff, pure_eq_ok, and_true, Bool.not_eq_true, Bool.not_eq_false,
    List.contains_eq_mem, decide_eq_false_iff_not]
  exact ⟨fun ⟨h1, h2, h3, h4⟩ => ⟨h1, h2, h3, h4⟩, fun ⟨h1, h2, h3, h4⟩ => ⟨h1, h2, h3, h4⟩⟩

theorem validateParent2_noPanic (ms : Mid) (revised resolved : List Id) (e : Fc2Elem) :
    NoPanic (validateParent2 ms revised resolved e) := by
  simp only [validateParent2, noPanic_ite, noPanic_reject, noPanic_pure, implies_true, and_self]

/-- the contract "as it currently stands" for a v2 revision: the latest in-block revision if there
is one, else the version presented in the transaction -/
def Mid.curFc2 (ms : Mid) (e : Fc2Elem) : Fc2 :=
  match ms.lookup e.id with
  | some i => match (ms.v2fces.getD i default).revision with
    | some r => r
    | none => e.fc
  | none => e.fc

/-- rules of `validateRevision2` relative to the current contract `cur` -/
structure Revision2Rules (child ephemeralFix : Nat) (cur rev : Fc2) (sigOk : Bool) : Prop where
  curNoOverflow : cur.renter.value + cur.host.value < curLimit
  revNoOverflow : rev.renter.value + rev.host.value < curLimit
  capacity : cur.capacity ≤ rev.capacity
  filesize : rev.filesize ≤ rev.capacity
  curProofHeight : child ≤ cur.proofHeight
  revNum : cur.revNum < rev.revNum
  sum : rev.renter.value + rev.host.value = cur.renter.value + cur.host.value
  missed : rev.missedHost ≤ cur.missedHost
  missedFix : ephemeralFix ≤ child → rev.missedHost ≤ rev.host.value
  collateral : rev.totalCollateral = cur.totalCollateral
  proofHeight : child ≤ rev.proofHeight
  exp : rev.proofHeight < rev.expHeight
  sig : sigOk = true

/-- `validateRevision2` with the current contract made a parameter (copied from the model) -/
def revision2Check (child ephemeralFix : Nat) (cur rev : Fc2) (sigCurOk : Bool) : VM Unit := do
  let curSum ← addC cur.renter.value cur.host.value
  let revSum ← addC rev.renter.value rev.host.value
  if rev.capacity < cur.capacity then reject "decreases capacity"
  else if rev.filesize > rev.capacity then reject "has filesize exceeding capacity"
  else if cur.proofHeight < child then reject "revises contract after its proof window has opened"
  else if rev.revNum ≤ cur.revNum then reject "does not increase revision number"
  else if revSum ≠ curSum then reject "modifies output sum"
  else if rev.missedHost > cur.missedHost then reject "has missed host value exceeding old value"
  else if child ≥ ephemeralFix ∧ rev.missedHost > rev.host.value then reject "has missed host value exceeding valid host value"
  else if rev.totalCollateral ≠ cur.totalCollateral then reject "modifies total collateral"
  else if rev.proofHeight < child then reject "has proof height that has already passed"
  else if rev.expHeight ≤ rev.proofHeight then reject "leaves no time between proof height and expiration height"
  else if sigCurOk then pure () else reject "has invalid signature"

theorem validateRevision2_eq (ms : Mid) (e : Fc2Elem) (rev : Fc2) (sigOk : Bool) :
    validateRevision2 ms e rev sigOk =
      revision2Check ms.base.child ms.base.P.ephemeralFix (ms.curFc2 e) rev sigOk := rfl

theorem revision2Check_ok_iff (child fix : Nat) (cur rev : Fc2) (sigOk : Bool) :
    revision2Check child fix cur rev sigOk = .ok () ↔ Revision2Rules child fix cur rev sigOk := by
  simp only [revision2Check, addC_bind_ok_iff, ite_reject_ok_iff, ite_else_reject_ok_iff, pure_eq_ok, and_true,
    gt_iff_lt, ge_iff_le, ne_eq, Nat.not_lt, Nat.not_le, Decidable.not_not, not_and]
  exact ⟨fun ⟨h1, h2, h3, h4, h5, h6, h7, h8, h9, h10, h11, h12, h13⟩ =>
      ⟨h1, h2, h3, h4, h5, h6, h7, h8, h9, h10, h11, h12, h13⟩,
    fun ⟨h1, h2, h3, h4, h5, h6, h7, h8, h9, h10, h11, h12, h13⟩ =>
      ⟨h1, h2, h3, h4, h5, h6, h7, h8, h9, h10, h11, h12, h13⟩⟩

theorem revision2Check_noPanic (child fix : Nat) (cur rev : Fc2) (sig : Bool)
    (h1 : cur.renter.value + cur.host.value < curLimit) (h2 : rev.renter.value + rev.host.value < curLimit) :
    NoPanic (revision2Check child fix cur rev sig) := by
  simp only [revision2Check, addC_eq_ok h1, addC_eq_ok h2, ok_bind, noPanic_ite, noPanic_reject, noPanic_pure,
    implies_true, and_self]

/-- the renewal branch of the resolution loop, without the loop bookkeeping (copied from the model) -/
def renewalCheck (ms : Mid) (fc : Fc2) (rn : Renewal) : VM Unit :=
      if fc.renterKey ≠ rn.newContract.renterKey then reject "file contract renewal changes renter public key"
      else if fc.hostKey ≠ rn.newContract.hostKey then reject "file contract renewal changes host public key"
      else do
        let a ← addC rn.finalRenter.value rn.renterRollover
        let b ← addC a rn.finalHost.value
        let totalPayout ← addC b rn.hostRollover
        let existing ← addC fc.renter.value fc.host.value
        if totalPayout ≠ existing then reject "renewal payout does not match existing contract payout"
        else
          let c ← addC rn.newContract.renter.value rn.newContract.host.value
          let tax ← v2Tax rn.newContract
          let cost ← addC c tax
          let rollover ← addC rn.renterRollover rn.hostRollover
          if rollover > cost then reject "file contract renewal has rollover exceeding new contract cost"
          else
            validateContract2 ms rn.newContract rn.newSigOk
            if rn.sigOk then pure () else reject "file contract renewal has invalid signature"

theorem renewalCheck_ok {ms : Mid} {fc : Fc2} {rn : Renewal} (h : renewalCheck ms fc rn = .ok ()) :
    fc.renterKey = rn.newContract.renterKey ∧ fc.hostKey = rn.newContract.hostKey ∧
    rn.finalRenter.value + rn.renterRollover + rn.finalHost.value + rn.hostRollover = fc.renter.value + fc.host.value ∧
    Contract2Rules ms.base.child rn.newContract rn.newSigOk ∧ rn.sigOk = true := by
  simp only [renewalCheck, ite_reject_ok_iff, bind_ok_iff, addC_ok_iff, ite_else_reject_ok_iff, Decidable.not_not,
    ne_eq] at h
  obtain ⟨hk1, hk2, a, ⟨rfl, _⟩, b, ⟨rfl, _⟩, tp, ⟨rfl, _⟩, ex, ⟨rfl, _⟩, heq, c, _, tax, _, cost, _, ro, _, _, _, hc, hsig, _⟩ := h
  exact ⟨hk1, hk2, heq, (validateContract2_ok_iff _ _ _).1 hc, hsig⟩

theorem renewalCheck_noPanic (ms : Mid) (fc : Fc2) (rn : Renewal)
    (h1 : fc.renter.value + fc.host.value < curLimit)
    (h2 : rn.newContract.renter.value + rn.newContract.host.value < curLimit)
    (h3 : (rn.newContract.values ++ [(rn.newContract.renter.value + rn.newContract.host.value) / 25] ++
            [rn.finalRenter.value, rn.finalHost.value, rn.renterRollover, rn.hostRollover]).sum < curLimit) :
    NoPanic (renewalCheck ms fc rn) := by
  simp only [Fc2.values, List.sum_append, List.sum_cons, List.sum_nil] at h3
  obtain ⟨b1, b2, b3, b4, b5⟩ : rn.finalRenter.value + rn.renterRollover < curLimit ∧
      rn.finalRenter.value + rn.renterRollover + rn.finalHost.value < curLimit ∧
      rn.finalRenter.value + rn.renterRollover + rn.finalHost.value + rn.hostRollover < curLimit ∧
      rn.newContract.renter.value + rn.newContract.host.value +
        (rn.newContract.renter.value + rn.newContract.host.value) / 25 < curLimit ∧
      rn.renterRollover + rn.hostRollover < curLimit := by cur_omega
  simp only [renewalCheck, addC_eq_ok b1, addC_eq_ok b2, addC_eq_ok b3, addC_eq_ok h1, addC_eq_ok h2, v2Tax_eq_ok h2,
    addC_eq_ok b4, addC_eq_ok b5, ok_bind, noPanic_ite, noPanic_reject, implies_true, true_and]
  intro _ _ _ _
  refine bind_noPanic (validateContract2_noPanic _ _ _) (fun _ _ => ?_)
  simp only [noPanic_ite, noPanic_reject, noPanic_pure, implies_true, and_self]

def res2Check (ms : Mid) (r : Resolution2) : VM Unit :=
    let fc := r.parent.fc
    match r.res with
    | .renewal rn => renewalCheck ms fc rn
    | .proof ih iid leafOk proofOk =>
      if ms.base.child < fc.proofHeight then reject "file contract storage proof cannot be submitted until after proof height"
      else if ih ≠ fc.proofHeight then reject "file contract storage proof has ProofIndex height that does not match contract ProofHeight"
      else if ¬ (leafOk ∧ ms.base.chain.contains (ih, iid)) then reject "file contract storage proof has invalid history proof"
      else if ¬ proofOk then reject "file contract storage proof has root that does not match contract Merkle root"
      else pure ()
    | .expiration =>
      if ms.base.child ≤ fc.expHeight then reject "file contract expiration cannot be submitted until after expiration height"
      else pure ()

def res2Step (ms : Mid) (revised resolved : List Id) (r : Resolution2) : VM (List Id) := do
    validateParent2 ms revised resolved r.parent
    res2Check ms r
    pure (r.parent.id :: resolved)

/-- the checks of one revision besides the duplicate bookkeeping -/
def rev2Check (ms : Mid) (r : Rev2) : VM Unit := do
    if r.parent.fc.proofHeight < ms.base.child then reject "file contract revision cannot be applied to contract after proof height"
    else validateRevision2 ms r.parent r.rev r.sigCurOk

def rev2Step (ms : Mid) (revised : List Id) (r : Rev2) : VM (List Id) := do
    validateParent2 ms revised [] r.parent
    rev2Check ms r
    pure (r.parent.id :: revised)

theorem validateV2FileContracts_eq (ms : Mid) (t : Txn2) :
    validateV2FileContracts ms t = (do
      forIn t.fcs PUnit.unit (fun x _ => validateContract2 ms x.2.1 x.2.2 >>= fun _ => pure (ForInStep.yield PUnit.unit))
      let revised ← t.revs.foldlM (rev2Step ms) []
      let _ ← t.ress.foldlM (res2Step ms revised) []
      pure ()) := by
  unfold validateV2FileContracts
  congr 1; funext _; congr 1
  · congr 1; funext revised r
    unfold rev2Step rev2Check
    congr 1; funext _
    simp only [ite_bind', reject_bind]
  · funext revised
    congr 1; congr 1; funext resolved r
    unfold res2Step res2Check renewalCheck
    congr 1; funext _
    cases r.res with
    | renewal rn => simp only [ite_bind', reject_bind, bind_assoc, pure_bind]
    | proof ih iid leafOk proofOk => simp only [ite_bind', reject_bind, pure_bind]
    | expiration => simp only [ite_bind', reject_bind, pure_bind]

structure Rev2Rules (ms : Mid) (r : Rev2) : Prop where
  notSpent : ms.isSpent r.parent.id = false
  present : ms.base.hasFc2 r.parent = true
  parentProofHeight : ms.base.child ≤ r.parent.fc.proofHeight
  revision : Revision2Rules ms.base.child ms.base.P.ephemeralFix (ms.curFc2 r.parent) r.rev r.sigCurOk

theorem rev2Check_ok_iff (ms : Mid) (r : Rev2) : rev2Check ms r = .ok () ↔
    (ms.base.child ≤ r.parent.fc.proofHeight ∧
      Revision2Rules ms.base.child ms.base.P.ephemeralFix (ms.curFc2 r.parent) r.rev r.sigCurOk) := by
  unfold rev2Check
  rw [ite_reject_ok_iff, validateRevision2_eq, revision2Check_ok_iff, Nat.not_lt]

theorem rev2Step_ok_iff (ms : Mid) (revised : List Id) (r : Rev2) (s' : List Id) :
    rev2Step ms revised r = .ok s' ↔ (s' = r.parent.id :: revised ∧ (r.parent.id ∉ revised ∧ Rev2Rules ms r)) := by
  unfold rev2Step
  rw [bind_unit_ok_iff, bind_unit_ok_iff, validateParent2_ok_iff, rev2Check_ok_iff, pure_eq_ok]
  constructor
  · rintro ⟨⟨h1, h2, _, h4⟩, ⟨h5, h6⟩, h7⟩
    exact ⟨h7, h2, h1, h4, h5, h6⟩
  · rintro ⟨h7, h2, h1, h4, h5, h6⟩
    exact ⟨⟨h1, h2, by simp, h4⟩, ⟨h5, h6⟩, h7⟩

def Res2KindRules (ms : Mid) (r : Resolution2) : Prop :=
  match r.res with
  | .renewal rn => renewalCheck ms r.parent.fc rn = .ok ()
  | .proof ih iid leafOk proofOk =>
      r.parent.fc.proofHeight ≤ ms.base.child ∧ ih = r.parent.fc.proofHeight ∧ leafOk = true ∧
        (ih, iid) ∈ ms.base.chain ∧ proofOk = true
  | .expiration => r.parent.fc.expHeight < ms.base.child

theorem res2Check_ok_iff (ms : Mid) (r : Resolution2) : res2Check ms r = .ok () ↔ Res2KindRules ms r := by
  unfold res2Check Res2KindRules
  cases r.res with
  | renewal rn => exact Iff.rfl
  | proof ih iid leafOk proofOk =>
    simp only [ite_reject_ok_iff]
    simp
    intro _ _
    exact and_assoc
  | expiration =>
    simp only [ite_reject_ok_iff]
    simp

/-- acceptance rules of one v2 resolution (`revised` = contracts revised by this transaction) -/
structure Res2Rules (ms : Mid) (revised : List Id) (r : Resolution2) : Prop where
  notSpent : ms.isSpent r.parent.id = false
  notRevised : r.parent.id ∉ revised
  present : ms.base.hasFc2 r.parent = true
  kind : Res2KindRules ms r

theorem res2Step_ok_iff (ms : Mid) (revised resolved : List Id) (r : Resolution2) (s' : List Id) :
    res2Step ms revised resolved r = .ok s' ↔
      (s' = r.parent.id :: resolved ∧ (r.parent.id ∉ resolved ∧ Res2Rules ms revised r)) := by
  unfold res2Step
  rw [bind_unit_ok_iff, bind_unit_ok_iff, validateParent2_ok_iff, res2Check_ok_iff, pure_eq_ok]
  constructor
  · rintro ⟨⟨h1, h2, h3, h4⟩, h5, h7⟩
    exact ⟨h7, h3, h1, h2, h4, h5⟩
  · rintro ⟨h7, h3, h1, h2, h4, h5⟩
    exact ⟨⟨h1, h2, h3, h4⟩, h5, h7⟩

theorem validateV2FileContracts_ok_iff (ms : Mid) (t : Txn2) :
    validateV2FileContracts ms t = .ok () ↔
      ((∀ x ∈ t.fcs, Contract2Rules ms.base.child x.2.1 x.2.2) ∧
       (∀ r ∈ t.revs, Rev2Rules ms r) ∧ (t.revs.map (·.parent.id)).Nodup ∧
       (∀ r ∈ t.ress, Res2Rules ms (t.revs.map (·.parent.id)).reverse r) ∧ (t.ress.map (·.parent.id)).Nodup) := by
  rw [validateV2FileContracts_eq, bind_unit_ok_iff, forIn_step_ok_iff, bind_ok_iff]
  simp only [validateContract2_ok_iff, bind_ok_iff, foldlM_seen_ok_iff _ _ (rev2Step_ok_iff ms),
    foldlM_seen_ok_iff _ _ (res2Step_ok_iff ms _), and_assoc, exists_eq_left, pure_eq_ok, and_true]

theorem validateFoundationUpdate_ok {ms : Mid} {t : Txn2} (h : validateFoundationUpdate ms t = .ok ()) :
    ∀ a, t.newFoundation = some a → ∃ sci ∈ t.scIns, sci.parent.addr = ms.base.fFailsafe := by
  intro a ha
  unfold validateFoundationUpdate at h
  rw [ha] at h
  simp only at h
  split at h
  · rename_i hany
    obtain ⟨sci, hm, hp⟩ := List.any_eq_true.1 hany
    exact ⟨sci, hm, by simpa using hp⟩
  · exact absurd h (reject_ne_ok _ _)

theorem validateFoundationUpdate_noPanic (ms : Mid) (t : Txn2) : NoPanic (validateFoundationUpdate ms t) := by
  unfold validateFoundationUpdate
  split <;> simp only [noPanic_ite, noPanic_reject, noPanic_pure, implies_true, and_self]

/-- `validateV2Transaction` without the join points of the `do` elaboration -/
def v2TxnChecks (ms : Mid) (t : Txn2) (maxWeight : Nat) : VM Unit :=
  if ms.base.child < ms.base.P.v2Allow then reject "v2 transactions are not allowed until v2 hardfork begins"
  else do
    validateV2CurrencyOverflow t
    validateV2TaxPool ms t
    if t.weight = 0 then reject "transactions cannot be empty"
    else if t.weight > maxWeight then reject "transaction exceeds maximum block weight"
    else do
      validateV2Siacoins ms t
      validateV2Siafunds ms t
      validateV2FileContracts ms t
      if ¬ t.attsOk then reject "attestation invalid"
      else validateFoundationUpdate ms t

theorem validateV2Transaction_eq (ms : Mid) (t : Txn2) (maxWeight : Nat) :
    validateV2Transaction ms t maxWeight = v2TxnChecks ms t maxWeight := by
  unfold validateV2Transaction v2TxnChecks
  simp only [reject_bind]

theorem validateV2Transaction_ok_iff (ms : Mid) (t : Txn2) (maxWeight : Nat) :
    validateV2Transaction ms t maxWeight = .ok () ↔
      (ms.base.P.v2Allow ≤ ms.base.child ∧ (validateV2CurrencyOverflow t = .ok () ∧ validateV2TaxPool ms t = .ok ()) ∧ t.weight ≠ 0 ∧
       t.weight ≤ maxWeight ∧ validateV2Siacoins ms t = .ok () ∧ validateV2Siafunds ms t = .ok () ∧
       validateV2FileContracts ms t = .ok () ∧ t.attsOk = true ∧ validateFoundationUpdate ms t = .ok ()) := by
  rw [validateV2Transaction_eq]
  unfold v2TxnChecks
  simp only [ite_reject_ok_iff, bind_unit_ok_iff, Nat.not_lt, Decidable.not_not, ne_eq, and_assoc]

end Sia.Ledger
