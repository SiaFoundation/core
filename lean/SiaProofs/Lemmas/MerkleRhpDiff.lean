import SiaProofs.Lemmas.MerkleRhpLeaf
/-!
  C16: diff proofs (`verifyMulti` of rhp/v2 VerifyDiffProof, rhp/v4
  VerifyFreeSectorsProof). The walk of `verifyMulti` alternates `insertRange` over a gap with the
  insertion of one leaf; every lemma about it lifts the corresponding lemma about `insertRange`.
-/
set_option linter.unusedSectionVars false
namespace Sia.Rhp
open HashOps

variable {H : Type} [HashOps H]

/-- strictly increasing indices inside `[start, n)` (what `sectorsChanged` returns) -/
def IdxOK : Nat → List Nat → Nat → Prop
  | start, [], n => start ≤ n
  | start, e :: es, n => start ≤ e ∧ e < n ∧ IdxOK (e + 1) es n

/-- the honest tree hashes: the subtree roots of the gaps between the indices, up to `n` -/
def gapHashes (ls : List H) : List Nat → Nat → Nat → List H
  | [], start, n => buildRange ls start n
  | e :: es, start, n => buildRange ls start e ++ gapHashes ls es (e + 1) n

/-- `ls[start:n]` with the positions `idx` replaced by `leaves` -/
def patchFrom (ls : List H) : List Nat → List H → Nat → Nat → List H
  | [], _, start, n => (ls.drop start).take (n - start)
  | e :: es, l :: lv, start, n => (ls.drop start).take (e - start) ++ l :: patchFrom ls es lv (e + 1) n
  | _ :: _, [], start, n => (ls.drop start).take (n - start)

theorem IdxOK.ge {start n : Nat} : ∀ {idx : List Nat}, IdxOK start idx n → ∀ x ∈ idx, start ≤ x := by
  intro idx
  induction idx generalizing start with
  | nil => intro _ x hx; exact absurd hx List.not_mem_nil
  | cons e es ih =>
    intro h x hx
    rcases List.mem_cons.1 hx with rfl | hx
    · exact h.1
    · exact Nat.le_of_succ_le (Nat.le_trans (Nat.succ_le_succ h.1) (ih h.2.2 x hx))

theorem length_seg (ls : List H) (a : Nat) {b : Nat} (hb : b ≤ ls.length) :
    ((ls.drop a).take (b - a)).length = b - a := by
  rw [List.length_take, List.length_drop]
  exact Nat.min_eq_left (Nat.sub_le_sub_right hb a)

theorem diffBuildRange_eq (ls : List H) (j : Nat) (hj : j ≤ ls.length) (i : Nat) :
    diffBuildRange ls i j = .ok (buildRange ls i j) := by
  induction i using walk_induction j with
  | step i ih =>
    rw [diffBuildRange]
    by_cases hlt : i < j
    · obtain ⟨k, hk, hdvd, hle⟩ := nss_spec hlt
      rw [buildRange_cons ls i j ⟨hlt, by omega⟩, dif_pos hlt, if_neg (by rw [hk]; omega),
        ih hlt _ (by have := nextSubtreeSize_pos i j; omega)]
      rfl
    · rw [buildRange_done ls i j (by omega), dif_neg hlt]

theorem diffTreeHashes_eq (ls : List H) : ∀ (idx : List Nat) (start : Nat), IdxOK start idx ls.length →
    diffTreeHashes ls idx start = .ok (gapHashes ls idx start ls.length) := by
  intro idx
  induction idx with
  | nil =>
    intro start h
    exact diffBuildRange_eq ls ls.length (Nat.le_refl _) start
  | cons e es ih =>
    intro start h
    simp only [diffTreeHashes, gapHashes]
    rw [diffBuildRange_eq ls e (Nat.le_of_lt h.2.1) start, ih (e + 1) h.2.2]
    rfl

theorem buildDiffProof_eq (acts : List (Action H)) (ls : List H) (idx : List Nat)
    (hsc : sectorsChanged acts ls.length = .ok idx) (hok : IdxOK 0 idx ls.length) :
    buildDiffProof acts ls = .ok (gapHashes ls idx 0 ls.length, idx.map (fun j => ls.getD j zero)) := by
  unfold buildDiffProof
  rw [hsc]
  show (diffTreeHashes ls idx 0 >>= fun th => pure (th, idx.map (fun j => ls.getD j zero))) = _
  rw [diffTreeHashes_eq ls idx 0 hok]
  rfl

theorem verifyDiffProofG_true_iff [DecidableEq H] (cc : Bool) (acts : List (Action H)) (n : Nat)
    (th lf : List H) (oldRoot newRoot : H) :
    verifyDiffProofG cc acts n th lf oldRoot newRoot = .ok true ↔
      ∃ idx nl ni, sectorsChanged acts n = .ok idx ∧ idx.length = lf.length ∧
        verifyMultiG cc idx th lf n oldRoot = .ok true ∧
        modifyLeaves lf acts n = .ok nl ∧ modifyProofRanges idx acts n = .ok ni ∧
        verifyMultiG cc ni th nl (n + nl.length - lf.length) newRoot = .ok true := by
  constructor
  · intro h
    unfold verifyDiffProofG at h
    split at h
    · cases h
    · rename_i idx hsc
      split at h
      · cases h
      · rename_i hlen
        split at h
        · cases h
        · cases h
        · rename_i hold
          split at h
          · cases h
          · rename_i nl hml
            split at h
            · cases h
            · rename_i ni hmp
              exact ⟨idx, nl, ni, hsc, Decidable.not_not.1 hlen, hold, hml, hmp, h⟩
  · rintro ⟨idx, nl, ni, hsc, hlen, hold, hml, hmp, hnew⟩
    unfold verifyDiffProofG
    simp only [hsc, hlen, ne_eq, not_true_eq_false, if_false, hold, hml, hmp, hnew]

theorem verifyMultiLoop_nil (a : Acc H) (th lf : List H) (start n : Nat) :
    verifyMultiLoop a th [] lf start n = .ok (insertRange a th start n) := by
  cases lf <;> rfl

theorem verifyMultiLoop_cons (a : Acc H) (th : List H) (e : Nat) (es : List Nat) (l : H) (lf : List H)
    (start n : Nat) :
    verifyMultiLoop a th (e :: es) (l :: lf) start n
      = verifyMultiLoop ((insertRange a th start e).1.insertNode l 0) (insertRange a th start e).2 es lf (e + 1) n :=
  rfl

theorem verifyMultiG_true_iff [DecidableEq H] (cc : Bool) (idx : List Nat) (th lf : List H) (n : Nat) (root : H) :
    verifyMultiG cc idx th lf n root = .ok true ↔
      ∃ r, verifyMultiLoop Acc.empty th idx lf 0 n = .ok r ∧ r.1.root = root ∧ r.2 = [] ∧
        (cc = true → r.1.n = n) := by
  unfold verifyMultiG
  cases verifyMultiLoop Acc.empty th idx lf 0 n with
  | error m => simp [bind, Except.bind]
  | ok r => cases cc <;> simp [bind, Except.bind, pure, Except.pure, and_assoc]

/-- the verifier's walk: starting from `pre` (`|pre| = start`) it consumes exactly the gap hashes
and ends up holding the `n` leaves `pre ++ patch` — whatever leaf hashes it is given -/
theorem verifyMultiLoop_patch (ls : List H) (n : Nat) (hn : n ≤ ls.length) :
    ∀ (idx : List Nat) (start : Nat) (a : Acc H) (pre lv rest : List H),
      IdxOK start idx n → pre.length = start → Inv a pre → lv.length = idx.length →
      ∃ a', verifyMultiLoop a (gapHashes ls idx start n ++ rest) idx lv start n = .ok (a', rest) ∧
        Inv a' (pre ++ patchFrom ls idx lv start n) ∧ a'.n = n := by
  intro idx
  induction idx with
  | nil =>
    intro start a pre lv rest hok hpre hinv hlv
    obtain ⟨a', h1, h2⟩ := insertRange_buildRange_seg ls n hn start a pre rest hpre hinv
    exact ⟨a', (verifyMultiLoop_nil ..).trans (congrArg Except.ok h1), h2, by
      rw [h2.2, List.length_append, hpre, length_seg ls start hn]; exact Nat.add_sub_cancel' hok⟩
  | cons e es ih =>
    intro start a pre lv rest hok hpre hinv hlv
    obtain ⟨h1, h2, h3⟩ := hok
    cases lv with
    | nil => exact absurd hlv (Nat.succ_ne_zero _).symm
    | cons l lv' =>
      have hle : e ≤ ls.length := Nat.le_trans (Nat.le_of_lt h2) hn
      obtain ⟨a1, e1, hinv1⟩ := insertRange_buildRange_seg ls e hle start a pre
        (gapHashes ls es (e + 1) n ++ rest) hpre hinv
      obtain ⟨a', e2, hinv3, hcount⟩ := ih (e + 1) (a1.insertNode l 0) (pre ++ (ls.drop start).take (e - start) ++ [l])
        lv' rest h3
        (by rw [List.length_append, List.length_append, hpre, length_seg ls start hle, Nat.add_sub_cancel' h1]; rfl)
        (hinv1.insertLeaf l) (Nat.succ.inj hlv)
      refine ⟨a', ?_, ?_, hcount⟩
      · simp only [gapHashes, List.append_assoc]
        rw [verifyMultiLoop_cons, e1]
        exact e2
      · simpa only [patchFrom, List.append_assoc, List.singleton_append] using hinv3

theorem patchFrom_self (ls : List H) : ∀ (idx : List Nat) (start : Nat), IdxOK start idx ls.length →
    patchFrom ls idx (idx.map (fun j => ls.getD j zero)) start ls.length = ls.drop start := by
  intro idx
  induction idx with
  | nil =>
    intro start h
    exact List.take_of_length_le (by rw [List.length_drop]; exact Nat.le_refl _)
  | cons e es ih =>
    intro start h
    obtain ⟨h1, h2, h3⟩ := h
    simp only [patchFrom, List.map_cons]
    rw [ih (e + 1) h3]
    have e1 : ls.getD e zero = ls[e] := by simp [List.getD, h2]
    rw [e1, List.getElem_cons_drop h2]
    have : ls.drop e = (ls.drop start).drop (e - start) := by
      rw [List.drop_drop, Nat.add_sub_cancel' h1]
    rw [this, List.take_append_drop]

/-! ### counting what `verifyMulti` consumes (the check `acc.numLeaves == numLeaves`) -/

/-- `insertRange` advances the leaf count by at most `j - i`, and by exactly that only if it
consumed one hash per subtree of `[i, j)` -/
theorem insertRange_count : ∀ (th : List H) (a : Acc H) (i j : Nat), i ≤ j →
    (insertRange a th i j).1.n + i ≤ a.n + j ∧
    ((insertRange a th i j).1.n + i = a.n + j →
      th.length = diffRangeCount i j + (insertRange a th i j).2.length) := by
  intro th
  induction th with
  | nil =>
    intro a i j hij
    refine ⟨Nat.add_le_add_left hij _, fun h => ?_⟩
    have : i = j := Nat.add_left_cancel h
    subst this
    rw [diffRangeCount_unfold, if_neg (Nat.lt_irrefl _)]; rfl
  | cons p ps ih =>
    intro a i j hij
    by_cases hlt : i < j
    · obtain ⟨k, hk, hdvd, hle⟩ := nss_spec hlt
      rw [insertRange_cons a p ps i j hlt, diffRangeCount_unfold i j, if_pos hlt, hk, tz_two_pow]
      obtain ⟨h1, h2⟩ := ih (a.insertNode p k) (i + 2 ^ k) j hle
      rw [insertNode_n] at h1 h2
      refine ⟨by omega, fun h => ?_⟩
      rw [List.length_cons, h2 (by omega)]
      omega
    · have : i = j := Nat.le_antisymm hij (Nat.not_lt.1 hlt)
      subst this
      rw [insertRange_done a _ i i hlt, diffRangeCount_unfold, if_neg hlt]
      exact ⟨Nat.le_refl _, fun _ => (Nat.zero_add _).symm⟩

theorem verifyMultiLoop_count : ∀ (idx : List Nat) (start n : Nat) (a : Acc H) (th lf : List H)
    (r : Acc H × List H), IdxOK start idx n → verifyMultiLoop a th idx lf start n = .ok r →
    r.1.n + start ≤ a.n + n ∧
    (r.1.n + start = a.n + n → th.length = diffTreeCount idx start n + r.2.length) := by
  intro idx
  induction idx with
  | nil =>
    intro start n a th lf r hok e
    cases (verifyMultiLoop_nil ..).symm.trans e
    exact insertRange_count th a start n hok
  | cons e es ih =>
    intro start n a th lf r hok heq
    obtain ⟨h1, h2, h3⟩ := hok
    cases lf with
    | nil => cases heq
    | cons l lf' =>
      rw [verifyMultiLoop_cons] at heq
      obtain ⟨c1, c2⟩ := insertRange_count th a start e h1
      obtain ⟨d1, d2⟩ := ih (e + 1) n _ _ lf' r h3 heq
      rw [insertNode_n] at d1 d2
      refine ⟨by omega, fun h => ?_⟩
      rw [diffTreeCount, c2 (by omega), d2 (by omega)]
      omega

/-! ### two accepted walks

The count check is what keeps a walk on its positions: the count can only fall behind the position, so
a walk that ends with `numLeaves` leaves has had count = position at every index. -/

/-- two walks over the same indices on equally long input, the second passing the count check: one `Lock`.
Start and end count are asked of the second walk only; `InStep` keeps the counts of the two equal. -/
theorem lock_verifyMultiLoop (hinj : NodeInj H) : ∀ (idx : List Nat) (start n : Nat) (x y : Acc H × List H)
    (lf1 lf2 : List H) (r1 r2 : Acc H × List H),
    IdxOK start idx n → InStep x y → y.1.n = start → lf1.length = idx.length → lf2.length = idx.length →
    verifyMultiLoop x.1 x.2 idx lf1 start n = .ok r1 → verifyMultiLoop y.1 y.2 idx lf2 start n = .ok r2 →
    r2.1.n = n → Lock x y r1 r2 (lf1 = lf2) := by
  intro idx
  induction idx with
  | nil =>
    intro start n x y lf1 lf2 r1 r2 hok hs hy h1 h2 e1 e2 _
    cases (verifyMultiLoop_nil ..).symm.trans e1
    cases (verifyMultiLoop_nil ..).symm.trans e2
    rw [List.eq_nil_of_length_eq_zero h1, List.eq_nil_of_length_eq_zero h2]
    exact (Lock.range hinj hs start n hy).imp fun _ => rfl
  | cons e es ih =>
    intro start n x y lf1 lf2 r1 r2 hok hs hy h1 h2 e1 e2 hn
    obtain ⟨hk1, hk2, hk3⟩ := hok
    cases lf1 with
    | nil => exact absurd h1 (Nat.succ_ne_zero _).symm
    | cons l1 lf1' =>
      cases lf2 with
      | nil => exact absurd h2 (Nat.succ_ne_zero _).symm
      | cons l2 lf2' =>
        rw [verifyMultiLoop_cons] at e1 e2
        -- the second walk reaches `e` with `e` leaves: not more, and not fewer since it ends with `n`
        have c := (insertRange_count y.2 y.1 start e hk1).1
        have d := (verifyMultiLoop_count es (e + 1) n _ _ lf2' r2 hk3 e2).1
        rw [insertNode_n] at d
        have L1 := Lock.range hinj hs start e hy
        have L2 := Lock.node hinj L1.1 l1 l2 0 (Nat.one_dvd _)
        have L3 := ih (e + 1) n _ _ lf1' lf2' r1 r2 hk3 L2.1 (by rw [insertNode_n]; omega)
          (Nat.succ.inj h1) (Nat.succ.inj h2) e1 e2 hn
        exact ((L1.trans L2).trans L3).imp fun h => by rw [h.1.2, h.2]

end Sia.Rhp
