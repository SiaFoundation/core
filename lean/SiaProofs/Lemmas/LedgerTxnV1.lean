import SiaProofs.Lemmas.LedgerAcceptedV1
import SiaProofs.Lemmas.LedgerItemsV1
import SiaProofs.Lemmas.LedgerTxnV2
/-!
# One v1 transaction conserves value
-/
namespace Sia.Ledger

/-- the supplement of a v1 transaction only contains elements of the base ledger -/
structure SuppOk (L : Ledger) (s : Supp1) : Prop where
  sc : ∀ e ∈ s.scIns, e ∈ L.sc
  sf : ∀ e ∈ s.sfIns, e ∈ L.sf
  rev : ∀ e ∈ s.revised, e ∈ L.fc1
  proof : ∀ p ∈ s.proofs, p.1 ∈ L.fc1

theorem pendSc1_of {T} {ms : Mid} (hc : Ctx T ms.base) (hI : Inv T ms) {supp : Supp1} (hs : SuppOk ms.base supp)
    {sci : ScIn1} (hsp : ms.isSpent sci.parent = false) {p : ScElem} (hp : ms.scElement supp sci.parent = some p) :
    p.id = sci.parent ∧ SpendableSc T ms p := by
  unfold Mid.scElement at hp
  cases hv : ms.scDiff? sci.parent with
  | some d =>
    rw [hv] at hp; simp only [Option.some.injEq] at hp; subst hp
    obtain ⟨hm, hid⟩ := scDiff?_mem hv
    refine ⟨hid, hI.struct.typed Kind.sc _ (List.mem_map_of_mem hm), hid ▸ hsp, ?_⟩
    rw [hid, hv]; exact ⟨rfl, rfl⟩
  | none =>
    rw [hv] at hp; simp only [] at hp
    have hmem := List.mem_of_find?_eq_some hp
    have hid : p.id = sci.parent := by simpa using List.find?_some hp
    have hb := hs.sc p hmem
    refine ⟨hid, hc.base Kind.sc _ (List.mem_map_of_mem hb), hid ▸ hsp, ?_⟩
    rw [hid, hv]; exact hb

theorem pendSf1_of {T} {ms : Mid} (hc : Ctx T ms.base) (hI : Inv T ms) {supp : Supp1} (hs : SuppOk ms.base supp)
    {sfi : SfIn1} (hsp : ms.isSpent sfi.parent = false) {p : SfElem} (hp : ms.sfElement supp sfi.parent = some p) :
    p.id = sfi.parent ∧ SpendableSf T ms p := by
  unfold Mid.sfElement at hp
  cases hv : ms.sfDiff? sfi.parent with
  | some d =>
    rw [hv] at hp; simp only [Option.some.injEq] at hp; subst hp
    obtain ⟨hm, hid⟩ := sfDiff?_mem hv
    refine ⟨hid, hI.struct.typed Kind.sf _ (List.mem_map_of_mem hm), hid ▸ hsp, ?_⟩
    rw [hid, hv]
  | none =>
    rw [hv] at hp; simp only [] at hp
    have hmem := List.mem_of_find?_eq_some hp
    have hid : p.id = sfi.parent := by simpa using List.find?_some hp
    have hb := hs.sf p hmem
    refine ⟨hid, hc.base Kind.sf _ (List.mem_map_of_mem hb), hid ▸ hsp, ?_⟩
    rw [hid, hv]; exact hb

theorem liveFc1_of {T} {ms : Mid} (hc : Ctx T ms.base) (hI : Inv T ms) {supp : Supp1} (hs : SuppOk ms.base supp)
    {id : Id} (hsp : ms.isSpent id = false) {p : Fc1Elem} (hp : ms.fc1Element supp id = some p) :
    p.id = id ∧ LiveFc1 T ms p := by
  unfold Mid.fc1Element at hp
  cases hv : ms.fc1Diff? id with
  | some d =>
    rw [hv] at hp; simp only [Option.some.injEq] at hp; subst hp
    obtain ⟨hm, hid⟩ := fc1Diff?_mem hv
    have hcid : d.current.id = id := by unfold Fc1Diff.current; split <;> exact hid
    refine ⟨hcid, ?_, hcid ▸ hsp, ?_⟩
    · rw [hcid, ← hid]; exact hI.struct.typed Kind.fc1 _ (List.mem_map_of_mem hm)
    · rw [hcid, hv]
  | none =>
    rw [hv] at hp; simp only [] at hp
    have hfound : p ∈ ms.base.fc1 ∧ p.id = id := by
      split at hp
      · rename_i e he
        cases hp
        exact ⟨hs.rev _ (List.mem_of_find?_eq_some he), by simpa using List.find?_some he⟩
      · rw [Option.map_eq_some_iff] at hp
        obtain ⟨q, hq, rfl⟩ := hp
        exact ⟨hs.proof _ (List.mem_of_find?_eq_some hq), by simpa using List.find?_some hq⟩
    refine ⟨hfound.2, hc.base Kind.fc1 _ (List.mem_map_of_mem hfound.1), hfound.2 ▸ hsp, ?_⟩
    rw [hfound.2, hv]; exact hfound.1

/-- ids created by a v1 transaction, in creation order, with their kinds -/
def Txn1.created (t : Txn1) : List (Kind × Id) :=
  t.scOuts.map (fun x => (Kind.sc, x.1)) ++ (t.sfIns.map (fun i => (Kind.sc, i.claimId)) ++
  (t.sfOuts.map (fun x => (Kind.sf, x.1)) ++ (t.fcs.map (fun x => (Kind.fc1, x.1)) ++
  t.proofs.flatMap Proof1.created)))

/-- claim output of a v1 siafund input, for the element its parent resolves to in `ms` -/
def sfInClaim (ms : Mid) (supp : Supp1) (pool : Cur) (sfi : SfIn1) : Nat :=
  match ms.sfElement supp sfi.parent with
  | some e => claimVal pool e.claimStart e.value
  | none => 0

/-- sum of the claim outputs a v1 transaction creates, evaluated in the state before it -/
def Txn1.claims (ms : Mid) (t : Txn1) : Nat := (t.sfIns.map (sfInClaim ms t.supp ms.pool)).sum

/-- siafund tax collected by a v1 transaction -/
def Txn1.taxes (L : Ledger) (t : Txn1) : Nat := (t.fcs.map (fun x => fileContractTax L x.2.payout)).sum

theorem a1Final_fields (ms : Mid) (t : Txn1) :
    (a1Final ms t).base = ms.base ∧ (a1Final ms t).elements = ms.elements ∧ (a1Final ms t).spends = ms.spends ∧
    (a1Final ms t).sces = ms.sces ∧ (a1Final ms t).sfes = ms.sfes ∧ (a1Final ms t).fces = ms.fces ∧
    (a1Final ms t).v2fces = ms.v2fces ∧ (a1Final ms t).pool = ms.pool := by
  unfold a1Final
  split
  · rcases t.foundation with _ | ⟨_ | ⟨p, f⟩, sg⟩ <;> exact ⟨rfl, rfl, rfl, rfl, rfl, rfl, rfl, rfl⟩
  · exact ⟨rfl, rfl, rfl, rfl, rfl, rfl, rfl, rfl⟩

/-- the elements the parents of a v1 transaction resolve to in `ms` -/
def Txn1.scEl (ms : Mid) (t : Txn1) (i : ScIn1) : ScElem := (ms.scElement t.supp i.parent).getD default
def Txn1.sfEl (ms : Mid) (t : Txn1) (i : SfIn1) : SfElem := (ms.sfElement t.supp i.parent).getD default
def Txn1.fcEl (ms : Mid) (t : Txn1) (id : Id) : Fc1Elem := (ms.fc1Element t.supp id).getD default

/-- inputs and outputs: the pool stands still -/
def Txn1.items1 (ms : Mid) (t : Txn1) : List Item1 :=
  t.scIns.map (fun i => .scIn i (t.scEl ms i)) ++ (t.scOuts.map (fun x => .op (.createSc x.1 x.2 false)) ++
  (t.sfIns.map (fun i => .sfIn i (t.sfEl ms i)) ++ t.sfOuts.map (fun x => .op (.createSf x.1 x.2.1 x.2.2))))

/-- contracts: nothing reads the pool -/
def Txn1.items2 (ms : Mid) (t : Txn1) : List Item1 :=
  t.fcs.map (fun x => .op (.createFc1 x.1 x.2)) ++ (t.revs.map (fun r => .rev r (t.fcEl ms r.parent)) ++
  t.proofs.map (fun sp => .proof sp (t.fcEl ms sp.parent)))

/-- the items of a v1 transaction, with the elements their parents resolve to in `ms` -/
def Txn1.items (ms : Mid) (t : Txn1) : List Item1 := t.items1 ms ++ t.items2 ms

theorem applyTransaction_items (ms0 ms : Mid) (t : Txn1) :
    applyTransaction ms t = (t.items ms0).foldlM (Item1.step t) ms >>= fun s => pure (a1Final s t) := by
  rw [applyTransaction_eq]
  unfold Txn1.items Txn1.items1 Txn1.items2
  simp only [List.foldlM_append, List.foldlM_map, bind_assoc]
  rfl

theorem Txn1.items_created (ms : Mid) (t : Txn1) : (t.items ms).flatMap Item1.created = t.created := by
  unfold Txn1.items Txn1.items1 Txn1.items2 Txn1.created
  simp only [List.flatMap_append, List.flatMap_map, Item1.created, Op.created, List.nil_append, flatMap_nil_fun,
    ← List.map_eq_flatMap, List.append_assoc]

theorem Txn1.items_keys (ms : Mid) (t : Txn1) : (t.items ms).flatMap Item1.keys =
    (t.scIns.map (fun i => (t.scEl ms i).id)).map (Prod.mk Kind.sc) ++ ((t.sfIns.map (fun i => (t.sfEl ms i).id)).map (Prod.mk Kind.sf) ++
    ((t.revs.map (fun r => (t.fcEl ms r.parent).id)).map (Prod.mk Kind.fc1) ++
      (t.proofs.map (fun sp => (t.fcEl ms sp.parent).id)).map (Prod.mk Kind.fc1))) := by
  unfold Txn1.items Txn1.items1 Txn1.items2
  simp only [List.flatMap_append, List.flatMap_map, Item1.keys, Op.keys, List.nil_append, flatMap_nil_fun,
    ← List.map_eq_flatMap, List.append_assoc, List.map_map, Function.comp_def]

theorem Txn1.items_tax (ms : Mid) (t : Txn1) (L : Ledger) : ((t.items ms).map (Item1.tax L)).sum = t.taxes L := by
  unfold Txn1.items Txn1.items1 Txn1.items2 Txn1.taxes
  simp only [List.map_append, List.sum_append, List.map_map, Function.comp_def, Item1.tax, Op.tax, sum_const_zero,
    Nat.add_zero, Nat.zero_add]

theorem Txn1.items_out (ms : Mid) (t : Txn1) (L : Ledger) (p : Cur) (W : Wt) : ((t.items ms).map (Item1.out L p · W)).sum =
    (t.scIns.map (fun i => W.sc (t.scEl ms i))).sum + ((t.sfIns.map (fun i => W.sf (t.sfEl ms i))).sum +
    (t.proofs.map (fun sp => W.fc * (t.fcEl ms sp.parent).fc.val)).sum) := by
  unfold Txn1.items Txn1.items1 Txn1.items2
  simp only [List.map_append, List.sum_append, List.map_map, Function.comp_def, Item1.out, Op.out, sum_const_zero,
    Nat.add_zero, Nat.zero_add, Nat.add_assoc]

theorem Txn1.items_inn (ms : Mid) (t : Txn1) (L : Ledger) (p : Cur) (W : Wt) : ((t.items ms).map (Item1.inn L p · W)).sum =
    (t.scOuts.map (fun x => W.sc ⟨x.1, x.2.value, x.2.addr, 0, none⟩)).sum +
    ((t.sfIns.map (fun i => W.sc ⟨i.claimId, claimVal p (t.sfEl ms i).claimStart (t.sfEl ms i).value, i.claimAddr,
      maturityHeight L, none⟩)).sum +
    ((t.sfOuts.map (fun x => W.sf ⟨x.1, x.2.1, x.2.2, p, none⟩)).sum +
    ((t.fcs.map (fun x => W.fc * x.2.val)).sum +
    (t.proofs.map (fun sp => (((t.fcEl ms sp.parent).fc.valid.zip sp.outIds).map
      (fun x => W.sc ⟨x.2, x.1.value, x.1.addr, maturityHeight L, none⟩)).sum)).sum))) := by
  unfold Txn1.items Txn1.items1 Txn1.items2
  simp only [List.map_append, List.sum_append, List.map_map, Function.comp_def, Item1.inn, Op.inn, sum_const_zero,
    Nat.zero_add, Nat.add_assoc, Bool.false_eq_true, if_false]

/-- what an accepted v1 transaction gives the run of its items: every item finds its precondition in the state before
the transaction, the parents are pairwise distinct, taxes come last -/
theorem v1_run {T} {ms : Mid} {t : Txn1} {pid : Id} {mw : Nat} (hc : Ctx T ms.base) (hI : Inv T ms)
    (hsupp : SuppOk ms.base t.supp) (hv : validateTransaction ms t pid mw = .ok ()) :
    (∀ a ∈ t.items ms, Item1.Pre t.supp T ms a) ∧ ((t.items ms).flatMap Item1.keys).Nodup ∧
    (items1 t).Quiet (t.items ms) := by
  have A := validateTransaction_ok_rules hv
  obtain ⟨hnd12, hndr, _⟩ := List.nodup_append.1 A.nodup
  obtain ⟨hndsc, hndsf, _⟩ := List.nodup_append.1 hnd12
  have pSc : ∀ i ∈ t.scIns, Item1.Pre t.supp T ms (.scIn i (t.scEl ms i)) := fun i h => by
    obtain ⟨p, hp, hr⟩ := A.scIn i h
    have he : t.scEl ms i = p := by unfold Txn1.scEl; rw [hp]; rfl
    rw [he]; exact ⟨hp, pendSc1_of hc hI hsupp hr.notSpent hp⟩
  have pSf : ∀ i ∈ t.sfIns, Item1.Pre t.supp T ms (.sfIn i (t.sfEl ms i)) := fun i h => by
    obtain ⟨p, hp, hr⟩ := A.sfIn i h
    have he : t.sfEl ms i = p := by unfold Txn1.sfEl; rw [hp]; rfl
    rw [he]; exact ⟨hp, pendSf1_of hc hI hsupp hr.notSpent hp⟩
  have pRev : ∀ r ∈ t.revs, Item1.Pre t.supp T ms (.rev r (t.fcEl ms r.parent)) := fun r h => by
    obtain ⟨p, hp, hr⟩ := A.rev r h
    have he : t.fcEl ms r.parent = p := by unfold Txn1.fcEl; rw [hp]; rfl
    rw [he]; exact ⟨hp, (liveFc1_of hc hI hsupp hr.notSpent hp).1, (liveFc1_of hc hI hsupp hr.notSpent hp).2, hr.sums⟩
  have pPr : ∀ sp ∈ t.proofs, Item1.Pre t.supp T ms (.proof sp (t.fcEl ms sp.parent)) := fun sp h => by
    obtain ⟨p, hp⟩ := (A.proof sp h).contract
    have he : t.fcEl ms sp.parent = p := by unfold Txn1.fcEl; rw [hp]; rfl
    rw [he]; exact ⟨hp, liveFc1_of hc hI hsupp (A.proof sp h).notSpent hp⟩
  refine ⟨?_, ?_, (items1 t).quiet_append (A := t.items1 ms) (B := t.items2 ms) ?_ ?_⟩
  · simp only [Txn1.items, Txn1.items1, Txn1.items2, List.forall_mem_append, List.forall_mem_map]
    exact ⟨⟨pSc, fun _ _ => trivial, pSf, fun _ _ => trivial⟩, fun x hx => (fc1FormStep_ok (A.fc x hx)).1, pRev, pPr⟩
  · rw [Txn1.items_keys,
      List.map_congr_left (fun i hi => (pSc i hi).2.1), List.map_congr_left (fun i hi => (pSf i hi).2.1),
      List.map_congr_left (fun r hr => (pRev r hr).2.1), List.map_congr_left (fun sp hs => (pPr sp hs).2.1)]
    refine nodup_tag_append hndsc (nodup_tag_append hndsf (nodup_tag_append hndr
      (List.pairwise_map.2 (A.proofNodup.imp (fun hne e => hne (Prod.mk.inj e).2))) ?_) ?_) ?_
    · intro x hx hm
      obtain ⟨y, hy, _⟩ := List.mem_map.1 hm
      obtain ⟨sp, hsp, _⟩ := List.mem_map.1 hy
      obtain ⟨r, hr, _⟩ := List.mem_map.1 hx
      exact A.proofAlone ⟨List.length_pos_of_mem hsp, .inr (.inr (.inr (List.length_pos_of_mem hr)))⟩
    · intro x _ hm; simp at hm
    · intro x _ hm; simp at hm
  · simp only [Txn1.items1, List.forall_mem_append, List.forall_mem_map]
    exact ⟨fun _ _ _ => rfl, fun _ _ _ => rfl, fun _ _ _ => rfl, fun _ _ _ => rfl⟩
  · simp only [Txn1.items2, List.forall_mem_append, List.forall_mem_map]
    exact ⟨fun _ _ _ _ _ => ⟨rfl, rfl⟩, fun _ _ _ _ _ => ⟨rfl, rfl⟩, fun _ _ _ _ _ => ⟨rfl, rfl⟩⟩

theorem v1txn_conserves {T} {ms ms' : Mid} {t : Txn1} {pid : Id} {mw : Nat} {R : List (Kind × Id)}
    (hc : Ctx T ms.base) (hI : Inv T ms) (hsupp : SuppOk ms.base t.supp)
    (hF : Fresh T ms (t.created ++ R))
    (hlen : ∀ sp ∈ t.proofs, ∀ e, ms.fc1Element t.supp sp.parent = some e → e.fc.valid.length ≤ sp.outIds.length)
    (hnw : (t.sfOuts.map (·.2.1)).sum < u64Limit) (hsfb : sfTot ms < u64Limit)
    (hv : validateTransaction ms t pid mw = .ok ()) (ha : applyTransaction ms t = .ok ms') :
    Inv T ms' ∧ Fresh T ms' R ∧ ms'.base = ms.base ∧
    Phi ms' + t.fees.sum = Phi ms + t.claims ms ∧ sfTot ms' = sfTot ms ∧ ms.pool ≤ ms'.pool ∧
    (CsOk ms → CsOk ms' ∧ Psi ms' + 10000 * t.claims ms ≤ Psi ms + (ms'.pool - ms.pool) * sfTot ms) ∧
    ms'.pool = ms.pool + t.taxes ms.base ∧
    (1 ≤ ms.base.P.maturityDelay →
      scW (wImm ms.base.child) ms + t.claims ms ≤ scW (wImm ms.base.child) ms') := by
  obtain ⟨hpre, hkeys, hq⟩ := v1_run hc hI hsupp hv
  have A := validateTransaction_ok_rules hv
  have hbal := sc1_balance A.scBalance
  have hsfbal := sf1_balance A.sfBalance
  rw [applyTransaction_items ms, bind_ok_iff] at ha
  obtain ⟨ms7, a, ha⟩ := ha
  cases ha
  obtain ⟨hI7, _, hF7, hb7, hp7, hM⟩ := (items1_ok t).fold (t.items ms) ms ms7 R hc hI hpre hkeys hq
    ((t.items_created ms).symm ▸ hF) a
  have hp7 : ms7.pool = ms.pool + t.taxes ms.base := hp7.trans (congrArg _ (t.items_tax ms _))
  have hM : ∀ W, census W ms7 + _ = census W ms + _ := fun W => (congrArg _ (t.items_out ms ms.base ms.pool W).symm).trans
    ((hM W).trans (congrArg _ (t.items_inn ms ms.base ms.pool W)))
  obtain ⟨f1, f2, f3, f4, f5, f6, f7, f8⟩ := a1Final_fields ms7 t
  have hcen : ∀ W, census W (a1Final ms7 t) = census W ms7 := fun W =>
    census_congr W f1 f4 f5 f6 f7
  have hscv : ∀ i ∈ t.scIns, scIn1Value ms t i = (t.scEl ms i).value := fun i h => by
    obtain ⟨p, hp, _⟩ := A.scIn i h; unfold scIn1Value Txn1.scEl; rw [hp]; rfl
  have hsfv : ∀ i ∈ t.sfIns, sfIn1Value ms t i = (t.sfEl ms i).value := fun i h => by
    obtain ⟨p, hp, _⟩ := A.sfIn i h; unfold sfIn1Value Txn1.sfEl; rw [hp]; rfl
  have hclv : ∀ i ∈ t.sfIns, sfInClaim ms t.supp ms.pool i = claimVal ms.pool (t.sfEl ms i).claimStart (t.sfEl ms i).value :=
    fun i h => by obtain ⟨p, hp, _⟩ := A.sfIn i h; unfold sfInClaim Txn1.sfEl; rw [hp]; rfl
  rw [List.map_congr_left hscv] at hbal
  rw [List.map_congr_left hsfv] at hsfbal
  have hcl : t.claims ms = (t.sfIns.map (fun i => claimVal ms.pool (t.sfEl ms i).claimStart (t.sfEl ms i).value)).sum :=
    congrArg List.sum (List.map_congr_left hclv)
  have hw : ∀ w : SfElem → Nat, sfW w ms7 + ((t.sfIns.map (t.sfEl ms)).map w).sum =
      sfW w ms + ((t.sfOuts.map (fun x => (⟨x.1, x.2.1, x.2.2, ms.pool, none⟩ : SfElem))).map w).sum := by
    intro w
    have := hM (Wt.ofSf w)
    simp only [census_ofSf, Wt.ofSf_sc, Wt.ofSf_sf, Wt.ofSf_fc, sum_const_zero, Nat.zero_mul, Nat.add_zero,
      Nat.zero_add] at this
    rw [List.map_map, List.map_map]; exact this
  have hS7 : sfTot ms7 = sfTot ms := by
    have := hw (·.value)
    rw [List.map_map, List.map_map, ← sfTot_eq_sfW, ← sfTot_eq_sfW] at this
    exact sfTot_balanced this hsfb hnw hsfbal
  refine ⟨hI7.scalars f1 f2 f3 f4 f5 f6 f7, hF7.agree (agree_scalars f1 f2 f3 f4 f5 f6 f7 (fun _ => False)) (fun _ _ h => h),
    f1.trans hb7, ?_, (sfTot_congr f1 f5).trans hS7, by rw [f8, hp7]; exact Nat.le_add_right _ _, ?_, by rw [f8, hp7], ?_⟩
  · -- value: a proof pays out what the contract held
    have hV := hM Wt.value
    rw [← census_value, ← census_value, hcen, f8, hp7, hcl]
    have hpay := sum_map_add t.fcs (·.2.payout) (fun x => x.2.val) (fun x => fileContractTax ms.base x.2.payout)
      (fun x hx => (fc1FormStep_ok (A.fc x hx)).2)
    have hpr : (t.proofs.map (fun sp => (((t.fcEl ms sp.parent).fc.valid.zip sp.outIds).map (fun x => x.1.value)).sum)).sum =
        (t.proofs.map (fun sp => (t.fcEl ms sp.parent).fc.val)).sum :=
      congrArg List.sum (List.map_congr_left (fun sp h => by
        obtain ⟨e, he⟩ := (A.proof sp h).contract
        have : t.fcEl ms sp.parent = e := by unfold Txn1.fcEl; rw [he]; rfl
        rw [this]; exact zip_fst_sum _ _ (hlen sp h e he)))
    unfold Txn1.payouts at hbal
    unfold Txn1.taxes
    simp only [Wt.value_sc, Wt.value_sf, Wt.value_fc, sum_const_zero, Nat.one_mul, Nat.zero_add] at hV
    cur_omega
  · rw [hcl]
    exact psi_txn _ _ (fun w => by rw [sfW_congr w f1 f5]; exact hw w)
      (fun o ho => by obtain ⟨_, _, rfl⟩ := List.mem_map.1 ho; rfl) (f8.trans hp7) ((sfTot_congr f1 f5).trans hS7)
      (by rw [List.map_map]; exact sum_scaled_le _ _ _ _ (fun i _ => claimVal_le_psiW _ _ _))
  · -- claim outputs are immature, spent outputs are not
    intro hmd
    have h := hM (Wt.ofSc (wImm ms.base.child) (wImm_congr _))
    simp only [census_ofSc, Wt.ofSc_sc, Wt.ofSc_sf, Wt.ofSc_fc, sum_const_zero, Nat.zero_mul, Nat.add_zero,
      Nat.zero_add] at h
    rw [sum_map_zero t.scIns _ (fun i hm => by
        obtain ⟨p, hp, hr⟩ := A.scIn i hm
        have : t.scEl ms i = p := by unfold Txn1.scEl; rw [hp]; rfl
        unfold wImm; rw [this, if_pos hr.mature]),
      sum_map_zero t.scOuts _ (fun x _ => by unfold wImm; rw [if_pos (Nat.zero_le _)])] at h
    have z3 : (t.sfIns.map (fun i => wImm ms.base.child ⟨i.claimId,
        claimVal ms.pool (t.sfEl ms i).claimStart (t.sfEl ms i).value, i.claimAddr, maturityHeight ms.base, none⟩)).sum =
        t.claims ms := by
      rw [hcl]
      congr 1; apply List.map_congr_left; intro i _
      unfold wImm maturityHeight
      simp only []
      exact if_neg (by omega)
    rw [scW_congr _ f1 f4]
    omega

end Sia.Ledger
