/-
  A traversal lists sub-values (`get`) and writes them back from a supply (`put`). `Trav.Laws` are the lens laws at one
  value, with the unused supply threaded; they pass through every combinator, so `txnsParents` (`forEachElementLeaf`) is
  lawful, and writing proofs through it makes `valOps` a lawful transaction-set codec (`valOps_ok`).
-/
import SiaModel.Merkle.TxTraverse
import SiaProofs.Lemmas.MultiproofBytes
set_option linter.unusedSectionVars false
namespace Sia.Multiproof
open Sia.Codec

namespace Trav

/-- The laws of a traversal at one value: put-get, get-put and put-put, with the unused
    supply threaded. Stated for any `get`/`put` pair, so that the list helpers `putList`
    and `putFields` are instances as well. -/
structure Laws {α : Type} (get : α → List Val) (put : α → List Val → α × List Val) (a : α) : Prop where
  put_get : ∀ r, put a (get a ++ r) = (a, r)
  get_put : ∀ l r, l.length = (get a).length → get (put a (l ++ r)).1 = l ∧ (put a (l ++ r)).2 = r
  put_put : ∀ l r m r', l.length = (get a).length → m.length = (get a).length →
    put (put a (l ++ r)).1 (m ++ r') = put a (m ++ r')

def OK (t : Trav) : Prop := ∀ v, Laws t.get t.put v

theorem split_len {α : Type} (l : List α) (n1 n2 : Nat) (h : l.length = n1 + n2) :
    ∃ l1 l2, l = l1 ++ l2 ∧ l1.length = n1 ∧ l2.length = n2 :=
  ⟨l.take n1, l.drop n1, (List.take_append_drop n1 l).symm, by rw [List.length_take]; omega,
    by rw [List.length_drop]; omega⟩

namespace Laws
variable {α β γ : Type} {g : α → List Val} {p : α → List Val → α × List Val}
  {g' : β → List Val} {p' : β → List Val → β × List Val}
  {G : γ → List Val} {P : γ → List Val → γ × List Val}

theorem of_none {a : α} (hg : g a = []) (hp : ∀ l, p a l = (a, l)) : Laws g p a := by
  refine ⟨fun r => by rw [hp, hg]; rfl, fun l r hl => ?_, fun l r m r' _ _ => by rw [hp]⟩
  rw [hg] at hl
  rw [List.eq_nil_of_length_eq_zero hl, hp]
  exact ⟨hg, rfl⟩

theorem wrap (c : α → β) (hg : ∀ a, g' (c a) = g a) (hp : ∀ a l, p' (c a) l = (c (p a l).1, (p a l).2))
    {a : α} (h : Laws g p a) : Laws g' p' (c a) := by
  refine ⟨fun r => by rw [hp, hg, h.put_get], fun l r hl => ?_, fun l r m r' hl hm => ?_⟩
  · rw [hg] at hl
    rw [hp, hg]
    exact h.get_put l r hl
  · rw [hg] at hl hm
    rw [hp, hp, hp, h.put_put l r m r' hl hm]

/-- one traversal on `a`, then another on `b`, under a binary constructor: the supply
    splits at the number of targets in `a` -/
theorem seq (c : α → β → γ) (hg : ∀ a b, G (c a b) = g a ++ g' b)
    (hp : ∀ a b l, P (c a b) l = (c (p a l).1 (p' b (p a l).2).1, (p' b (p a l).2).2))
    {a : α} {b : β} (h1 : Laws g p a) (h2 : Laws g' p' b) : Laws G P (c a b) := by
  refine ⟨fun r => ?_, fun l r hl => ?_, fun l r m r' hl hm => ?_⟩
  · rw [hp, hg, List.append_assoc, h1.put_get, h2.put_get]
  · rw [hg, List.length_append] at hl
    obtain ⟨l1, l2, rfl, e1, e2⟩ := split_len l _ _ hl
    obtain ⟨a1, a2⟩ := h1.get_put l1 (l2 ++ r) e1
    obtain ⟨b1, b2⟩ := h2.get_put l2 r e2
    rw [hp, hg, List.append_assoc, a2, a1, b1, b2]
    exact ⟨rfl, rfl⟩
  · rw [hg, List.length_append] at hl hm
    obtain ⟨l1, l2, rfl, e1, e2⟩ := split_len l _ _ hl
    obtain ⟨m1, m2, rfl, f1, f2⟩ := split_len m _ _ hm
    rw [hp, hp, hp, List.append_assoc, List.append_assoc, (h1.get_put l1 (l2 ++ r) e1).2,
      h1.put_put l1 (l2 ++ r) m1 (m2 ++ r') e1 f1, (h1.get_put m1 (m2 ++ r') f1).2, h2.put_put l2 r m2 r' e2 f2]

end Laws

theorem here_ok : OK here := by
  refine fun v => ⟨fun r => rfl, fun l r hl => ?_, fun l r m r' hl hm => ?_⟩
  · match l, hl with
    | [x], _ => exact ⟨rfl, rfl⟩
  · match l, hl, m, hm with
    | [x], _, [y], _ => rfl

theorem none_ok : OK none := fun _ => .of_none rfl fun _ => rfl

theorem pair_ok {t1 t2 : Trav} (h1 : OK t1) (h2 : OK t2) : OK (pair t1 t2) := by
  intro v
  cases v with
  | pair a b => exact .seq Val.pair (fun _ _ => rfl) (fun _ _ _ => rfl) (h1 a) (h2 b)
  | _ => exact .of_none rfl fun _ => rfl

theorem putList_laws {t : Trav} (h : OK t) (vs : List Val) : Laws (List.flatMap t.get) (putList t) vs := by
  induction vs with
  | nil => exact .of_none rfl fun _ => rfl
  | cons v vs ih => exact .seq List.cons (fun _ _ => List.flatMap_cons) (fun _ _ _ => rfl) (h v) ih

theorem list_ok {t : Trav} (h : OK t) : OK (list t) := by
  intro v
  cases v with
  | list vs => exact .wrap Val.list (fun _ => rfl) (fun _ _ => rfl) (putList_laws h vs)
  | _ => exact .of_none rfl fun _ => rfl

theorem some_ok {t : Trav} (h : OK t) : OK (some t) := by
  intro v
  cases v with
  | some x => exact .wrap Val.some (fun _ => rfl) (fun _ _ => rfl) (h x)
  | _ => exact .of_none rfl fun _ => rfl

theorem tagged_ok (tag : Nat) {t : Trav} (h : OK t) : OK (tagged tag t) := by
  intro v
  cases v with
  | pair a x =>
    cases a with
    | nat k =>
      by_cases hk : k = tag
      · subst hk
        exact .wrap (Val.pair (.nat k)) (fun _ => if_pos rfl) (fun _ _ => if_pos rfl) (h x)
      · exact .of_none (if_neg hk) fun _ => if_neg hk
    | _ => exact .of_none rfl fun _ => rfl
  | _ => exact .of_none rfl fun _ => rfl

theorem putFields_laws : ∀ (ts : List Trav), (∀ t ∈ ts, OK t) → ∀ (vs : List Val),
    Laws (getFields ts) (putFields ts) vs
  | [], _, [] | [], _, _ :: _ | _ :: _, _, [] => .of_none rfl fun _ => rfl
  | t :: ts, h, v :: vs =>
    .seq List.cons (g := t.get) (p := t.put) (g' := getFields ts) (p' := putFields ts) (fun _ _ => rfl) (fun _ _ _ => rfl)
      (h t (List.mem_cons_self ..) v) (putFields_laws ts (fun x hx => h x (List.mem_cons_of_mem _ hx)) vs)

theorem fields_ok {ts : List Trav} (h : ∀ t ∈ ts, OK t) : OK (fields ts) := by
  intro v
  cases v with
  | list vs => exact .wrap Val.list (fun _ => rfl) (fun _ _ => rfl) (putFields_laws ts h vs)
  | _ => exact .of_none rfl fun _ => rfl

end Trav

theorem txnsParents_ok : Trav.OK txnsParents := by
  have hp : Trav.OK parentOf := Trav.pair_ok Trav.here_ok Trav.none_ok
  have hr : Trav.OK resolutionParents :=
    Trav.pair_ok Trav.here_ok (Trav.pair_ok (Trav.tagged_ok 1 (Trav.pair_ok Trav.here_ok Trav.none_ok)) Trav.none_ok)
  have hl : Trav.OK (Trav.some (Trav.list parentOf)) := Trav.some_ok (Trav.list_ok hp)
  refine Trav.list_ok (Trav.fields_ok fun t ht => ?_)
  simp only [List.mem_cons, List.mem_nil_iff, or_false] at ht
  rcases ht with rfl | rfl | rfl | rfl | rfl | rfl | rfl
  · exact hl
  · exact Trav.none_ok
  · exact hl
  · exact Trav.none_ok
  · exact Trav.none_ok
  · exact hl
  · exact Trav.some_ok (Trav.list_ok hr)

/-- an element value of the expected shape `((LeafIndex, (MerkleProof, _)), …)` whose proof
    entries are 32-byte strings (true of every canonical value of the element schemas) -/
def Shaped (el : Val) : Prop :=
  ∃ i pv u rest, el = .pair (.pair i (.pair (.list pv) u)) rest ∧ ∀ x ∈ pv, ∃ h : Hash32, x = .bytes h.val

theorem setProof_cases (el : Val) :
    (∃ i vs u rest, el = .pair (.pair i (.pair (.list vs) u)) rest) ∨ ∀ p, setProof el p = el := by
  cases el with
  | pair a b =>
    cases a with
    | pair i c =>
      cases c with
      | pair d u =>
        cases d with
        | list vs => exact Or.inl ⟨i, vs, u, b, rfl⟩
        | _ => right; intro p; rfl
      | _ => right; intro p; rfl
    | _ => right; intro p; rfl
  | _ => right; intro p; rfl

theorem idxOf_setProof (el : Val) (p : List Hash32) : idxOf (setProof el p) = idxOf el := by
  rcases setProof_cases el with ⟨i, vs, u, rest, rfl⟩ | h
  · cases i <;> rfl
  · rw [h]

theorem visited_setProof (el : Val) (p : List Hash32) : visited (setProof el p) = visited el := by
  unfold visited; rw [idxOf_setProof]

theorem setProof_setProof (el : Val) (p q : List Hash32) : setProof (setProof el p) q = setProof el q := by
  rcases setProof_cases el with ⟨i, vs, u, rest, rfl⟩ | h
  · rfl
  · rw [h p]

theorem hash32Of_bytes (h : Hash32) : hash32Of (.bytes h.val) = some h := by
  simp [hash32Of, h.property]

theorem filterMap_hash32Of (hs : List Hash32) : (hs.map fun h => Val.bytes h.val).filterMap hash32Of = hs := by
  induction hs with
  | nil => rfl
  | cons a t ih => simp only [List.map_cons, List.filterMap_cons, hash32Of_bytes, ih]

theorem proofOf_setProof {el : Val} (hs : Shaped el) (p : List Hash32) : proofOf (setProof el p) = p := by
  obtain ⟨i, pv, u, rest, rfl, _⟩ := hs
  exact filterMap_hash32Of p

theorem setProof_proofOf {el : Val} (hs : Shaped el) : setProof el (proofOf el) = el := by
  obtain ⟨i, pv, u, rest, rfl, hpv⟩ := hs
  simp only [setProof, proofOf]
  congr 4
  induction pv with
  | nil => rfl
  | cons x t ih =>
    obtain ⟨h, rfl⟩ := hpv x (by simp)
    simp only [List.filterMap_cons, hash32Of_bytes, List.map_cons]
    rw [ih (fun y hy => hpv y (List.mem_cons_of_mem _ hy))]

theorem setProofsEls_length : ∀ (els : List Val) (ps : List (List Hash32)), (setProofsEls els ps).length = els.length := by
  intro els
  induction els with
  | nil => intro ps; rfl
  | cons el els ih =>
    intro ps
    unfold setProofsEls
    split
    · cases ps <;> simp [ih]
    · simp [ih]

/-- number of visited (non-ephemeral) elements -/
def nvis (els : List Val) : Nat := (els.filter visited).length

theorem nvis_cons (el : Val) (els : List Val) : nvis (el :: els) = (if visited el then 1 else 0) + nvis els := by
  unfold nvis
  rw [List.filter_cons]
  by_cases h : visited el = true
  · rw [if_pos h, if_pos h, List.length_cons, Nat.add_comm]
  · rw [if_neg h, if_neg h, Nat.zero_add]

theorem setProofsEls_twice : ∀ (els : List Val) (ps qs : List (List Hash32)), qs.length = nvis els →
    setProofsEls (setProofsEls els ps) qs = setProofsEls els qs := by
  intro els
  induction els with
  | nil => intro ps qs _; rfl
  | cons el els ih =>
    intro ps qs hq
    rw [nvis_cons] at hq
    by_cases hv : visited el = true
    · rw [if_pos hv] at hq
      match qs, hq with
      | [], hq => exact absurd hq (by rw [List.length_nil]; omega)
      | q :: qs, hq =>
        have hq' : qs.length = nvis els := by rw [List.length_cons] at hq; omega
        cases ps with
        | nil => simp only [setProofsEls, hv, if_true, ih _ _ hq']
        | cons p ps => simp only [setProofsEls, hv, if_true, visited_setProof, setProof_setProof, ih _ _ hq']
    · rw [if_neg hv, Nat.zero_add] at hq
      simp only [setProofsEls, hv, if_false, ih _ _ hq, Bool.false_eq_true]

theorem leavesFrom_length (eh : Nat → Val → Hash32) : ∀ (els : List Val) (k : Nat), (leavesFrom eh k els).length = nvis els := by
  intro els
  induction els with
  | nil => intro k; rfl
  | cons el els ih =>
    intro k
    rw [nvis_cons, leavesFrom]
    by_cases hv : visited el = true
    · rw [if_pos hv, if_pos hv, List.length_cons, ih, Nat.add_comm]
    · rw [if_neg hv, if_neg hv, ih, Nat.zero_add]

theorem setProofsEls_self (eh : Nat → Val → Hash32) : ∀ (els : List Val) (k : Nat),
    (∀ el ∈ els, visited el = true → Shaped el) →
    setProofsEls els ((leavesFrom eh k els).map (·.proof)) = els := by
  intro els
  induction els with
  | nil => intro k _; rfl
  | cons el els ih =>
    intro k hs
    have ih' := fun k => ih k (fun x hx => hs x (List.mem_cons_of_mem _ hx))
    by_cases hv : visited el = true
    · simp only [leavesFrom, hv, if_true, List.map_cons, setProofsEls, setProof_proofOf (hs el (by simp) hv), ih']
    · simp only [leavesFrom, hv, if_false, setProofsEls, ih', Bool.false_eq_true]

theorem leavesFrom_set (eh : Nat → Val → Hash32) (heh : ∀ k el p, eh k (setProof el p) = eh k el) :
    ∀ (els : List Val) (k : Nat) (ps : List (List Hash32)),
    (∀ el ∈ els, visited el = true → Shaped el) → ps.length = nvis els →
    leavesFrom eh k (setProofsEls els ps) =
      List.zipWith (fun l p => { l with proof := p }) (leavesFrom eh k els) ps := by
  intro els
  induction els with
  | nil => intro k ps _ _; rfl
  | cons el els ih =>
    intro k ps hs hp
    rw [nvis_cons] at hp
    have ih' := fun k ps => ih k ps (fun x hx => hs x (List.mem_cons_of_mem _ hx))
    by_cases hv : visited el = true
    · rw [if_pos hv] at hp
      match ps, hp with
      | [], hp => exact absurd hp (by rw [List.length_nil]; omega)
      | p :: ps, hp =>
        have hp' : ps.length = nvis els := by rw [List.length_cons] at hp; omega
        simp only [setProofsEls, leavesFrom, hv, if_true, visited_setProof, List.zipWith_cons_cons, heh,
          idxOf_setProof, proofOf_setProof (hs el (List.mem_cons_self ..) hv), ih' _ _ hp']
    · rw [if_neg hv, Nat.zero_add] at hp
      simp only [setProofsEls, leavesFrom, hv, if_false, ih' _ _ hp, Bool.false_eq_true]

theorem leavesFrom_tag_ge (eh : Nat → Val → Hash32) : ∀ (els : List Val) (k : Nat), ∀ a ∈ leavesFrom eh k els, k ≤ a.tag := by
  intro els
  induction els with
  | nil => intro k a ha; simp [leavesFrom] at ha
  | cons el els ih =>
    intro k a ha
    by_cases hv : visited el = true
    · simp only [leavesFrom, hv, if_true, List.mem_cons] at ha
      rcases ha with rfl | ha
      · exact Nat.le_refl _
      · have := ih (k + 1) a ha; omega
    · simp only [leavesFrom, hv, if_false, Bool.false_eq_true] at ha
      have := ih (k + 1) a ha; omega

theorem leavesFrom_tags (eh : Nat → Val → Hash32) : ∀ (els : List Val) (k : Nat),
    ∀ a ∈ leavesFrom eh k els, ∀ b ∈ leavesFrom eh k els, a.tag = b.tag → a = b := by
  intro els
  induction els with
  | nil => intro k a ha; simp [leavesFrom] at ha
  | cons el els ih =>
    intro k a ha b hb hab
    by_cases hv : visited el = true
    · simp only [leavesFrom, hv, if_true, List.mem_cons] at ha hb
      rcases ha with rfl | ha <;> rcases hb with rfl | hb
      · rfl
      · have := leavesFrom_tag_ge eh els (k + 1) b hb; simp only at hab; omega
      · have := leavesFrom_tag_ge eh els (k + 1) a ha; simp only at hab; omega
      · exact ih (k + 1) a ha b hb hab
    · simp only [leavesFrom, hv, if_false, Bool.false_eq_true] at ha hb
      exact ih (k + 1) a ha b hb hab

/-- the transaction set is well shaped: every visited parent element has the element
    shape with 32-byte proof entries (implied by canonicity for the element schemas) -/
def GoodTxns (t : Val) : Prop := ∀ el ∈ txnsParents.get t, visited el = true → Shaped el

/-- **`valOps` is a lawful transaction-set codec** whenever the payload codec round-trips
    on canonical values and the element hash does not depend on the proof. -/
theorem valOps_ok (eh : Nat → Val → Hash32) (heh : ∀ k el p, eh k (setProof el p) = eh k el)
    (encP : Val → Bytes) (decP : Bytes → Except DecErr (Val × Bytes)) (CanonP : Val → Prop)
    (hrt : ∀ t rest, CanonP t → decP (encP t ++ rest) = .ok (t, rest)) :
    TxSetOK (valOps eh encP decP) CanonP GoodTxns := by
  refine ⟨?_, ?_, ?_, ?_, hrt⟩
  · intro t ps hg hp
    simp only [valOps, leavesOfEls] at hp ⊢
    rw [leavesFrom_length] at hp
    have hw := ((txnsParents_ok t).get_put _ [] (setProofsEls_length (txnsParents.get t) ps)).1
    rw [List.append_nil] at hw
    rw [hw]
    exact leavesFrom_set eh heh _ 0 ps hg hp
  · intro t hg
    simp only [valOps, leavesOfEls]
    have hw := (txnsParents_ok t).put_get []
    rw [List.append_nil] at hw
    rw [setProofsEls_self eh _ 0 hg, hw]
  · intro t ps qs _ hq
    simp only [valOps, leavesOfEls] at hq ⊢
    rw [leavesFrom_length] at hq
    have hl := setProofsEls_length (txnsParents.get t) ps
    have hw := ((txnsParents_ok t).get_put _ [] hl).1
    have hpp := (txnsParents_ok t).put_put (setProofsEls (txnsParents.get t) ps) []
      (setProofsEls (setProofsEls (txnsParents.get t) ps) qs) [] hl
      (by rw [setProofsEls_length, setProofsEls_length])
    rw [List.append_nil] at hw hpp
    rw [List.append_nil] at hpp
    rw [hw, hpp, setProofsEls_twice _ _ _ hq]
  · intro t a ha b hb hab
    exact leavesFrom_tags eh _ 0 a ha b hb hab

end Sia.Multiproof
