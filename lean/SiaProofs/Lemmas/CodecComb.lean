import SiaProofs.Props.C10Decode
import SiaModel.Codec.Comb
/-! Leaf-codec combinators preserve the leaf laws (`CodecOK`). -/
namespace Sia.Codec

theorem ofSch_ok {E : Env} (hE : EnvOK E) (s : Sch) (hwf : s.wf E = true) : CodecOK (Codec.ofSch E s) :=
  .of_sound (fun st k v rest hc => C11.c11_roundtrip_gen hE st k s hwf v rest hc)
    (fun st k bs v rest h => C11.decG_sound hE st k s bs v rest h)
    (fun st k v p q hc h hq => C11.c11_truncation_fails hE st k s hwf v hc p q h hq)
    (fun hg st k bs => C10D.c10_decode_total hE st k s hg bs)
    (fun hg k => C10D.alloc_pays hE k s hwf hg)

theorem Env.with_ok {E : Env} (hE : EnvOK E) (name : String) {c : Codec} (hc : CodecOK c) :
    EnvOK (E.with name c) := by
  intro n
  simp only [Env.with]
  split
  · exact hc
  · exact hE n

def TagsOK (cs : List (Nat × Codec)) : Prop := ∀ t c, findTag t cs = some c → CodecOK c

theorem tagsOK_nil : TagsOK [] := by intro t c h; simp [findTag] at h

theorem tagsOK_cons {t : Nat} {c : Codec} {cs : List (Nat × Codec)} (hc : CodecOK c) (hcs : TagsOK cs) :
    TagsOK ((t, c) :: cs) := by
  intro u d h
  simp only [findTag] at h
  split at h
  · injection h with h; subst h; exact hc
  · exact hcs u d h

theorem findTag_depth {t : Nat} {cs : List (Nat × Codec)} {c : Codec} (h : findTag t cs = some c) :
    c.depth ≤ tagDepth cs := by
  induction cs with
  | nil => simp [findTag] at h
  | cons p cs ih =>
    obtain ⟨u, d⟩ := p
    simp only [findTag] at h
    simp only [tagDepth]
    split at h
    · injection h with h; subst h; exact Nat.le_max_left _ _
    · exact Nat.le_trans (ih h) (Nat.le_max_right _ _)

theorem findTag_guarded {t : Nat} {cs : List (Nat × Codec)} {c : Codec} (h : findTag t cs = some c)
    (hg : tagGuarded cs = true) : c.guarded = true := by
  induction cs with
  | nil => simp [findTag] at h
  | cons p cs ih =>
    obtain ⟨u, d⟩ := p
    simp only [findTag] at h
    simp only [tagGuarded, Bool.and_eq_true] at hg
    split at h
    · injection h with h; subst h; exact hg.1
    · exact ih h hg.2

theorem leVal_one_lt {a : Bytes} (h : a.length = 1) : leVal a < 256 := by
  have := leVal_lt a; rw [h] at this; simpa using this

theorem leBytes_one_leVal {a : Bytes} (h : a.length = 1) : leBytes 1 (leVal a) = a := by
  rw [← h, leBytes_leVal]

theorem leVal_leBytes_one {t : Nat} (h : t < 256) : leVal (leBytes 1 t) = t := by
  rw [leVal_leBytes]; exact Nat.mod_eq_of_lt h

theorem tagged_pays {cs : List (Nat × Codec)} (hcs : TagsOK cs) (hg : tagGuarded cs = true) (k : Nat) :
    Pays ((Codec.tagged cs).dec false k) ((Codec.tagged cs).alloc k) (tagDepth cs) k :=
  (takeN_pays 1 _ _).seq (fun bs a r h => by
      cases hf : findTag (leVal a) cs with
      | none =>
        exact ⟨fun _ => .error (α := Val × Bytes) .invalid, fun _ => 0, .free (fun _ => rfl) nofun,
          by simp only [Codec.tagged, h, hf], fun c rest hc => by simp only [Codec.tagged, h, hf] at hc; cases hc⟩
      | some c =>
        refine ⟨c.dec false k, c.alloc k, ((hcs _ c hf).pays (findTag_guarded hf hg) k).mono (findTag_depth hf),
          by simp only [Codec.tagged, h, hf, Nat.zero_add], fun x rest hc => ?_⟩
        simp only [Codec.tagged, h, hf] at hc
        split at hc
        · cases hc; exact ⟨_, ‹_›⟩
        · cases hc)
    (fun bs e h => by simp only [Codec.tagged, h]; exact ⟨trivial, nofun⟩)

theorem tagged_ok {cs : List (Nat × Codec)} (hcs : TagsOK cs) : CodecOK (Codec.tagged cs) := by
  have canon_inv : ∀ {v}, (Codec.tagged cs).canon v = true →
      ∃ t x c, v = .pair (.nat t) x ∧ t < 256 ∧ findTag t cs = some c ∧ c.canon x = true := fun {v} h =>
    match v, h with
    | .pair (.nat t) x, h =>
      have h := (Bool.and_eq_true _ _).mp h
      match hf : findTag t cs, h.2 with
      | some c, h2 => ⟨t, x, c, rfl, of_decide_eq_true h.1, hf, h2⟩
  refine .of_sound ?_ ?_ ?_ ?_ ?_
  · intro st k v rest hc
    obtain ⟨t, x, c, rfl, ht, hf, hx⟩ := canon_inv hc
    simp only [Codec.tagged, hf, List.append_assoc]
    rw [takeN_append' _ _ (leBytes_length 1 t)]
    simp only [leVal_leBytes_one ht, hf]
    rw [(hcs t c hf).roundtrip st k x rest hx]
  · intro st k bs v rest h
    simp only [Codec.tagged] at h ⊢
    split at h
    · rename_i a r h1
      obtain ⟨hb, hl⟩ := takeN_ok h1
      split at h
      · rename_i c hf
        split at h
        · rename_i x r' h2
          cases h
          obtain ⟨hcx, cs', hcs', _, hs⟩ := (hcs _ c hf).sound h2
          refine ⟨?_, a ++ cs', by rw [hb, hcs', List.append_assoc],
            by rw [List.length_append, hl]; exact Nat.le_add_right 1 _, fun e => ?_⟩
          · simp only [hf, Bool.and_eq_true, decide_eq_true_eq]
            exact ⟨leVal_one_lt hl, hcx⟩
          · simp only [hf]
            rw [leBytes_one_leVal hl, hs e]
        · cases h
      · cases h
    · cases h
  · intro st k v p q hc h hq
    obtain ⟨t, x, c, rfl, ht, hf, hx⟩ := canon_inv hc
    simp only [Codec.tagged, hf] at h ⊢
    rcases prefix_split h with ⟨q', h1, hq'⟩ | ⟨p', rfl, h2⟩
    · rw [takeN_short (Nat.lt_of_lt_of_eq (prefix_len_lt h1 hq') (leBytes_length 1 t))]; exact ⟨_, rfl⟩
    · rw [takeN_append' _ _ (leBytes_length 1 t)]
      simp only [leVal_leBytes_one ht, hf]
      obtain ⟨e', he⟩ := (hcs t c hf).trunc st k x p' q hx h2 hq
      rw [he]; exact ⟨_, rfl⟩
  · intro hg st k bs
    simp only [Codec.tagged] at hg ⊢
    split
    · split
      · rename_i c hf
        split
        · simp
        · rename_i e h2; intro h; injection h with h; subst h
          exact (hcs _ c hf).no_panic (findTag_guarded hf hg) st k _ h2
      · simp
    · rename_i e h1; have := (takeN_error h1).1; subst this; simp
  · exact tagged_pays hcs

end Sia.Codec
