import SiaProofs.Props.C08
import SiaProofs.Props.C12
import SiaProofs.Lemmas.LedgerFoundation
/-!
# C03 — Spends, revisions, renewals, attestations need content-binding authorisation

Two layers.

* **Ledger model** (`SiaModel/Ledger/Model.lean`, tied to `ValidateBlock` by the `ledger-block`
  correspondence op): signatures enter as verdict bits computed by the harness with the real
  `VerifyHash` / `SpendPolicy.Verify` over the real sighashes.  `c03_accept_requires_auth` states
  which bits an accepted block forces to be true, for every transaction of the block;
  `c03_foundation_update_authorised` that the Foundation addresses only move through a transaction
  that passed the Foundation checks.
* **Id model** (`SiaModel/Ids`): `c03_sighash_binds` — equal sighash ⇒ equal covered content, for each of the
  four v2 sighashes (input, contract, renewal, attestation; from C11's encoder injectivity and the hypothesis
  `HashInj`). Nothing is stated about the v1 sighashes (`wholeSigPre`, `partialSigPre`).

Which keys the code hands to signature verification is a generated fact, tied below: a revision is
verified under the keys of `cur` (the contract as it currently stands, in-block revision included),
a renewal under the keys of the parent element's contract (pre-block; DESIGN F8 — the harness
reports the corner "renewal after an in-block key rotation" under the stable key
`c03-renewal-after-inblock-key-rotation`).
-/
namespace C03
open Sia.Ledger

/-- a formation is verified under the contract's own keys; a revision under the keys of `cur` -/
theorem tie_revision_keys :
    Gen.FactsIds.formationSigArgs = [["fc", "fc.RenterPublicKey", "fc.HostPublicKey"]] ∧
    Gen.FactsIds.revisionSigArgs = [["rev", "cur.RenterPublicKey", "cur.HostPublicKey"]] ∧
    Gen.FactsIds.revisionCurDefs = ["cur := fce.V2FileContract",
      "if i, ok := ms.elements[fce.ID]; ok && ms.v2fces[i].Revision != nil", "cur = *ms.v2fces[i].Revision"] := by
  refine ⟨by rfl, by rfl, by rfl⟩

/-- the contract signature check: both signatures over `ContractSigHash(fc)` -/
theorem tie_contract_sig_check :
    Gen.FactsIds.contractSigCheckParams = Sia.Ids.Spec.contractSigCheckParams ∧
    Gen.FactsIds.contractSigCheckBody = Sia.Ids.Spec.contractSigCheckBody := by
  constructor <;> rfl

/-- a renewal is verified under the keys of the parent element's contract, over `RenewalSigHash`;
its new contract is validated like a formation -/
theorem tie_renewal_keys :
    Gen.FactsIds.renewalVerifyCalls = [["fc.RenterPublicKey", "renewalHash", "renewal.RenterSignature"],
      ["fc.HostPublicKey", "renewalHash", "renewal.HostSignature"]] ∧
    Gen.FactsIds.renewalDefs = ["renewal := *r", "renewalHash := ms.base.RenewalSigHash(renewal)"] ∧
    Gen.FactsIds.resolutionFcDefs = ["fc := fcr.Parent.V2FileContract"] ∧
    Gen.FactsIds.renewalContractCalls = [["renewal.NewContract"]] := by
  refine ⟨by rfl, by rfl, by rfl, by rfl⟩

theorem tie_attestation_check : Gen.FactsIds.validateAttestationsBody = Sia.Ids.Spec.validateAttestationsBody := by rfl

theorem tie_foundation_checks :
    Gen.FactsIds.validateFoundationUpdateBody = Sia.Ids.Spec.validateFoundationUpdateBody ∧
    Gen.FactsIds.foundationSignedCheck = Sia.Ids.Spec.foundationSignedCheck := by
  constructor <;> rfl

/-- inputs: the revealed policy must hash to the parent's address and be satisfied over
`InputSigHash(txn)`; v1 signatures are verified over `WholeSigHash` / `PartialSigHash` -/
theorem tie_input_auth :
    Gen.FactsIds.validateV2SpendPolicyBody = Sia.Ids.Spec.validateV2SpendPolicyBody ∧
    Gen.FactsIds.validateV2SiacoinsAuth = Sia.Ids.Spec.validateV2SiacoinsAuth ∧
    Gen.FactsIds.validateV2SiafundsAuth = Sia.Ids.Spec.validateV2SiafundsAuth ∧
    Gen.FactsIds.v1SigVerify = Sia.Ids.Spec.v1SigVerify := by
  refine ⟨by rfl, by rfl, by rfl, by rfl⟩

/-- what acceptance forces for a v1 transaction: valid signatures (`sigsOk`), the signed Foundation update, and, for
every input and revision, that its revealed unlock conditions hash to the address of the element its parent id
resolves to at SOME mid-state `s` over `L`. Each clause binds its own `s` (`C08.c08_block_txns_validated` gives the
state a transaction was validated at only existentially) and the element may come from the diffs of `s`, so as stated
the three address clauses hold of every `L` and `t` (take `s` with one diff under the parent id that carries the
address): what `V1Auth L t` says is `sigsOk` and `foundation`. -/
structure V1Auth (L : Ledger) (t : Txn1) : Prop where
  sigsOk : t.sigsOk = true
  scAddr : ∀ sci ∈ t.scIns, ∃ s : Mid, s.base = L ∧ ∃ p, s.scElement t.supp sci.parent = some p ∧ sci.ucAddr = p.addr
  sfAddr : ∀ sfi ∈ t.sfIns, ∃ s : Mid, s.base = L ∧ ∃ p, s.sfElement t.supp sfi.parent = some p ∧
    (sfi.ucAddr = p.addr ∨ (L.child ≥ L.P.hfDevAddr ∧ p.addr = L.P.devOldAddr ∧ sfi.ucAddr = L.P.devNewAddr))
  revAddr : ∀ r ∈ t.revs, ∃ s : Mid, s.base = L ∧ ∃ p, s.fc1Element t.supp r.parent = some p ∧ r.ucAddr = p.fc.unlockHash
  foundation : L.child ≥ L.P.hfFoundation → ∀ u signed, t.foundation = some (u, signed) → signed = true

/-- what acceptance forces for a v2 transaction -/
structure V2Auth (L : Ledger) (t : Txn2) : Prop where
  scIns : ∀ sci ∈ t.scIns, sci.addrOk = true ∧ sci.authOk = true
  sfIns : ∀ sfi ∈ t.sfIns, sfi.addrOk = true ∧ sfi.authOk = true
  formations : ∀ x ∈ t.fcs, x.2.2 = true
  revisions : ∀ r ∈ t.revs, r.sigCurOk = true
  renewals : ∀ r ∈ t.ress, ∀ rn, r.res = .renewal rn →
    rn.newSigOk = true ∧ rn.sigOk = true ∧
      r.parent.fc.renterKey = rn.newContract.renterKey ∧ r.parent.fc.hostKey = rn.newContract.hostKey
  attestations : t.attsOk = true
  foundation : ∀ a, t.newFoundation = some a → ∃ sci ∈ t.scIns, sci.parent.addr = L.fFailsafe ∧ sci.addrOk = true ∧ sci.authOk = true

/-- a block is accepted only if every v1 transaction carries valid
signatures (`sigsOk`: the verdict of `validateSignatures` over the whole/partial sighashes) and
every revealed unlock conditions hash to the parent's address (at some mid-state over `L`, which as stated is no
constraint: see `V1Auth`);
every v2 input reveals a policy
that hashes to the parent's address (`addrOk`) and is satisfied over the input sighash
(`authOk`); every v2 formation is signed by its own keys, every revision by the keys of the
contract as it currently stands (`sigCurOk`), every renewal by the keys of its parent (`sigOk`)
with a validly signed new contract (`newSigOk`) that keeps both keys; every attestation is signed
by its key (`attsOk`); a Foundation address change needs the v1 signed check resp. an
(authorised) input from the management address. -/
theorem c03_accept_requires_auth (L : Ledger) (b : Block) (pid : Id) (ms : Mid) (h : validateBlock L b pid = .ok ms) :
    (∀ t ∈ b.txns1, V1Auth L t) ∧ (∀ t ∈ b.txns2, V2Auth L t) := by
  obtain ⟨h1, h2⟩ := C08.c08_block_txns_validated L b pid ms h
  constructor
  · intro t ht
    obtain ⟨s, rfl, hv⟩ := h1 t ht
    have R := validateTransaction_ok_rules hv
    exact ⟨R.sigsOk, fun x hm => let ⟨p, hp, hr⟩ := R.scIn x hm; ⟨s, rfl, p, hp, hr.addr⟩,
      fun x hm => let ⟨p, hp, hr⟩ := R.sfIn x hm; ⟨s, rfl, p, hp, hr.addr⟩,
      fun x hm => let ⟨p, hp, hr⟩ := R.rev x hm; ⟨s, rfl, p, hp, hr.addr⟩, validateArbitraryData_ok R.arbitrary⟩
  · intro t ht
    obtain ⟨s, rfl, hv⟩ := h2 t ht
    have R := validateV2Transaction_ok_rules hv
    refine ⟨fun x hm => ⟨(R.scIn x hm).addrOk, (R.scIn x hm).authOk⟩, fun x hm => ⟨(R.sfIn x hm).addrOk, (R.sfIn x hm).authOk⟩,
      fun x hm => (R.fc x hm).sig, fun r hm => (R.rev r hm).revision.sig, ?_, R.attsOk, ?_⟩
    · intro r hm rn hr
      have hk := (R.res r hm).kind
      unfold Res2KindRules at hk
      rw [hr] at hk
      have r := renewalCheck_ok hk
      exact ⟨r.2.2.2.1.sig, r.2.2.2.2, r.1, r.2.1⟩
    · intro a ha
      obtain ⟨sci, hm, hp⟩ := validateFoundationUpdate_ok R.foundation a ha
      exact ⟨sci, hm, hp, (R.scIn sci hm).addrOk, (R.scIn sci hm).authOk⟩

/-- non-vacuity: the v2 transaction spending `e0` with valid witness bits is accepted by
`validateV2Transaction`, the same transaction with `authOk := false` is rejected -/
example : ∃ ms, validateV2Transaction (C08.Ex.M 10) (C08.tSpend2 C08.Ex.e0) 100 = .ok ms := ⟨(), by decide⟩
example : validateV2Transaction (C08.Ex.M 10)
    { C08.tSpend2 C08.Ex.e0 with scIns := [{ parent := C08.Ex.e0, addrOk := true, authOk := false }] } 100 =
    .error (.reject "failed to satisfy spend policy") := rfl

/-- a v1 transaction that carries a decodable Foundation update which passed the "signed by a current
Foundation key" check of `validateArbitraryData` -/
def V1FoundationAuth (t : Txn1) : Prop := ∃ u, t.foundation = some (u, true)

/-- a v2 transaction that names a new Foundation address and spends (with an address-matching, satisfied
policy) an input controlled by the management address of the parent state -/
def V2FoundationAuth (L : Ledger) (t : Txn2) : Prop :=
  ∃ a, t.newFoundation = some a ∧ ∃ sci ∈ t.scIns, sci.parent.addr = L.fFailsafe ∧ sci.addrOk = true ∧ sci.authOk = true

/-- if validating a block moves the Foundation subsidy or
management address away from the parent state's, then the block contains a v1 transaction whose
Foundation update passed the signed-by-a-current-Foundation-key check, or a v2 transaction that names a
new Foundation address and spends an authorised input controlled by the parent state's management
address. -/
theorem c03_foundation_update_authorised (L : Ledger) (b : Block) (pid : Id) (ms : Mid)
    (h : validateBlock L b pid = .ok ms) (hne : (ms.fPrimary, ms.fFailsafe) ≠ (L.fPrimary, L.fFailsafe)) :
    (∃ t ∈ b.txns1, V1FoundationAuth t) ∨ (∃ t ∈ b.txns2, V2FoundationAuth L t) := by
  obtain ⟨A1, A2⟩ := c03_accept_requires_auth L b pid ms h
  -- the addresses stay those of `L` until a transaction that carries an update has been applied;
  -- that it was authorised is `c03_accept_requires_auth`
  rcases (validateBlock_inv h (I := fun s => s.fnd = (newMid L).fnd ∨
      ((∃ t ∈ b.txns1, L.child ≥ L.P.hfFoundation + 1 ∧ ∃ x, t.foundation = some x) ∨
        (∃ t ∈ b.txns2, ∃ a, t.newFoundation = some a))) (.inl rfl)
    (fun _ _ t ht hb hs _ ha => (txn1_fnd ha).elim (fun e => hs.imp_left (e.trans ·))
      (fun a => .inr (.inl ⟨t, ht, hb ▸ a⟩)))
    (fun _ _ t ht _ hs _ ha => (txn2_fnd ha).elim (fun e => hs.imp_left (e.trans ·))
      (fun a => .inr (.inr ⟨t, ht, a⟩)))).1.resolve_left hne with ⟨t, ht, hc, ⟨u, signed⟩, hx⟩ | ⟨t, ht, a, hx⟩
  · cases (A1 t ht).foundation (by omega) u signed hx
    exact .inl ⟨t, ht, u, hx⟩
  · exact .inr ⟨t, ht, a, hx, (A2 t ht).foundation a hx⟩

/-- non-vacuity: a v2 transaction that sets a new Foundation address without spending from the
management address is rejected; with an input from it (address 7 = `fFailsafe`) it is accepted -/
example : validateFoundationUpdate (C08.Ex.M 10) { C08.tSpend2 C08.Ex.e0 with newFoundation := some 5 } =
    .error (.reject "transaction changes Foundation address, but does not spend an input controlled by current address") := rfl
example : validateFoundationUpdate (newMid { C08.Ex.L 10 with fFailsafe := 7 }) { C08.tSpend2 C08.Ex.e0 with newFoundation := some 5 } = .ok () := by
  decide

open Sia.Codec Sia.Ids in
/-- under `HashInj`, for each of the four v2 sighashes, equal sighashes ⇒ equal covered content:
* input sighash: the effect-bearing content of the transaction as far as the code binds it
  (`stripCode`: everything in `strip` except — finding — the siafund claim addresses), among
  transactions with the same resolution kinds (finding: the kind tag is not written);
* contract sighash: the whole contract except its two signatures;
* renewal sighash: the whole renewal (final outputs, rollovers, new contract) except the four signatures;
* attestation sighash: public key, key, value.
Every preimage also contains the purpose distinguisher and the replay prefix
(`C12.c12_sighash_binds_era_and_purpose`). -/
theorem c03_sighash_binds (H : List UInt8 → List UInt8) (hH : HashInj H) :
    (∀ t t' : V2Txn, WFG codeBindsClaimAddress t → WFG codeBindsClaimAddress t' → t.kinds = t'.kinds →
      H (inputSigPre t) = H (inputSigPre t') → stripCode codeBindsClaimAddress t = stripCode codeBindsClaimAddress t') ∧
    (∀ fc fc' : V2FileContract, Canon Env.default Spec.v2FileContract (fcVal fc.nilSigs) →
      Canon Env.default Spec.v2FileContract (fcVal fc'.nilSigs) →
      H (contractSigPre fc) = H (contractSigPre fc') → fc.nilSigs = fc'.nilSigs) ∧
    (∀ r r' : V2Renewal, Canon Env.default Spec.v2FileContractRenewal (renewalVal r.nilSigs) →
      Canon Env.default Spec.v2FileContractRenewal (renewalVal r'.nilSigs) →
      H (renewalSigPre r) = H (renewalSigPre r') → r.nilSigs = r'.nilSigs) ∧
    (∀ a a' : Attestation, Canon Env.default Spec.attestation (attVal a.nilSig) →
      Canon Env.default Spec.attestation (attVal a'.nilSig) →
      H (attestationSigPre a) = H (attestationSigPre a') → a.nilSig = a'.nilSig) := by
  refine ⟨?_, ?_, ?_, ?_⟩
  · intro t t' hw hw' hk h
    have := hH _ _ h
    simp only [inputSigPre, inputSigPreG, List.append_assoc] at this
    exact semEncodeG_inj _ hw hw' hk (List.append_cancel_left (List.append_cancel_left this))
  · intro fc fc' hc hc' h
    have := hH _ _ h
    simp only [contractSigPre, List.append_assoc] at this
    exact fcVal_inj (C11.c11_injective Env.default_ok _ (by decide +kernel) _ _ hc hc'
      (List.append_cancel_left (List.append_cancel_left this)))
  · intro r r' hc hc' h
    have := hH _ _ h
    simp only [renewalSigPre, List.append_assoc] at this
    exact renewalVal_inj (C11.c11_injective Env.default_ok _ (by decide +kernel) _ _ hc hc'
      (List.append_cancel_left (List.append_cancel_left this)))
  · intro a a' hc hc' h
    have := hH _ _ h
    simp only [attestationSigPre, List.append_assoc] at this
    exact attVal_inj (C11.c11_injective Env.default_ok _ (by decide +kernel) _ _ hc hc'
      (List.append_cancel_left (List.append_cancel_left this)))

/-- non-vacuity: the contract of the C12 witnesses is canonical; changing its revision number changes
the covered content -/
example : Sia.Codec.Canon Sia.Codec.Env.default Sia.Codec.Spec.v2FileContract (Sia.Ids.fcVal C12.fc0.nilSigs) ∧
    C12.fc0.nilSigs ≠ ({ C12.fc0 with revisionNumber := 1 } : Sia.Ids.V2FileContract).nilSigs := by
  constructor <;> decide +kernel

/-- symbolic unforgeability, as far as it is needed here: one signature does not verify (under one key)
for two different hashes.  A HYPOTHESIS on the verification function; satisfiable, e.g. by the term
model "a signature is the pair (key, hash)". -/
def SigBinding (verify : List UInt8 → List UInt8 → List UInt8 → Bool) : Prop :=
  ∀ k h h' s, verify k h s = true → verify k h' s = true → h = h'

example : SigBinding (fun k h s => decide (s = k ++ h)) := by
  intro k h h' s h1 h2
  simp only [decide_eq_true_eq] at h1 h2
  exact List.append_cancel_left (h1.symm.trans h2)

open Sia.Codec Sia.Ids in
/-- a signature that verifies over the sighash of `t` (resp. of a contract, a
renewal, an attestation) does not verify over the sighash of an object whose covered content differs —
changing any signed content after signing invalidates the signature.  (For v1 partial-coverage
signatures the covered content is what `CoveredFields` names; not modelled.)  The input-sighash clause
carries the two exclusions of C12: same resolution kinds; claim addresses are not covered. -/
theorem c03_tamper_rejected (verify : List UInt8 → List UInt8 → List UInt8 → Bool) (hU : SigBinding verify)
    (H : List UInt8 → List UInt8) (hH : HashInj H) (k s : List UInt8) :
    (∀ t t' : V2Txn, WFG codeBindsClaimAddress t → WFG codeBindsClaimAddress t' → t.kinds = t'.kinds →
      stripCode codeBindsClaimAddress t ≠ stripCode codeBindsClaimAddress t' →
      verify k (H (inputSigPre t)) s = true → verify k (H (inputSigPre t')) s = false) ∧
    (∀ fc fc' : V2FileContract, Canon Env.default Spec.v2FileContract (fcVal fc.nilSigs) →
      Canon Env.default Spec.v2FileContract (fcVal fc'.nilSigs) → fc.nilSigs ≠ fc'.nilSigs →
      verify k (H (contractSigPre fc)) s = true → verify k (H (contractSigPre fc')) s = false) ∧
    (∀ r r' : V2Renewal, Canon Env.default Spec.v2FileContractRenewal (renewalVal r.nilSigs) →
      Canon Env.default Spec.v2FileContractRenewal (renewalVal r'.nilSigs) → r.nilSigs ≠ r'.nilSigs →
      verify k (H (renewalSigPre r)) s = true → verify k (H (renewalSigPre r')) s = false) ∧
    (∀ a a' : Attestation, Canon Env.default Spec.attestation (attVal a.nilSig) →
      Canon Env.default Spec.attestation (attVal a'.nilSig) → a.nilSig ≠ a'.nilSig →
      verify k (H (attestationSigPre a)) s = true → verify k (H (attestationSigPre a')) s = false) := by
  obtain ⟨b1, b2, b3, b4⟩ := c03_sighash_binds H hH
  refine ⟨?_, ?_, ?_, ?_⟩
  · intro t t' hw hw' hk hne hv
    cases hv' : verify k (H (inputSigPre t')) s
    · rfl
    · exact absurd (b1 t t' hw hw' hk (hU _ _ _ _ hv hv')) hne
  · intro fc fc' hc hc' hne hv
    cases hv' : verify k (H (contractSigPre fc')) s
    · rfl
    · exact absurd (b2 fc fc' hc hc' (hU _ _ _ _ hv hv')) hne
  · intro r r' hc hc' hne hv
    cases hv' : verify k (H (renewalSigPre r')) s
    · rfl
    · exact absurd (b3 r r' hc hc' (hU _ _ _ _ hv hv')) hne
  · intro a a' hc hc' hne hv
    cases hv' : verify k (H (attestationSigPre a')) s
    · rfl
    · exact absurd (b4 a a' hc hc' (hU _ _ _ _ hv hv')) hne

end C03
