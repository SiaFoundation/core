import SiaModel.Gen.CodeConsensus
import SiaProofs.Lemmas.GoCurrency
/-!
# C07 / C01 — the v1 file-contract rules as REGENERATED from `consensus/validation.go`

The bodies of the two loops of `validateFileContracts` (contract formation, contract revision) and the closure
`outputSum` are translated, inner `for … range` loops included.  Theorems about the generated
definitions: an accepted v1 contract locks exactly its outputs plus the tax (valid and missed sides equal, as
integers, nothing wrapped) and its window lies ahead; an accepted v1 revision keeps both payout sums, raises the
revision number and comes before the parent's proof window opens.
-/
namespace C07
open Gen.Types Gen.Consensus C15 GoLoops

/-- integer value of a list of outputs -/
def outSum (outs : List SiacoinOutput) : Nat := (outs.map (fun o => val o.Value)).sum

theorem addLoop_ok {ρ : Type} {f : Int → SiacoinOutput → Currency → Except String (Option ρ × Currency)}
    (hf : ∀ i o st t st', f i o st = .ok (t, st') → t = none ∧ st.Add o.Value = .ok st')
    {outs : List SiacoinOutput} {acc : Currency} {t : Option ρ} {s : Currency}
    (h : Go.forRange outs acc f = .ok (t, s)) (hw : ∀ o ∈ outs, WF o.Value) (ha : WF acc) :
    t = none ∧ WF s ∧ val s = val acc + outSum outs := by
  have c := forRangeFrom_ok (P := fun _ => False)
    (R := fun (o : SiacoinOutput) st st' => WF o.Value → WF st → WF st' ∧ val st' = val st + val o.Value)
    (fun i o st t st' hx => by obtain ⟨rfl, e⟩ := hf i o st t st' hx; exact add_step e) outs 0 acc t s h
  cases t with
  | some q => exact c.elim
  | none => exact ⟨rfl, Chain.sum (m := val) (I := WF) (fun _ _ _ r => r) _ _ _ c hw ha⟩

theorem outputSum_ok (outs : List SiacoinOutput) (s : Currency) (hw : ∀ o ∈ outs, WF o.Value)
    (h : validateFileContracts_outputSum outs = .ok s) : WF s ∧ val s = outSum outs := by
  obtain ⟨⟨t, acc⟩, hl, hk⟩ := of_bind_ok h
  obtain ⟨rfl, w, v⟩ := addLoop_ok (fun _ _ _ _ _ hx => by obtain ⟨_, e, hx⟩ := of_bind_ok hx; cases hx; exact ⟨rfl, e⟩)
    hl hw wf_zero
  cases hk
  exact ⟨w, by rw [v, val_zero, Nat.zero_add]⟩

/-- every output value of a v1 contract is a genuine pair of 64-bit words -/
structure FCOutsWF (fc : FileContract) : Prop where
  valid : ∀ o ∈ fc.ValidProofOutputs, WF o.Value
  missed : ∀ o ∈ fc.MissedProofOutputs, WF o.Value

/--
**An accepted v1 contract locks exactly its outputs plus the tax** (about the formation rules of
`validateFileContracts` as regenerated from the source): the window lies ahead and is non-empty, the valid and the
missed outputs add up to the same integer (no wrap-around), and the payout is that sum plus the contract tax.
-/
theorem c07_v1_formation_gen (ext : Ext) (ms : MidState) (fc : FileContract) (i : Int) (hw : FCOutsWF fc)
    (htax : WF (ext.FileContractTax ms.base fc))
    (h : validateFileContracts_formationRules ext fc ms i = .ok none) :
    State.childHeight ms.base ≤ fc.WindowStart ∧ fc.WindowStart < fc.WindowEnd ∧
    outSum fc.ValidProofOutputs = outSum fc.MissedProofOutputs ∧
    val fc.Payout = outSum fc.ValidProofOutputs + val (ext.FileContractTax ms.base fc) ∧
    val fc.Payout < W2 := by
  obtain ⟨c1, h⟩ := ite_else h nofun
  obtain ⟨c2, h⟩ := ite_else h nofun
  obtain ⟨⟨t1, sv⟩, hl1, h⟩ := of_bind_ok h
  obtain ⟨rfl, w1, s1⟩ := addLoop_ok (fun _ _ _ _ _ hx => by obtain ⟨_, e, hx⟩ := of_bind_ok hx; cases hx; exact ⟨rfl, e⟩)
    hl1 hw.valid wf_zero
  obtain ⟨⟨t2, sm⟩, hl2, h⟩ := of_bind_ok h
  obtain ⟨rfl, w2, s2⟩ := addLoop_ok (fun _ _ _ _ _ hx => by obtain ⟨_, e, hx⟩ := of_bind_ok hx; cases hx; exact ⟨rfl, e⟩)
    hl2 hw.missed wf_zero
  obtain ⟨c3, h⟩ := ite_else h nofun
  obtain ⟨t, ha, h⟩ := of_bind_ok h
  obtain ⟨c4, _⟩ := ite_else h nofun
  obtain ⟨wt, vt⟩ := add_step ha htax w1
  have e3 : sv = sm := by unfold Currency.Equals at c3; simpa using c3
  have e4 : fc.Payout = t := by unfold Currency.Equals at c4; simpa using c4
  have lt := val_lt wt
  rw [val_zero] at s1 s2
  simp only [decide_eq_true_eq] at c1 c2
  rw [e4]
  refine ⟨by omega, by omega, ?_, by omega, lt⟩
  rw [e3] at s1
  omega

/-- first half of the v1 revision rules (regenerated): timelock, window and in-block conflict -/
theorem c07_v1_revision_a_gen (ext : Ext) (ms : MidState) (fcr : FileContractRevision) (i : Int) :
    validateFileContracts_revisionRulesA ext fcr ms i = none ↔
      (fcr.UnlockConditions.Timelock ≤ State.childHeight ms.base ∧
       State.childHeight ms.base ≤ fcr.FileContract.WindowStart ∧
       fcr.FileContract.WindowStart < fcr.FileContract.WindowEnd ∧
       (ext.spent ms fcr.ParentID).2 = false) := by
  unfold validateFileContracts_revisionRulesA
  simp only [ite_some_eq_none, decide_eq_true_eq, and_true, Nat.not_lt, Nat.not_le, Bool.not_eq_true, gt_iff_lt]

/--
**An accepted v1 revision keeps both payout sums** (second half of the revision rules of `validateFileContracts` as
regenerated): the parent exists, its proof window has not opened, the revision number rises, the revealed unlock
conditions hash to the parent's unlock hash, and the valid and the missed outputs each add up — as integers — to
what the parent's did.
-/
theorem c07_v1_revision_b_gen (ext : Ext) (ms : MidState) (ts : V1TransactionSupplement) (fcr : FileContractRevision)
    (i : Int) (hr : FCOutsWF fcr.FileContract) (hp : FCOutsWF (ext.fileContractElement ms ts fcr.ParentID).1.FileContract)
    (h : validateFileContracts_revisionRulesB ext ms ts fcr i = .ok none) :
    (ext.fileContractElement ms ts fcr.ParentID).2 = true ∧
    State.childHeight ms.base ≤ (ext.fileContractElement ms ts fcr.ParentID).1.FileContract.WindowStart ∧
    (ext.fileContractElement ms ts fcr.ParentID).1.FileContract.RevisionNumber < fcr.FileContract.RevisionNumber ∧
    ext.UnlockHash fcr.UnlockConditions = (ext.fileContractElement ms ts fcr.ParentID).1.FileContract.UnlockHash ∧
    outSum fcr.FileContract.ValidProofOutputs = outSum (ext.fileContractElement ms ts fcr.ParentID).1.FileContract.ValidProofOutputs ∧
    outSum fcr.FileContract.MissedProofOutputs = outSum (ext.fileContractElement ms ts fcr.ParentID).1.FileContract.MissedProofOutputs := by
  obtain ⟨c0, h⟩ := ite_else h nofun
  obtain ⟨c1, h⟩ := ite_else h nofun
  obtain ⟨c2, h⟩ := ite_else h nofun
  obtain ⟨c3, h⟩ := ite_else h nofun
  obtain ⟨t3, e1, h⟩ := of_bind_ok h
  obtain ⟨t4, e2, h⟩ := of_bind_ok h
  obtain ⟨c4, h⟩ := ite_else h nofun
  obtain ⟨t5, e3, h⟩ := of_bind_ok h
  obtain ⟨t6, e4, h⟩ := of_bind_ok h
  obtain ⟨c5, _⟩ := ite_else h nofun
  have q1 := (outputSum_ok _ _ hr.valid e1).2
  have q2 := (outputSum_ok _ _ hp.valid e2).2
  have q3 := (outputSum_ok _ _ hr.missed e3).2
  have q4 := (outputSum_ok _ _ hp.missed e4).2
  simp only [decide_eq_true_eq, Decidable.not_not, Bool.not_eq_true', Bool.not_eq_false] at c0 c1 c2 c3 c4 c5
  refine ⟨c0, Nat.le_of_not_lt c1, Nat.lt_of_not_le c2, c3, ?_, ?_⟩
  · rw [← q1, ← q2, c4]
  · rw [← q3, ← q4, c5]

/-! ### non-vacuity: the regenerated v1 rules accept and reject concrete contracts -/

def extTax4 : Ext := { Ext.trivial with FileContractTax := fun _ _ => { Lo := 4 } }

def sampleV1 : FileContract :=
  { WindowStart := 10, WindowEnd := 20, Payout := { Lo := 104 },
    ValidProofOutputs := [{ Value := { Lo := 60 } }, { Value := { Lo := 40 } }],
    MissedProofOutputs := [{ Value := { Lo := 60 } }, { Value := { Lo := 30 } }, { Value := { Lo := 10 } }] }

example : validateFileContracts_formationRules extTax4 sampleV1 {} 0 = .ok none := by rfl
example : validateFileContracts_formationRules extTax4 { sampleV1 with Payout := { Lo := 100 } } {} 0
    = .ok (some "file contract %v has payout with incorrect tax") := by rfl
example : validateFileContracts_formationRules extTax4 { sampleV1 with MissedProofOutputs := [] } {} 0
    = .ok (some "file contract %v has valid payout that does not equal missed payout") := by rfl
example : ∃ m, validateFileContracts_formationRules extTax4
    { sampleV1 with ValidProofOutputs := [{ Value := { Lo := 1, Hi := 18446744073709551615 } }, { Value := { Hi := 1 } }] } {} 0
    = .error m := by apply Exists.intro; rfl
example : validateFileContracts_outputSum sampleV1.ValidProofOutputs = .ok { Lo := 100 } := by rfl

end C07
