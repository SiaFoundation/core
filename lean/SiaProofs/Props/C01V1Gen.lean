import SiaModel.Gen.CodeConsensus
import SiaProofs.Lemmas.GoCurrency
/-!
# C01 / C03 / C08 — `consensus.validateSiacoins` (v1), the WHOLE function, on REGENERATED code

Four loops; the parent records come from `ext.siacoinElement` (the block's own diffs or the supplement — C04's
`c04_supplement_gen` says the supplement's records are accumulator members), `ext.spent` is the block-wide table of
consumed elements, `ext.UnlockHash` the Merkle root of the revealed unlock conditions.

`c01_v1_txn_balance_gen`: if the regenerated function accepts a v1 transaction, then as integers, nothing wrapped,

    Σ parent values of the inputs = Σ outputs + Σ contract payouts + Σ miner fees

and every input is: past its timelock (`Timelock ≤ child height`), not consumed earlier in the block, an existing
parent, revealed conditions hashing to the parent's address, matured (`MaturityHeight ≤ child height`).
-/
namespace C01
open Gen.Types Gen.Consensus C15 GoLoops

/-- the parent record a v1 siacoin input resolves to -/
abbrev parentOf (ext : Ext) (ms : MidState) (ts : V1TransactionSupplement) (sci : SiacoinInput) : SiacoinElement :=
  (ext.siacoinElement ms ts sci.ParentID).1

def v1InSum (ext : Ext) (ms : MidState) (ts : V1TransactionSupplement) (txn : Transaction) : Nat :=
  (txn.SiacoinInputs.map (fun i => val (parentOf ext ms ts i).SiacoinOutput.Value)).sum
def v1OutSum (txn : Transaction) : Nat := (txn.SiacoinOutputs.map (fun o => val o.Value)).sum
def v1PayoutSum (txn : Transaction) : Nat := (txn.FileContracts.map (fun fc => val fc.Payout)).sum
def v1FeeSum (txn : Transaction) : Nat := (txn.MinerFees.map val).sum

structure V1InputOk (ext : Ext) (ms : MidState) (ts : V1TransactionSupplement) (sci : SiacoinInput) : Prop where
  timelock : sci.UnlockConditions.Timelock ≤ State.childHeight ms.base
  notSpentInBlock : (ext.spent ms sci.ParentID).2 = false
  exists_ : (ext.siacoinElement ms ts sci.ParentID).2 = true
  conditions : ext.UnlockHash sci.UnlockConditions = (parentOf ext ms ts sci).SiacoinOutput.Address
  mature : (parentOf ext ms ts sci).MaturityHeight ≤ State.childHeight ms.base

structure V1CurWF (ext : Ext) (ms : MidState) (ts : V1TransactionSupplement) (txn : Transaction) : Prop where
  ins : ∀ i ∈ txn.SiacoinInputs, WF (parentOf ext ms ts i).SiacoinOutput.Value
  outs : ∀ o ∈ txn.SiacoinOutputs, WF o.Value
  fcs : ∀ fc ∈ txn.FileContracts, WF fc.Payout
  fees : ∀ f ∈ txn.MinerFees, WF f

theorem c01_v1_txn_balance_gen (ext : Ext) (ms : MidState) (txn : Transaction) (ts : V1TransactionSupplement)
    (hw : V1CurWF ext ms ts txn) (h : validateSiacoins ext ms txn ts = .ok none) :
    v1InSum ext ms ts txn = v1OutSum txn + v1PayoutSum txn + v1FeeSum txn ∧
    v1InSum ext ms ts txn < W2 ∧
    (∀ sci ∈ txn.SiacoinInputs, V1InputOk ext ms ts sci) := by
  obtain ⟨in1, c1, h⟩ := forRange_accept
    (R := fun (sci : SiacoinInput) st st' => V1InputOk ext ms ts sci ∧
      (WF (parentOf ext ms ts sci).SiacoinOutput.Value → WF st → WF st' ∧ val st' = val st + val (parentOf ext ms ts sci).SiacoinOutput.Value))
    h (fun _ _ => rfl) (by
      intro i x st t st' hx
      refine ite_exit hx nofun fun h1 hx => ?_
      refine ite_exit hx nofun fun h2 hx => ?_
      refine ite_exit hx nofun fun h3 hx => ?_
      refine ite_exit hx nofun fun h4 hx => ?_
      refine ite_exit hx nofun fun h5 hx => ?_
      refine ite_exit hx nofun fun h6 hx => ?_
      cases hx
      exact ⟨⟨by simpa using h1, Bool.eq_false_iff.mpr h2, by simpa using h3, by simpa using h4, by simpa using h5⟩, addo_step h6⟩)
  have inputsOk : ∀ sci ∈ txn.SiacoinInputs, V1InputOk ext ms ts sci := Chain.all (fun _ _ _ r => r.1) _ _ _ c1
  obtain ⟨wi, vi⟩ := Chain.sum (m := val) (I := WF) (fun _ _ _ r => r.2) _ _ _ c1 hw.ins wf_zero
  obtain ⟨o2, c2, h⟩ := forRange_accept
    (R := fun (o : SiacoinOutput) st st' => WF o.Value → WF st → WF st' ∧ val st' = val st + val o.Value)
    h (fun _ _ => rfl) (by
      intro i x st t st' hx
      obtain ⟨s', e, hx⟩ := of_bind_ok hx
      cases hx
      exact add_step e)
  obtain ⟨w2, s2⟩ := Chain.sum (m := val) (I := WF) (fun _ _ _ r => r) _ _ _ c2 hw.outs wf_zero
  obtain ⟨o3, c3, h⟩ := forRange_accept
    (R := fun (fc : FileContract) st st' => WF fc.Payout → WF st → WF st' ∧ val st' = val st + val fc.Payout)
    h (fun _ _ => rfl) (by
      intro i x st t st' hx
      obtain ⟨s', e, hx⟩ := of_bind_ok hx
      cases hx
      exact add_step e)
  obtain ⟨w3, s3⟩ := Chain.sum (m := val) (I := WF) (fun _ _ _ r => r) _ _ _ c3 hw.fcs w2
  obtain ⟨o4, c4, h⟩ := forRange_accept
    (R := fun (fee : Currency) st st' => WF fee → WF st → WF st' ∧ val st' = val st + val fee)
    h (fun _ _ => rfl) (by
      intro i x st t st' hx
      refine ite_exit hx nofun fun ho hx => ?_
      cases hx
      exact addo_step ho)
  obtain ⟨w4, s4⟩ := Chain.sum (m := val) (I := WF) (fun _ _ _ r => r) _ _ _ c4 hw.fees w3
  obtain ⟨heq, _⟩ := ite_else h nofun
  have hv : val in1 = val o4 := ((c15_cmp in1 o4 wi w4).2.1).mp (by simpa using heq)
  have lt := val_lt wi
  rw [val_zero] at vi s2
  refine ⟨?_, ?_, inputsOk⟩
  · unfold v1InSum v1OutSum v1PayoutSum v1FeeSum; omega
  · unfold v1InSum; omega

end C01
