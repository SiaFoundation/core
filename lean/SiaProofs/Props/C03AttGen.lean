import SiaModel.Gen.CodeConsensus
import SiaProofs.Lemmas.GoLoops
/-!
# C03 — attestations and the Foundation address update, on REGENERATED code (whole functions)

* `c03_attestations_gen`: `validateAttestations` never panics and accepts exactly when every attestation has a
  non-empty key and a signature by ITS public key over ITS attestation sighash.
* `c03_foundation_update_gen`: `validateFoundationUpdate` never panics and accepts exactly when the transaction does
  not change the Foundation address, or spends an input sitting at the current management address.
-/
namespace C03
open Gen.Types Gen.Consensus GoLoops

theorem c03_attestations_gen (ext : Ext) (ms : MidState) (txn : V2Transaction) :
    ∃ r, validateAttestations ext ms txn = .ok r ∧
      (r = none ↔ ∀ a ∈ txn.Attestations, a.Key.length ≠ 0 ∧
        ext.VerifyHash a.PublicKey (ext.AttestationSigHash ms.base a) a.Signature = true) := by
  refine forRange_total_bind (P := (· ≠ none))
    (good := fun a => a.Key.length ≠ 0 ∧ ext.VerifyHash a.PublicKey (ext.AttestationSigHash ms.base a) a.Signature = true)
    (fun _ a _ => ?_) (fun _ h => ⟨none, rfl, fun _ => h, fun _ => rfl⟩)
    (fun q _ h hq => ⟨q, rfl, fun e => absurd e hq, fun g => absurd g h⟩)
  split
  · rename_i c; exact ⟨_, _, rfl, fun g => g.1 (by simpa using c), nofun⟩
  split
  · rename_i c; exact ⟨_, _, rfl, fun g => by simp [g.2] at c, nofun⟩
  · rename_i c1 c2; exact ⟨_, _, rfl, by simpa using c1, by simpa using c2⟩

/-- `validateFoundationUpdate` never panics, and accepts exactly when the transaction leaves the Foundation address alone or
spends an input sitting at the current management address. -/
theorem c03_foundation_update_gen (ms : MidState) (txn : V2Transaction) :
    ∃ r, validateFoundationUpdate ms txn = .ok r ∧
      (r = none ↔ (txn.NewFoundationAddress = none ∨
        ∃ i ∈ txn.SiacoinInputs, i.Parent.SiacoinOutput.Address = ms.base.FoundationManagementAddress)) := by
  unfold validateFoundationUpdate
  split
  · rename_i hn; exact ⟨none, rfl, fun _ => .inl (of_decide_eq_true hn), fun _ => rfl⟩
  rename_i hn
  have hn : txn.NewFoundationAddress ≠ none := fun e => hn (decide_eq_true e)
  -- the loop looks for an input at the management address and returns `nil` when it finds one
  refine forRange_total_bind (P := (· = none))
    (good := fun i => i.Parent.SiacoinOutput.Address ≠ ms.base.FoundationManagementAddress)
    (fun _ x _ => ?_) (fun _ h => ⟨_, rfl, nofun, fun g => ?_⟩) (fun q _ h hq => ⟨q, rfl, fun _ => ?_, fun _ => hq⟩)
  · split
    · rename_i c; exact ⟨_, _, rfl, fun g => g (of_decide_eq_true c), rfl⟩
    · rename_i c; exact ⟨_, _, rfl, fun e => c (decide_eq_true e)⟩
  · obtain e | ⟨i, hi, e⟩ := g
    · exact absurd e hn
    · exact absurd e (h i hi)
  · refine .inr ?_
    simpa [Classical.not_forall] using h

example : validateFoundationUpdate { base := { FoundationManagementAddress := ⟨#[7]⟩ } }
    { NewFoundationAddress := some (Go.zeros 32), SiacoinInputs := [{}, { Parent := { SiacoinOutput := { Address := ⟨#[7]⟩ } } }] } = .ok none := by rfl
example : validateFoundationUpdate { base := { FoundationManagementAddress := ⟨#[7]⟩ } }
    { NewFoundationAddress := some (Go.zeros 32), SiacoinInputs := [{}] }
    = .ok (some "transaction changes Foundation address, but does not spend an input controlled by current address") := by rfl
example : validateAttestations { Ext.trivial with VerifyHash := fun _ _ _ => true } {} { Attestations := [{ Key := "k" }] } = .ok none := by rfl
example : validateAttestations { Ext.trivial with VerifyHash := fun _ _ _ => true } {} { Attestations := [{ Key := "" }] }
    = .ok (some "attestation %v has empty key") := by rfl

end C03
