import SiaModel.Gen.CodeTypes
import SiaProofs.Lemmas.GoWords
/-!
# C15 — Currency arithmetic is exact 128-bit arithmetic

Every theorem here is stated about the definitions in `SiaModel/Gen/CodeTypes.lean`,
which are translated from `types/currency.go`.
-/
namespace C15
open Gen.Types

/-- 2^64 and 2^128, as notation so that `omega` sees literals -/
scoped notation "W" => (18446744073709551616 : Nat)
scoped notation "W2" => (340282366920938463463374607431768211456 : Nat)

/-- the integer a Currency denotes -/
def val (c : Currency) : Nat := c.Hi * W + c.Lo

/-- both limbs are genuine uint64 values -/
def WF (c : Currency) : Prop := c.Lo < W ∧ c.Hi < W

theorem val_lt {c : Currency} (h : WF c) : val c < W2 := by
  unfold val WF at *; omega

theorem val_inj {a b : Currency} (ha : WF a) (hb : WF b) (h : val a = val b) : a = b := by
  cases a; cases b; simp only [val, WF] at *; simp; omega

/-- `c` is a genuine 128-bit value and denotes `n`.  A structure, so that `omega` sees `eq` only where it is handed over. -/
structure Is (c : Currency) (n : Nat) : Prop where
  wf : WF c
  eq : val c = n

theorem WF.is {c : Currency} (h : WF c) : Is c (val c) := ⟨h, rfl⟩

theorem wf_zero : WF ({} : Currency) := by simp [WF]
theorem val_zero : val ({} : Currency) = 0 := by simp [val]

/-! ## results modulo a variable `M`

Each `*WithOverflow` computes digits `s + k * 2^64 = …` with `math/bits` (`GoWords.bits_Add64_spec` and its like); summing
the digit equations gives `true value = result + M * t` with `result < M` and `t` the sum of everything the code tests
for overflow, and `mod_flag` reads off both claims. -/

theorem mod_flag {M r t x : Nat} (hr : r < M) (h : x = r + M * t) : r = x % M ∧ (t ≠ 0 ↔ M ≤ x) := by
  subst h
  refine ⟨by rw [Nat.add_mul_mod_self_left, Nat.mod_eq_of_lt hr], fun ht => ?_, fun hx ht => ?_⟩
  · exact Nat.le_trans (Nat.le_mul_of_pos_right M (Nat.pos_of_ne_zero ht)) (Nat.le_add_left _ _)
  · rw [ht, Nat.mul_zero, Nat.add_zero] at hx; exact absurd hr (Nat.not_lt.mpr hx)

theorem add_ne_zero_iff {a b : Nat} : a + b ≠ 0 ↔ a ≠ 0 ∨ b ≠ 0 := by omega

theorem mod_flag_sub {M r a b o : Nat} (hr : r < M) (ho : o ≤ 1) (h : r + b = a + M * o) :
    r = (a + M - b) % M ∧ (o ≠ 0 ↔ a < b) := by
  rcases Nat.le_one_iff_eq_zero_or_eq_one.mp ho with rfl | rfl
  · rw [Nat.mul_zero, Nat.add_zero] at h
    subst h
    refine ⟨?_, fun x => absurd rfl x, fun x => absurd (Nat.le_add_left _ _) (Nat.not_le.mpr x)⟩
    rw [Nat.add_right_comm, Nat.add_sub_cancel, Nat.add_mod_right, Nat.mod_eq_of_lt hr]
  · rw [Nat.mul_one] at h
    have : a + M - b = r := by omega
    exact ⟨by rw [this, Nat.mod_eq_of_lt hr], fun _ => by omega, fun _ => Nat.one_ne_zero⟩

/-- `AddWithOverflow` returns the sum mod 2^128 and reports overflow exactly when the true sum does not fit. -/
theorem c15_add (c v : Currency) (hc : WF c) (hv : WF v) :
    WF (c.AddWithOverflow v).1 ∧
    val (c.AddWithOverflow v).1 = (val c + val v) % W2 ∧
    ((c.AddWithOverflow v).2 = true ↔ W2 ≤ val c + val v) := by
  rcases h0 : Go.bits_Add64 c.Lo v.Lo 0 with ⟨s0, k0⟩
  rcases h1 : Go.bits_Add64 c.Hi v.Hi k0 with ⟨s1, k1⟩
  obtain ⟨l0, e0⟩ := GoWords.bits_Add64_spec h0
  obtain ⟨l1, e1⟩ := GoWords.bits_Add64_spec h1
  obtain ⟨hval, hflag⟩ := mod_flag (M := W2) (r := s1 * W + s0) (t := k1) (x := val c + val v)
    (by omega) (by unfold val; omega)
  simp only [Currency.AddWithOverflow, h0, h1, val, WF, decide_eq_true_eq]
  exact ⟨⟨l0, l1⟩, hval, hflag⟩

/-- `SubWithUnderflow` returns the difference mod 2^128 and reports underflow exactly when `c < v`. -/
theorem c15_sub (c v : Currency) (hc : WF c) (hv : WF v) :
    WF (c.SubWithUnderflow v).1 ∧
    val (c.SubWithUnderflow v).1 = (val c + W2 - val v) % W2 ∧
    ((c.SubWithUnderflow v).2 = true ↔ val c < val v) := by
  rcases h0 : Go.bits_Sub64 c.Lo v.Lo 0 with ⟨d0, o0⟩
  rcases h1 : Go.bits_Sub64 c.Hi v.Hi o0 with ⟨d1, o1⟩
  obtain ⟨l0, lo0, s0⟩ := GoWords.bits_Sub64_spec h0 hc.1 hv.1 (Nat.zero_le 1)
  obtain ⟨l1, lo1, s1⟩ := GoWords.bits_Sub64_spec h1 hc.2 hv.2 lo0
  obtain ⟨hval, hflag⟩ := mod_flag_sub (M := W2) (r := d1 * W + d0) (a := val c) (b := val v) (o := o1)
    (by omega) lo1 (by unfold val; omega)
  simp only [Currency.SubWithUnderflow, h0, h1, val, WF, decide_eq_true_eq]
  exact ⟨⟨l0, l1⟩, hval, hflag⟩

theorem c15_mul64 (c : Currency) (v : Nat) (hc : WF c) (hv : v < W) :
    WF (c.Mul64WithOverflow v).1 ∧
    val (c.Mul64WithOverflow v).1 = (val c * v) % W2 ∧
    ((c.Mul64WithOverflow v).2 = true ↔ W2 ≤ val c * v) := by
  rcases hA : Go.bits_Mul64 c.Lo v with ⟨a1, a0⟩
  rcases hB : Go.bits_Mul64 c.Hi v with ⟨b1, b0⟩
  rcases h0 : Go.bits_Add64 a1 b0 0 with ⟨s0, k0⟩
  obtain ⟨lA, eA⟩ := GoWords.bits_Mul64_spec hA
  obtain ⟨lB, eB⟩ := GoWords.bits_Mul64_spec hB
  obtain ⟨l0, e0⟩ := GoWords.bits_Add64_spec h0
  have e : val c * v = c.Hi * v * W + c.Lo * v := by
    unfold val; rw [Nat.add_mul, Nat.mul_right_comm]
  obtain ⟨hval, hflag⟩ := mod_flag (M := W2) (r := s0 * W + a0) (t := b1 + k0) (x := val c * v)
    (by omega) (by rw [e]; omega)
  simp only [Currency.Mul64WithOverflow, hA, hB, h0, WF, Bool.or_eq_true, decide_eq_true_eq]
  rw [add_ne_zero_iff] at hflag
  exact ⟨⟨lA, l0⟩, hval, hflag⟩

theorem c15_mul (c v : Currency) (hc : WF c) (hv : WF v) :
    WF (c.MulWithOverflow v).1 ∧
    val (c.MulWithOverflow v).1 = (val c * val v) % W2 ∧
    ((c.MulWithOverflow v).2 = true ↔ W2 ≤ val c * val v) := by
  rcases hA : Go.bits_Mul64 c.Lo v.Lo with ⟨a1, a0⟩
  rcases hB : Go.bits_Mul64 c.Hi v.Lo with ⟨b1, b0⟩
  rcases hC : Go.bits_Mul64 c.Lo v.Hi with ⟨c1, c0⟩
  rcases h0 : Go.bits_Add64 a1 b0 0 with ⟨s0, k0⟩
  rcases h1 : Go.bits_Add64 s0 c0 0 with ⟨s1, k1⟩
  obtain ⟨lA, eA⟩ := GoWords.bits_Mul64_spec hA
  obtain ⟨lB, eB⟩ := GoWords.bits_Mul64_spec hB
  obtain ⟨lC, eC⟩ := GoWords.bits_Mul64_spec hC
  obtain ⟨l0, e0⟩ := GoWords.bits_Add64_spec h0
  obtain ⟨l1, e1⟩ := GoWords.bits_Add64_spec h1
  have e : val c * val v = c.Hi * v.Hi * (W * W) + (c.Hi * v.Lo + c.Lo * v.Hi) * W + c.Lo * v.Lo := by
    unfold val
    simp only [Nat.add_mul, Nat.mul_add, Nat.mul_assoc, Nat.mul_comm, Nat.mul_left_comm, Nat.add_assoc]
    omega
  obtain ⟨hval, hflag⟩ := mod_flag (M := W2) (r := s1 * W + a0) (t := c.Hi * v.Hi + b1 + c1 + k0 + k1)
    (x := val c * val v) (by omega) (by rw [e]; omega)
  simp only [add_ne_zero_iff, Nat.mul_ne_zero_iff] at hflag
  simp only [Currency.MulWithOverflow, hA, hB, hC, h0, h1, WF, Bool.or_eq_true, Bool.and_eq_true, decide_eq_true_eq]
  exact ⟨⟨lA, l1⟩, hval, hflag⟩

theorem c15_quoRem64 (c : Currency) (v : Nat) (hc : WF c) (hv : v < W) (hv0 : v ≠ 0) :
    ∃ q r, c.quoRem64 v = .ok (q, r) ∧ WF q ∧ val q * v + r = val c ∧ r < v := by
  obtain ⟨hlo, hhi⟩ := hc
  have vpos : 0 < v := Nat.pos_of_ne_zero hv0
  unfold Currency.quoRem64
  by_cases h : c.Hi < v
  · simp only [h, decide_true, if_true]
    rw [GoWords.bits_Div64_ok h]
    refine ⟨_, _, rfl, ⟨GoWords.div_word_lt h hlo, show (0 : Nat) < W by decide⟩, ?_, Nat.mod_lt _ vpos⟩
    · show (0 * W + (c.Hi * W + c.Lo) / v) * v + (c.Hi * W + c.Lo) % v = c.Hi * W + c.Lo
      rw [Nat.zero_mul, Nat.zero_add, Nat.mul_comm]
      exact Nat.div_add_mod _ _
  · simp only [h, decide_false]
    have h0 : (0:Nat) < v := vpos
    rw [GoWords.bits_Div64_ok h0]
    have hr : (0 * W + c.Hi) % v < v := Nat.mod_lt _ vpos
    simp only [Bool.false_eq_true, if_false, bind, Except.bind]
    rw [GoWords.bits_Div64_ok hr]
    refine ⟨_, _, rfl, ?_, ?_, Nat.mod_lt _ vpos⟩
    · constructor
      · exact GoWords.div_word_lt hr hlo
      · exact GoWords.div_word_lt h0 hhi
    · show ((0 * W + c.Hi) / v * W + ((0 * W + c.Hi) % v * W + c.Lo) / v) * v + ((0 * W + c.Hi) % v * W + c.Lo) % v = c.Hi * W + c.Lo
      simp only [Nat.zero_mul, Nat.zero_add]
      have e1 := Nat.div_add_mod c.Hi v
      have e2 := Nat.div_add_mod (c.Hi % v * W + c.Lo) v
      rw [Nat.add_mul, Nat.mul_right_comm, Nat.mul_comm (c.Hi / v) v, Nat.mul_comm _ v]
      have : v * (c.Hi / v) * W + c.Hi % v * W = c.Hi * W := by rw [← Nat.add_mul, e1]
      rw [Nat.add_assoc, e2, ← Nat.add_assoc, this]

theorem c15_quoRem64_zero (c : Currency) : ∃ e, c.quoRem64 0 = .error e := by
  unfold Currency.quoRem64
  simp [Go.bits_Div64, bind, Except.bind]


theorem c15_cmp (c v : Currency) (hc : WF c) (hv : WF v) :
    (c.Cmp v = -1 ↔ val c < val v) ∧ (c.Cmp v = 0 ↔ val c = val v) ∧ (c.Cmp v = 1 ↔ val v < val c) := by
  unfold Currency.Cmp
  by_cases h : c = v
  · subst h; simp
  · have hne : val c ≠ val v := fun e => h (val_inj hc hv e)
    simp only [h, decide_false, Bool.false_eq_true, if_false]
    obtain ⟨h1, h2⟩ := hc
    obtain ⟨h3, h4⟩ := hv
    unfold val at *
    by_cases h5 : c.Hi < v.Hi
    · simp [h5]; omega
    · by_cases h6 : c.Hi = v.Hi
      · by_cases h7 : c.Lo < v.Lo
        · simp [h6, h7]; omega
        · simp [h6, h7]; omega
      · simp [h5, h6]; omega

/-! ## `Cmp`, `IsZero`, `Equals` as statements about values -/

theorem cmp_lt {a b : Currency} (ha : WF a) (hb : WF b) : a.Cmp b < 0 ↔ val a < val b := by
  have := c15_cmp a b ha hb; omega

theorem cmp_gt {a b : Currency} (ha : WF a) (hb : WF b) : a.Cmp b > 0 ↔ val b < val a := by
  have := c15_cmp a b ha hb; omega

theorem cmp_ge {a b : Currency} (ha : WF a) (hb : WF b) : a.Cmp b ≥ 0 ↔ val b ≤ val a := by
  have := c15_cmp a b ha hb; omega

theorem isZero_iff {a : Currency} : a.IsZero = true ↔ val a = 0 := by
  unfold Currency.IsZero ZeroCurrency val
  cases a
  simp only [decide_eq_true_eq, Currency.mk.injEq]
  omega

theorem isZero_eq_false {a : Currency} : a.IsZero = false ↔ val a ≠ 0 := by
  rw [Ne, ← isZero_iff, Bool.not_eq_true]

theorem equals_iff {a b : Currency} (ha : WF a) (hb : WF b) : a.Equals b = true ↔ val a = val b := by
  unfold Currency.Equals
  exact decide_eq_true_iff.trans ⟨congrArg val, val_inj ha hb⟩

/-! ## code that panics: `Checked`

The generated code is straight-line checked arithmetic in `Except String`.  `Checked op P Post` says all there is to say
about such a computation: it returns exactly when `P` holds, with a result satisfying `Post`, and panics otherwise.  The
rules below compose these along `>>=`, so that one walk through a function yields both what it returns (`of_ok`) and that
it does not panic (`ok`, `returns`).  The operands are indexed by the integers they denote (`Is`), which keeps every `P` an expression
in the inputs of the function.

In a proof whose goal holds an unfolded generated function, `rw`, `generalize` and `obtain … := f x` (a term, not a
hypothesis) walk that term without sharing (`kabstract`) and may take minutes: use `have h := f x; obtain … := h`,
`simp only`, `exact`. -/

def Checked {α : Type} (op : Except String α) (P : Prop) (Post : α → Prop) : Prop :=
  (P → ∃ s, op = .ok s ∧ Post s) ∧ (¬P → ∃ e, op = .error e)

namespace Checked
variable {α β : Type} {op : Except String α} {P Q : Prop} {A : α → Prop} {B : β → Prop}

theorem ok (h : Checked op P A) (hP : P) : ∃ s, op = .ok s ∧ A s := h.1 hP

theorem returns (h : Checked op P A) (hP : P) : ∃ s, op = .ok s :=
  let ⟨s, e, _⟩ := h.1 hP
  ⟨s, e⟩

theorem of_ok (h : Checked op P A) {s : α} (e : op = .ok s) : P ∧ A s := by
  by_cases hP : P
  · obtain ⟨s', e', a⟩ := h.1 hP
    cases e.symm.trans e'
    exact ⟨hP, a⟩
  · obtain ⟨m, e'⟩ := h.2 hP
    cases e.symm.trans e'

theorem pure {a : α} (h : A a) (hP : P := by trivial) : Checked (Pure.pure a) P A :=
  ⟨fun _ => ⟨a, rfl, h⟩, fun h => absurd hP h⟩

theorem bind {f : α → Except String β} (hx : Checked op P A) (hf : ∀ a, A a → Checked (f a) Q B) :
    Checked (op >>= f) (P ∧ Q) B := by
  by_cases hP : P
  · obtain ⟨a, e, ha⟩ := hx.1 hP
    subst e
    exact ⟨fun h => (hf a ha).1 h.2, fun h => (hf a ha).2 fun q => h ⟨hP, q⟩⟩
  · obtain ⟨m, e⟩ := hx.2 hP
    subst e
    exact ⟨fun h => absurd h.1 hP, fun _ => ⟨m, rfl⟩⟩

/-- a step that cannot fail where it stands adds nothing to the precondition -/
theorem bind_of {f : α → Except String β} (hx : Checked op P A) (hP : P) (hf : ∀ a, A a → Checked (f a) Q B) :
    Checked (op >>= f) Q B := by
  obtain ⟨a, e, ha⟩ := hx.1 hP
  subst e
  exact hf a ha

theorem conv {P' : Prop} {A' : α → Prop} (h : Checked op P A) (hP : P' ↔ P) (hA : ∀ a, A a → A' a) :
    Checked op P' A' :=
  ⟨fun p => let ⟨s, e, a⟩ := h.1 (hP.1 p); ⟨s, e, hA s a⟩, fun p => h.2 fun q => p (hP.2 q)⟩

theorem and_true (h : Checked op (P ∧ True) A) : Checked op P A :=
  h.conv ⟨fun p => ⟨p, trivial⟩, And.left⟩ fun _ a => a

theorem map {g : α → β} (hx : Checked op P A) (hg : ∀ a, A a → B (g a)) :
    Checked (op >>= fun a => Pure.pure (g a)) P B :=
  (hx.bind fun a ha => pure (hg a ha)).and_true

end Checked

/-- The checked operations are `let (s, flag) := …WithOverflow; if flag then panic else return s`, with the flag
the negation of the condition `P` under which the result is the exact `x`. -/
theorem checked_iff {op : Except String Currency} {p : Currency × Bool} {msg : String} {x : Nat} {P : Prop}
    (hop : op = match p with | (s, f) => if f then throw msg else pure s)
    (hwf : WF p.1) (hval : P → val p.1 = x) (hflag : p.2 = true ↔ ¬P) : Checked op P (Is · x) := by
  obtain ⟨s, f⟩ := p
  subst hop
  cases f
  · exact ⟨fun hP => ⟨s, rfl, hwf, hval hP⟩, fun hP => absurd (hflag.mpr hP) Bool.false_ne_true⟩
  · exact ⟨fun hP => absurd hP (hflag.mp rfl), fun _ => ⟨msg, rfl⟩⟩

theorem c15_add_panics_iff {a b : Currency} {x y : Nat} (ha : Is a x) (hb : Is b y) :
    Checked (a.Add b) (x + y < W2) (Is · (x + y)) := by
  obtain ⟨wa, rfl⟩ := ha
  obtain ⟨wb, rfl⟩ := hb
  obtain ⟨h1, h2, h3⟩ := c15_add a b wa wb
  exact checked_iff rfl h1 (fun h => by rw [h2]; exact Nat.mod_eq_of_lt h) (h3.trans Nat.not_lt.symm)

/-- The result carries `y ≤ x` along: the difference is truncated, and whoever uses it needs the bound. -/
theorem c15_sub_panics_iff {a b : Currency} {x y : Nat} (ha : Is a x) (hb : Is b y) :
    Checked (a.Sub b) (y ≤ x) (fun s => Is s (x - y) ∧ y ≤ x) := by
  obtain ⟨wa, rfl⟩ := ha
  obtain ⟨wb, rfl⟩ := hb
  obtain ⟨h1, h2, h3⟩ := c15_sub a b wa wb
  have := checked_iff (op := a.Sub b) (P := val b ≤ val a) (x := val a - val b) rfl h1
    (fun h => by rw [h2, GoWords.sub_mod_word h (val_lt wa)]) (h3.trans Nat.not_le.symm)
  exact ⟨fun h => let ⟨s, e, i⟩ := this.1 h; ⟨s, e, i, h⟩, this.2⟩

theorem c15_mul64_panics_iff {a : Currency} {x n : Nat} (ha : Is a x) (hn : n < W) :
    Checked (a.Mul64 n) (x * n < W2) (Is · (x * n)) := by
  obtain ⟨wa, rfl⟩ := ha
  obtain ⟨h1, h2, h3⟩ := c15_mul64 a n wa hn
  exact checked_iff rfl h1 (fun h => by rw [h2]; exact Nat.mod_eq_of_lt h) (h3.trans Nat.not_lt.symm)

theorem c15_mul_panics_iff (c v : Currency) (hc : WF c) (hv : WF v) :
    (val c * val v < W2 → ∃ s, c.Mul v = .ok s ∧ WF s ∧ val s = val c * val v) ∧
    (W2 ≤ val c * val v → ∃ e, c.Mul v = .error e) := by
  obtain ⟨h1, h2, h3⟩ := c15_mul c v hc hv
  have := checked_iff (op := c.Mul v) (P := val c * val v < W2) (x := val c * val v) rfl h1
    (fun h => by rw [h2]; exact Nat.mod_eq_of_lt h) (h3.trans Nat.not_lt.symm)
  exact ⟨fun h => let ⟨s, e, w, v⟩ := this.1 h; ⟨s, e, w, v⟩, fun h => this.2 (Nat.not_lt.mpr h)⟩

theorem div_mod_unique {C V q r : Nat} (h : q * V + r = C) (hr : r < V) : q = C / V ∧ r = C % V := by
  rw [Nat.add_comm, Nat.mul_comm] at h
  have ⟨hq, hm⟩ := (Nat.div_mod_unique (Nat.zero_lt_of_lt hr)).mpr ⟨h, hr⟩
  exact ⟨hq.symm, hm.symm⟩

/-- `Div64` by a non-zero `uint64` never panics and is floor division. -/
theorem c15_div64 {c : Currency} {x v : Nat} (hc : Is c x) (hv : v < W) (hv0 : v ≠ 0) :
    Checked (c.Div64 v) True (Is · (x / v)) := by
  obtain ⟨wc, rfl⟩ := hc
  obtain ⟨q, r, hok, wfq, hdec, hlt⟩ := c15_quoRem64 c v wc hv hv0
  unfold Currency.Div64
  rw [hok]
  exact .pure ⟨wfq, (div_mod_unique hdec hlt).1⟩

end C15
