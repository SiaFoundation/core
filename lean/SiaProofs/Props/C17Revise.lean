import SiaProofs.Props.C17
/-!
# C17 — the `ReviseFor*` family

Each `ReviseFor*` is `PayWithContract` applied to a contract whose data fields
(filesize, capacity, Merkle root) were adjusted, with the usage priced by the
host's price table.  The theorems lift `c17_pay_with_contract`
(`revised_of_pay`; `c17_pay_revision_valid` is its instance with no field changed), and settle the `uint64` arithmetic of filesize and
capacity under the request-validity hypotheses that `RPC*Request.Validate`
guarantees (stated explicitly in each theorem).
-/
namespace C17
open Gen.Types Gen.Rhp4 C15

theorem round4KiB_lt (n : Nat) : round4KiB n < W := by
  unfold round4KiB Go.andNot
  have : (n + 4095) % 18446744073709551616 &&& (2 ^ 64 - 1 - 4095 % 2 ^ 64) ≤ 2 ^ 64 - 1 - 4095 % 2 ^ 64 :=
    Nat.and_le_right
  omega

/-- all prices are genuine 128-bit values, the tip height a genuine uint64 -/
structure PricesWF (p : HostPrices) : Prop where
  cp : WF p.ContractPrice
  coll : WF p.Collateral
  sp : WF p.StoragePrice
  ip : WF p.IngressPrice
  ep : WF p.EgressPrice
  fp : WF p.FreeSectorPrice
  tip : p.TipHeight < W

/-- What a successful revision means, in one place: the payment facts of
`c17_pay_with_contract` relative to the usage `u`, consensus acceptance of `fc'` as a
revision of `fc`, and preservation of the live-contract invariants. -/
structure Revised (ch eph : Nat) (fc fc' : V2FileContract) (u : Usage) : Prop where
  wf : FCWF fc'
  renter : val fc'.RenterOutput.Value + cost u = val fc.RenterOutput.Value
  host : val fc'.HostOutput.Value = val fc.HostOutput.Value + cost u
  total : val fc'.RenterOutput.Value + val fc'.HostOutput.Value
        = val fc.RenterOutput.Value + val fc.HostOutput.Value
  missed : val fc'.MissedHostValue + val u.RiskedCollateral = val fc.MissedHostValue
  collateral : fc'.TotalCollateral = fc.TotalCollateral
  revnum : fc'.RevisionNumber = fc.RevisionNumber + 1
  heights : fc'.ProofHeight = fc.ProofHeight ∧ fc'.ExpirationHeight = fc.ExpirationHeight
  parties : fc'.RenterPublicKey = fc.RenterPublicKey ∧ fc'.HostPublicKey = fc.HostPublicKey ∧
            fc'.RenterOutput.Address = fc.RenterOutput.Address ∧ fc'.HostOutput.Address = fc.HostOutput.Address
  accepted : Sia.Ledger.validateRevision ch eph fc fc' = .ok none
  live : fc'.RevisionNumber + 1 < W → Live ch fc'

/-- Generic lift: change only data fields of `fc` (capacity `c` not lowered, filesize `f` within it, any
Merkle root), pay on that, and set any Merkle root on the result: a consensus-valid revision of `fc`. -/
theorem revised_of_pay (ch eph : Nat) (fc paid : V2FileContract) (u : Usage) (c f : Nat) (r r' : ByteArray)
    (hfc : FCWF fc) (hu : UsageWF u) (live : Live ch fc)
    (hpay : PayWithContract { fc with Capacity := c, Filesize := f, FileMerkleRoot := r } u = .ok (paid, none))
    (mcap : fc.Capacity ≤ c) (mfs : f ≤ c) (mcw : c < W) (mfw : f < W) :
    Revised ch eph fc { paid with FileMerkleRoot := r' } u := by
  have hmid : FCWF { fc with Capacity := c, Filesize := f, FileMerkleRoot := r } :=
    ⟨hfc.renter, hfc.host, hfc.missed, hfc.total, hfc.rev, mcw, mfw, hfc.ph, hfc.eh⟩
  obtain ⟨_, _, _, hok⟩ := c17_pay_with_contract _ paid u none hmid hu hpay
  obtain ⟨wfp, hr, hh, hs, hm, hrev, _, _, s1, s2, _, s4, s5, s6, s7, s8, s9, s10⟩ := hok rfl
  have hrev' : paid.RevisionNumber = fc.RevisionNumber + 1 := hrev.trans (Nat.mod_eq_of_lt live.revisable)
  have wf' : FCWF { paid with FileMerkleRoot := r' } :=
    ⟨wfp.renter, wfp.host, wfp.missed, wfp.total, wfp.rev, wfp.cap, wfp.fsz, wfp.ph, wfp.eh⟩
  have hmm : val paid.MissedHostValue ≤ val fc.MissedHostValue := Nat.le.intro hm
  have hmh : val paid.MissedHostValue ≤ val paid.HostOutput.Value :=
    Nat.le_trans hmm (Nat.le_trans live.missed_le_host (Nat.le.intro hh.symm))
  have hfs : paid.Filesize ≤ paid.Capacity := by rw [s1, s2]; exact mfs
  have hph : ch ≤ paid.ProofHeight := by rw [s4]; exact live.not_in_window
  have hwin : paid.ProofHeight < paid.ExpirationHeight := by rw [s4, s5]; exact live.window
  exact ⟨wf', hr, hh, hs, hm, s8, hrev', ⟨s4, s5⟩, ⟨s9, s10, s6, s7⟩,
    validateRevision_accepts ch eph fc _ hfc wf' live.sum_fits (by rw [s1]; exact mcap) hfs live.not_in_window
      (by rw [hrev']; exact Nat.lt_succ_self _) hs hmm hmh s8 hph hwin,
    fun last => ⟨hfs, hmh, hph, hwin, last, by rw [hs]; exact live.sum_fits⟩⟩

/-- **A successful payment is a consensus-valid revision** of the contract it was
applied to (signatures aside), at every child height up to the proof height and on
either side of the ephemeral-output hardfork height. -/
theorem c17_pay_revision_valid (childHeight eph : Nat) (fc fc' : V2FileContract) (u : Usage)
    (hfc : FCWF fc) (hu : UsageWF u) (live : Live childHeight fc)
    (h : PayWithContract fc u = .ok (fc', none)) :
    Sia.Ledger.validateRevision childHeight eph fc fc' = .ok none ∧
    (fc'.RevisionNumber + 1 < W → Live childHeight fc') :=
  have r := revised_of_pay childHeight eph fc fc' u _ _ fc.FileMerkleRoot fc'.FileMerkleRoot hfc hu live h
    (Nat.le_refl _) live.fsz_le_cap hfc.cap hfc.fsz
  ⟨r.accepted, r.live⟩

/-- What a failed revision means for the returned contract: its funds (output values, missed host value, total
collateral, revision number) are those of the input contract.  When an error is reported is a separate conjunct of
`c17_revise_free` / `c17_revise_append`. -/
structure Refused (fc fc' : V2FileContract) : Prop where
  renter : fc'.RenterOutput = fc.RenterOutput
  host : fc'.HostOutput = fc.HostOutput
  missed : fc'.MissedHostValue = fc.MissedHostValue
  collateral : fc'.TotalCollateral = fc.TotalCollateral
  revnum : fc'.RevisionNumber = fc.RevisionNumber

/-! ## fund accounts / replenish / sector roots: no data field changes -/

theorem c17_revise_fund (ch eph : Nat) (fc fc' : V2FileContract) (a : Currency) (u : Usage) (err : Option String)
    (hfc : FCWF fc) (ha : WF a) (live : Live ch fc)
    (h : ReviseForFundAccounts fc a = .ok (fc', u, err)) :
    u = { AccountFunding := a } ∧ cost u = val a ∧
    (err ≠ none ↔ val fc.RenterOutput.Value < val a) ∧
    (err ≠ none → fc' = fc) ∧
    (err = none → Revised ch eph fc fc' u) := by
  unfold ReviseForFundAccounts at h
  obtain ⟨⟨x, e⟩, e1, h⟩ := GoLoops.of_bind_ok h
  simp only [pure, Except.pure] at h
  cases h
  have hu : UsageWF ({ AccountFunding := a } : Usage) := ⟨wf_zero, wf_zero, wf_zero, wf_zero, ha, wf_zero⟩
  have hc : cost ({ AccountFunding := a } : Usage) = val a := by simp [cost, val]
  obtain ⟨_, hiff, hfail, _⟩ := c17_pay_with_contract fc fc' _ err hfc hu e1
  refine ⟨rfl, hc, ?_, hfail, ?_⟩
  · rw [hiff, hc]; simp [val]
  · intro he; subst he
    exact revised_of_pay ch eph fc fc' _ _ _ fc.FileMerkleRoot fc'.FileMerkleRoot hfc hu live e1
      (Nat.le_refl _) live.fsz_le_cap hfc.cap hfc.fsz

theorem c17_revise_replenish (ch eph : Nat) (fc fc' : V2FileContract) (a : Currency) (u : Usage) (err : Option String)
    (hfc : FCWF fc) (ha : WF a) (live : Live ch fc)
    (h : ReviseForReplenish fc a = .ok (fc', u, err)) :
    u = { AccountFunding := a } ∧ cost u = val a ∧
    (err ≠ none ↔ val fc.RenterOutput.Value < val a) ∧
    (err ≠ none → fc' = fc) ∧
    (err = none → Revised ch eph fc fc' u) :=
  c17_revise_fund ch eph fc fc' a u err hfc ha live h

theorem sectorRootsCost_checked {p : HostPrices} (hp : PricesWF p) (n : Nat) :
    Checked (p.RPCSectorRootsCost n) (val p.EgressPrice * round4KiB ((32 * n) % W) < W2) fun u =>
      UsageWF u ∧ cost u = val p.EgressPrice * round4KiB ((32 * n) % W) ∧ val u.RiskedCollateral = 0 := by
  unfold HostPrices.RPCSectorRootsCost
  exact (c15_mul64_panics_iff hp.ep.is (round4KiB_lt _)).map fun t1 i1 =>
    ⟨⟨wf_zero, wf_zero, i1.wf, wf_zero, wf_zero, wf_zero⟩,
      by show val ({} : Currency) + val ({} : Currency) + val t1 + val ({} : Currency) + val ({} : Currency) = _
         rw [val_zero, i1.eq]; simp only [Nat.zero_add, Nat.add_zero], val_zero⟩

theorem c17_revise_roots (ch eph : Nat) (fc fc' : V2FileContract) (p : HostPrices) (n : Nat) (u : Usage) (err : Option String)
    (hfc : FCWF fc) (hp : PricesWF p) (live : Live ch fc)
    (h : ReviseForSectorRoots fc p n = .ok (fc', u, err)) :
    cost u = val p.EgressPrice * round4KiB ((32 * n) % W) ∧ val u.RiskedCollateral = 0 ∧
    (err ≠ none ↔ val fc.RenterOutput.Value < cost u) ∧
    (err ≠ none → fc' = fc) ∧
    (err = none → Revised ch eph fc fc' u) := by
  unfold ReviseForSectorRoots at h
  obtain ⟨u', eu, h⟩ := GoLoops.of_bind_ok h
  obtain ⟨⟨x, e⟩, e1, h⟩ := GoLoops.of_bind_ok h
  simp only [pure, Except.pure] at h
  cases h
  obtain ⟨-, hu, hc, hz⟩ := (sectorRootsCost_checked hp n).of_ok eu
  obtain ⟨_, hiff, hfail, _⟩ := c17_pay_with_contract fc fc' _ err hfc hu e1
  refine ⟨hc, hz, ?_, hfail, ?_⟩
  · rw [hiff, hz]; simp
  · intro he; subst he
    exact revised_of_pay ch eph fc fc' _ _ _ fc.FileMerkleRoot fc'.FileMerkleRoot hfc hu live e1
      (Nat.le_refl _) live.fsz_le_cap hfc.cap hfc.fsz

/-! ## free sectors: the filesize shrinks by whole sectors, no wrap-around -/

theorem toNat_ofNat_mod (n : Nat) : Int.toNat ((Int.ofNat n) % 18446744073709551616) = n % W := by
  have : (Int.ofNat n) % 18446744073709551616 = Int.ofNat (n % 18446744073709551616) := by
    simp only [Int.ofNat_eq_natCast]; omega
  rw [this]; rfl

theorem freeSectorsCost_checked {p : HostPrices} (hp : PricesWF p) {n : Nat} (hn : n < W) :
    Checked (p.RPCFreeSectorsCost (Int.ofNat n)) (val p.FreeSectorPrice * n < W2) fun u =>
      UsageWF u ∧ cost u = val p.FreeSectorPrice * n ∧ val u.RiskedCollateral = 0 := by
  unfold HostPrices.RPCFreeSectorsCost
  rw [toNat_ofNat_mod, Nat.mod_eq_of_lt hn]
  exact (c15_mul64_panics_iff hp.fp.is hn).map fun t1 i1 =>
    ⟨⟨i1.wf, wf_zero, wf_zero, wf_zero, wf_zero, wf_zero⟩,
      by show val t1 + val ({} : Currency) + val ({} : Currency) + val ({} : Currency) + val ({} : Currency) = _
         rw [val_zero, i1.eq]; rfl, val_zero⟩

/-- `RPCFreeSectorsRequest.Validate` accepts only duplicate-free index lists whose entries
are below the contract's sector count; hence the number of deletions times the sector
size is at most the filesize and `fc.Filesize -= SectorSize * deletions` cannot wrap
(see `c17_free_no_wrap` for the counting step). -/
theorem c17_revise_free (ch eph : Nat) (fc fc' : V2FileContract) (p : HostPrices) (root : ByteArray) (n : Nat)
    (u : Usage) (err : Option String)
    (hfc : FCWF fc) (hp : PricesWF p) (live : Live ch fc)
    (hn : 4194304 * n ≤ fc.Filesize)
    (h : ReviseForFreeSectors fc p root (Int.ofNat n) = .ok (fc', u, err)) :
    (err ≠ none ↔ val fc.RenterOutput.Value < val p.FreeSectorPrice * n) ∧
    (err ≠ none → u = {} ∧ Refused fc fc') ∧
    (err = none →
      cost u = val p.FreeSectorPrice * n ∧ val u.RiskedCollateral = 0 ∧
      fc'.Filesize + 4194304 * n = fc.Filesize ∧ fc'.Capacity = fc.Capacity ∧ fc'.FileMerkleRoot = root ∧
      Revised ch eph fc fc' u) := by
  have hfs := hfc.fsz
  have hnW : n < W := by omega
  unfold ReviseForFreeSectors at h
  rw [toNat_ofNat_mod, Nat.mod_eq_of_lt hnW, Nat.mod_eq_of_lt (Nat.lt_of_le_of_lt hn hfs), GoWords.sub_mod_word hn hfs] at h
  obtain ⟨u', eu, h⟩ := GoLoops.of_bind_ok h
  obtain ⟨⟨paid, e⟩, e1, h⟩ := GoLoops.of_bind_ok h
  obtain ⟨-, hu, hc, hz⟩ := (freeSectorsCost_checked hp hnW).of_ok eu
  have hlt : fc.Filesize - 4194304 * n < W := Nat.lt_of_le_of_lt (Nat.sub_le _ _) hfs
  have hmid : FCWF { fc with Filesize := fc.Filesize - 4194304 * n } :=
    ⟨hfc.renter, hfc.host, hfc.missed, hfc.total, hfc.rev, hfc.cap, hlt, hfc.ph, hfc.eh⟩
  obtain ⟨_, hiff, hfail, hok⟩ := c17_pay_with_contract _ paid u' e hmid hu e1
  rw [hc, hz] at hiff
  replace hiff : e ≠ none ↔ val fc.RenterOutput.Value < val p.FreeSectorPrice * n :=
    hiff.trans (or_iff_left (Nat.not_lt_zero _))
  by_cases he : e = none
  · subst he
    simp only [ne_eq, not_true_eq_false, decide_false, Bool.false_eq_true, if_false, pure, Except.pure] at h
    cases h
    obtain ⟨_, _, _, _, _, _, _, _, s1, s2, _⟩ := hok rfl
    refine ⟨hiff, fun x => absurd rfl x, fun _ => ⟨hc, hz, ?_, s1, rfl, ?_⟩⟩
    · show paid.Filesize + _ = _
      rw [s2]; exact Nat.sub_add_cancel hn
    · exact revised_of_pay ch eph fc paid u _ _ fc.FileMerkleRoot root hfc hu live e1
        (Nat.le_refl _) (Nat.le_trans (Nat.sub_le _ _) live.fsz_le_cap) hfc.cap hlt
  · simp only [ne_eq, he, not_false_eq_true, decide_true, if_true, pure, Except.pure] at h
    cases h
    refine ⟨hiff, fun _ => ⟨rfl, ?_⟩, fun x => absurd x he⟩
    rw [hfail he]; exact ⟨rfl, rfl, rfl, rfl, rfl⟩

/-! ## append sectors: filesize grows, capacity grows by the missing whole sectors -/

theorem appendSectorsCost_checked {p : HostPrices} (hp : PricesWF p) {g d : Nat} (hg : g < W) (hd : d < W) :
    Checked (p.RPCAppendSectorsCost g d)
      (val p.StoragePrice * 4194304 < W2 ∧ val p.StoragePrice * 4194304 * g < W2 ∧
       val p.StoragePrice * 4194304 * g * d < W2 ∧ val p.IngressPrice * round4KiB ((32 * g) % W) < W2 ∧
       val p.Collateral * 4194304 < W2 ∧ val p.Collateral * 4194304 * g < W2 ∧ val p.Collateral * 4194304 * g * d < W2)
      fun u => UsageWF u ∧
        cost u = val p.StoragePrice * 4194304 * g * d + val p.IngressPrice * round4KiB ((32 * g) % W) ∧
        val u.RiskedCollateral = val p.Collateral * 4194304 * g * d := by
  unfold HostPrices.RPCAppendSectorsCost
  exact (c15_mul64_panics_iff hp.sp.is (by omega)).bind fun t1 i1 => (c15_mul64_panics_iff i1 hg).bind fun t2 i2 =>
    (c15_mul64_panics_iff i2 hd).bind fun t3 i3 => (c15_mul64_panics_iff hp.ip.is (round4KiB_lt _)).bind fun t4 i4 =>
    (c15_mul64_panics_iff hp.coll.is (by omega)).bind fun t5 i5 => (c15_mul64_panics_iff i5 hg).bind fun t6 i6 =>
    (c15_mul64_panics_iff i6 hd).map fun t7 i7 =>
      ⟨⟨wf_zero, i3.wf, wf_zero, i4.wf, wf_zero, i7.wf⟩,
        by show val ({} : Currency) + val t3 + val ({} : Currency) + val t4 + val ({} : Currency) = _
           rw [val_zero, i3.eq, i4.eq]; omega, i7.eq⟩

/-- Request validity for `RPCAppendSectors`: `RPCAppendSectorsRequest.Validate` bounds the
batch (`n ≤ MaxSectorBatchSize = 2^18`); that the contract cannot reach 2^64 bytes
(`nowrap`) is guaranteed by the host's storage, not by core — it is the hypothesis that
excludes `uint64` wrap-around of `fc.Filesize += …` / `fc.Capacity += …`. -/
theorem c17_revise_append (ch eph : Nat) (fc fc' : V2FileContract) (p : HostPrices) (root : ByteArray) (n : Nat)
    (u : Usage) (err : Option String)
    (hfc : FCWF fc) (hp : PricesWF p) (live : Live ch fc)
    (nowrap : fc.Capacity + 4194304 * n < W)
    (h : ReviseForAppendSectors fc p root n = .ok (fc', u, err)) :
    ∃ growth dur, growth = n - min n ((fc.Capacity - fc.Filesize) / 4194304) ∧
      dur = (fc.ExpirationHeight + W - p.TipHeight) % W ∧
    (err ≠ none ↔ (val fc.RenterOutput.Value <
          val p.StoragePrice * 4194304 * growth * dur + val p.IngressPrice * round4KiB ((32 * growth) % W)
        ∨ val fc.MissedHostValue < val p.Collateral * 4194304 * growth * dur)) ∧
    (err ≠ none → u = {} ∧ Refused fc fc') ∧
    (err = none →
      cost u = val p.StoragePrice * 4194304 * growth * dur + val p.IngressPrice * round4KiB ((32 * growth) % W) ∧
      val u.RiskedCollateral = val p.Collateral * 4194304 * growth * dur ∧
      fc'.Filesize = fc.Filesize + 4194304 * n ∧
      fc'.Capacity = fc.Capacity + 4194304 * growth ∧
      fc'.Filesize ≤ fc'.Capacity ∧
      (fc.Filesize + 4194304 * n ≤ fc.Capacity → fc'.Capacity = fc.Capacity) ∧
      (fc.Capacity < fc.Filesize + 4194304 * n → fc'.Capacity < fc'.Filesize + 4194304) ∧
      fc'.FileMerkleRoot = root ∧
      Revised ch eph fc fc' u) := by
  have hcap := hfc.cap
  have hle := live.fsz_le_cap
  have hnW : n < W := by omega
  obtain ⟨g1, g2, g3, g4⟩ := growth_spec (cap := fc.Capacity) (fs := fc.Filesize) (n := n) (s := 4194304) (by decide)
  refine ⟨_, _, rfl, rfl, ?_⟩
  unfold ReviseForAppendSectors at h
  simp only [] at h
  rw [GoWords.sub_mod_word hle hcap, GoWords.sub_mod_word (Nat.min_le_left _ _) hnW] at h
  generalize n - min n ((fc.Capacity - fc.Filesize) / 4194304) = growth at h g1 g2 g3 g4 ⊢
  have hcg : fc.Capacity + 4194304 * growth < W :=
    Nat.lt_of_le_of_lt (Nat.add_le_add_left (Nat.mul_le_mul_left _ g1) _) nowrap
  have hfn : fc.Filesize + 4194304 * n < W := Nat.lt_of_le_of_lt (Nat.add_le_add_right hle _) nowrap
  rw [wadd_eq hfn, wadd_eq hcg] at h
  obtain ⟨u', eu, h⟩ := GoLoops.of_bind_ok h
  obtain ⟨⟨paid, e⟩, e1, h⟩ := GoLoops.of_bind_ok h
  obtain ⟨-, hu, hc, hr⟩ := (appendSectorsCost_checked hp (Nat.lt_of_le_of_lt g1 hnW) (Nat.mod_lt _ (by decide))).of_ok eu
  have hmid : FCWF { fc with Filesize := fc.Filesize + 4194304 * n, Capacity := fc.Capacity + 4194304 * growth, FileMerkleRoot := root } :=
    ⟨hfc.renter, hfc.host, hfc.missed, hfc.total, hfc.rev, hcg, hfn, hfc.ph, hfc.eh⟩
  obtain ⟨_, hiff, hfail, hok⟩ := c17_pay_with_contract _ paid u' e hmid hu e1
  rw [hc, hr] at hiff
  by_cases he : e = none
  · subst he
    simp only [ne_eq, not_true_eq_false, decide_false, Bool.false_eq_true, if_false, pure, Except.pure] at h
    cases h
    obtain ⟨_, _, _, _, _, _, _, _, s1, s2, s3, _⟩ := hok rfl
    refine ⟨hiff, fun x => absurd rfl x, fun _ => ⟨hc, hr, s2, s1, ?_, ?_, ?_, s3, ?_⟩⟩
    · rw [s1, s2]; exact g2 hle
    · intro hx; rw [s1, g3 hx]; rfl
    · intro hx; rw [s1, s2]; exact g4 hx
    · exact revised_of_pay ch eph fc fc' u _ _ root fc'.FileMerkleRoot hfc hu live e1
        (Nat.le_add_right _ _) (g2 hle) hcg hfn
  · simp only [ne_eq, he, not_false_eq_true, decide_true, if_true, pure, Except.pure] at h
    cases h
    refine ⟨⟨fun _ => hiff.mp he, fun _ => he⟩, fun _ => ⟨rfl, ?_⟩, fun x => absurd x he⟩
    rw [hfail he]; exact ⟨rfl, rfl, rfl, rfl, rfl⟩

end C17
