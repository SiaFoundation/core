/-
# C04 (continued) — membership along any history of applies and reverts

Combines `C04.c04_member_iff` with C05's invariant (`C05.c05_history`): in every state a
chain-following client can reach, the accumulator accepts a leaf exactly when that leaf —
that element hash, that index, that spent flag — is what currently sits at that position
of the list of all leaves ever added on the current branch, and the proof is the tracked
one. An element spent or rewritten since (the list holds its new hash), taken from a
reverted branch (the list no longer has it), or never created, is rejected.
-/
import SiaProofs.Props.C05
namespace C04
open Sia.ElemAcc C05

section
variable {H : Type} [Hasher H] [Inhabited H] [DecidableEq H]

omit [DecidableEq H] in
theorem indexCommitted_set (ls : List H) (hwf : IndexCommitted ls) (l : Leaf H) :
    IndexCommitted (ls.set l.index l.hash) := by
  intro j hj
  by_cases e : l.index = j
  · subst e
    refine ⟨l.elem, l.spent, ?_⟩
    have : l.index < ls.length := by simpa using hj
    simp [List.getD, List.getElem?_set_self this, Leaf.hash]
  · obtain ⟨e', s', h⟩ := hwf j (by simpa using hj)
    exact ⟨e', s', by simpa [List.getD, List.getElem?_set_ne e] using h⟩

omit [DecidableEq H] in
theorem indexCommitted_write (updated : List (Leaf H)) : ∀ (ls : List H), IndexCommitted ls →
    IndexCommitted (writeLeaves ls updated) := by
  induction updated with
  | nil => intro ls h; exact h
  | cons a rest ih =>
    intro ls h
    rw [writeLeaves_cons]
    exact ih _ (indexCommitted_set ls h a)

omit [DecidableEq H] in
/-- the index commitment is preserved by every block: rewritten and added leaves hash
    their own `LeafIndex` -/
theorem c04_index_committed_step (ls : List H) (hwf : IndexCommitted ls) (updated added : List (Leaf H)) :
    IndexCommitted (writeLeaves ls updated ++ hashesFrom ls.length added) := by
  have h1 := indexCommitted_write updated ls hwf
  have hlen : (writeLeaves ls updated).length = ls.length := writeLeaves_length _ _
  intro j hj
  rw [length_applied] at hj
  rcases Nat.lt_or_ge j ls.length with hlt | hge
  · obtain ⟨e, s, h⟩ := h1 j (by omega)
    refine ⟨e, s, ?_⟩
    rw [← h, getD_append_left _ _ (by omega)]
  · have hk : j - ls.length < added.length := by omega
    refine ⟨added[j - ls.length].elem, added[j - ls.length].spent, ?_⟩
    have := getD_append_hashesFrom hlen (List.getElem?_eq_getElem hk)
    rwa [show ls.length + (j - ls.length) = j by omega] at this

/-- **Membership along any history.** In every reachable state (`C05.Hist`), with
    `ls` the leaves ever added on the current branch (index-committed) and `π` the
    tracked proofs: `containsLeaf l` holds iff `l` is the leaf currently at `l.index` and
    carries the tracked proof. -/
theorem c04_live_iff_member (hi : HashInj H) (acc : Acc H) (ls : List H) (π : Nat → List H)
    (h : Hist acc ls π) (hwf : IndexCommitted ls) (l : Leaf H) :
    acc.containsLeaf l = true ↔
      (l.index < ls.length ∧ ls.getD l.index default = l.hash ∧ l.proof = π l.index) := by
  obtain ⟨h1, h2⟩ := c05_history acc ls π h
  rw [c04_member_iff hi acc ls h1 hwf l]
  constructor
  · rintro ⟨a, b, c⟩; exact ⟨a, b, by rw [h2 _ a]; exact c⟩
  · rintro ⟨a, b, c⟩; exact ⟨a, b, by rw [← h2 _ a]; exact c⟩

/-- In particular a leaf that has been spent is no longer accepted as unspent, in any
    reachable state, with any proof. -/
theorem c04_spent_rejected (hi : HashInj H) (acc : Acc H) (ls : List H) (π : Nat → List H)
    (h : Hist acc ls π) (hwf : IndexCommitted ls)
    (e : H) (i : Nat) (hleaf : ls.getD i default = Hasher.leaf e i true) (proof : List H) :
    acc.containsLeaf { elem := e, spent := false, index := i, proof := proof } = false :=
  c04_rejects_wrong_spent_flag hi acc ls (c05_history acc ls π h).1 hwf e i true hleaf proof

/-- … and an element beyond the current branch's leaves (created only on a reverted
    branch, or never) is rejected. -/
theorem c04_reverted_rejected (hi : HashInj H) (acc : Acc H) (ls : List H) (π : Nat → List H)
    (h : Hist acc ls π) (hwf : IndexCommitted ls) (l : Leaf H) (hge : ls.length ≤ l.index) :
    acc.containsLeaf l = false :=
  c04_rejects_beyond hi acc ls (c05_history acc ls π h).1 hwf l hge

end

/-- non-vacuous: a reachable, index-committed state in the term model -/
example : Hist acc3 ls3 (fun j => path ls3 j) ∧ IndexCommitted ls3 :=
  ⟨Hist.init _ _ _ acc3_forest (fun _ _ => rfl),
   c04_index_committed_step [] (fun j hj => by simp at hj) [] ex3⟩

end C04
