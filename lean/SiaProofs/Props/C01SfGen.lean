import SiaModel.Gen.CodeConsensus
import SiaProofs.Lemmas.GoLoops
/-!
# C01 — "the total number of siafunds never changes", on REGENERATED code

The siafund balance check of a v2 transaction (second half of `consensus.validateV2Siafunds`) adds the input and the
output values in `uint64` — with wrap-around.  It is translated from the source
(`Gen.Consensus.validateV2Siafunds_balance`).  Two theorems:

* `c01_v2_siafund_balance_mod_gen`: what the check by itself establishes — the sums agree MODULO 2^64, and no output is
  zero;
* `c01_v2_siafund_balance_gen`: together with what the rest of validation guarantees about the values (each at most
  the siafund count 10000: outputs by `validateV2CurrencyOverflow`, inputs because they are elements of the
  accumulator) the sums agree as integers — siafunds are neither created nor destroyed by an accepted transaction.

`c01_v2_siafund_wrap_witness` shows that the per-value bound is necessary: outputs {2^63, 2^63 + 4000} pass the
balance check against inputs of 4000.
-/
namespace C01
open Gen.Types Gen.Consensus GoLoops

def W64 : Nat := 18446744073709551616

def sfIn (txn : V2Transaction) : Nat := (txn.SiafundInputs.map (fun i => i.Parent.SiafundOutput.Value)).sum
def sfOut (txn : V2Transaction) : Nat := (txn.SiafundOutputs.map (fun o => o.Value)).sum

/-- **What the balance check alone establishes**: equal sums modulo 2^64, no zero-valued output. -/
theorem c01_v2_siafund_balance_mod_gen (txn : V2Transaction) (h : validateV2Siafunds_balance txn = .ok none) :
    sfIn txn % 18446744073709551616 = sfOut txn % 18446744073709551616 ∧ (∀ o ∈ txn.SiafundOutputs, o.Value ≠ 0) := by
  obtain ⟨s1, c1, h⟩ := forRange_accept
    (R := fun (i : V2SiafundInput) (st st' : Nat) => st' = (st + i.Parent.SiafundOutput.Value) % 18446744073709551616)
    h (fun _ _ => rfl) (by intro i x st t st' hx; cases hx; exact rfl)
  obtain ⟨s2, c2, h⟩ := forRange_accept
    (R := fun (o : SiafundOutput) (st st' : Nat) => o.Value ≠ 0 ∧ st' = (st + o.Value) % 18446744073709551616)
    h (fun _ _ => rfl) (by
      intro i x st t st' hx
      refine ite_exit hx nofun fun hz hx => ?_
      cases hx
      exact ⟨fun e => hz (decide_eq_true e), rfl⟩)
  obtain ⟨heq, _⟩ := ite_else h nofun
  have heq : s1 = s2 := by simpa using heq
  have a1 := Chain.sum_mod (m := id) (n := 18446744073709551616) (fun _ _ _ r => by rw [r]; exact Nat.mod_mod _ _) _ _ _ c1
  have a2 := Chain.sum_mod (m := id) (n := 18446744073709551616) (fun _ _ _ r => by rw [r.2]; exact Nat.mod_mod _ _) _ _ _ c2
  refine ⟨?_, Chain.all (fun _ _ _ r => r.1) _ _ _ c2⟩
  simp only [id, Nat.zero_add] at a1 a2
  unfold sfIn sfOut
  rw [← a1, ← a2, heq]

/--
**An accepted v2 transaction neither creates nor destroys siafunds**: the regenerated balance check plus the bounds the
rest of validation guarantees (every value at most 10000, fewer than 2^40 inputs and outputs) give equal integer sums.
-/
theorem c01_v2_siafund_balance_gen (txn : V2Transaction) (h : validateV2Siafunds_balance txn = .ok none)
    (hin : ∀ i ∈ txn.SiafundInputs, i.Parent.SiafundOutput.Value ≤ 10000)
    (hout : ∀ o ∈ txn.SiafundOutputs, o.Value ≤ 10000)
    (lin : txn.SiafundInputs.length < 1099511627776) (lout : txn.SiafundOutputs.length < 1099511627776) :
    sfIn txn = sfOut txn := by
  obtain ⟨m, _⟩ := c01_v2_siafund_balance_mod_gen txn h
  have bound : ∀ (xs : List Nat), (∀ x ∈ xs, x ≤ 10000) → xs.sum ≤ 10000 * xs.length := by
    intro xs
    induction xs with
    | nil => intro _; simp
    | cons y ys ih =>
      intro hb
      have := ih (fun x hx => hb x (List.mem_cons_of_mem _ hx))
      have := hb y List.mem_cons_self
      simp [List.sum_cons]; omega
  have b1 : sfIn txn ≤ 10000 * txn.SiafundInputs.length := by
    have := bound (txn.SiafundInputs.map (fun i => i.Parent.SiafundOutput.Value))
      (by intro x hx; simp at hx; obtain ⟨i, hi, e⟩ := hx; rw [← e]; exact hin i hi)
    simpa [sfIn] using this
  have b2 : sfOut txn ≤ 10000 * txn.SiafundOutputs.length := by
    have := bound (txn.SiafundOutputs.map (fun o => o.Value))
      (by intro x hx; simp at hx; obtain ⟨o, ho, e⟩ := hx; rw [← e]; exact hout o ho)
    simpa [sfOut] using this
  have c1 : sfIn txn < 18446744073709551616 := by omega
  have c2 : sfOut txn < 18446744073709551616 := by omega
  rw [Nat.mod_eq_of_lt c1, Nat.mod_eq_of_lt c2] at m
  exact m

/-- the per-value bound is necessary: outputs {2^63, 2^63 + 4000} balance inputs of 4000 modulo 2^64 -/
theorem c01_v2_siafund_wrap_witness :
    validateV2Siafunds_balance
      { SiafundInputs := [{ Parent := { SiafundOutput := { Value := 4000 } } }],
        SiafundOutputs := [{ Value := 9223372036854775808 }, { Value := 9223372036854779808 }] } = .ok none := by rfl

example : validateV2Siafunds_balance
    { SiafundInputs := [{ Parent := { SiafundOutput := { Value := 4000 } } }, { Parent := { SiafundOutput := { Value := 6000 } } }],
      SiafundOutputs := [{ Value := 9999 }, { Value := 1 }] } = .ok none := by rfl
example : validateV2Siafunds_balance
    { SiafundInputs := [{ Parent := { SiafundOutput := { Value := 4000 } } }], SiafundOutputs := [{ Value := 3999 }] }
    = .ok (some "siafund inputs (%d SF) do not equal outputs (%d SF)") := by rfl

end C01
