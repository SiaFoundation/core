import SiaProofs.Lemmas.LedgerRulesV2
/-!
# C07 — contracts pay out once, totals fixed (ledger part; more in `C07Ledger`, storage proofs in `C07Proof`)
-/
namespace C07
open Sia.Ledger

/-- An accepted v2 contract (formation or renewal) never promises the host more on a miss than
on success, never locks more collateral than the host output, and can still be proven. -/
theorem c07_v2_contract_wellformed (ms : Mid) (fc : Fc2) (sig : Bool)
    (h : validateContract2 ms fc sig = .ok ()) :
    fc.filesize ≤ fc.capacity ∧ ms.base.child ≤ fc.proofHeight ∧ fc.proofHeight < fc.expHeight ∧
    fc.missedHost ≤ fc.host.value ∧ fc.totalCollateral ≤ fc.host.value ∧ sig = true := by
  have r := (validateContract2_ok_iff ms fc sig).1 h
  exact ⟨r.filesize, r.proofHeight, r.exp, r.missed, r.collateral, r.sig⟩

end C07
