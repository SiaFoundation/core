import SiaProofs.Props.C02
import SiaProofs.Lemmas.LedgerPayout
/-!
# C07 (ledger part) — contracts pay out exactly once, what their latest revision says;
revisions keep the totals
-/
namespace C07
open Sia.Ledger C08 C02

/-- Every revision of an accepted v1 transaction refers to a contract `p` (the contract as it
currently stands, in-block revisions included) with the same id, keeps the sum of the valid outputs
and the sum of the missed outputs, and strictly raises the revision number. -/
theorem c07_revision_invariants_v1 (ms : Mid) (t : Txn1) (pid mw : Nat)
    (h : validateTransaction ms t pid mw = .ok ()) :
    ∀ r ∈ t.revs, ∃ p, ms.fc1Element t.supp r.parent = some p ∧ p.id = r.parent ∧
      outsTotal r.fc.valid = outsTotal p.fc.valid ∧ outsTotal r.fc.missed = outsTotal p.fc.missed ∧
      p.fc.revNum < r.fc.revNum := by
  intro r hr
  obtain ⟨p, hp, hrules⟩ := (validateTransaction_ok_rules h).rev r hr
  obtain ⟨a, ha1, ha2⟩ := hrules.validSum
  obtain ⟨c, hc1, hc2⟩ := hrules.missedSum
  refine ⟨p, hp, fc1Element_id hp, ?_, ?_, hrules.revNum⟩
  · rw [← ((sumOuts_ok_iff _ _).1 ha1).1, ← ((sumOuts_ok_iff _ _).1 ha2).1]
  · rw [← ((sumOuts_ok_iff _ _).1 hc1).1, ← ((sumOuts_ok_iff _ _).1 hc2).1]

/-- the revision recorded by `reviseFc1` always carries the payout of the contract it revises -/
theorem reviseFc1_payout (ms : Mid) (e : Fc1Elem) (rev : Fc1) :
    ms.reviseFc1 e rev = ms.reviseFc1 e { rev with payout := e.fc.payout } := rfl

/-- Every revision of an accepted v2 transaction, compared with the contract as it currently stands
(`curFc2`: latest in-block revision, else the ledger's version presented as parent): same
`renter + host`, strictly higher revision number, `missedHost` not raised, `totalCollateral` unchanged. -/
theorem c07_revision_invariants_v2 (ms : Mid) (t : Txn2) (mw : Nat) (h : validateV2Transaction ms t mw = .ok ()) :
    ∀ r ∈ t.revs, r.parent ∈ ms.base.fc2 ∧
      r.rev.renter.value + r.rev.host.value = (ms.curFc2 r.parent).renter.value + (ms.curFc2 r.parent).host.value ∧
      (ms.curFc2 r.parent).revNum < r.rev.revNum ∧ r.rev.missedHost ≤ (ms.curFc2 r.parent).missedHost ∧
      r.rev.totalCollateral = (ms.curFc2 r.parent).totalCollateral := by
  intro r hr
  have hrules := (validateV2Transaction_ok_rules h).rev r hr
  refine ⟨by simpa [Ledger.hasFc2] using hrules.present, hrules.revision.sum, hrules.revision.revNum,
    hrules.revision.missed, hrules.revision.collateral⟩

example : validateV2Transaction (Ex.M 15) tRev2 100 = .ok () := rfl

/-- One iteration of the resolution loop of `applyV2Transaction` (`a2Res`, shown equal to the model's
loop body in `applyV2Transaction_eq`): the contract is marked resolved (for a renewal the new
contract is formed), which touches neither the siacoin diffs nor `base`, and then exactly two
siacoin outputs are created, `r.payouts`:
renewal ⇒ (finalRenter, finalHost); storage proof ⇒ (parent.renter, parent.host);
expiration ⇒ (parent.renter, (missedHost, host.addr)).  With fresh output ids these are the two
diffs appended to `sces`, both with maturity `maturityHeight`. -/
theorem c07_payout_v2 (s s' : Mid) (r : Resolution2) (h : a2Res s r = .ok s') :
    ∃ s2 : Mid, s2.sces = s.sces ∧ s2.base = s.base ∧
      s' = (s2.createImmatureSc r.renterOutId r.payouts.1).createImmatureSc r.hostOutId r.payouts.2 ∧
      (s2.lookup r.renterOutId = none → s2.lookup r.hostOutId = none → r.hostOutId ≠ r.renterOutId →
        s'.sces = s.sces ++ [createdDiff r.renterOutId r.payouts.1 (maturityHeight s.base),
                             createdDiff r.hostOutId r.payouts.2 (maturityHeight s.base)]) := by
  unfold a2Res at h
  obtain ⟨s1, h1, h⟩ := bind_ok_iff.1 h
  obtain ⟨s2, h2, h⟩ := bind_ok_iff.1 h
  simp at h
  have e1 := resolveFc2_sces_base h1
  have e2 := a2ResNew_sces_base h2
  refine ⟨s2, by rw [e2.1, e1.1], by rw [e2.2, e1.2], h, ?_⟩
  intro f1 f2 hne
  rw [h, createImmatureSc_two_fresh s2 _ _ _ _ f1 f2 hne, e2.1, e1.1, e2.2, e1.2]

theorem c07_payout_v2_table (r : Resolution2) :
    (∀ rn, r.res = .renewal rn → r.payouts = (rn.finalRenter, rn.finalHost)) ∧
    (∀ ih iid a b, r.res = .proof ih iid a b → r.payouts = (r.parent.fc.renter, r.parent.fc.host)) ∧
    (r.res = .expiration →
      r.payouts = (r.parent.fc.renter, { value := r.parent.fc.missedHost, addr := r.parent.fc.host.addr })) := by
  refine ⟨?_, ?_, ?_⟩ <;> intros <;> unfold Resolution2.payouts <;> simp [*]

-- a storage proof at height 16 creates exactly the renter and host outputs, maturing at 16 + 5
example : (applyV2Transaction (Ex.M 16) (tRes2 (.proof 15 1015 true true))).map (·.sces) =
    .ok [createdDiff 601 { value := 60, addr := 1 } 21, createdDiff 602 { value := 40, addr := 2 } 21] := rfl
example : (applyV2Transaction (Ex.M 19) (tRes2 .expiration)).map (·.sces) =
    .ok [createdDiff 601 { value := 60, addr := 1 } 24, createdDiff 602 { value := 30, addr := 2 } 24] := rfl

/-- A v1 storage proof (`a1Proof`, the loop body of `applyTransaction`) resolves the contract the
lookup returns — the diff's *current* version when the contract was created or revised earlier in
the block — as valid and creates its valid outputs, delayed by the maturity period. -/
theorem c07_payout_v1 (t : Txn1) (s s' : Mid) (sp : Proof1) (h : a1Proof t s sp = .ok s') :
    ∃ e, s.fc1Element t.supp sp.parent = some e ∧ e.id = sp.parent ∧
      (∀ d, s.fc1Diff? sp.parent = some d → e = d.current) ∧
      s' = (e.fc.valid.zip sp.outIds).foldl (fun s x => s.createImmatureSc x.2 x.1) (s.resolveFc1 e true) ∧
      ((∀ x ∈ e.fc.valid.zip sp.outIds, (s.resolveFc1 e true).lookup x.2 = none) →
        ((e.fc.valid.zip sp.outIds).map (·.2)).Nodup →
        s'.sces = s.sces ++ (e.fc.valid.zip sp.outIds).map (fun x => createdDiff x.2 x.1 (maturityHeight s.base))) := by
  unfold a1Proof at h
  split at h
  · cases h
  rename_i e he
  have hfold : (e.fc.valid.zip sp.outIds).foldlM a1Payout (s.resolveFc1 e true) =
      pure ((e.fc.valid.zip sp.outIds).foldl (fun s x => s.createImmatureSc x.2 x.1) (s.resolveFc1 e true)) :=
    foldlM_pure _ _ _
  rw [hfold] at h
  simp at h
  refine ⟨e, he, fc1Element_id he, ?_, h, ?_⟩
  · intro d hd
    unfold Mid.fc1Element at he
    rw [hd] at he
    simpa using he.symm
  · intro hfresh hnd
    rw [h, createImmatureSc_list_fresh _ _ hfresh hnd]
    simp

/-- Expiry (`mbExpire`, the loop body of `midApplyBlock`): a contract already resolved in the block
is skipped; otherwise it is resolved as missed and its missed outputs are created. -/
theorem c07_payout_v1_expiry (s s' : Mid) (x : Fc1Elem × List Id) (h : mbExpire s x = .ok s') :
    (s.isSpent x.1.id = true → s' = s) ∧
    (s.isSpent x.1.id = false →
      s' = (x.1.fc.missed.zip x.2).foldl (fun s y => s.createImmatureSc y.2 y.1) (s.resolveFc1 x.1 false) ∧
      ((∀ y ∈ x.1.fc.missed.zip x.2, (s.resolveFc1 x.1 false).lookup y.2 = none) →
        ((x.1.fc.missed.zip x.2).map (·.2)).Nodup →
        s'.sces = s.sces ++ (x.1.fc.missed.zip x.2).map (fun y => createdDiff y.2 y.1 (maturityHeight s.base)))) := by
  unfold mbExpire at h
  constructor
  · intro hs; rw [if_pos hs] at h; simpa using h
  · intro hs
    rw [if_neg (by simp [hs])] at h
    have hfold : (x.1.fc.missed.zip x.2).foldlM a1Payout (s.resolveFc1 x.1 false) =
        pure ((x.1.fc.missed.zip x.2).foldl (fun s y => s.createImmatureSc y.2 y.1) (s.resolveFc1 x.1 false)) :=
      foldlM_pure _ _ _
    rw [hfold] at h
    simp at h
    refine ⟨h, ?_⟩
    intro hfresh hnd
    rw [h, createImmatureSc_list_fresh _ _ hfresh hnd]
    simp

/-- Well-formedness of the ledger assumed by `c07_no_v2_revise_and_pay_same_block`: contract ids are unique, every
chain index lies below the child height, and every contract leaves time between proof and expiration height (the
last is what `validateContract2` / `validateRevision2` check of the contract they accept, `Contract2Rules.exp`,
`Revision2Rules.exp`). A hypothesis: no theorem derives it from `WF` or shows that a block keeps it. -/
structure LedgerWF2 (L : Ledger) : Prop where
  ids : ∀ e ∈ L.fc2, ∀ e' ∈ L.fc2, e.id = e'.id → e = e'
  chain : ∀ x ∈ L.chain, x.1 < L.child
  exp : ∀ e ∈ L.fc2, e.fc.proofHeight < e.fc.expHeight

/-- If one transaction of a block revises a v2 contract and another transaction of the same block
(any mid-states `ms1`, `ms2` over the same ledger) resolves it, both accepted, then the resolution
is a renewal: a storage proof needs the block at the proof height to be an ancestor
(`proofHeight < childHeight`), an expiration needs `proofHeight < expirationHeight < childHeight`,
while the revision needs `childHeight ≤ proofHeight`. -/
theorem c07_no_v2_revise_and_pay_same_block (L : Ledger) (hwf : LedgerWF2 L) (ms1 ms2 : Mid)
    (hb1 : ms1.base = L) (hb2 : ms2.base = L) (t1 t2 : Txn2) (mw : Nat)
    (h1 : validateV2Transaction ms1 t1 mw = .ok ()) (h2 : validateV2Transaction ms2 t2 mw = .ok ())
    (r0 : Rev2) (hr0 : r0 ∈ t1.revs) (r : Resolution2) (hr : r ∈ t2.ress) (hid : r0.parent.id = r.parent.id) :
    ∃ rn, r.res = .renewal rn := by
  have hrev := (validateV2Transaction_ok_rules h1).rev r0 hr0
  have hres := (validateV2Transaction_ok_rules h2).res r hr
  have m0 : r0.parent ∈ L.fc2 := by simpa [Ledger.hasFc2, hb1] using hrev.present
  have m1 : r.parent ∈ L.fc2 := by simpa [Ledger.hasFc2, hb2] using hres.present
  have heq : r0.parent = r.parent := hwf.ids _ m0 _ m1 hid
  have hph := hrev.parentProofHeight
  rw [hb1, heq] at hph
  have hk := hres.kind
  unfold Res2KindRules at hk
  cases hres' : r.res with
  | renewal rn => exact ⟨rn, rfl⟩
  | proof ih iid a b =>
    rw [hres'] at hk
    simp only [hb2] at hk
    have := hwf.chain _ hk.2.2.2.1
    simp only [hk.2.1] at this
    omega
  | expiration =>
    rw [hres'] at hk
    simp only [hb2] at hk
    have := hwf.exp _ m1
    omega

def tRenew2 : Txn2 :=
  { Ex.txn2 with ress := [{ parent := Ex.c2, renterOutId := 601, hostOutId := 602, res := .renewal { finalRenter := { value := 50, addr := 1 }, finalHost := { value := 40, addr := 2 }, renterRollover := 10, hostRollover := 0, newContract := { Ex.c2.fc with proofHeight := 30, expHeight := 40, renter := { value := 10, addr := 1 }, host := { value := 0, addr := 2 }, missedHost := 0, totalCollateral := 0 }, newId := 502, newSigOk := true, sigOk := true } }], scIns := [{ parent := Ex.e0, addrOk := true, authOk := true }], fee := 50 }

-- a renewal can follow a revision inside one block (the block revises in one transaction, renews in the next)
example : (do validateV2Transaction (Ex.M 15) tRev2 100
              let ms ← applyV2Transaction (Ex.M 15) tRev2
              validateV2Transaction ms tRenew2 100) = .ok () := rfl
-- … but a second revision or a resolution cannot follow a resolution
example : (do let ms ← applyV2Transaction (Ex.M 15) tRenew2
              validateV2Transaction ms tRev2 100) = .error (.reject "has already been resolved in transaction") := rfl

/-- In an accepted block no contract is resolved twice by storage proofs / v2 resolutions, in
whatever transactions; a contract recorded as spent is skipped by the expiry loop (third conjunct, about `mbExpire` on any state; the
block does not occur in it). That validation rejects a revision or resolution of a contract already recorded as
resolved is `C02.c02_spent_in_block_rejected`, not part of this statement. -/
theorem c07_resolved_once (L : Ledger) (b : Block) (pid : Id) (ms : Mid) (h : validateBlock L b pid = .ok ms) :
    (Block.fcResolved b).Nodup ∧ (∀ id ∈ Block.fcResolved b, ms.isSpent id = true) ∧
    (∀ (s s' : Mid) (x : Fc1Elem × List Id), s.isSpent x.1.id = true → mbExpire s x = .ok s' → s' = s) := by
  obtain ⟨_, _, h3, h4⟩ := c02_block_no_repeats L b pid ms h
  refine ⟨h3, fun id hid => h4 id (List.mem_append_right _ hid), ?_⟩
  intro s s' x hs hx
  exact (c07_payout_v1_expiry s s' x hx).1 hs

end C07
