import SiaProofs.Lemmas.Pow
/-! C13 — proof of work (`consensus/application.go`): how far one header can move the target or difficulty in each era,
the invariant `PowInv` of reachable states, what one applied header does to such a state (`Step`, by era), and what is
read off from that: the next target exists and is non-zero, cumulative work never decreases, target and difficulty stay
floored inverses; `SufficientlyHeavierThan`, `ValidateHeader` and the median timestamp. -/
namespace C13
open Sia.Pow

theorem c13_clamp_v2 (n : Network) (s : PowState) (ts : Int) (d : Nat)
    (h : adjustDifficultyV2 n s ts = .ok d) :
    s.difficulty - s.difficulty / 250 ≤ d ∧ d ≤ s.difficulty + s.difficulty / 250 := by
  obtain ⟨lo, hi, -⟩ := adjustDifficultyV2_inv h
  exact ⟨lo, hi⟩

theorem c13_clamp_finalcut (n : Network) (s : PowState) (ts : Int) (d : Nat)
    (h : adjustDifficultyFinalCut n s ts = .ok d) :
    s.difficulty - max (s.difficulty / 250) 1 ≤ d ∧ d ≤ s.difficulty + max (s.difficulty / 250) 1 ∧ 1 ≤ d := by
  obtain ⟨lo, hi, pos, -⟩ := adjustDifficultyFinalCut_inv h
  exact ⟨lo, hi, pos⟩

/-- After the Oak fork and before v2 (and except at the one scheduled reset at the ASIC
    height) the new target lies between `⌊T·1000/1004⌋` and `⌊T·1004/1000⌋` of the old
    target `T`, both passed through the code's 256-bit conversion `capT` (values of 2^255
    or more become 2^256-1; see `intToTarget`). -/
theorem c13_clamp_oak {n : Network} {s : PowState} {ts tt : Int} {r : Nat}
    (hoak : ¬ s.childHeight ≤ n.oakHeight) (hasic : s.childHeight ≠ n.asicHeight)
    (h : adjustTarget n s ts tt = .ok r) :
    capT (s.childTarget * 1000 / 1004) ≤ r ∧ r ≤ capT (s.childTarget * 1004 / 1000) := by
  unfold adjustTarget at h
  rw [if_neg hoak] at h
  simp only [GoLoops.bind_ok_iff] at h
  obtain ⟨nt, _, h⟩ := h
  rw [if_neg hasic] at h
  obtain ⟨r', e, lo, hi, -⟩ := oakClamp_inv s nt
  obtain rfl : r' = r := Except.ok.inj (e.symm.trans h)
  exact ⟨lo, hi⟩

/-- The same in plain numbers when the target is below the 2^255 conversion threshold
    (difficulty above 2): at most 0.4% per block. -/
theorem c13_clamp_oak_plain {n : Network} {s : PowState} {ts tt : Int} {r : Nat}
    (hoak : ¬ s.childHeight ≤ n.oakHeight) (hasic : s.childHeight ≠ n.asicHeight)
    (hsmall : s.childTarget * 1004 / 1000 < W255)
    (h : adjustTarget n s ts tt = .ok r) :
    s.childTarget * 1000 / 1004 ≤ r ∧ r ≤ s.childTarget * 1004 / 1000 := by
  have h2 : s.childTarget * 1000 / 1004 < W255 := by
    have : s.childTarget * 1000 / 1004 ≤ s.childTarget * 1004 / 1000 := by omega
    exact Nat.lt_of_le_of_lt this hsmall
  have := c13_clamp_oak hoak hasic h
  rw [capT_small hsmall, capT_small h2] at this
  exact this

/-- `Index.Height` of the genesis state (`^uint64(0)`) -/
scoped notation "GEN" => (18446744073709551615 : Nat)

/-- The invariant of PoW states reachable from `GenesisState` (preserved by every
    successful `applyHeader` of a header that links to the state, see `c13_powinv_preserved`):
    field ranges; `Difficulty ≥ 1`; only the genesis state carries the zero ID
    (a hash assumption: no block ID is all zeroes); the target in force is non-zero;
    before v2 the work fields are the floored inverses of the target fields. -/
def PowInv (n : Network) (s : PowState) : Prop :=
  s.height < W64 ∧ s.prevTimestamps.length = 11 ∧
  s.depth < W256 ∧ s.childTarget < W256 ∧ s.oakTarget < W256 ∧
  s.totalWork < W256 ∧ s.difficulty < W256 ∧ s.oakWork < W256 ∧
  -9223372036854775808 ≤ s.oakTime ∧ s.oakTime < 9223372036854775808 ∧
  1 ≤ s.difficulty ∧
  (s.id = 0 ↔ s.height = GEN) ∧
  ((s.height = GEN ∨ s.height < n.v2FinalCutHeight) → s.childTarget ≠ 0) ∧
  (s.childHeight < n.v2AllowHeight →
     s.depth ≠ 0 ∧ s.oakTarget ≠ 0 ∧ s.difficulty = MAXT / s.childTarget ∧ s.totalWork = MAXT / s.depth)

/-- One successful `applyHeader` from a state satisfying the invariant, in the form the theorems below use.
    The state holds three work/target pairs — (`totalWork`, `depth`), (`difficulty`, `childTarget`),
    (`oakWork`, `oakTarget`) — and every rule computes one side of a pair and sets the other to its floored inverse:
    the target side before the v2 allow height (`pre`), the work side from then on (`v2`; the genesis header leaves the
    first two pairs alone, so for it `pre` is what `PowInv` says). `dp`, `ct`, `ot` are the new target fields before the
    deprecated fields are zeroed (`cut`). -/
structure Step (n : Network) (s s' : PowState) (h : Header) (dp ct ot : Nat) : Prop where
  height : s'.height = s.childHeight
  id : s'.id = h.id
  stamps : s'.prevTimestamps = h.timestamp :: s.prevTimestamps.take 10
  oakTime : ∃ p, s'.oakTime = updateOakTime n s h.timestamp p
  cut : if n.v2FinalCutHeight ≤ s.childHeight then s'.depth = 0 ∧ s'.childTarget = 0 ∧ s'.oakTarget = 0
    else s'.depth = dp ∧ s'.childTarget = ct ∧ s'.oakTarget = ot
  lt : s'.totalWork < W256 ∧ s'.difficulty < W256 ∧ s'.oakWork < W256 ∧ dp < W256 ∧ ct < W256 ∧
    (n.asicOakTarget < W256 → ot < W256)
  ne : s'.difficulty ≠ 0 ∧ ct ≠ 0
  pre : s.childHeight < n.v2AllowHeight →
    dp ≠ 0 ∧ dp ≤ s.depth ∧ ot ≠ 0 ∧
    s'.totalWork = MAXT / dp ∧ s'.difficulty = MAXT / ct ∧ s'.oakWork = MAXT / ot
  v2 : h.parentID ≠ 0 → n.v2AllowHeight ≤ s.childHeight →
    s'.totalWork = s.totalWork + s.difficulty ∧ s'.oakWork = s.oakWork - s.oakWork / 200 + s.difficulty ∧
    s'.difficulty ≤ s.difficulty + max (s.difficulty / 250) 1 ∧
    dp = MAXT / s'.totalWork ∧ ct = MAXT / s'.difficulty ∧ ot = MAXT / s'.oakWork

/-- `hg` is the link `h.parentID = s.id` read at the genesis header; a caller that knows `h.parentID ≠ 0` needs no
    link. -/
theorem applyHeader_step {n : Network} {s s' : PowState} {h : Header} {tt : Int}
    (hinv : PowInv n s) (hg : h.parentID = 0 → s.id = 0) (hok : applyHeader n s h tt = .ok s') :
    ∃ dp ct ot, Step n s s' h dp ct ot := by
  obtain ⟨-, -, hdp, hct, -, htw, hd, -, -, -, hd1, hid, hctnz, hpre⟩ := hinv
  obtain ⟨tw, dp, d, ct, ow, ot, p, h12, h3, rfl, rfl, rfl, hOT, hH, hI, hP, hz⟩ := applyHeader_inv hok
  obtain ⟨owlt, otlt, c1, c2⟩ := updateOakWork_inv hct h3
  refine ⟨dp, ct, ot, ?_⟩
  by_cases hp : h.parentID = 0
  · obtain ⟨hT, rfl, hD, rfl⟩ := (if_pos hp).mp h12
    have hgen := hid.1 (hg hp)
    have hH : s'.height = s.childHeight := by unfold PowState.childHeight; rw [hH, if_pos hp, hgen]
    exact ⟨hH, hI, hP, ⟨p, hOT⟩, hH ▸ hz, ⟨hT ▸ htw, hD ▸ hd, owlt, hdp, hct, otlt⟩,
      ⟨hD ▸ Nat.ne_of_gt hd1, hctnz (.inl hgen)⟩,
      fun c => ⟨(hpre c).1, Nat.le_refl _, (c1 c).1, hT ▸ (hpre c).2.2.2, hD ▸ (hpre c).2.2.1, (c1 c).2⟩,
      fun c => absurd hp c⟩
  · obtain ⟨h1, h2⟩ := (if_neg hp).mp h12
    rw [if_neg hp] at hH
    obtain ⟨twlt, dplt, b1, b2⟩ := updateTotalWork_inv hdp hct h1
    obtain ⟨d0, dlt, c0, clt, a1, a2⟩ := adjustDifficulty_inv hd hct h2
    exact ⟨hH, hI, hP, ⟨p, hOT⟩, hH ▸ hz, ⟨twlt, dlt, owlt, dplt, clt, otlt⟩, ⟨d0, c0⟩,
      fun c => ⟨(b1 c).1, (b1 c).2.1, (c1 c).1, (b1 c).2.2, a1 c, (c1 c).2⟩,
      fun _ c => ⟨(b2 c).1, (c2 c).1, (a2 c).2, (b2 c).2.2, (a2 c).1, (c2 c).2.2⟩⟩

-- `18446744073709551614` is `GEN - 1`: a header applied at that height would give a state whose height is the genesis marker
theorem Step.child {n : Network} {s s' : PowState} {h : Header} {dp ct ot : Nat} (st : Step n s s' h dp ct ot)
    (hh : s.height < W64) (hlen : s.height ≠ 18446744073709551614) : s'.childHeight = s.childHeight + 1 := by
  have := st.height
  unfold PowState.childHeight at *
  omega

/-- After any successful `applyHeader` from a state satisfying the invariant, the
    recorded difficulty is at least 1 and the PoW target of the next block exists and is
    non-zero. -/
theorem c13_never_zero {n : Network} {s s' : PowState} {h : Header} {tt : Int}
    (hwf : n.WF) (hinv : PowInv n s) (hpar : h.parentID = s.id)
    (hlen : s.height ≠ 18446744073709551614)
    (hok : applyHeader n s h tt = .ok s') :
    1 ≤ s'.difficulty ∧ s'.difficulty < W256 ∧ ∃ t, powTarget n s' = .ok t ∧ t ≠ 0 := by
  obtain ⟨dp, ct, ot, st⟩ := applyHeader_step hinv hpar.symm.trans hok
  refine ⟨Nat.pos_of_ne_zero st.ne.1, st.lt.2.1, powTarget_ne_zero st.ne.1 st.lt.2.1 fun hl => ?_⟩
  have hz := st.cut
  rw [if_neg (by have := st.child hinv.1 hlen; omega)] at hz
  exact hz.2.1 ▸ st.ne.2

/-- Cumulative work never decreases, and strictly increases once v2 rules are active. -/
theorem c13_totalwork_monotone {n : Network} {s s' : PowState} {h : Header} {tt : Int}
    (hinv : PowInv n s) (hok : applyHeader n s h tt = .ok s') :
    s.totalWork ≤ s'.totalWork ∧
    (h.parentID ≠ 0 → n.v2AllowHeight ≤ s.childHeight → s.totalWork < s'.totalWork) := by
  by_cases hp : h.parentID = 0
  · obtain ⟨tw, dp, d, ct, ow, ot, p, h12, -, hT, -⟩ := applyHeader_inv hok
    rw [hT, ((if_pos hp).mp h12).1]
    exact ⟨Nat.le_refl _, fun c => absurd hp c⟩
  · obtain ⟨dp, ct, ot, st⟩ := applyHeader_step hinv (absurd · hp) hok
    obtain ⟨-, -, -, -, -, -, -, -, -, -, hd1, -, -, hpre⟩ := hinv
    by_cases e1 : s.childHeight < n.v2AllowHeight
    · obtain ⟨c0, c1, -, e, -⟩ := st.pre e1
      rw [e, (hpre e1).2.2.2]
      exact ⟨Nat.div_le_div_left c1 (Nat.pos_of_ne_zero c0), fun _ c => by omega⟩
    · have := (st.v2 hp (by omega)).1
      exact ⟨by omega, fun _ _ => by omega⟩

/-- After a non-genesis header: before v2 the recorded difficulty is
    `⌊(2^256-1)/ChildTarget⌋` and total work is `⌊(2^256-1)/Depth⌋`; from the v2 allow height
    on, the PoW target of the next block is `⌊(2^256-1)/Difficulty⌋` (recorded in `ChildTarget`
    as long as that field is kept, i.e. below the final-cut height), and `PoWTarget` is the
    era's field. -/
theorem c13_target_difficulty_inverse {n : Network} {s s' : PowState} {h : Header} {tt : Int}
    (hwf : n.WF) (hinv : PowInv n s) (hpar : h.parentID = s.id) (hp : h.parentID ≠ 0)
    (hlen : s.height ≠ 18446744073709551614)
    (hok : applyHeader n s h tt = .ok s') :
    (s.childHeight < n.v2AllowHeight →
        s'.childTarget ≠ 0 ∧ s'.difficulty = MAXT / s'.childTarget ∧
        s'.depth ≠ 0 ∧ s'.totalWork = MAXT / s'.depth ∧
        s'.oakTarget ≠ 0 ∧ s'.oakWork = MAXT / s'.oakTarget ∧
        (s'.childHeight < n.v2FinalCutHeight → powTarget n s' = .ok s'.childTarget)) ∧
    (n.v2AllowHeight ≤ s.childHeight →
        powTarget n s' = .ok (MAXT / s'.difficulty) ∧
        (s'.height < n.v2FinalCutHeight →
          s'.childTarget = MAXT / s'.difficulty ∧ s'.depth = MAXT / s'.totalWork ∧
          s'.oakTarget = MAXT / s'.oakWork)) := by
  obtain ⟨dp, ct, ot, st⟩ := applyHeader_step hinv hpar.symm.trans hok
  have hc := st.child hinv.1 hlen
  have hH := st.height
  have hAF := hwf.2.2.2.2.2.2.2.2.2.2.1
  have hz := st.cut
  refine ⟨fun pre => ?_, fun v2 => ⟨?_, fun hl => ?_⟩⟩
  · rw [if_neg (by omega)] at hz
    obtain ⟨z1, z2, z3⟩ := hz
    obtain ⟨y0, -, w0, y1, x1, w1⟩ := st.pre pre
    rw [z1, z2, z3]
    exact ⟨st.ne.2, x1, y0, y1, w0, w1, fun hl => z2 ▸ powTarget_of_lt hl⟩
  · by_cases hl : s'.childHeight < n.v2FinalCutHeight
    · rw [if_neg (by omega)] at hz
      rw [powTarget_of_lt hl, hz.2.1, (st.v2 hp v2).2.2.2.2.1]
    · exact powTarget_of_ge hl st.ne.1
  · rw [if_neg (by omega)] at hz
    obtain ⟨z1, z2, z3⟩ := hz
    obtain ⟨-, -, -, y, x, w⟩ := st.v2 hp v2
    rw [z1, z2, z3]
    exact ⟨x, y, w⟩

theorem c13_heavier_asymmetric (s t : PowState) :
    ¬ (sufficientlyHeavierThan s t = .ok true ∧ sufficientlyHeavierThan t s = .ok true) := by
  intro ⟨h1, h2⟩
  unfold sufficientlyHeavierThan at h1 h2
  simp only [GoLoops.bind_ok_iff, wdiv64_eq_ok, wadd_eq_ok, GoLoops.pure_ok_iff, decide_eq_true_eq] at h1 h2
  obtain ⟨q1, ⟨_, rfl⟩, x1, ⟨_, rfl⟩, h1⟩ := h1
  obtain ⟨q2, ⟨_, rfl⟩, x2, ⟨_, rfl⟩, h2⟩ := h2
  omega

/-- … and it means exactly "more than 20% of the lighter state's difficulty heavier". -/
theorem c13_heavier_iff (s t : PowState) (hm : t.totalWork + t.difficulty / 5 < W256) :
    sufficientlyHeavierThan s t = .ok (decide (s.totalWork > t.totalWork + t.difficulty / 5)) := by
  unfold sufficientlyHeavierThan wdiv64 wadd
  simp [hm, bind, Except.bind, pure, Except.pure]

/-- `ValidateHeader` accepts exactly when the header extends the tip, is not older than the
    median timestamp, has a nonce divisible by the era's factor, and its ID is at most the
    PoW target. (It cannot panic when a median exists, i.e. on any non-genesis state, the
    nonce factor is non-zero — `Network.WF` — and the target exists — `c13_never_zero`.) -/
theorem c13_validate_header_iff {n : Network} {s : PowState} {h : Header} {m : Int} {t : Nat}
    (hm : medianTimestamp s = .ok m) (hnf : nonceFactor n s ≠ 0) (ht : powTarget n s = .ok t) :
    (∃ r, validateHeader n s h = .ok r) ∧
    (validateHeader n s h = .ok none ↔
      h.parentID = s.id ∧ m ≤ h.timestamp * SECOND ∧ h.nonce % nonceFactor n s = 0 ∧ h.id ≤ t) := by
  unfold validateHeader
  by_cases h1 : h.parentID ≠ s.id
  · rw [if_pos h1]
    exact ⟨⟨_, rfl⟩, by simp; intro e; exact absurd e h1⟩
  · have h1' : h.parentID = s.id := by simpa using h1
    rw [if_neg h1, hm]
    simp only [bind, Except.bind, ht, pure, Except.pure, if_neg hnf]
    by_cases h2 : h.timestamp * SECOND < m
    · rw [if_pos h2]
      exact ⟨⟨_, rfl⟩, by simp; intro _ c; omega⟩
    · rw [if_neg h2]
      by_cases h3 : h.nonce % nonceFactor n s ≠ 0
      · rw [if_pos h3]
        exact ⟨⟨_, rfl⟩, by simp; intro _ _ c; exact absurd c h3⟩
      · rw [if_neg h3]
        by_cases h4 : t < h.id
        · rw [if_pos h4]
          exact ⟨⟨_, rfl⟩, by simp; intro _ _ _; omega⟩
        · rw [if_neg h4]
          exact ⟨⟨_, rfl⟩, by simp; exact ⟨h1', by omega, by simpa using h3, by omega⟩⟩

/-- The nonce factor is non-zero on a well-formed network. -/
theorem nonceFactor_ne_zero {n : Network} (hwf : n.WF) (s : PowState) : nonceFactor n s ≠ 0 := by
  unfold nonceFactor
  have := hwf.2.2.2.2.2.2.2.1
  split <;> omega

/-- `medianTimestamp` is the median, in the usual sense, of the newest `min(11, childHeight)`
    timestamps: there is a sorted permutation `l` of those timestamps such that the result
    is the middle element (odd count), or the lower-middle element plus half the
    (saturating) difference of the two middle elements (even count). All in nanoseconds. -/
theorem c13_median {s : PowState} (hk : 0 < s.numTimestamps) (hlen : s.numTimestamps ≤ s.prevTimestamps.length) :
    ∃ l : List Int, l.Perm (s.prevTimestamps.take s.numTimestamps) ∧ l.Pairwise (· ≤ ·) ∧
      l.length = s.numTimestamps ∧
      medianTimestamp s = .ok
        (if l.length % 2 ≠ 0 then l.getD (l.length / 2) 0 * SECOND
         else l.getD (l.length / 2 - 1) 0 * SECOND +
              Int.tdiv (timeSub (l.getD (l.length / 2) 0) (l.getD (l.length / 2 - 1) 0)) 2) := by
  refine ⟨(s.prevTimestamps.take s.numTimestamps).mergeSort (fun a b => decide (a ≤ b)),
    List.mergeSort_perm _ _, ?_, ?_, ?_⟩
  · have := List.pairwise_mergeSort (le := fun (a b : Int) => decide (a ≤ b))
      (by intro a b c; simp; omega) (by intro a b; simp; omega) (s.prevTimestamps.take s.numTimestamps)
    simpa using this
  · rw [List.length_mergeSort, List.length_take]; omega
  · have hl : ((s.prevTimestamps.take s.numTimestamps).mergeSort (fun a b => decide (a ≤ b))).length ≠ 0 := by
      rw [List.length_mergeSort, List.length_take]; omega
    unfold medianTimestamp
    dsimp only
    repeat' split
    all_goals first | rfl | (exfalso; exact hl ‹_›)

end C13
