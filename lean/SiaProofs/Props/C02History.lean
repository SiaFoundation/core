import SiaProofs.Props.C02
import SiaProofs.Props.C01
/-!
# C02 across the whole history: no id is consumed twice, consumed contracts stay dead

Chains have the shape of `C01.c01_chain_conserves`: a list of `(block, parent id, relabel)` where `relabel`
may only change accumulator leaf indices (`LeafEq`), every block is accepted and satisfies the per-block
hypotheses (`C01.ChainHyps`: `FreshIds`, `SfNoWrap`, `IdListsCover`).  `FreshIds` only says that the ids a block
creates are new *relative to the ledger it extends*; over a history one needs the same for everything seen so
far, i.e. hash-collision freedom across blocks: `HistFresh` (all ids of the start ledger and all ids created
by the blocks of the chain are pairwise distinct).

The consumed ids of a block are `ms.spends` of the mid-state `applyBlock` commits: siacoin and siafund spends,
v1 storage proofs, v1 expirations, v2 resolutions of every kind.
-/
namespace C02
open Sia.Ledger C01

/-- ids of all live elements -/
def allIds (L : Ledger) : List Id := baseIds L .sc ++ baseIds L .sf ++ baseIds L .fc1 ++ baseIds L .fc2

theorem mem_allIds {L : Ledger} {id : Id} : id ∈ allIds L ↔ ∃ k, id ∈ baseIds L k := by
  unfold allIds
  simp only [List.mem_append]
  constructor
  · rintro (((h | h) | h) | h)
    · exact ⟨.sc, h⟩
    · exact ⟨.sf, h⟩
    · exact ⟨.fc1, h⟩
    · exact ⟨.fc2, h⟩
  · rintro ⟨k, h⟩
    cases k
    · exact Or.inl (Or.inl (Or.inl h))
    · exact Or.inl (Or.inl (Or.inr h))
    · exact Or.inl (Or.inr h)
    · exact Or.inr h
    · cases h

/-- ids created by the blocks of a chain -/
def createdAll (bs : List (Block × Id × (Ledger → Ledger))) : List Id := bs.flatMap (fun x => x.1.created.map (·.2))

/-- hash-collision freedom over the history -/
def HistFresh (L0 : Ledger) (bs : List (Block × Id × (Ledger → Ledger))) : Prop := (allIds L0 ++ createdAll bs).Nodup

/-- ids consumed along a chain -/
def chainConsumed : Ledger → List (Block × Id × (Ledger → Ledger)) → List Id
  | _, [] => []
  | L, (b, _, r) :: rest =>
    match applyBlock L b with
    | .ok (L', ms) => ms.spends ++ chainConsumed (r L') rest
    | .error _ => []

theorem allIds_leafEq {L L' : Ledger} (h : LeafEq L L') : allIds L' = allIds L := by
  unfold allIds
  have hids : ∀ k, baseIds L' k = baseIds L k := fun k => by
    rw [← baseIds_eraseLeaves L' k, ← baseIds_eraseLeaves L k, h]
  simp only [hids]

theorem block_history_facts {L : Ledger} {b : Block} {pid : Id} {msv : Mid}
    (hw : WF L) (hf : FreshIds L b) (hfix : L.child ≥ L.P.ephemeralFix) (hnw : SfNoWrap b)
    (hcov : IdListsCover L b pid) (hv : validateBlock L b pid = .ok msv) :
    ∀ L' ms, applyBlock L b = .ok (L', ms) →
      ms.spends.Nodup ∧
      (∀ id ∈ ms.spends, id ∈ allIds L ∨ id ∈ b.created.map (·.2)) ∧
      (∀ id ∈ ms.spends, id ∉ allIds L') ∧
      (∀ id ∈ allIds L', id ∈ allIds L ∨ id ∈ b.created.map (·.2)) ∧
      (∀ k, ∀ id ∈ ms.idsOf k, id ∈ allIds L ∨ id ∈ b.created.map (·.2)) := by
  obtain ⟨ms, hm, hI, hb, _⟩ := block_conserves hw hf hfix hnw hcov hv
  intro L' ms' h
  unfold applyBlock at h; rw [hm] at h; cases h
  have hc : Ctx (Tb L b) ms.base := by rw [hb]; exact ctx_of_wf hw hf
  have typed_in : ∀ k id, Tb L b k id → id ∈ allIds L ∨ id ∈ b.created.map (·.2) := by
    intro k id ht
    rcases ht with h | h
    · exact Or.inl (mem_allIds.mpr ⟨k, h⟩)
    · exact Or.inr (List.mem_map.mpr ⟨(k, id), h, rfl⟩)
  have spent_kind : ∀ id ∈ ms.spends, ∃ k, Tb L b k id := by
    intro id hid
    rcases hI.spent id hid with ⟨d, hv, _⟩ | ⟨d, hv, _⟩ | ⟨d, hv, _⟩ | ⟨d, hv, _⟩
    · exact ⟨_, hI.kind_of scSlice hv⟩
    · exact ⟨_, hI.kind_of sfSlice hv⟩
    · exact ⟨_, hI.kind_of fc1Slice hv⟩
    · exact ⟨_, hI.kind_of fc2Slice hv⟩
  have live_typed : ∀ k id, id ∈ baseIds (ms.commit b.blockId) k → Tb L b k id :=
    fun k => (commit_kind hc (li_of_inv hc hI) b.blockId k).2
  have hu : DiffIdsUnique ms := ⟨hI.struct.nodup_ids Kind.sc, hI.struct.nodup_ids Kind.sf,
    hI.struct.nodup_ids Kind.fc1, hI.struct.nodup_ids Kind.fc2⟩
  obtain ⟨r1, r2, r3, r4⟩ := commit_removes_spent_of_unique ms b.blockId hu
  refine ⟨hI.nodup, ?_, ?_, ?_, ?_⟩
  · intro id hid
    obtain ⟨k, hk⟩ := spent_kind id hid
    exact typed_in k id hk
  · intro id hid hlive
    obtain ⟨k', hk'⟩ := mem_allIds.mp hlive
    have ht' := live_typed k' id hk'
    rcases hI.spent id hid with ⟨d, hv, hs⟩ | ⟨d, hv, hs⟩ | ⟨d, hv, hs⟩ | ⟨d, hv, hs⟩
    · have := hc.disj _ _ _ ht' (hI.kind_of scSlice hv); subst this
      obtain ⟨e, he, heid⟩ := List.mem_map.mp hk'
      exact r1 d (scDiff?_mem hv).1 hs e he (heid.trans (scDiff?_mem hv).2.symm)
    · have := hc.disj _ _ _ ht' (hI.kind_of sfSlice hv); subst this
      obtain ⟨e, he, heid⟩ := List.mem_map.mp hk'
      exact r2 d (sfDiff?_mem hv).1 hs e he (heid.trans (sfDiff?_mem hv).2.symm)
    · have := hc.disj _ _ _ ht' (hI.kind_of fc1Slice hv); subst this
      obtain ⟨e, he, heid⟩ := List.mem_map.mp hk'
      exact r3 d (fc1Diff?_mem hv).1 hs e he (heid.trans (fc1Diff?_mem hv).2.symm)
    · have := hc.disj _ _ _ ht' (hI.kind_of fc2Slice hv); subst this
      obtain ⟨e, he, heid⟩ := List.mem_map.mp hk'
      exact r4 d (fc2Diff?_mem hv).1 hs e he (heid.trans (fc2Diff?_mem hv).2.symm)
  · intro id hlive
    obtain ⟨k', hk'⟩ := mem_allIds.mp hlive
    exact typed_in k' id (live_typed k' id hk')
  · intro k id hid
    exact typed_in k id (hI.struct.typed k id hid)

/-- ids in `D` are not live and are touched by no diff of any kind in any block of the chain; the ids each block
consumes join `D` for the blocks after it -/
def NoTouch : Ledger → List (Block × Id × (Ledger → Ledger)) → List Id → Prop
  | _, [], _ => True
  | L, (b, _, r) :: rest, D =>
    (∀ id ∈ D, id ∉ allIds L) ∧
    (match applyBlock L b with
      | .ok (L', ms) => (∀ id ∈ D, ∀ k, id ∉ ms.idsOf k) ∧ NoTouch (r L') rest (D ++ ms.spends)
      | .error _ => True)

theorem history_aux (bs : List (Block × Id × (Ledger → Ledger))) : ∀ (L : Ledger) (D : List Id), WF L →
    L.child ≥ L.P.ephemeralFix → ChainHyps L bs →
    (∀ id ∈ D, id ∉ allIds L) → (∀ id ∈ D, id ∉ createdAll bs) → (∀ id ∈ allIds L, id ∉ createdAll bs) →
    (createdAll bs).Nodup →
    (chainConsumed L bs).Nodup ∧ (∀ id ∈ chainConsumed L bs, id ∉ D) ∧ NoTouch L bs D := by
  induction bs with
  | nil => intro L D _ _ _ _ _ _ _; exact ⟨List.nodup_nil, fun id h => by simp [chainConsumed] at h, trivial⟩
  | cons x rest ih =>
    intro L D hw hfix hch hD1 hD2 hL hnd
    obtain ⟨b, pid, r⟩ := x
    obtain ⟨⟨hf, hnw, hcov, msv, hv⟩, hnext⟩ := hch
    obtain ⟨L', ms, ha, _⟩ := c01_block_conserves hw hf hfix hnw hcov hv
    obtain ⟨hw', hch', hP'⟩ := c01_wf_preserved hw hf hfix hnw hcov hv L' ms ha
    obtain ⟨f1, f2, f3, f4, f5⟩ := block_history_facts hw hf hfix hnw hcov hv L' ms ha
    obtain ⟨hle, hrest⟩ := hnext L' ms ha
    have hfix' : (r L').child ≥ (r L').P.ephemeralFix := by rw [hle.child, hle.P, hch', hP']; omega
    have hall : allIds (r L') = allIds L' := allIds_leafEq hle
    have hca : createdAll ((b, pid, r) :: rest) = b.created.map (·.2) ++ createdAll rest := by
      unfold createdAll; simp
    rw [hca] at hD2 hL hnd
    rw [List.nodup_append] at hnd
    obtain ⟨_, hndr, hdisj⟩ := hnd
    have hD2b : ∀ id ∈ D, id ∉ b.created.map (·.2) := fun id h hm => hD2 id h (List.mem_append_left _ hm)
    have hD2r : ∀ id ∈ D, id ∉ createdAll rest := fun id h hm => hD2 id h (List.mem_append_right _ hm)
    have hD1' : ∀ id ∈ D ++ ms.spends, id ∉ allIds (r L') := by
      intro id hid; rw [hall]
      rcases List.mem_append.mp hid with h | h
      · intro hl
        rcases f4 id hl with h1 | h1
        · exact hD1 id h h1
        · exact hD2b id h h1
      · exact f3 id h
    have hD2' : ∀ id ∈ D ++ ms.spends, id ∉ createdAll rest := by
      intro id hid
      rcases List.mem_append.mp hid with h | h
      · exact hD2r id h
      · intro hm
        rcases f2 id h with h1 | h1
        · exact hL id h1 (List.mem_append_right _ hm)
        · exact hdisj id h1 id hm rfl
    have hL' : ∀ id ∈ allIds (r L'), id ∉ createdAll rest := by
      intro id hid hm; rw [hall] at hid
      rcases f4 id hid with h1 | h1
      · exact hL id h1 (List.mem_append_right _ hm)
      · exact hdisj id h1 id hm rfl
    obtain ⟨i1, i2, i3⟩ := ih (r L') (D ++ ms.spends) (hle.wf hw') hfix' hrest hD1' hD2' hL' hndr
    have hcc : chainConsumed L ((b, pid, r) :: rest) = ms.spends ++ chainConsumed (r L') rest := by
      rw [chainConsumed, ha]
    refine ⟨?_, ?_, ?_⟩
    · rw [hcc, List.nodup_append]
      exact ⟨f1, i1, fun a ha' c hc' hac => i2 c hc' (hac ▸ List.mem_append_right _ ha')⟩
    · intro id hid hd; rw [hcc] at hid
      rcases List.mem_append.mp hid with h | h
      · rcases f2 id h with h1 | h1
        · exact hD1 id hd h1
        · exact hD2b id hd h1
      · exact i2 id h (List.mem_append_left _ hd)
    · unfold NoTouch; rw [ha]; simp only []
      refine ⟨hD1, ?_, i3⟩
      intro id hd k hk
      rcases f5 k id hk with h1 | h1
      · exact hD1 id hd h1
      · exact hD2b id hd h1

/-- Over a whole accepted history no id is consumed twice: the list of all siacoin spends, siafund spends,
v1 storage proofs and expirations and v2 resolutions, block after block, has no duplicates. -/
theorem c02_history_no_repeats (bs : List (Block × Id × (Ledger → Ledger))) (L0 : Ledger) (hw : WF L0)
    (hfix : L0.child ≥ L0.P.ephemeralFix) (hch : ChainHyps L0 bs) (hfresh : HistFresh L0 bs) :
    (chainConsumed L0 bs).Nodup := by
  unfold HistFresh at hfresh
  rw [List.nodup_append] at hfresh
  obtain ⟨_, h2, h3⟩ := hfresh
  exact (history_aux bs L0 [] hw hfix hch (fun _ h => by cases h) (fun _ h => by cases h)
    (fun id h hm => h3 id h id hm rfl) h2).1

/-- Once an id is consumed it stays dead: in every later block of the history it is not live in the ledger the
block extends, and the block's mid-state holds no diff of any kind under that id — so it is not spent, revised,
resolved or re-created (every such action records a diff under the id; cf. `c02_spent_in_earlier_block_rejected`
for the way validation rejects the attempt). -/
theorem c02_resolved_not_revisable (bs : List (Block × Id × (Ledger → Ledger))) (L0 : Ledger) (hw : WF L0)
    (hfix : L0.child ≥ L0.P.ephemeralFix) (hch : ChainHyps L0 bs) (hfresh : HistFresh L0 bs) :
    NoTouch L0 bs [] := by
  unfold HistFresh at hfresh
  rw [List.nodup_append] at hfresh
  obtain ⟨_, h2, h3⟩ := hfresh
  exact (history_aux bs L0 [] hw hfix hch (fun _ h => by cases h) (fun _ h => by cases h)
    (fun id h hm => h3 id h id hm rfl) h2).2.2

/-- the two-block chain of `C01` satisfies every hypothesis -/
example : (chainConsumed exL [(exB, 98, exRelabel), (exB2, 99, id)]).Nodup ∧
    NoTouch exL [(exB, 98, exRelabel), (exB2, 99, id)] [] :=
  ⟨c02_history_no_repeats _ exL ex_wf (by decide) ex_chain (by unfold HistFresh; decide),
   c02_resolved_not_revisable _ exL ex_wf (by decide) ex_chain (by unfold HistFresh; decide)⟩

example : chainConsumed exL [(exB, 98, exRelabel), (exB2, 99, id)] = [5, 6, 2, 1, 4, 3, 11, 10] := rfl

end C02
