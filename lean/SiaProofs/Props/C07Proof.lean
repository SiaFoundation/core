import SiaProofs.Lemmas.StorageProofSound
/-!
# C07 (proof part) — consensus storage proofs are complete and sound w.r.t. the plain Merkle tree

Code: /repo/consensus/merkle.go `proofRoot`, `storageProofRoot` (v2 contracts) and the closures
`lastLeafIndex` / `storageProofLeaf` / `storageProofRoot` in `validateFileContracts`
(/repo/consensus/validation.go, v1 contracts with their three leaf eras), modelled in
`SiaModel/Merkle/StorageProof.lean`. Specification: `Sia.Rhp.metaRoot` over the leaf hashes of the
64-byte segments of the file (last one zero padded) — the same tree as C16 — and `spPath`, the
honest leaf-to-root proof. `HashInj` (incl. leaf/node domain separation) is a hypothesis.

For every file size `n ≥ 1` leaves (any `n`, partial last leaf, non-powers of two) and `i < n`.
-/
namespace C07
open Sia Sia.Rhp Sia.Rhp.HashOps Sia.SP

variable {H : Type} [HashOps H]

/-- the free term algebra over `zero`/`leaf`/`node` as a hash type: a model of `HashInj` -/
inductive T where
  | z : T
  | lf : List UInt8 → T
  | nd : T → T → T
  deriving DecidableEq

instance : HashOps T where
  zero := T.z
  leaf b := T.lf b.data.toList
  node := T.nd

theorem T_hashInj : HashInj T where
  node_inj := by intro a b c d h; cases h; exact ⟨rfl, rfl⟩
  leaf_inj := by
    intro x y h
    have : x.data.toList = y.data.toList := by injection h
    exact ByteArray.ext (Array.toList_inj.1 this)
  leaf_ne_node := by intro x a b h; cases h

theorem lastLeafIndex_eq (fs : Nat) (h0 : 0 < fs) (hlt : fs < 18446744073709551616) :
    lastLeafIndex fs = numLeaves fs - 1 := by
  unfold numLeaves lastLeafIndex
  by_cases h : fs % 64 = 0
  · rw [if_pos h, if_neg (fun hn => hn h)]; omega
  · rw [if_neg h, if_pos h]; rfl

/-- Completeness (v2 `storageProofRoot` and the v1 loop): the honest path of leaf `i` folds to the
plain root, for every number of leaves `n ≥ 1` and every `i < n`, and is long enough to pass the
"too few proof hashes" guard. -/
theorem c07_proof_complete (ls : List H) (i fs : Nat) (hi : i < ls.length)
    (hlast : lastLeafIndex fs = ls.length - 1) :
    storageProofRoot (ls.getD i zero) i fs (spPath ls i) = metaRoot ls ∧
    spLoop i (SP.bitLen (i ^^^ lastLeafIndex fs)) 0 (ls.getD i zero) (spPath ls i) = metaRoot ls ∧
    SP.bitLen (i ^^^ lastLeafIndex fs) ≤ (spPath ls i).length := by
  obtain ⟨m, hm⟩ := Nat.exists_eq_succ_of_ne_zero (Nat.ne_of_gt (Nat.lt_of_le_of_lt (Nat.zero_le i) hi))
  rw [hm, Nat.succ_sub_one] at hlast
  have h := chainD_spPath m ls i hm (Nat.le_of_lt_succ (hm ▸ hi))
  rw [← hlast] at h
  exact ⟨(storageProofRoot_eq_chainD _ _ _ _ h.2).trans h.1, (spLoop_eq_chainD ..).trans h.1, h.2⟩

example : storageProofRoot (T.lf [2]) 2 (4 * 64 + 5) (spPath [T.lf [0], T.lf [1], T.lf [2], T.lf [3], T.lf [4]] 2)
    = metaRoot ([T.lf [0], T.lf [1], T.lf [2], T.lf [3], T.lf [4]] : List T) :=
  (c07_proof_complete [T.lf [0], T.lf [1], T.lf [2], T.lf [3], T.lf [4]] 2 (4 * 64 + 5) (by decide) (by decide)).1

/-- Soundness of the v1 loop under the guard `len(proof) ≥ subtreeHeight`: if it folds a leaf hash
`leaf d` to the plain root of the file's leaves `cs`, then `d` is leaf `i`. So a proof of another
leaf, other data, another size (another `cs`) or another root is rejected. -/
theorem c07_proof_sound_loop (hinj : HashInj H) (cs : List ByteArray) (i fs : Nat) (d : ByteArray) (proof : List H)
    (hi : i < cs.length) (hlast : lastLeafIndex fs = cs.length - 1)
    (hguard : SP.bitLen (i ^^^ lastLeafIndex fs) ≤ proof.length)
    (hacc : spLoop i (SP.bitLen (i ^^^ lastLeafIndex fs)) 0 (leaf d) proof = metaRoot (cs.map (leaf : ByteArray → H))) :
    cs[i]? = some d := by
  obtain ⟨m, hm⟩ := Nat.exists_eq_succ_of_ne_zero (Nat.ne_of_gt (Nat.lt_of_le_of_lt (Nat.zero_le i) hi))
  rw [hm, Nat.succ_sub_one] at hlast
  rw [spLoop_eq_chainD, hlast] at hacc
  exact chainD_sound hinj m cs i d proof hm (Nat.le_of_lt_succ (hm ▸ hi)) (hlast ▸ hguard) hacc

/-- Soundness of v2 `storageProofRoot` (it returns the zero hash for a too-short proof, so the
contract root must not be the zero hash — true for every non-empty file under `HashInj`-style
assumptions; stated as `hroot`). -/
theorem c07_proof_sound (hinj : HashInj H) (cs : List ByteArray) (i fs : Nat) (d : ByteArray) (proof : List H)
    (hi : i < cs.length) (hlast : lastLeafIndex fs = cs.length - 1)
    (hroot : metaRoot (cs.map (leaf : ByteArray → H)) ≠ zero)
    (hacc : storageProofRoot (leaf d) i fs proof = metaRoot (cs.map (leaf : ByteArray → H))) :
    cs[i]? = some d := by
  by_cases hg : SP.bitLen (i ^^^ lastLeafIndex fs) ≤ proof.length
  · rw [storageProofRoot_eq_chainD _ _ _ _ hg, ← spLoop_eq_chainD] at hacc
    exact c07_proof_sound_loop hinj cs i fs d proof hi hlast hg hacc
  · unfold storageProofRoot at hacc
    have : proof.length < storageProofSubtreeHeight i fs := by unfold storageProofSubtreeHeight; omega
    simp only [this, if_true] at hacc
    exact absurd hacc.symm hroot

example (d : ByteArray) (proof : List T)
    (hacc : storageProofRoot (leaf d) 1 (3 * 64)  proof
      = metaRoot ([ByteArray.mk #[0], ByteArray.mk #[1], ByteArray.mk #[2]].map (leaf : ByteArray → T))) :
    d = ByteArray.mk #[1] := by
  have := c07_proof_sound T_hashInj [ByteArray.mk #[0], ByteArray.mk #[1], ByteArray.mk #[2]] 1 (3 * 64) d proof
    (by decide) (by decide) (by
      rw [metaRoot_split _ (by decide)]; intro h; cases h) hacc
  simpa using this.symm

/-- both verdicts have the shape "non-empty file and too few proof hashes ⇒ reject, else compare a
root `r` with the committed one", where `r` is the v1 loop whenever the guard has passed -/
theorem sound_of_guarded [DecidableEq H] (hinj : HashInj H) (cs : List ByteArray) (i fs : Nat) (d : ByteArray)
    (proof : List H) (hi : i < cs.length) (hfs : 0 < fs) (hlast : lastLeafIndex fs = cs.length - 1) {r : H}
    (hr : SP.bitLen (i ^^^ lastLeafIndex fs) ≤ proof.length →
      r = spLoop i (SP.bitLen (i ^^^ lastLeafIndex fs)) 0 (leaf d) proof)
    (hacc : (if fs > 0 ∧ proof.length < SP.bitLen (i ^^^ lastLeafIndex fs) then false
      else decide (r = metaRoot (cs.map (leaf : ByteArray → H)))) = true) : cs[i]? = some d := by
  split at hacc
  · cases hacc
  · rename_i hg
    have hlen : SP.bitLen (i ^^^ lastLeafIndex fs) ≤ proof.length := by omega
    exact c07_proof_sound_loop hinj cs i fs d proof hi hlast hlen ((hr hlen).symm.trans (of_decide_eq_true hacc))

theorem getD_map_leaf {cs : List ByteArray} {i : Nat} {x : ByteArray} (hleaf : cs[i]? = some x) :
    (cs.map (leaf : ByteArray → H)).getD i zero = leaf x := by
  rw [List.getD_eq_getElem?_getD, List.getElem?_map, hleaf]; rfl

/-- v2 verdict (`validateV2FileContracts`, with the "too few proof hashes" guard of fix a3a6e71),
completeness: for a file whose leaf hashes are `cs.map leaf`, the honest 64-byte leaf and the
honest path are accepted against the plain root -/
theorem c07_v2_complete [DecidableEq H] (cs : List ByteArray) (i fs : Nat) (leaf64 : ByteArray)
    (hi : i < cs.length) (hlast : lastLeafIndex fs = cs.length - 1) (hleaf : cs[i]? = some (padLeaf leaf64)) :
    verifyV2 i fs leaf64 (spPath (cs.map (leaf : ByteArray → H)) i) (metaRoot (cs.map (leaf : ByteArray → H))) = true := by
  have h := c07_proof_complete (cs.map (leaf : ByteArray → H)) i fs (by rwa [List.length_map]) (by rwa [List.length_map])
  rw [getD_map_leaf hleaf] at h
  unfold verifyV2
  rw [if_neg (fun hg => Nat.not_lt_of_le h.2.2 hg.2), h.1]
  exact decide_eq_true rfl

/-- v2 verdict, soundness for a non-empty file — WITHOUT any assumption on the committed root
(the guard makes `storageProofRoot`'s "too short ⇒ zero hash" sentinel unreachable): acceptance
means the submitted leaf is leaf `i` of the data whose plain root the contract commits to. In
particular a contract with `FileMerkleRoot = zero hash` and `Filesize > 0` accepts nothing whose
data tree does not hash to the zero hash. -/
theorem c07_proof_sound_v2 [DecidableEq H] (hinj : HashInj H) (cs : List ByteArray) (i fs : Nat) (leaf64 : ByteArray)
    (proof : List H) (hi : i < cs.length) (hfs : 0 < fs) (hlast : lastLeafIndex fs = cs.length - 1)
    (hacc : verifyV2 i fs leaf64 proof (metaRoot (cs.map (leaf : ByteArray → H))) = true) :
    cs[i]? = some (padLeaf leaf64) := by
  exact sound_of_guarded hinj cs i fs _ proof hi hfs hlast
    (fun hg => (storageProofRoot_eq_chainD _ _ _ _ hg).trans (spLoop_eq_chainD ..).symm) hacc

/-- the empty file, exactly: `Filesize = 0` (challenged index 0, `lastLeafIndex` wraps to `2^64-1`, so
the subtree height is 64): a proof with fewer than 64 hashes is accepted iff the committed root is
the zero hash — whatever the leaf; a proof with 64 or more hashes is accepted iff folding it
(64 right siblings, then left siblings) gives the committed root, which is a node hash. -/
theorem c07_v2_empty_file [DecidableEq H] (leaf64 : ByteArray) (proof : List H) (root : H) :
    storageProofSubtreeHeight 0 0 = 64 ∧
    (verifyV2 0 0 leaf64 proof root = true ↔
      (proof.length < 64 ∧ root = zero) ∨
      (64 ≤ proof.length ∧ (proof.drop 64).foldl (fun r h => node h r)
          (proofRoot (leaf (padLeaf leaf64)) 0 (proof.take 64)) = root)) := by
  have h64 : storageProofSubtreeHeight 0 0 = 64 := by decide +kernel
  refine ⟨h64, ?_⟩
  unfold verifyV2 storageProofRoot
  simp only [h64, Nat.lt_irrefl, false_and, if_false, decide_eq_true_eq]
  by_cases hl : proof.length < 64
  · simp only [hl, if_true]
    constructor
    · intro h; exact Or.inl ⟨trivial, h.symm⟩
    · rintro (⟨_, h⟩ | ⟨h, _⟩)
      · exact h.symm
      · exact absurd hl (by omega)
  · simp only [hl, if_false]
    constructor
    · intro h; exact Or.inr ⟨by omega, h⟩
    · rintro (⟨h, _⟩ | ⟨_, h⟩)
      · exact h.elim
      · exact h

/-- The gap closed by fix a3a6e71, as a theorem: WITHOUT the guard, a contract of 4096 bytes whose
committed root is the zero hash accepts an all-zero leaf with an empty proof (the sentinel of
`storageProofRoot` equals the committed root); with the guard it is rejected. -/
theorem c07_v2_zero_root_counterexample :
    verifyV2NoGuard 5 4096 (Bytes.zeros 64) ([] : List T) (zero : T) = true ∧
    verifyV2 5 4096 (Bytes.zeros 64) ([] : List T) (zero : T) = false := by
  constructor <;> decide +kernel

/-- v1 verdict, completeness in every era: whatever bytes `lf` the era rule selects from the
submitted leaf, if zero-extending them gives back leaf `i` of the file the proof is accepted. -/
theorem c07_v1_complete [DecidableEq H] (era : Era) (cs : List ByteArray) (i fs : Nat) (leaf64 lf : ByteArray)
    (hi : i < cs.length) (hlast : lastLeafIndex fs = cs.length - 1)
    (hera : storageProofLeaf era i fs leaf64 = some lf) (hleaf : cs[i]? = some (padLeaf lf)) :
    verifyV1 era i fs leaf64 (spPath (cs.map (leaf : ByteArray → H)) i) (metaRoot (cs.map (leaf : ByteArray → H))) = true := by
  have h := c07_proof_complete (cs.map (leaf : ByteArray → H)) i fs (by rwa [List.length_map]) (by rwa [List.length_map])
  rw [getD_map_leaf hleaf] at h
  unfold verifyV1
  rw [hera]
  dsimp only
  rw [if_neg (fun hg => Nat.not_lt_of_le h.2.2 hg.2), storageProofRootV1, h.2.1]
  exact decide_eq_true rfl

/-- v1 verdict, soundness for a non-empty file: acceptance means the era rule selected bytes whose
zero extension is leaf `i` of the file -/
theorem c07_v1_sound [DecidableEq H] (hinj : HashInj H) (era : Era) (cs : List ByteArray) (i fs : Nat)
    (leaf64 : ByteArray) (proof : List H) (hi : i < cs.length) (hfs : 0 < fs)
    (hlast : lastLeafIndex fs = cs.length - 1)
    (hacc : verifyV1 era i fs leaf64 proof (metaRoot (cs.map (leaf : ByteArray → H))) = true) :
    ∃ lf, storageProofLeaf era i fs leaf64 = some lf ∧ cs[i]? = some (padLeaf lf) := by
  unfold verifyV1 at hacc
  cases hera : storageProofLeaf era i fs leaf64 with
  | none =>
    -- only the current era returns nil, and only for an empty file
    exfalso
    cases era with
    | preTax => simp [storageProofLeaf] at hera
    | preStorageProof =>
      simp only [storageProofLeaf] at hera
      by_cases h1 : i = lastLeafIndex fs <;> simp [h1] at hera
    | current =>
      have h0 : fs ≠ 0 := by omega
      simp only [storageProofLeaf, h0, if_false] at hera
      by_cases h1 : i = lastLeafIndex fs ∧ fs % 64 ≠ 0 <;> simp [h1] at hera
  | some lf =>
    rw [hera] at hacc
    exact ⟨lf, rfl, sound_of_guarded hinj cs i fs _ proof hi hfs hlast (fun _ => rfl) hacc⟩

theorem zeros_size (n : Nat) : (Bytes.zeros n).size = n := by
  simp [Bytes.zeros, ByteArray.size]

theorem padLeaf_size (x : ByteArray) (h : x.size ≤ 64) : (padLeaf x).size = 64 := by
  unfold padLeaf; rw [ByteArray.size_append, zeros_size]; omega

theorem padLeaf_full (b : ByteArray) (h : b.size = 64) : padLeaf b = b := by
  unfold padLeaf
  apply ByteArray.ext
  simp [h, Bytes.zeros]

theorem padLeaf_truncate (x : ByteArray) : padLeaf ((padLeaf x).extract 0 x.size) = padLeaf x := by
  have : (padLeaf x).extract 0 x.size = x := by
    unfold padLeaf
    apply ByteArray.ext
    simp [ByteArray.data_extract, ByteArray.data_append]
  rw [this]

/-- the honest prover submits `padLeaf x` where `x` are the (possibly fewer than 64) bytes of
segment `i`; in each era the selected bytes zero-extend back to it — EXCEPT in the
pre-`HardforkStorageProof` era for the last leaf of a file whose size is a multiple of 64, where the
historical rule hashes an all-zero leaf (`leaf[:0]`). -/
theorem c07_era_leaf (era : Era) (i fs : Nat) (x : ByteArray) (hx : x.size ≤ 64)
    (hsz : x.size = if i = lastLeafIndex fs ∧ fs % 64 ≠ 0 then fs % 64 else 64)
    (hfs : 0 < fs)
    (hexc : era = Era.preStorageProof → ¬ (i = lastLeafIndex fs ∧ fs % 64 = 0)) :
    ∃ lf, storageProofLeaf era i fs (padLeaf x) = some lf ∧ padLeaf lf = padLeaf x := by
  have hfull : padLeaf (padLeaf x) = padLeaf x := padLeaf_full _ (padLeaf_size x hx)
  cases era with
  | preTax => exact ⟨padLeaf x, rfl, hfull⟩
  | preStorageProof =>
    by_cases hl : i = lastLeafIndex fs
    · have hm : fs % 64 ≠ 0 := fun h => hexc rfl ⟨hl, h⟩
      have hs : x.size = fs % 64 := by simpa [hl, hm] using hsz
      refine ⟨(padLeaf x).extract 0 (fs % 64), by simp [storageProofLeaf, hl], ?_⟩
      rw [← hs]; exact padLeaf_truncate x
    · exact ⟨padLeaf x, by simp [storageProofLeaf, hl], hfull⟩
  | current =>
    have h0 : fs ≠ 0 := by omega
    by_cases hl : i = lastLeafIndex fs ∧ fs % 64 ≠ 0
    · have hs : x.size = fs % 64 := by simpa [hl] using hsz
      refine ⟨(padLeaf x).extract 0 (fs % 64), by simp [storageProofLeaf, h0, hl], ?_⟩
      rw [← hs]; exact padLeaf_truncate x
    · exact ⟨padLeaf x, by simp [storageProofLeaf, h0, hl], hfull⟩

/-- the 32-byte seed read as a 256-bit big-endian number -/
def seedNat (seed : ByteArray) : Nat :=
  ((readBe64 seed 0 * 18446744073709551616 + readBe64 seed 8) * 18446744073709551616 + readBe64 seed 16)
    * 18446744073709551616 + readBe64 seed 24

theorem readBe64_lt (b : ByteArray) (off : Nat) : readBe64 b off < 18446744073709551616 := by
  unfold readBe64
  exact UInt64.toNat_lt _

theorem mod_step (a w n : Nat) : ((a % n) * 18446744073709551616 + w) % n = (a * 18446744073709551616 + w) % n := by
  rw [Nat.add_mod, Nat.mul_mod, Nat.mod_mod, ← Nat.mul_mod, ← Nat.add_mod]

/-- the reduction loop never panics (the divisor is positive and the running remainder stays below
it) and computes the seed modulo the number of leaves -/
theorem leafIndexLoop_eq (seed : ByteArray) (n : Nat) (hn : 0 < n) :
    leafIndexLoop seed n 4 0 = .ok (seedNat seed % n) := by
  have hlt : ∀ x, x % n < n := fun x => Nat.mod_lt x hn
  unfold seedNat
  simp only [leafIndexLoop, Nat.sub_self, Nat.mul_zero]
  rw [GoWords.bits_Div64_ok hn]
  simp only [bind, Except.bind, Nat.zero_mul, Nat.zero_add]
  rw [GoWords.bits_Div64_ok (hlt _)]
  simp only [bind, Except.bind]
  rw [GoWords.bits_Div64_ok (hlt _)]
  simp only [bind, Except.bind]
  rw [GoWords.bits_Div64_ok (hlt _)]
  simp only [bind, Except.bind]
  simp only [mod_step]

/-- what it computes: the 256-bit big-endian value of `hashAll(windowID, fcid)` modulo the number of
leaves `⌈filesize/64⌉` (0 for an empty file) — the meaning of "the leaf chosen by the chain-derived
challenge" -/
theorem c07_leaf_index_uniform_spec (filesize : Nat) (seed : ByteArray) :
    storageProofLeafIndexOfSeed filesize seed
      = .ok (if numLeaves filesize = 0 then 0 else seedNat seed % numLeaves filesize) := by
  unfold storageProofLeafIndexOfSeed
  by_cases h : numLeaves filesize = 0
  · simp [h]
  · simp only [h, if_false]; exact leafIndexLoop_eq seed _ (by omega)

/-- `StorageProofLeafIndex` is total: for EVERY file size (0, 2^64-1, … — no bound is needed) and every
seed it returns without panic; for an empty file it returns 0 -/
theorem c07_leaf_index_total (filesize : Nat) (seed : ByteArray) :
    ∃ r, storageProofLeafIndexOfSeed filesize seed = .ok r ∧ (filesize = 0 → r = 0) := by
  refine ⟨_, c07_leaf_index_uniform_spec filesize seed, fun h0 => ?_⟩
  subst h0; rfl

theorem numLeaves_pos {filesize : Nat} (h : 0 < filesize) : 0 < numLeaves filesize := by
  unfold numLeaves
  by_cases h64 : filesize % 64 ≠ 0
  · simp [h64]
  · simp only [h64, if_false]; omega

/-- the challenged leaf exists: for a non-empty file the index is below the number of leaves -/
theorem c07_leaf_index_in_range (filesize : Nat) (seed : ByteArray) (r : Nat) (hfs : 0 < filesize)
    (h : storageProofLeafIndexOfSeed filesize seed = .ok r) : r < numLeaves filesize := by
  rw [c07_leaf_index_uniform_spec] at h
  have hp := numLeaves_pos hfs
  have hne : numLeaves filesize ≠ 0 := by omega
  simp only [hne, if_false, Except.ok.injEq] at h
  rw [← h]; exact Nat.mod_lt _ hp

example : storageProofLeafIndexOfSeed 18446744073709551615 (Bytes.zeros 32) = .ok 0 := by
  rw [c07_leaf_index_uniform_spec]; congr 1

/-- v2, end to end: for a non-empty file whose committed data has `numLeaves filesize` leaves, if the
verdict accepts a proof for the index the chain challenge derives, the proven leaf IS the leaf of the
committed data at that index -/
theorem c07_challenge_sound_v2 [DecidableEq H] (hinj : HashInj H) (hash : ByteArray → ByteArray)
    (cs : List ByteArray) (fs : Nat) (windowID fcid leaf64 : ByteArray) (proof : List H) (idx : Nat)
    (hfs : 0 < fs) (hlt : fs < 18446744073709551616) (hcs : cs.length = numLeaves fs)
    (hidx : storageProofLeafIndex hash fs windowID fcid = .ok idx)
    (hacc : verifyV2 idx fs leaf64 proof (metaRoot (cs.map (leaf : ByteArray → H))) = true) :
    idx < cs.length ∧ cs[idx]? = some (padLeaf leaf64) := by
  have hr := c07_leaf_index_in_range fs _ idx hfs hidx
  have hl := lastLeafIndex_eq fs hfs hlt
  rw [← hcs] at hr hl
  exact ⟨hr, c07_proof_sound_v2 hinj cs idx fs leaf64 proof hr hfs hl hacc⟩

/-- v1, end to end (any era): acceptance for the chain-derived index means the bytes the era rule
selects from the submitted leaf zero-extend to the leaf of the committed data at that index -/
theorem c07_challenge_sound_v1 [DecidableEq H] (hinj : HashInj H) (hash : ByteArray → ByteArray) (era : Era)
    (cs : List ByteArray) (fs : Nat) (windowID fcid leaf64 : ByteArray) (proof : List H) (idx : Nat)
    (hfs : 0 < fs) (hlt : fs < 18446744073709551616) (hcs : cs.length = numLeaves fs)
    (hidx : storageProofLeafIndex hash fs windowID fcid = .ok idx)
    (hacc : verifyV1 era idx fs leaf64 proof (metaRoot (cs.map (leaf : ByteArray → H))) = true) :
    idx < cs.length ∧ ∃ lf, storageProofLeaf era idx fs leaf64 = some lf ∧ cs[idx]? = some (padLeaf lf) := by
  have hr := c07_leaf_index_in_range fs _ idx hfs hidx
  have hl := lastLeafIndex_eq fs hfs hlt
  rw [← hcs] at hr hl
  exact ⟨hr, c07_v1_sound hinj era cs idx fs leaf64 proof hr hfs hl hacc⟩

end C07
