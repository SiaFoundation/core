import SiaProofs.Props.C13Total
/-!
# C13 — how far `Margin` can be assumed, and what happens beyond it

`c13_apply_header_total` / `c13_chain_total` assume the work margin `Margin` at every step.
This file settles the status of that assumption for the v2 eras (`childHeight ≥ AllowHeight`,
the live and all future rules of a network):

* `c13_margin_preserved` / `c13_chain_total_bounded`: an invariant `MarginInv r` with a
  *budget* `r` of blocks IS preserved — each accepted header consumes one unit — and implies
  `Margin`. No per-step hypothesis. The budget of a state with difficulty `D` is the largest
  `r` with `(D + 250)·(251/250)^r ≤ 2^191`, about `173.6 · (191 − log₂ D)` blocks: ≈ 21 900
  blocks from `D = 2^65`.
* `c13_margin_boundary_witness`: beyond the budget the assumption is genuinely violable.
  Difficulty may rise 0.4 % per block for as long as timestamps lag the schedule (constant
  timestamps satisfy the median-time rule), and at `OakWork · 3·BlockInterval[ns] ≥ 2^256`
  (`D ≈ 2^208` for 10-minute blocks) `adjustDifficultyFinalCut`'s `OakWork.mul64(targetInterval)`
  overflows and `ApplyHeader` PANICS. The witness is a 3-header chain on a `Network.WF` network
  whose initial difficulty is already 2^216 (from `D = 2^64` the same panic is reached after
  25 090 constant-timestamp headers, at `D ≈ 2^208`: replayed against the real code by the
  harness, sub-check C13B). Every header of the witness satisfies the header rules (tip, median time, nonce,
  ID ≤ target); what no miner can do is find IDs that small — 2^216 hashes per block.
-/
namespace C13
open Sia.Pow

-- `3138…448 = 2^191`; `6277…800 = 200·(2^191 + 1)` (`oakWork` loses 1/200 of itself and gains the difficulty, at most `2^191`,
-- per block); `5789…968 = 2^255`
/-- `r` more blocks can be applied without leaving the work margin -/
def MarginInv (r : Nat) (s : PowState) : Prop :=
  s.height + r + 2 < 18446744073709551616 ∧
  (s.difficulty + 250) * 251 ^ r ≤ 3138550867693340381917894711603833208051177722232017256448 * 250 ^ r ∧
  s.oakWork ≤ 627710173538668076383578942320766641610235544446403451289800 ∧
  s.totalWork + r * 3138550867693340381917894711603833208051177722232017256448 <
    57896044618658097711785492504343953926634992332820282019728792003956564819968

theorem MarginInv.difficulty_le {r : Nat} {s : PowState} (h : MarginInv r s) :
    s.difficulty + 250 ≤ 3138550867693340381917894711603833208051177722232017256448 := by
  obtain ⟨-, h2, -, -⟩ := h
  have hp : 250 ^ r ≤ 251 ^ r := Nat.pow_le_pow_left (by omega) r
  have hpos : 0 < 251 ^ r := Nat.pow_pos (by omega)
  have h3 : (s.difficulty + 250) * 251 ^ r ≤ 3138550867693340381917894711603833208051177722232017256448 * 251 ^ r :=
    Nat.le_trans h2 (Nat.mul_le_mul_left _ hp)
  exact Nat.le_of_mul_le_mul_right h3 hpos

/-- the invariant implies the per-step margin (in the v2 eras) -/
theorem MarginInv.margin {n : Network} {r : Nat} {s : PowState} (h : MarginInv r s)
    (hv2 : n.v2AllowHeight ≤ s.childHeight) : Margin n s := by
  have hd := h.difficulty_le
  obtain ⟨h1, -, h3, h4⟩ := h
  refine ⟨by omega, fun c => by omega, fun _ => ⟨by omega, by omega, by omega⟩⟩

/-- one accepted header in a v2 era consumes one unit of budget -/
theorem c13_margin_preserved {n : Network} {s s' : PowState} {h : Header} {tt : Int} {r : Nat}
    (hinv : PowInv n s) (hm : MarginInv (r + 1) s) (hv2 : n.v2AllowHeight ≤ s.childHeight)
    (hpar : h.parentID = s.id) (hok : applyHeader n s h tt = .ok s') :
    MarginInv r s' ∧ n.v2AllowHeight ≤ s'.childHeight := by
  have hid := hinv.2.2.2.2.2.2.2.2.2.2.2.1
  -- the budget leaves room above the height, so `s` is not the genesis state
  have hne : s.height ≠ GEN ∧ s.height ≠ 18446744073709551614 := by have := hm.1; omega
  have hp : h.parentID ≠ 0 := fun hp => hne.1 (hid.1 (hpar ▸ hp))
  obtain ⟨dp, ct, ot, st⟩ := applyHeader_step hinv (absurd · hp) hok
  have hheight : s'.height + r + 2 < 18446744073709551616 ∧ n.v2AllowHeight ≤ s'.childHeight := by
    have := hm.1; have := st.child hinv.1 hne.2; have := st.height
    unfold PowState.childHeight at *; omega
  obtain ⟨g1, g2, -⟩ := c13_margin_growth_v2 hinv hp hv2 hok
  have hstep : (s'.difficulty + 250) * 250 ≤ (s.difficulty + 250) * 251 := by omega
  have hdle := hm.difficulty_le
  have hoak : s'.oakWork ≤ 627710173538668076383578942320766641610235544446403451289800 := by
    have := hm.2.2.1
    have := (st.v2 hp hv2).2.1
    omega
  refine ⟨⟨hheight.1, ?_, hoak, by have := hm.2.2.2; omega⟩, hheight.2⟩
  apply Nat.le_of_mul_le_mul_right (c := 250) _ (by omega)
  calc (s'.difficulty + 250) * 251 ^ r * 250
      = (s'.difficulty + 250) * 250 * 251 ^ r := by rw [Nat.mul_right_comm]
    _ ≤ (s.difficulty + 250) * 251 * 251 ^ r := Nat.mul_le_mul_right _ hstep
    _ = (s.difficulty + 250) * 251 ^ (r + 1) := by rw [Nat.mul_assoc, ← Nat.pow_succ']
    _ ≤ 3138550867693340381917894711603833208051177722232017256448 * 250 ^ (r + 1) := hm.2.1
    _ = 3138550867693340381917894711603833208051177722232017256448 * 250 ^ r * 250 := by
        rw [Nat.pow_succ, Nat.mul_assoc]

/-- links only: every header extends the tip reached so far and has a non-zero ID.
    No margin, no condition on timestamps. -/
def ChainLinked (n : Network) (s : PowState) : List (Header × Int) → Prop
  | [] => True
  | (h, tt) :: rest => h.parentID = s.id ∧ h.id ≠ 0 ∧
      ∀ s', applyHeader n s h tt = .ok s' → ChainLinked n s' rest

/-- **Applying headers never fails within the budget** — no per-step margin hypothesis:
    from a v2-era state with budget `r`, every linked chain of at most `r` headers applies
    without panic, whatever its timestamps, and the invariants hold again with the rest of
    the budget. -/
theorem c13_chain_total_bounded {n : Network} (hwf : n.WF) (hs : List (Header × Int)) :
    ∀ (r : Nat) (s : PowState), PowInv n s → MarginInv (hs.length + r) s → n.v2AllowHeight ≤ s.childHeight →
      ChainLinked n s hs → ∃ s', applyChain n s hs = .ok s' ∧ PowInv n s' ∧ MarginInv r s' := by
  induction hs with
  | nil => intro r s hinv hm _ _; exact ⟨s, rfl, hinv, by simpa using hm⟩
  | cons x rest ih =>
    intro r s hinv hm hv2 hc
    obtain ⟨h, tt⟩ := x
    obtain ⟨hpar, hid, hrest⟩ := hc
    have hm' : MarginInv ((rest.length + r) + 1) s := by
      have : (((h, tt) :: rest).length + r) = (rest.length + r) + 1 := by simp; omega
      rw [this] at hm; exact hm
    obtain ⟨s1, hok, hinv1⟩ := c13_apply_header_total tt hwf hinv (hm'.margin hv2) hpar hid
    obtain ⟨hm1, hv1⟩ := c13_margin_preserved hinv hm' hv2 hpar hok
    obtain ⟨s', h', r1, r2⟩ := ih r s1 hinv1 hm1 hv1 (hrest s1 hok)
    refine ⟨s', ?_, r1, r2⟩
    show (applyHeader n s h tt >>= fun s' => applyChain n s' rest) = .ok s'
    rw [hok]; exact h'

set_option exponentiation.threshold 30000 in
set_option maxRecDepth 100000 in
/-- satisfiable and sizeable: the mainnet-like v2 state of `C13Total` (difficulty 1.8·10^19 ≈ 2^64)
    has a budget of at least 20 000 blocks -/
example : MarginInv 20000 exFC := by
  unfold MarginInv exFC exV2
  refine ⟨by decide, by decide, by decide, by decide⟩

/-- a well-formed network with the final-cut rules from genesis and initial difficulty 2^216 -/
def wnet : Network :=
  { blockInterval := 600 * 1000000000, initialTarget := 2 ^ 40,
    oakHeight := 0, oakFixHeight := 0, oakGenesisTs := 0,
    asicHeight := 0, asicOakTime := 0, asicOakTarget := 2 ^ 40,
    asicNonceFactor := 1, v2AllowHeight := 0, v2FinalCutHeight := 0 }

/-- header `i` of the witness: extends header `i-1`, same timestamp as every predecessor,
    nonce 0, a (tiny) ID -/
def whdr (i : Nat) : Header := { parentID := i, timestamp := 0, nonce := 0, id := i + 1 }

def wrun : Nat → Except String PowState
  | 0 => genesisState wnet
  | k + 1 => wrun k >>= fun s => applyHeader wnet s (whdr k) 0

/-- header `k` satisfies the four acceptance conditions of `ValidateHeader` on the state before it
    (timestamp ≥ every earlier timestamp, hence ≥ their median) -/
def wvalid (k : Nat) : Bool :=
  match wrun k with
  | .ok s =>
    decide ((whdr k).parentID = s.id) && (s.prevTimestamps.take s.numTimestamps).all (fun t => decide (t ≤ (whdr k).timestamp)) &&
    decide ((whdr k).nonce % nonceFactor wnet s = 0) &&
    (match powTarget wnet s with | .ok t => decide ((whdr k).id ≤ t) | .error _ => false)
  | .error _ => false

set_option maxRecDepth 100000 in
/-- **Witness.** On the well-formed network `wnet`, the genesis header and header 1 apply,
    headers 1 and 2 satisfy every acceptance condition, and applying header 2 PANICS with
    `Work.mul64: overflow`. -/
theorem c13_margin_boundary_witness :
    wnet.WF ∧ (wrun 2).toBool = true ∧ wvalid 1 = true ∧ wvalid 2 = true ∧
    (match wrun 3 with | .error e => e == "Work.mul64: overflow" | .ok _ => false) = true := by
  refine ⟨by decide, by decide, by decide, by decide, by decide⟩

/-- and the state before the panic is outside `Margin` (as it must be, by `c13_apply_header_total`) -/
example : match wrun 2 with | .ok s => ¬ Margin wnet s | .error _ => False := by
  have h : ∃ s, wrun 2 = .ok s ∧ 1606938044258990275541962092341162602522202993782792835301376 ≤ s.difficulty := by
    exact ⟨_, rfl, by decide⟩
  obtain ⟨s, e, hd⟩ := h
  rw [e]
  intro m
  have := (m.2.2 (Nat.zero_le _)).2.1
  omega

end C13
