import SiaProofs.Props.C02InputGen
import SiaProofs.Lemmas.GoLoops
/-!
# C02 — the inputs of one accepted v2 transaction name pairwise different parents, on REGENERATED code

The whole first loop of `consensus.validateV2Siacoins` (and of `validateV2Siafunds`) — the per-input tests AND the
bookkeeping in the transaction's own `spent` map (`spent[id] = i`, a map write: the newest binding is consed onto the
association list) — is translated from the source.  The theorem: if the loop accepts, then

* no parent id occurs twice among the transaction's inputs (`List.Nodup`) — no double spend inside a transaction,
* and every input individually: not consumed earlier in the block, matured (siacoins), ephemeral-and-checked or an
  unspent member of the accumulator, and authorised by its spend policy for the transaction's input sighash.
-/
namespace C02
open Gen.Types Gen.Consensus GoLoops

theorem mapGet_false {m : List (ByteArray × Int)} {k : ByteArray} (h : (Go.mapGet m k (0 : Int)).2 = false) :
    k ∉ m.map Prod.fst := by
  intro hm
  obtain ⟨p, hp, rfl⟩ := List.mem_map.mp hm
  exact Bool.false_ne_true (h.symm.trans (c02_mapGet_mem m p.1 p.2 hp))

/-- One iteration of a loop that looks `key x` up in the map of keys recorded so far, refuses it if present, records
it, and establishes `Ok x`. -/
def FreshStep {α : Type} (key : α → ByteArray) (Ok : α → Prop) (x : α) (st st' : List (ByteArray × Int)) : Prop :=
  (Go.mapGet st (key x) (0 : Int)).2 = false ∧ (∃ j, st' = (key x, j) :: st) ∧ Ok x

/-- The keys of the map are the keys visited so far: such a loop visits pairwise different keys, none of them in the
map it started from. -/
theorem FreshStep.chain {α : Type} {key : α → ByteArray} {Ok : α → Prop} :
    ∀ (xs : List α) (st st' : List (ByteArray × Int)), Chain (FreshStep key Ok) xs st st' →
      (xs.map key).Nodup ∧ ∀ x ∈ xs, key x ∉ st.map Prod.fst ∧ Ok x := by
  intro xs
  induction xs with
  | nil => intro st st' _; exact ⟨List.nodup_nil, fun _ h => by cases h⟩
  | cons x xs ih =>
    intro st st' c
    obtain ⟨st1, ⟨fresh, ⟨j, e⟩, okx⟩, c'⟩ := c
    obtain ⟨nd, others⟩ := ih st1 st' c'
    subst e
    refine ⟨?_, ?_⟩
    · rw [List.map_cons, List.nodup_cons]
      refine ⟨fun hm => ?_, nd⟩
      obtain ⟨y, hy, e⟩ := List.mem_map.mp hm
      exact (others y hy).1 (by simp [e])
    · intro y hy
      cases hy with
      | head => exact ⟨mapGet_false fresh, okx⟩
      | tail _ hm => exact ⟨fun hk => (others y hm).1 (by simp [hk]), (others y hm).2⟩

-- `10101010101010101010` is `types.UnassignedLeafIndex` (the model's `Sia.ElemAcc.unassignedLeafIndex`): the parent was created in
-- this block and has no place in the accumulator yet
/-- what the loop establishes about each siacoin input -/
structure SiacoinInputOk (ext : Ext) (ms : MidState) (txn : V2Transaction) (sci : V2SiacoinInput) : Prop where
  notSpentInBlock : (ext.spent ms sci.Parent.ID).2 = false
  mature : sci.Parent.MaturityHeight ≤ State.childHeight ms.base
  member : if sci.Parent.StateElement.LeafIndex = 10101010101010101010
           then ext.validateEphemeralSiacoinElement ms sci = none
           else ext.containsUnspentSiacoinElement ms.base.Elements (SiacoinElement.Share sci.Parent) = true
  authorised : validateV2SpendPolicy ext ms (ext.InputSigHash ms.base txn) sci.SatisfiedPolicy sci.Parent.SiacoinOutput.Address sci.Parent.ID = none

/-- The input loop of `consensus.validateV2Siacoins` (regenerated whole, the write `spent[id] = i` included): if it accepts,
no parent id occurs twice among the transaction's siacoin inputs and every input passed each of its tests. -/
theorem c02_v2_siacoin_inputs_nodup_gen (ext : Ext) (ms : MidState) (txn : V2Transaction)
    (h : validateV2Siacoins_inputs ext ms txn = .ok none) :
    (txn.SiacoinInputs.map (fun i => i.Parent.ID)).Nodup ∧ ∀ sci ∈ txn.SiacoinInputs, SiacoinInputOk ext ms txn sci := by
  obtain ⟨st', c, _⟩ := forRange_accept (R := FreshStep (·.Parent.ID) (SiacoinInputOk ext ms txn)) h (fun _ _ => rfl) (by
    intro i x st t st' hx
    refine ite_exit hx nofun fun h1 hx => ?_
    refine ite_exit hx nofun fun h2 hx => ?_
    refine ite_exit hx nofun fun h3 hx => ?_
    obtain ⟨h4, hx⟩ | ⟨h4, hx⟩ := ite_cases hx
    · refine ite_exit hx nofun fun h5 hx => ?_
      refine ite_exit hx nofun fun h6 hx => ?_
      cases hx
      exact ⟨Bool.eq_false_iff.mpr h2, ⟨i, rfl⟩, Bool.eq_false_iff.mpr h1, by simpa using h3,
        by rw [if_pos (of_decide_eq_true h4)]; simpa using h5, by simpa using h6⟩
    · obtain ⟨h5, hx⟩ | ⟨h5, hx⟩ := ite_cases hx
      · split at hx <;> cases hx <;> nofun
      refine ite_exit hx nofun fun h6 hx => ?_
      cases hx
      exact ⟨Bool.eq_false_iff.mpr h2, ⟨i, rfl⟩, Bool.eq_false_iff.mpr h1, by simpa using h3,
        by rw [if_neg (fun e => h4 (decide_eq_true e))]; simpa using h5, by simpa using h6⟩)
  obtain ⟨nd, ok⟩ := FreshStep.chain _ _ _ c
  exact ⟨nd, fun sci hs => (ok sci hs).2⟩

/-- what the loop establishes about each siafund input -/
structure SiafundInputOk (ext : Ext) (ms : MidState) (txn : V2Transaction) (sfi : V2SiafundInput) : Prop where
  notSpentInBlock : (ext.spent ms sfi.Parent.ID).2 = false
  member : if sfi.Parent.StateElement.LeafIndex = 10101010101010101010
           then ext.validateEphemeralSiafundElement ms sfi = none
           else ext.containsUnspentSiafundElement ms.base.Elements (SiafundElement.Share sfi.Parent) = true
  authorised : validateV2SpendPolicy ext ms (ext.InputSigHash ms.base txn) sfi.SatisfiedPolicy sfi.Parent.SiafundOutput.Address sfi.Parent.ID = none

/-- The same for the input loop of `consensus.validateV2Siafunds`. -/
theorem c02_v2_siafund_inputs_nodup_gen (ext : Ext) (ms : MidState) (txn : V2Transaction)
    (h : validateV2Siafunds_inputs ext ms txn = .ok none) :
    (txn.SiafundInputs.map (fun i => i.Parent.ID)).Nodup ∧ ∀ sfi ∈ txn.SiafundInputs, SiafundInputOk ext ms txn sfi := by
  obtain ⟨st', c, _⟩ := forRange_accept (R := FreshStep (·.Parent.ID) (SiafundInputOk ext ms txn)) h (fun _ _ => rfl) (by
    intro i x st t st' hx
    refine ite_exit hx nofun fun h1 hx => ?_
    refine ite_exit hx nofun fun h2 hx => ?_
    obtain ⟨h4, hx⟩ | ⟨h4, hx⟩ := ite_cases hx
    · refine ite_exit hx nofun fun h5 hx => ?_
      refine ite_exit hx nofun fun h6 hx => ?_
      cases hx
      exact ⟨Bool.eq_false_iff.mpr h2, ⟨i, rfl⟩, Bool.eq_false_iff.mpr h1,
        by rw [if_pos (of_decide_eq_true h4)]; simpa using h5, by simpa using h6⟩
    · obtain ⟨h5, hx⟩ | ⟨h5, hx⟩ := ite_cases hx
      · split at hx <;> cases hx <;> nofun
      refine ite_exit hx nofun fun h6 hx => ?_
      cases hx
      exact ⟨Bool.eq_false_iff.mpr h2, ⟨i, rfl⟩, Bool.eq_false_iff.mpr h1,
        by rw [if_neg (fun e => h4 (decide_eq_true e))]; simpa using h5, by simpa using h6⟩)
  obtain ⟨nd, ok⟩ := FreshStep.chain _ _ _ c
  exact ⟨nd, fun sfi hs => (ok sfi hs).2⟩

/-- every element is an unspent member, every policy is fine -/
def extOpen : Ext := { Ext.trivial with containsUnspentSiacoinElement := fun _ _ => true, containsUnspentSiafundElement := fun _ _ => true }

def twoInputs : V2Transaction :=
  { SiacoinInputs := [{ Parent := { ID := ⟨#[1]⟩ } }, { Parent := { ID := ⟨#[2]⟩ } }] }

example : validateV2Siacoins_inputs extOpen { base := { Index := { Height := 5 } } } twoInputs = .ok none := by rfl
example : validateV2Siacoins_inputs extOpen { base := { Index := { Height := 5 } } }
    { SiacoinInputs := [{ Parent := { ID := ⟨#[1]⟩ } }, { Parent := { ID := ⟨#[2]⟩ } }, { Parent := { ID := ⟨#[1]⟩ } }] }
    = .ok (some "siacoin input %v double-spends parent output (previously spent by input %v)") := by rfl
example : validateV2Siacoins_inputs Ext.trivial {} twoInputs
    = .ok (some "siacoin input %v spends output (%v) not present in the accumulator") := by rfl

end C02
