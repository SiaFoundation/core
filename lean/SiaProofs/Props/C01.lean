import SiaModel.Ledger.Model
import SiaProofs.Lemmas.LedgerFees
import SiaProofs.Lemmas.LedgerPoolSolv
import SiaProofs.Lemmas.LedgerWeakInv
/-! # C01 — value conservation (see DESIGN.md §6 C01)

The ledger model is `SiaModel/Ledger/Model.lean`; the lemmas are in
`SiaProofs/Lemmas/Ledger*.lean` (DESIGN.md §0.1b says which module holds what). -/
namespace C01
open Sia.Ledger

/-- the block reward never falls below the configured minimum -/
theorem c01_reward_ge_minimum (L : Ledger) : L.P.minimumCoinbase ≤ blockReward L := by
  unfold blockReward
  simp only []
  split
  · exact Nat.le_refl _
  · split
    · exact Nat.le_refl _
    · rename_i h; exact Nat.le_of_not_lt h

/-- An accepted block pays its miner(s) exactly the block reward plus every v1 miner fee plus
every v2 miner fee (sums over `Nat`, i.e. exact: `sumChecked` cannot wrap). -/
theorem c01_fees_in_payout {L : Ledger} {b : Block} {pid : Id} {ms : Mid}
    (h : validateBlock L b pid = .ok ms) :
    (b.payouts.map (·.2.value)).sum = blockReward L + b.fees1.sum + b.fees2.sum :=
  validateMinerPayouts_ok (validateOrphan_ok (validateBlock_ok_iff.1 h).1)

/-- hypotheses are satisfiable: a block with one v1 fee and one v2 fee -/
example : ∃ (L : Ledger) (b : Block),
    validateMinerPayouts L b = .ok () ∧ b.fees1 = [7] ∧ b.fees2 = [5] := by
  let t1 : Txn1 := { (default : Txn1) with fees := [7] }
  let t2 : Txn2 := { (default : Txn2) with fee := 5 }
  let L : Ledger := { (default : Ledger) with P := { (default : Params) with initialCoinbase := 100, minimumCoinbase := 30 } }
  refine ⟨L, { (default : Block) with txns1 := [t1], v2 := some (0, true, [t2]), payouts := [(1, { value := 112, addr := 0 })] }, ?_, rfl, rfl⟩
  rfl

/-! A v1 element lookup returns an element that carries the id asked for (regression guard of Go fix 60056d1,
"v1 element lookups must check the element kind") -/

theorem c01_lookup_checks_kind {ms : Mid} {ts : Supp1} {id : Id} {e : ScElem}
    (h : ms.scElement ts id = some e) : e.id = id :=
  scElement_id h

theorem c01_lookup_checks_kind_sf {ms : Mid} {ts : Supp1} {id : Id} {e : SfElem}
    (h : ms.sfElement ts id = some e) : e.id = id :=
  sfElement_id h

theorem c01_lookup_checks_kind_fc1 {ms : Mid} {ts : Supp1} {id : Id} {e : Fc1Elem}
    (h : ms.fc1Element ts id = some e) : e.id = id :=
  fc1Element_id h

/-- `claimPortion` returns exactly `⌊(pool − claimStart) / 10000⌋ · value` and returns at all only
when neither the subtraction underflows nor the product overflows 128 bits. -/
theorem c01_claim_exact {pool cs : Cur} {v : Nat} {c : Cur} :
    claimPortion pool cs v = .ok c ↔
      (cs ≤ pool ∧ (pool - cs) / 10000 * v < curLimit ∧ c = (pool - cs) / 10000 * v) :=
  claimPortion_ok

/-! ## Conservation of value, block level

`V L` (`Sia.Ledger.V`) = Σ unspent siacoin outputs + Σ valid-output totals of unresolved v1 contracts +
Σ (renter + host) of unresolved v2 contracts + the siafund tax pool.

Hypotheses (all explicit premises of the theorems):
* `WF L` — ids of live elements pairwise distinct across kinds; every v1 contract has equal valid/missed totals;
  every v2 contract has `missedHost ≤ host.value`; siafund supply < 2^64; parameters for which
  `FoundationSubsidy` cannot panic.  Preserved by every accepted block (`c01_wf_preserved`).
* `FreshIds L b` — hash-collision freedom: the ids the block creates are pairwise distinct and new.
* `L.child ≥ L.P.ephemeralFix` — the legacy window of the ephemeral-output fix is closed.
* `SfNoWrap b` — per-transaction siafund output sums do not wrap a uint64 (in Go: block weight limit).
* `IdListsCover L b pid` — the finite lists standing for `ValidOutputID(i)` / `MissedOutputID(i)` are long enough
  (a modelling artefact: in Go the id exists for every index).

Ghost quantities: `b.claims L` — sum over all spent siafund inputs of
`⌊(pool at spend − claimStart)/10000⌋ · value` (`Sia.Ledger.claimVal`); `b.forfeits` — Σ over v2 expirations of
`host.value − missedHost`; `subsidyVal L` — the value `foundationSubsidy L` schedules (0 if none). -/

/-- No value is created or destroyed by an accepted block. -/
theorem c01_block_conserves {L : Ledger} {b : Block} {pid : Id} {msv : Mid}
    (hw : WF L) (hf : FreshIds L b) (hfix : L.child ≥ L.P.ephemeralFix) (hnw : SfNoWrap b)
    (hcov : IdListsCover L b pid) (hv : validateBlock L b pid = .ok msv) :
    ∃ L' ms, applyBlock L b = .ok (L', ms) ∧
      V L' + b.forfeits = V L + blockReward L + subsidyVal L + b.claims L := by
  obtain ⟨ms, hm, _, _, hP, _⟩ := block_conserves hw hf hfix hnw hcov hv
  refine ⟨ms.commit b.blockId, ms, ?_, ?_⟩
  · unfold applyBlock; rw [hm]; rfl
  · rw [V_commit]; exact hP

/-- The number of siafunds in unspent outputs never changes. -/
theorem c01_siafunds_constant {L : Ledger} {b : Block} {pid : Id} {msv : Mid}
    (hw : WF L) (hf : FreshIds L b) (hfix : L.child ≥ L.P.ephemeralFix) (hnw : SfNoWrap b)
    (hcov : IdListsCover L b pid) (hv : validateBlock L b pid = .ok msv) :
    ∀ L' ms, applyBlock L b = .ok (L', ms) → SFtot L' = SFtot L := by
  obtain ⟨ms, hm, _, _, _, hS, _⟩ := block_conserves hw hf hfix hnw hcov hv
  intro L' ms' h
  unfold applyBlock at h; rw [hm] at h; cases h
  rw [SF_commit]; exact hS

/-- Well-formedness (and with it every hypothesis on the ledger) is preserved by an accepted block. -/
theorem c01_wf_preserved {L : Ledger} {b : Block} {pid : Id} {msv : Mid}
    (hw : WF L) (hf : FreshIds L b) (hfix : L.child ≥ L.P.ephemeralFix) (hnw : SfNoWrap b)
    (hcov : IdListsCover L b pid) (hv : validateBlock L b pid = .ok msv) :
    ∀ L' ms, applyBlock L b = .ok (L', ms) → WF L' ∧ L'.child = L.child + 1 ∧ L'.P = L.P := by
  obtain ⟨ms, hm, hI, hb, _, hS, _⟩ := block_conserves hw hf hfix hnw hcov hv
  intro L' ms' h
  unfold applyBlock at h; rw [hm] at h; cases h
  have hc : Ctx (Tb L b) ms.base := by rw [hb]; exact ctx_of_wf hw hf
  refine ⟨wf_commit hc (by rw [hb]; exact hw) hI (by rw [hS, hb]) b.blockId, ?_, ?_⟩
  · show ms.base.child + 1 = L.child + 1; rw [hb]
  · show ms.base.P = L.P; rw [hb]

/-! ## Chains

A chain is a list of `(block, parent block id, relabel)`; `relabel` is what the accumulator does between two
blocks: it may change `leaf` fields only (`LeafEq`), e.g. assign leaf indices to the elements the block created. -/

/-- what is assumed of one block relative to the ledger it extends -/
structure BlockHyps (L : Ledger) (b : Block) (pid : Id) : Prop where
  fresh : FreshIds L b
  nowrap : SfNoWrap b
  cover : IdListsCover L b pid
  valid : ∃ ms, validateBlock L b pid = .ok ms

def runChain : Ledger → List (Block × Id × (Ledger → Ledger)) → Option Ledger
  | L, [] => some L
  | L, (b, _, r) :: rest =>
    match applyBlock L b with
    | .ok (L', _) => runChain (r L') rest
    | .error _ => none

/-- every block of the chain is accepted by validation and satisfies the per-block hypotheses -/
def ChainHyps : Ledger → List (Block × Id × (Ledger → Ledger)) → Prop
  | _, [] => True
  | L, (b, pid, r) :: rest =>
    BlockHyps L b pid ∧ ∀ L' ms, applyBlock L b = .ok (L', ms) → LeafEq L' (r L') ∧ ChainHyps (r L') rest

/-- scheduled issuance plus siafund claims along a chain -/
def chainMinted : Ledger → List (Block × Id × (Ledger → Ledger)) → Nat
  | _, [] => 0
  | L, (b, _, r) :: rest =>
    blockReward L + subsidyVal L + b.claims L +
    (match applyBlock L b with
      | .ok (L', _) => chainMinted (r L') rest
      | .error _ => 0)

/-- value forfeited by missed v2 expirations along a chain -/
def chainForfeits : Ledger → List (Block × Id × (Ledger → Ledger)) → Nat
  | _, [] => 0
  | L, (b, _, r) :: rest =>
    b.forfeits +
    (match applyBlock L b with
      | .ok (L', _) => chainForfeits (r L') rest
      | .error _ => 0)

/-- Supply conservation along any accepted chain (hence for every prefix of it): the value function equals the
starting allocation plus every scheduled subsidy plus claims paid, minus forfeits; siafunds are constant; the
final ledger is well-formed again. -/
theorem c01_chain_conserves (bs : List (Block × Id × (Ledger → Ledger))) : ∀ (L0 : Ledger), WF L0 →
    L0.child ≥ L0.P.ephemeralFix → ChainHyps L0 bs →
    ∃ L, runChain L0 bs = some L ∧ WF L ∧
      V L + chainForfeits L0 bs = V L0 + chainMinted L0 bs ∧ SFtot L = SFtot L0 := by
  induction bs with
  | nil => intro L0 hw _ _; exact ⟨L0, rfl, hw, rfl, rfl⟩
  | cons x rest ih =>
    intro L0 hw hfix hch
    obtain ⟨b, pid, r⟩ := x
    obtain ⟨⟨hf, hnw, hcov, msv, hv⟩, hnext⟩ := hch
    obtain ⟨L', ms, ha, hV⟩ := c01_block_conserves hw hf hfix hnw hcov hv
    obtain ⟨hw', hch', hP'⟩ := c01_wf_preserved hw hf hfix hnw hcov hv L' ms ha
    have hS := c01_siafunds_constant hw hf hfix hnw hcov hv L' ms ha
    obtain ⟨hle, hrest⟩ := hnext L' ms ha
    have hfix' : (r L').child ≥ (r L').P.ephemeralFix := by rw [hle.child, hle.P, hch', hP']; omega
    obtain ⟨L, hr, hwL, hVL, hSL⟩ := ih (r L') (hle.wf hw') hfix' hrest
    refine ⟨L, ?_, hwL, ?_, ?_⟩
    · unfold runChain; rw [ha]; exact hr
    · unfold chainForfeits chainMinted; rw [ha]; simp only []
      have := hle.V
      omega
    · rw [hSL, hle.SFtot, hS]

/-! ## Siafund claims: every claim output carries exactly the holder's share -/

/-- v2: the step that spends siafund input `sfi` (`stepSfIn2`, by `rfl` the step `a2SfIn` of `applyV2Transaction_eq`)
creates the claim output `sfi.claimId` with value `⌊(pool − claimStart)/10000⌋ · value`, the pool being the one in
force when the input is spent. -/
theorem c01_claim_exact_v2 {ms ms' : Mid} {sfi : SfIn2} (h : stepSfIn2 ms sfi = .ok ms') :
    sfi.parent.claimStart ≤ ms.pool ∧
    ms' = (ms.spendSf sfi.parent).createImmatureSc sfi.claimId
      { value := (ms.pool - sfi.parent.claimStart) / 10000 * sfi.parent.value, addr := sfi.claimAddr } := by
  unfold stepSfIn2 at h
  rw [bind_ok_iff] at h; obtain ⟨c, hc, h⟩ := h
  cases h
  have hp : (ms.spendSf sfi.parent).pool = ms.pool := by
    unfold Mid.spendSf; exact putSf_pool _ _ _
  rw [hp, claimPortion_ok] at hc
  exact ⟨hc.1, by rw [hc.2.2]⟩

/-- v1: same statement, for the siafund element `e` the input's parent id resolves to (`stepSfIn1 t.supp` is by `rfl`
the step `a1SfIn t` of `applyTransaction_eq`). -/
theorem c01_claim_exact_v1 {ms ms' : Mid} {supp : Supp1} {sfi : SfIn1} (h : stepSfIn1 supp ms sfi = .ok ms') :
    ∃ e, ms.sfElement supp sfi.parent = some e ∧ e.id = sfi.parent ∧ e.claimStart ≤ ms.pool ∧
    ms' = (ms.spendSf e).createImmatureSc sfi.claimId
      { value := (ms.pool - e.claimStart) / 10000 * e.value, addr := sfi.claimAddr } := by
  unfold stepSfIn1 at h
  cases he : ms.sfElement supp sfi.parent with
  | none => rw [he] at h; cases h
  | some e =>
    rw [he] at h; simp only [] at h
    rw [bind_ok_iff] at h; obtain ⟨c, hc, h⟩ := h
    cases h
    rw [claimPortion_ok] at hc
    exact ⟨e, rfl, sfElement_id he, hc.1, by rw [hc.2.2]⟩

/-! ## Siafund claims: the pool stays solvent

`PsiL L` = Σ over live siafund outputs of `value · (pool − claimStart)`, i.e. 10000 × what could still be claimed
before floor division; `CsOkL L` = every live output has `claimStart ≤ pool` (so no later claim can underflow). -/

/-- total of the siafund claims paid along a chain -/
def chainClaims : Ledger → List (Block × Id × (Ledger → Ledger)) → Nat
  | _, [] => 0
  | L, (b, _, r) :: rest =>
    b.claims L +
    (match applyBlock L b with
      | .ok (L', _) => chainClaims (r L') rest
      | .error _ => 0)

/-- One block: what was claimed plus what remains claimable grows by at most the tax the block collected
(times the siafund supply); `claimStart ≤ pool` is preserved. -/
theorem c01_pool_solvent_block {L : Ledger} {b : Block} {pid : Id} {msv : Mid}
    (hw : WF L) (hcs : CsOkL L) (hf : FreshIds L b) (hfix : L.child ≥ L.P.ephemeralFix) (hnw : SfNoWrap b)
    (hcov : IdListsCover L b pid) (hv : validateBlock L b pid = .ok msv) :
    ∀ L' ms, applyBlock L b = .ok (L', ms) →
      CsOkL L' ∧ L.pool ≤ L'.pool ∧ PsiL L' + 10000 * b.claims L ≤ PsiL L + (L'.pool - L.pool) * SFtot L :=
  pool_solvent_block hw hcs hf hfix hnw hcov hv

theorem chain_solvent_aux (bs : List (Block × Id × (Ledger → Ledger))) : ∀ (L0 : Ledger), WF L0 → CsOkL L0 →
    L0.child ≥ L0.P.ephemeralFix → ChainHyps L0 bs →
    ∃ L, runChain L0 bs = some L ∧ CsOkL L ∧ L0.pool ≤ L.pool ∧
      PsiL L + 10000 * chainClaims L0 bs ≤ PsiL L0 + (L.pool - L0.pool) * SFtot L0 := by
  induction bs with
  | nil => intro L0 _ hcs _ _; exact ⟨L0, rfl, hcs, Nat.le_refl _, by simp [chainClaims]⟩
  | cons x rest ih =>
    intro L0 hw hcs hfix hch
    obtain ⟨b, pid, r⟩ := x
    obtain ⟨⟨hf, hnw, hcov, msv, hv⟩, hnext⟩ := hch
    obtain ⟨L', ms, ha, _⟩ := c01_block_conserves hw hf hfix hnw hcov hv
    obtain ⟨hw', hch', hP'⟩ := c01_wf_preserved hw hf hfix hnw hcov hv L' ms ha
    have hS := c01_siafunds_constant hw hf hfix hnw hcov hv L' ms ha
    obtain ⟨hcs', hpl', hq'⟩ := pool_solvent_block hw hcs hf hfix hnw hcov hv L' ms ha
    obtain ⟨hle, hrest⟩ := hnext L' ms ha
    have hfix' : (r L').child ≥ (r L').P.ephemeralFix := by rw [hle.child, hle.P, hch', hP']; omega
    obtain ⟨L, hr, hcsL, hplL, hqL⟩ := ih (r L') (hle.wf hw') (hle.csOkL hcs') hfix' hrest
    rw [hle.PsiL, hle.pool, hle.SFtot, hS] at hqL
    rw [hle.pool] at hplL
    refine ⟨L, ?_, hcsL, Nat.le_trans hpl' hplL, ?_⟩
    · unfold runChain; rw [ha]; exact hr
    · unfold chainClaims; rw [ha]; simp only []
      exact psi_two_stages hpl' hplL hq' hqL

/-- Along any accepted chain, 10000 × (claims ever paid) plus what the live siafund outputs can still claim never
exceeds (siafund supply) × pool — despite per-output floor division; with the real supply of 10000 siafunds this is
`10000·claimsPaid + Σ value·(pool − claimStart) ≤ 10000·pool`. -/
theorem c01_pool_solvent (bs : List (Block × Id × (Ledger → Ledger))) (L0 : Ledger) (hw : WF L0) (hcs : CsOkL L0)
    (hfix : L0.child ≥ L0.P.ephemeralFix) (hch : ChainHyps L0 bs) :
    ∃ L, runChain L0 bs = some L ∧ CsOkL L ∧
      10000 * chainClaims L0 bs + PsiL L ≤ SFtot L0 * L.pool ∧
      (SFtot L0 ≤ 10000 → 10000 * chainClaims L0 bs + PsiL L ≤ 10000 * L.pool) := by
  obtain ⟨L, hr, hcsL, hpl, hq⟩ := chain_solvent_aux bs L0 hw hcs hfix hch
  have h0 := PsiL_le L0
  have key : 10000 * chainClaims L0 bs + PsiL L ≤ SFtot L0 * L.pool := by
    have hsplit : SFtot L0 * L.pool = (L.pool - L0.pool) * SFtot L0 + SFtot L0 * L0.pool := by
      rw [Nat.mul_comm (SFtot L0) L0.pool, ← Nat.add_mul, Nat.mul_comm]; congr 1; unfold Cur at *; omega
    rw [hsplit]; omega
  refine ⟨L, hr, hcsL, key, fun hS => ?_⟩
  exact Nat.le_trans key (Nat.mul_le_mul_right _ hS)

/-! ## Per-transaction conservation

`Phi ms` (`Sia.Ledger.Phi`) is the value of the ledger the mid-state `ms` would commit to (`V_commit`).
`Inv T ms`, `Ctx T L`, `Fresh T ms R` are the mid-state invariant, the static context and the freshness of the ids
still to be created (see `Lemmas/LedgerInv.lean`); the block theorem discharges them. -/

/-- One accepted v2 transaction: potential + fee + forfeits = potential before + claims, where every claim is
`⌊(pool at the start of the transaction − claimStart)/10000⌋ · value`; siafunds unchanged; invariant kept. -/
theorem c01_v2txn_conserves {T} {ms ms' : Mid} {t : Txn2} {mw : Nat} {R : List (Kind × Id)}
    (hc : Ctx T ms.base) (hfix : ms.base.child ≥ ms.base.P.ephemeralFix) (hI : Inv T ms)
    (hm2 : ∀ e ∈ ms.base.fc2, e.fc.missedHost ≤ e.fc.host.value)
    (hF : Fresh T ms (t.created ++ R))
    (hnw : (t.sfOuts.map (·.2.1)).sum < u64Limit) (hsfb : sfTot ms < u64Limit)
    (hv : validateV2Transaction ms t mw = .ok ()) (ha : applyV2Transaction ms t = .ok ms') :
    Inv T ms' ∧ Fresh T ms' R ∧ ms'.base = ms.base ∧
    Phi ms' + t.fee + t.forfeits = Phi ms + t.claims ms.pool ∧ sfTot ms' = sfTot ms ∧ ms.pool ≤ ms'.pool ∧
    (CsOk ms → CsOk ms' ∧ Psi ms' + 10000 * t.claims ms.pool ≤ Psi ms + (ms'.pool - ms.pool) * sfTot ms) ∧
    ms'.pool = ms.pool + t.taxes ∧
    (1 ≤ ms.base.P.maturityDelay → scW (wImm ms.base.child) ms + t.claims ms.pool ≤ scW (wImm ms.base.child) ms') :=
  v2txn_conserves hc hfix hI hm2 hF hnw hsfb hv ha

/-- One accepted v1 transaction: potential + fees = potential before + claims; siafunds unchanged. -/
theorem c01_v1txn_conserves {T} {ms ms' : Mid} {t : Txn1} {pid : Id} {mw : Nat} {R : List (Kind × Id)}
    (hc : Ctx T ms.base) (hI : Inv T ms) (hsupp : SuppOk ms.base t.supp)
    (hF : Fresh T ms (t.created ++ R))
    (hlen : ∀ sp ∈ t.proofs, ∀ e, ms.fc1Element t.supp sp.parent = some e → e.fc.valid.length ≤ sp.outIds.length)
    (hnw : (t.sfOuts.map (·.2.1)).sum < u64Limit) (hsfb : sfTot ms < u64Limit)
    (hv : validateTransaction ms t pid mw = .ok ()) (ha : applyTransaction ms t = .ok ms') :
    Inv T ms' ∧ Fresh T ms' R ∧ ms'.base = ms.base ∧
    Phi ms' + t.fees.sum = Phi ms + t.claims ms ∧ sfTot ms' = sfTot ms ∧ ms.pool ≤ ms'.pool ∧
    (CsOk ms → CsOk ms' ∧ Psi ms' + 10000 * t.claims ms ≤ Psi ms + (ms'.pool - ms.pool) * sfTot ms) ∧
    ms'.pool = ms.pool + t.taxes ms.base ∧
    (1 ≤ ms.base.P.maturityDelay → scW (wImm ms.base.child) ms + t.claims ms ≤ scW (wImm ms.base.child) ms') :=
  v1txn_conserves hc hI hsupp hF hlen hnw hsfb hv ha

/-! ## Non-vacuity: a concrete two-block chain satisfying every hypothesis -/

theorem exists_ok_of_isOk {α : Type} {x : VM α}
    (h : (match x with | .ok _ => true | .error _ => false) = true) : ∃ a, x = .ok a := by
  cases x with
  | ok a => exact ⟨a, rfl⟩
  | error e => cases h

def exP : Params :=
  { initialCoinbase := 300000, minimumCoinbase := 30, maturityDelay := 1, blocksPerYear := 52560, hfDevAddr := 0,
    devOldAddr := 900, devNewAddr := 901, hfTax := 0, hfStorageProof := 0, hfFoundation := 1000, v2Allow := 0,
    v2Require := 1000, ephemeralFix := 0, voidAddr := 0 }

def exSc1 : ScElem := { id := 1, value := 1000, addr := 7, maturity := 0, leaf := some 0 }
def exSc3 : ScElem := { id := 3, value := 200, addr := 7, maturity := 0, leaf := some 2 }
def exSf2 : SfElem := { id := 2, value := 10000, addr := 8, claimStart := 0, leaf := some 1 }
/-- a v1 contract whose proof window is open -/
def exFc4c : Fc1 :=
  { filesize := 0, root := 0, windowStart := 4, windowEnd := 10, payout := 62,
    valid := [{ value := 40, addr := 7 }, { value := 20, addr := 9 }], missed := [{ value := 60, addr := 0 }],
    unlockHash := 5, revNum := 1 }
def exFc4 : Fc1Elem := { id := 4, fc := exFc4c, leaf := some 3 }
/-- a v1 contract that expires in this block -/
def exFc5c : Fc1 :=
  { filesize := 0, root := 0, windowStart := 2, windowEnd := 5, payout := 26,
    valid := [{ value := 25, addr := 7 }], missed := [{ value := 15, addr := 7 }, { value := 10, addr := 0 }],
    unlockHash := 5, revNum := 1 }
def exFc5 : Fc1Elem := { id := 5, fc := exFc5c, leaf := some 4 }
/-- a v2 contract past its expiration height; a miss forfeits 200 -/
def exFc6c : Fc2 :=
  { capacity := 10, filesize := 0, root := 0, proofHeight := 2, expHeight := 3,
    renter := { value := 100, addr := 7 }, host := { value := 300, addr := 9 }, missedHost := 100,
    totalCollateral := 0, renterKey := 1, hostKey := 2, revNum := 0 }
def exFc6 : Fc2Elem := { id := 6, fc := exFc6c, leaf := some 5 }

def exL : Ledger :=
  { P := exP, child := 5, sc := [exSc1, exSc3], sf := [exSf2], fc1 := [exFc4, exFc5], fc2 := [exFc6], pool := 50000,
    fPrimary := 0, fFailsafe := 0, chain := [] }

def exFc : Fc2 :=
  { capacity := 10, filesize := 0, root := 0, proofHeight := 5, expHeight := 20,
    renter := { value := 500, addr := 7 }, host := { value := 375, addr := 9 }, missedHost := 375,
    totalCollateral := 0, renterKey := 1, hostKey := 2, revNum := 0 }

/-- v1: a plain payment with a fee -/
def exT1 : Txn1 :=
  { scIns := [{ parent := 3, timelock := 0, ucAddr := 7 }], scOuts := [(30, { value := 150, addr := 9 })],
    fcs := [], revs := [], proofs := [], sfIns := [], sfOuts := [], fees := [50], foundation := none,
    sigsOk := true, weight := 1, supp := { scIns := [exSc3], sfIns := [], revised := [], proofs := [] } }

/-- v1: a storage proof -/
def exT3 : Txn1 :=
  { scIns := [], scOuts := [], fcs := [], revs := [], proofs := [{ parent := 4, proofOk := true, outIds := [40, 41] }],
    sfIns := [], sfOuts := [], fees := [], foundation := none, sigsOk := true, weight := 1,
    supp := { scIns := [], sfIns := [], revised := [], proofs := [(exFc4, 97)] } }

/-- v2: a payment, a contract formation, a siafund transfer with a claim, a missed expiration -/
def exT2 : Txn2 :=
  { scIns := [{ parent := exSc1, addrOk := true, authOk := true }], scOuts := [(10, { value := 80, addr := 9 })],
    sfIns := [{ parent := exSf2, claimAddr := 8, claimId := 12, addrOk := true, authOk := true }],
    sfOuts := [(13, 10000, 8)], fcs := [(11, exFc, true)], revs := [],
    ress := [{ parent := exFc6, res := .expiration, renterOutId := 14, hostOutId := 15 }], natts := 0, attsOk := true,
    newFoundation := none, fee := 10, weight := 1 }

def exB : Block :=
  { txns1 := [exT1, exT3], v2 := some (5, true, [exT2]), payouts := [(20, { value := 90, addr := 9 })],
    foundationOutId := 21, expiring := [(exFc5, [50, 51])], headerOk := true, blockId := 99, maxWeight := 100 }

theorem ex_wf : WF exL := by
  refine ⟨by decide, by decide, by decide, by decide, by unfold ParamsOk; decide⟩
theorem ex_fresh : FreshIds exL exB := freshIds_of_forall (by decide +kernel)
theorem ex_nowrap : SfNoWrap exB := by
  constructor <;> decide
theorem ex_cover : IdListsCover exL exB 98 := ⟨by decide, by decide⟩
theorem ex_valid : ∃ ms, validateBlock exL exB 98 = .ok ms := exists_ok_of_isOk (by decide +kernel)

/-- every hypothesis of `c01_block_conserves` holds of the concrete block, and its conclusion reads
`101515 + 200 = 51685 + 30 + 0 + 50000` -/
example : ∃ L' ms, applyBlock exL exB = .ok (L', ms) ∧
    V L' + exB.forfeits = V exL + blockReward exL + subsidyVal exL + exB.claims exL := by
  obtain ⟨ms, hv⟩ := ex_valid
  exact c01_block_conserves ex_wf ex_fresh (by decide) ex_nowrap ex_cover hv

example : V exL = 51685 ∧ exB.forfeits = 200 ∧ blockReward exL = 30 ∧ subsidyVal exL = 0 ∧ exB.claims exL = 50000 := by
  decide

/-- what the accumulator does between the two blocks: assign leaf indices -/
def exRelabel (L : Ledger) : Ledger :=
  { L with sc := L.sc.map (fun e => { e with leaf := some 0 }), sf := L.sf.map (fun e => { e with leaf := some 0 }),
           fc1 := L.fc1.map (fun e => { e with leaf := some 0 }), fc2 := L.fc2.map (fun e => { e with leaf := some 0 }) }

theorem exRelabel_leafEq (L : Ledger) : LeafEq L (exRelabel L) := by
  unfold LeafEq Ledger.eraseLeaves exRelabel
  simp only [List.map_map]
  rfl

/-- second block: spends an output created by the first block and resolves the new v2 contract by storage proof -/
def exT4 : Txn2 :=
  { scIns := [{ parent := { id := 10, value := 80, addr := 9, maturity := 0, leaf := some 0 }, addrOk := true, authOk := true }],
    scOuts := [(60, { value := 75, addr := 7 })], sfIns := [], sfOuts := [], fcs := [], revs := [],
    ress := [{ parent := { id := 11, fc := exFc, leaf := some 0 }, res := .proof 5 99 true true,
               renterOutId := 61, hostOutId := 62 }],
    natts := 0, attsOk := true, newFoundation := none, fee := 5, weight := 1 }

def exB2 : Block :=
  { txns1 := [], v2 := some (6, true, [exT4]), payouts := [(70, { value := 35, addr := 9 })],
    foundationOutId := 71, expiring := [], headerOk := true, blockId := 100, maxWeight := 100 }

/-- the ledger after the first block -/
def exR1 : Ledger × Mid :=
  match applyBlock exL exB with
  | .ok r => r
  | .error _ => default

theorem ex_apply1 : applyBlock exL exB = .ok exR1 := by rfl

theorem ex_hyps2 : BlockHyps (exRelabel exR1.1) exB2 99 :=
  ⟨freshIds_of_forall (by decide +kernel), by constructor <;> decide, ⟨by decide, by decide⟩,
    exists_ok_of_isOk (by decide +kernel)⟩

theorem ex_chain : ChainHyps exL [(exB, 98, exRelabel), (exB2, 99, id)] := by
  refine ⟨⟨ex_fresh, ex_nowrap, ex_cover, ex_valid⟩, ?_⟩
  intro L' ms h
  rw [ex_apply1] at h
  have : exR1 = (L', ms) := Except.ok.inj h
  have hL : L' = exR1.1 := by rw [this]
  rw [hL]
  refine ⟨exRelabel_leafEq _, ex_hyps2, ?_⟩
  intro L'' ms'' _
  exact ⟨LeafEq.refl _, trivial⟩

/-- the chain theorem applies to the concrete two-block chain -/
example : ∃ L, runChain exL [(exB, 98, exRelabel), (exB2, 99, id)] = some L ∧ WF L ∧
    V L + chainForfeits exL [(exB, 98, exRelabel), (exB2, 99, id)] =
      V exL + chainMinted exL [(exB, 98, exRelabel), (exB2, 99, id)] ∧ SFtot L = SFtot exL :=
  c01_chain_conserves _ exL ex_wf (by decide) ex_chain

theorem ex_csok : CsOkL exL := by unfold CsOkL; decide

/-- pool solvency applies to the concrete chain -/
example : ∃ L, runChain exL [(exB, 98, exRelabel), (exB2, 99, id)] = some L ∧ CsOkL L ∧
    10000 * chainClaims exL [(exB, 98, exRelabel), (exB2, 99, id)] + PsiL L ≤ SFtot exL * L.pool ∧
    (SFtot exL ≤ 10000 → 10000 * chainClaims exL [(exB, 98, exRelabel), (exB2, 99, id)] + PsiL L ≤ 10000 * L.pool) :=
  c01_pool_solvent _ exL ex_wf ex_csok (by decide) ex_chain

/-! ## The legacy-window hypothesis is necessary

Below `EphemeralOutputHeight` the claimed record of an ephemeral parent is not checked against the output that was
actually created; the property statement excludes that window, and the model shows why. -/

/-- legacy window open: the fix height lies in the future -/
def lgP : Params := { exP with ephemeralFix := 100 }
def lgL : Ledger := { exL with P := lgP, fc1 := [], fc2 := [] }
/-- creates output 10 with value 1000 ... -/
def lgT1 : Txn2 :=
  { scIns := [{ parent := exSc1, addrOk := true, authOk := true }], scOuts := [(10, { value := 1000, addr := 9 })],
    sfIns := [], sfOuts := [], fcs := [], revs := [], ress := [], natts := 0, attsOk := true,
    newFoundation := none, fee := 0, weight := 1 }
/-- ... and spends "it" as an ephemeral parent claiming value 5000 -/
def lgT2 : Txn2 :=
  { scIns := [{ parent := { id := 10, value := 5000, addr := 9, maturity := 0, leaf := none }, addrOk := true, authOk := true }],
    scOuts := [(11, { value := 5000, addr := 9 })],
    sfIns := [], sfOuts := [], fcs := [], revs := [], ress := [], natts := 0, attsOk := true,
    newFoundation := none, fee := 0, weight := 1 }
def lgB : Block :=
  { txns1 := [], v2 := some (5, true, [lgT1, lgT2]), payouts := [(20, { value := 30, addr := 9 })],
    foundationOutId := 21, expiring := [], headerOk := true, blockId := 99, maxWeight := 100 }

/-- Every hypothesis of `c01_block_conserves` except `L.child ≥ L.P.ephemeralFix` holds, the block is accepted, and
4000 units appear from nowhere. -/
theorem c01_legacy_counterexample :
    WF lgL ∧ FreshIds lgL lgB ∧ SfNoWrap lgB ∧ IdListsCover lgL lgB 98 ∧ ¬ lgL.child ≥ lgL.P.ephemeralFix ∧
    (∃ ms, validateBlock lgL lgB 98 = .ok ms) ∧
    ∃ L' ms, applyBlock lgL lgB = .ok (L', ms) ∧
      V L' + lgB.forfeits = V lgL + blockReward lgL + subsidyVal lgL + lgB.claims lgL + 4000 := by
  refine ⟨⟨by decide, by decide, by decide, by decide, by unfold ParamsOk; decide⟩, freshIds_of_forall (by decide +kernel),
    by constructor <;> decide, ⟨by decide, by decide⟩, by decide, exists_ok_of_isOk (by decide +kernel), ?_⟩
  · obtain ⟨r, hr⟩ : ∃ r, applyBlock lgL lgB = .ok r := exists_ok_of_isOk (by decide)
    refine ⟨r.1, r.2, hr, ?_⟩
    have : (match applyBlock lgL lgB with
        | .ok r => decide (V r.1 + lgB.forfeits = V lgL + blockReward lgL + subsidyVal lgL + lgB.claims lgL + 4000)
        | .error _ => false) = true := by decide
    rw [hr] at this
    simpa using this

end C01
