import SiaModel.Gen.CodeConsensus
import SiaModel.Ledger.ContractRules
import SiaProofs.Lemmas.GoLoops
/-!
# C07 / C17 — the v2 file-contract rules as REGENERATED from `consensus/validation.go`

`extract` translates the closures of `validateV2FileContracts` (`validateSignatures`,
`validateContract`, the rule chain of `validateRevision`) and the per-resolution case bodies
(renewal, storage proof, expiration) statement by statement
(`Gen.Consensus.validateV2FileContracts_*`; external calls — signature verification, sighashes,
accumulator membership, storage-proof roots — are fields of the parameter `ext`).

The theorems below relate those generated definitions to the hand-written rules of
`SiaModel/Ledger/ContractRules.lean`, over which the C07 revision invariants and the C17
"constructor output is consensus-valid" theorems are stated: the hand-written rules accept
exactly when the generated code does (given that the signatures verify), and panic exactly when
it does.  A change of a rule in `validation.go` changes the generated definition and one of
these proofs no longer checks.
-/
namespace C07
open Gen.Types Gen.Consensus GoLoops

/-- child height and fix height as the regenerated code reads them from the validation context -/
abbrev chOf (ms : MidState) : Nat := State.childHeight ms.base
abbrev ephOf (ms : MidState) : Nat := ms.base.Network.HardforkV2.EphemeralOutputHeight

/-- `validateContract` (regenerated) accepts iff the hand-written rule chain accepts and both
signatures verify under the contract's own keys. -/
theorem tie_validateContract_gen (ext : Ext) (ms : MidState) (fc : V2FileContract) :
    validateV2FileContracts_validateContract ext ms fc = none ↔
      (Sia.Ledger.validateContract (chOf ms) fc = none ∧
       validateV2FileContracts_validateSignatures ext ms fc fc.RenterPublicKey fc.HostPublicKey = none) := by
  unfold validateV2FileContracts_validateContract Sia.Ledger.validateContract chOf
  simp only [ite_some_eq_none, decide_eq_true_eq, and_assoc, and_true]

/-- The regenerated validator `g` and the hand-written `h` take the same path: `g` accepts iff `h` accepts and `S` holds
(the signature checks, which only `g` makes), and `g` panics iff `h` does.  Messages of rejections are not compared.
A tie of this shape is proved by walking both programs in step, one rule per Go statement. -/
def Sim (S : Prop) (g h : Except String (Option String)) : Prop :=
  (g = .ok none ↔ (h = .ok none ∧ S)) ∧ ((∃ m, g = .error m) ↔ ∃ m, h = .error m)

theorem Sim.bind {α : Type} {S : Prop} {a : Except String α} {k k' : α → Except String (Option String)}
    (hk : ∀ x, Sim S (k x) (k' x)) : Sim S (a >>= k) (a >>= k') := by
  cases a with
  | error m => exact ⟨⟨nofun, fun h => nomatch h.1⟩, fun _ => ⟨m, rfl⟩, fun _ => ⟨m, rfl⟩⟩
  | ok x => exact hk x

theorem Sim.reject {S c c' : Prop} [Decidable c] [Decidable c'] {e e' : String} {g h : Except String (Option String)}
    (hc : c ↔ c') (hgh : Sim S g h) :
    Sim S (if c then pure (some e) else g) (if c' then pure (some e') else h) := by
  by_cases hcc : c
  · rw [if_pos hcc, if_pos (hc.mp hcc)]; exact ⟨⟨nofun, fun h => nomatch h.1⟩, nofun, nofun⟩
  · rw [if_neg hcc, if_neg (mt hc.mpr hcc)]; exact hgh

theorem Sim.last {x : Option String} : Sim (x = none) (pure x) (pure none) :=
  ⟨⟨fun h => ⟨rfl, Except.ok.inj h⟩, fun h => congrArg _ h.2⟩, nofun, nofun⟩

/-- The rule chain of `validateRevision` (regenerated, from the point where the current contract
has been selected): it accepts iff the hand-written chain accepts and the revision is signed by
the CURRENT keys; it panics (unchecked `Add` of an output sum) iff the hand-written one does. -/
theorem tie_validateRevision_gen (ext : Ext) (ms : MidState) (cur rev : V2FileContract) :
    (validateV2FileContracts_validateRevisionRules ext cur rev ms = .ok none ↔
      (Sia.Ledger.validateRevision (chOf ms) (ephOf ms) cur rev = .ok none ∧
       validateV2FileContracts_validateSignatures ext ms rev cur.RenterPublicKey cur.HostPublicKey = none)) ∧
    ((∃ m, validateV2FileContracts_validateRevisionRules ext cur rev ms = .error m) ↔
      (∃ m, Sia.Ledger.validateRevision (chOf ms) (ephOf ms) cur rev = .error m)) := by
  unfold validateV2FileContracts_validateRevisionRules Sia.Ledger.validateRevision
  -- the ten tests in source order; the fifth (`!Equals`) and the seventh (`&&`) are Boolean on both sides
  exact Sim.bind fun s1 => Sim.bind fun s2 =>
    .reject decide_eq_true_iff <| .reject decide_eq_true_iff <| .reject decide_eq_true_iff <| .reject decide_eq_true_iff <|
    .reject .rfl <| .reject decide_eq_true_iff <| .reject .rfl <| .reject decide_eq_true_iff <|
    .reject decide_eq_true_iff <| .reject decide_eq_true_iff .last

/-- the v2 contract tax does not read the state (the hand-written renewal rule passes a default one) -/
theorem v2tax_state_irrelevant (s s' : State) (fc : V2FileContract) :
    State.V2FileContractTax s fc = State.V2FileContractTax s' fc := by
  unfold State.V2FileContractTax; rfl

/-- The renewal case of `validateV2FileContracts` (regenerated): it accepts iff the hand-written
renewal rules accept, the new contract is signed by its own keys, and the renewal is signed by the
keys of the contract being renewed; it panics iff the hand-written rules do. -/
theorem tie_renewal_gen (ext : Ext) (ms : MidState) (fc : V2FileContract) (r : V2FileContractRenewal) (i : Int) :
    (validateV2FileContracts_renewalRules ext r fc i ms = .ok none ↔
      (Sia.Ledger.validateRenewal (chOf ms) fc r = .ok none ∧
       validateV2FileContracts_validateSignatures ext ms r.NewContract r.NewContract.RenterPublicKey r.NewContract.HostPublicKey = none ∧
       ext.VerifyHash fc.RenterPublicKey (ext.RenewalSigHash ms.base r) r.RenterSignature = true ∧
       ext.VerifyHash fc.HostPublicKey (ext.RenewalSigHash ms.base r) r.HostSignature = true)) ∧
    ((∃ m, validateV2FileContracts_renewalRules ext r fc i ms = .error m) ↔
      (∃ m, Sia.Ledger.validateRenewal (chOf ms) fc r = .error m)) := by
  unfold validateV2FileContracts_renewalRules Sia.Ledger.validateRenewal
  refine Sim.reject decide_eq_true_iff <| Sim.reject decide_eq_true_iff ?_
  refine Sim.bind fun t1 => Sim.bind fun t2 => Sim.bind fun t3 => Sim.bind fun t4 => Sim.reject decide_eq_true_iff ?_
  simp only [v2tax_state_irrelevant ms.base {}]
  refine Sim.bind fun t5 => Sim.bind fun t6 => Sim.bind fun t7 => Sim.bind fun t8 => Sim.reject decide_eq_true_iff ?_
  -- what is left are values: the rules of the new contract (`tie_validateContract_gen`) and the two renewal signatures,
  -- which only the regenerated side checks
  have T := tie_validateContract_gen ext ms r.NewContract
  cases hh : Sia.Ledger.validateContract (chOf ms) r.NewContract <;>
    simp only [Sim, hh, pure, Except.pure, ite_ok_some_eq_ok_none, ite_ok_eq_error, T, decide_eq_true_eq, Decidable.not_not,
      Bool.not_eq_true', Bool.not_eq_false, and_true, true_and, and_false, false_and, reduceCtorEq, exists_false,
      iff_self, Except.ok.injEq]

/-- The expiration case (regenerated): accepted exactly strictly after the expiration height. -/
theorem c07_expiration_gen (ms : MidState) (fc : V2FileContract) (i : Int) :
    validateV2FileContracts_expirationRules ms fc i = none ↔ fc.ExpirationHeight < chOf ms := by
  unfold validateV2FileContracts_expirationRules chOf
  simp only [ite_some_eq_none, decide_eq_true_eq, and_true, Nat.not_le]

/-- The storage-proof case (regenerated): accepted exactly when the window has opened, the proof
index is the contract's proof height and a member of the accumulator, the proof is long enough for
a non-empty file, and the recomputed root is the contract's Merkle root — with the leaf index the
chain derives (`StorageProofLeafIndex` of the file size, the proof-index block id and the contract id). -/
theorem c07_storage_proof_gen (ext : Ext) (ms : MidState) (fc : V2FileContract) (sp : V2StorageProof)
    (fcr : V2FileContractResolution) (i : Int) :
    validateV2FileContracts_storageProofRules ext sp ms fc i fcr = none ↔
      (fc.ProofHeight ≤ chOf ms ∧ sp.ProofIndex.ChainIndex.Height = fc.ProofHeight ∧
       ext.containsChainIndex ms.base.Elements (ChainIndexElement.Share sp.ProofIndex) = true ∧
       (fc.Filesize > 0 →
          ext.storageProofSubtreeHeight
            (ext.StorageProofLeafIndex ms.base fc.Filesize sp.ProofIndex.ChainIndex.ID fcr.Parent.ID) fc.Filesize
            ≤ (sp.Proof.length : Int)) ∧
       ext.storageProofRoot (ext.StorageProofLeafHash ms.base sp.Leaf)
          (ext.StorageProofLeafIndex ms.base fc.Filesize sp.ProofIndex.ChainIndex.ID fcr.Parent.ID)
          fc.Filesize sp.Proof = fc.FileMerkleRoot) := by
  unfold validateV2FileContracts_storageProofRules chOf
  simp only [ite_some_eq_none, decide_eq_true_eq, and_true, Nat.not_lt, Decidable.not_not, Bool.not_eq_true',
    Bool.not_eq_false, Bool.and_eq_true, not_and, Int.not_lt, Int.ofNat_eq_natCast]

/-! ### non-vacuity: the regenerated rules accept and reject concrete contracts -/

/-- an environment in which every signature verifies and every chain index is known (the other membership tests stay
`false`, as in `Ext.trivial`) -/
def extAllOk : Ext :=
  { Ext.trivial with VerifyHash := fun _ _ _ => true, containsChainIndex := fun _ _ => true }

/-- an environment in which no signature verifies -/
def extNoSig : Ext := { extAllOk with VerifyHash := fun _ _ _ => false }

def sampleContract : V2FileContract :=
  { Capacity := 4096, Filesize := 4096, ProofHeight := 10, ExpirationHeight := 20,
    RenterOutput := { Value := { Lo := 5 } }, HostOutput := { Value := { Lo := 7 } },
    MissedHostValue := { Lo := 3 }, TotalCollateral := { Lo := 3 }, RevisionNumber := 1 }

example : validateV2FileContracts_validateContract extAllOk {} sampleContract = none := by rfl
example : validateV2FileContracts_validateContract extNoSig {} sampleContract = some "has invalid renter signature" := by rfl
example : validateV2FileContracts_validateContract extAllOk {} { sampleContract with MissedHostValue := { Lo := 8 } }
    = some "has missed host value (%v) exceeding valid host value (%v)" := by rfl
example : validateV2FileContracts_validateRevisionRules extAllOk sampleContract
    { sampleContract with RevisionNumber := 2, RenterOutput := { Value := { Lo := 4 } }, HostOutput := { Value := { Lo := 8 } } } {}
    = .ok none := by rfl
example : validateV2FileContracts_validateRevisionRules extAllOk sampleContract
    { sampleContract with RevisionNumber := 2, RenterOutput := { Value := { Lo := 4 } } } {}
    = .ok (some "modifies output sum (%v -> %v)") := by rfl
example : ∃ m, validateV2FileContracts_validateRevisionRules extAllOk
    { sampleContract with RenterOutput := { Value := { Lo := 1, Hi := 18446744073709551615 } }, HostOutput := { Value := { Hi := 1 } } }
    sampleContract {} = .error m := by apply Exists.intro; rfl
example : validateV2FileContracts_expirationRules {} sampleContract 0
    = some "file contract expiration %v cannot be submitted until after expiration height (%v) " := by rfl

end C07
