import SiaModel.Text.Policy
import SiaModel.Text.Ident
import SiaProofs.Lemmas.TextBasic
import SiaProofs.Lemmas.TextQuote
import SiaProofs.Lemmas.TextPolicy
/-!
# C20 — Text and JSON forms round-trip and reject corrupted identifiers

Theorems about the hand-written text model `SiaModel/Text/*` (tied to the Go code by
the generated facts `SiaModel.Gen.FactsText` — `tie_*` below — and by the
correspondence run of `harness/props/c20.go`).  Texts are byte lists.

Proved here (text layer):
* plain hex identifiers: round trip; only exact-length, all-hex texts are accepted;
* PublicKey / Account prefix forms; Address with checksum: round trip, exact length,
  and every alteration of a checksum character to another hex value is rejected
  (a body alteration is rejected unless the 48-bit checksum collides: harness sweep);
* Specifier (strconv.Quote/Unquote with UTF-8 decoding, all 2^128 values), UnlockKey,
  ChainIndex, ProtocolVersion, Work: round trip;
* SpendPolicy.String → ParseSpendPolicy: `c20_policy_string_roundtrip`, for every policy
  value; it rests on the two repairs being in the source (`tie_policy_repairs`). The parser
  variants without them (8-bit signature count, F2; no quoted-key step, F3) refuse their own
  output (`c20_policy_string_cex_sigcount`, `c20_policy_string_cex_specifier`), and
  `c20_policy_string_roundtrip_partial` is the form that holds for every variant.

The JSON layer (custom marshalers, the ApplyUpdate/RevertUpdate form — finding F1 — and the
resolution `type` splice) is in `C20Json.lean`, at the level of a value tree.
-/
namespace C20
open Sia.Text

theorem tie_pk_prefix :
    Gen.FactsText.pkPrefixBytes = Gen.FactsText.pkAlgBytes ++ [UInt8.ofNat Gen.FactsText.pkSep]
    ∧ Gen.FactsText.pkPrefix = "ed25519:" ∧ Gen.FactsText.pkSep = 58 := by decide +kernel

theorem tie_account_prefix :
    Gen.FactsText.account4PrefixBytes = Gen.FactsText.account4TrimPrefixBytes
    ∧ Gen.FactsText.account4Prefix = "ed25519:" := by decide +kernel

theorem tie_address_layout :
    Gen.FactsText.addrChecksumLenPrint = Gen.FactsText.addrChecksumLenParse
    ∧ Gen.FactsText.addrBufLen = Gen.FactsText.addrBodyLen + Gen.FactsText.addrChecksumLenParse
    ∧ Gen.FactsText.addrBodyLen = 32 ∧ Gen.FactsText.addrChecksumLenParse = 6 := by decide

theorem tie_id_sizes :
    Gen.FactsText.idSizes = [("Hash256", 32), ("BlockID", 32), ("TransactionID", 32), ("AttestationID", 32),
      ("SiacoinOutputID", 32), ("SiafundOutputID", 32), ("FileContractID", 32), ("Address", 32),
      ("PublicKey", 32), ("Signature", 64), ("Specifier", 16)]
    ∧ Gen.FactsText.rhp4AccountSize = 32 ∧ Gen.FactsText.rhp4ProtocolVersionSize = 3 := by decide +kernel

/-- the tokenizer of ParseSpendPolicy is the one the model was written for -/
theorem tie_policy_tokenizer :
    Gen.FactsText.nextTokenCalls = ["strings.IndexAny", "strings.TrimSpace", "strings.TrimSpace"]
    ∧ Gen.FactsText.tokenDelimsBytes = [40, 41, 44, 91, 93]
    ∧ Gen.FactsText.policyHexTokenLen = 66 ∧ Gen.FactsText.policyHexPrefixBytes = [48, 120] := by decide +kernel

theorem tie_policy_keywords :
    Gen.FactsText.policyKeywords = ["above", "after", "pk", "h", "thresh", "opaque", "uc"]
    ∧ Gen.FactsText.policyPrintLiterals =
      ["0x", "above(", "after(", "pk(", "h(", "thresh(", ",[", "])", "opaque(", "uc(", ",[", "],"] := by decide +kernel

/-- bit sizes the parser uses for heights, thresholds, timelocks and times; for the
    signature count, which the model reads from the source (`goCfg`), this tie allows 8 or
    64 (the printer's width); `tie_policy_repairs` pins it to 64. -/
theorem tie_policy_bits :
    Gen.FactsText.aboveBits = 64 ∧ Gen.FactsText.threshBits = 8 ∧ Gen.FactsText.ucTimelockBits = 64
    ∧ Gen.FactsText.afterBits = 64
    ∧ Gen.FactsText.threshNFieldBits = 8 ∧ Gen.FactsText.ucTimelockFieldBits = 64
    ∧ Gen.FactsText.ucSigFieldBits = 64
    ∧ (Gen.FactsText.ucSigBits = 8 ∨ Gen.FactsText.ucSigBits = 64) := by decide

/-! ## plain hex identifiers (Hash256, BlockID, TransactionID, …, Signature) -/

/-- parse (print v) = v for an identifier of `n` bytes -/
theorem c20_hex_roundtrip (n : Nat) (v : List UInt8) (h : v.length = n) :
    unmarshalHex n (hexEnc v) = some v := by
  simp [unmarshalHex, hexEnc_length, hexDec_hexEnc, h]

example : unmarshalHex 2 (hexEnc [0xab, 0x07]) = some [0xab, 0x07] := by decide

/-- anything accepted has exactly 2n characters, all of them hex digits, and
    denotes n bytes: wrong length or a non-hex character is rejected -/
theorem c20_hex_rejects (n : Nat) (t : Txt) (v : List UInt8) (h : unmarshalHex n t = some v) :
    t.length = 2 * n ∧ (∀ c ∈ t, isHex c = true) ∧ v.length = n := by
  unfold unmarshalHex at h
  split at h
  · simp at h
  · rename_i hlen
    split at h
    · rename_i bs hdec
      split at h
      · simp at h
      · rename_i hn
        simp at h; subst h
        obtain ⟨h1, h2⟩ := hexDec_some hdec
        refine ⟨by omega, h2, by omega⟩
    · simp at h

example : unmarshalHex 2 (ofString "ab0") = none ∧ unmarshalHex 2 (ofString "ab0g") = none
    ∧ unmarshalHex 2 (ofString "ab0700") = none := by decide +kernel

/-! ## PublicKey / Account: "ed25519:" prefix forms -/

theorem alg_no_colon : ∀ x ∈ Gen.FactsText.pkAlgBytes, x ≠ 58 := by decide

/-- `PublicKey` (and rhp/v3 `Account`): round trip, and anything accepted is the
    exact prefix followed by a valid hex body — a missing or different prefix is rejected.
    (`alg` is the algorithm name, without ':' in it — true of the extracted one: `alg_no_colon`.) -/
theorem c20_pk_prefix (alg : Txt) (n : Nat) (halg : ∀ x ∈ alg, x ≠ 58) :
    (∀ k : List UInt8, k.length = n → parsePk alg n (pkString (alg ++ [58]) k) = some k) ∧
    (∀ t k, parsePk alg n t = some k → ∃ body, t = alg ++ 58 :: body ∧ unmarshalHex n body = some k) := by
  constructor
  · intro k hk
    have : pkString (alg ++ [58]) k = alg ++ 58 :: hexEnc k := by simp [pkString]
    rw [this]
    simp [parsePk, splitFirst_append 58 alg (hexEnc k) halg, c20_hex_roundtrip n k hk]
  · intro t k h
    unfold parsePk at h
    split at h
    · simp at h
    · rename_i a rest hs
      split at h
      · rename_i ha
        obtain ⟨h1, _⟩ := splitFirst_some hs
        exact ⟨rest, by rw [h1, ha], h⟩
      · simp at h

example : parsePk Gen.FactsText.pkAlgBytes 2 (ofString "ed25519:ab07") = some [0xab, 0x07]
    ∧ parsePk Gen.FactsText.pkAlgBytes 2 (ofString "ab07") = none
    ∧ parsePk Gen.FactsText.pkAlgBytes 2 (ofString "ed25518:ab07") = none
    ∧ parsePk Gen.FactsText.pkAlgBytes 2 (ofString "ed25519:ab0700") = none := by decide +kernel

/-- rhp/v4 `Account`: parse (print a) = a -/
theorem c20_account_roundtrip (guard : Bool) (pfx : Txt) (n : Nat) (k : List UInt8) (hk : k.length = n) :
    parseAccount4 guard pfx n (pkString pfx k) = .ok k := by
  simp [parseAccount4, pkString, stripPrefix_append, hexDecodeInto_hexEnc k n [] (by omega), hk]

example : parseAccount4 false Gen.FactsText.account4TrimPrefixBytes 2 (ofString "ed25519:ab07") = .ok [0xab, 0x07] := by decide +kernel
/-- without the length guard (`guard = false`) an over-long account text is a run-time panic,
    not a rejection; the source has the guard (`Gen.FactsText.acct4HexGuarded = true`) -/
example : parseAccount4 false Gen.FactsText.account4TrimPrefixBytes 2 (ofString "ed25519:ab0700") = .panic
    ∧ parseAccount4 true Gen.FactsText.account4TrimPrefixBytes 2 (ofString "ed25519:ab0700") = .err := by decide +kernel

/-! ## Address: hex(addr ‖ checksum) -/

/-- parse (print a) = a, for any hash function with at least `ck` bytes of output -/
theorem c20_address_roundtrip (H : List UInt8 → List UInt8) (n ck : Nat) (hH : ∀ x, ck ≤ (H x).length)
    (a : List UInt8) (ha : a.length = n) : parseAddrH H n ck (addrStringH H ck a) = some a := by
  have hck : ((H a).take ck).length = ck := by simp [List.length_take]; exact Nat.min_eq_left (hH a)
  have hlen : (a ++ (H a).take ck).length = n + ck := by simp [ha, hck]
  unfold parseAddrH addrStringH
  rw [hexEnc_length, hexDec_hexEnc, hlen]
  have e1 : (a ++ (H a).take ck).take n = a := by rw [← ha]; simp
  have e2 : (a ++ (H a).take ck).drop n = (H a).take ck := by rw [← ha]; simp
  simp [e1, e2]
  have := hH a
  omega

/-- anything accepted has exactly 2·(n+ck) hex characters and denotes `n` bytes whose
    checksum matches: wrong length and wrong alphabet are rejected -/
theorem c20_address_length (H : List UInt8 → List UInt8) (n ck : Nat) (t : Txt) (a : List UInt8)
    (h : parseAddrH H n ck t = some a) :
    t.length = 2 * (n + ck) ∧ (∀ c ∈ t, isHex c = true) ∧ a.length = n
    ∧ ∃ w, hexDec t = some w ∧ a = w.take n ∧ (H a).take ck = w.drop n := by
  unfold parseAddrH at h
  split at h
  · simp at h
  · rename_i hlen
    split at h
    · simp at h
    · rename_i w hw
      split at h
      · simp at h
      · rename_i hwl
        split at h
        · rename_i hck
          simp at h; subst h
          obtain ⟨h1, h2⟩ := hexDec_some hw
          simp at hlen hwl
          refine ⟨by omega, h2, by simp [List.length_take]; omega, w, hw, rfl, hck⟩
        · simp at h

/-- Altering any one of the 2·ck checksum characters to a character with a different
    hex value (or to a non-hex character) is rejected — always, for every hash `H`.
    (Altering a character of the body is rejected unless the truncated hash collides;
    that part is covered by the exhaustive sweep of the harness, not by a theorem.) -/
theorem c20_address_checksum_part (H : List UInt8 → List UInt8) (n ck : Nat)
    (a : List UInt8) (ha : a.length = n) (j : Nat) (old c' : UInt8)
    (hj : (hexEnc ((H a).take ck))[j]? = some old) (hne : hexVal c' ≠ hexVal old) :
    parseAddrH H n ck ((addrStringH H ck a).set (2 * n + j) c') = none := by
  have hsplit : (addrStringH H ck a).set (2 * n + j) c' = hexEnc a ++ (hexEnc ((H a).take ck)).set j c' := by
    unfold addrStringH
    rw [hexEnc_append, List.set_append]
    have : ¬ (2 * n + j < (hexEnc a).length) := by rw [hexEnc_length, ha]; omega
    simp only [this, if_false]
    rw [hexEnc_length, ha]
    congr 2
    omega
  cases hp : parseAddrH H n ck ((addrStringH H ck a).set (2 * n + j) c') with
  | none => rfl
  | some a' =>
    exfalso
    obtain ⟨_, _, ha', w, hw, hwa, hck⟩ := c20_address_length H n ck _ a' hp
    rw [hsplit, hexDec_append_enc] at hw
    cases hy : hexDec ((hexEnc ((H a).take ck)).set j c') with
    | none => rw [hy] at hw; simp at hw
    | some y =>
      rw [hy] at hw
      simp at hw
      subst hw
      have e1 : (a ++ y).take n = a := by rw [← ha]; simp
      have e2 : (a ++ y).drop n = y := by rw [← ha]; simp
      rw [e1] at hwa
      subst hwa
      rw [e2] at hck
      exact hexDec_set_ne _ _ (hexDec_hexEnc _) j old c' hj hne (by rw [hy, hck])

example : addrStringH (fun _ => [1, 2, 3]) 2 [0xab] = ofString "ab0102"
    ∧ parseAddrH (fun _ => [1, 2, 3]) 1 2 ((addrStringH (fun _ => [1, 2, 3]) 2 [0xab]).set (2 * 1 + 3) 51) = none :=
  ⟨by decide, c20_address_checksum_part _ 1 2 [0xab] rfl 3 50 51 (by decide) (by decide)⟩

theorem blake2b256_size (d : ByteArray) : (Sia.blake2b256 d).size = 32 := by
  simp only [Sia.blake2b256, Sia.Blake2b.pushLe64, ByteArray.size_push, ByteArray.emptyWithCapacity]
  rfl

theorem hashBytes_length (x : List UInt8) : (hashBytes x).length = 32 := by
  unfold hashBytes
  have := blake2b256_size ⟨x.toArray⟩
  rw [ByteArray.size] at this
  rw [Array.length_toList]
  exact this

/-- hypotheses of the address theorems are satisfiable: the real hash and layout -/
example (a : List UInt8) (ha : a.length = 32) :
    parseAddrH hashBytes Gen.FactsText.addrBodyLen Gen.FactsText.addrChecksumLenParse
      (addrStringH hashBytes Gen.FactsText.addrChecksumLenPrint a) = some a :=
  c20_address_roundtrip hashBytes 32 6 (fun x => by rw [hashBytes_length]; decide) a ha

example : parseAddrH (fun _ => [1, 2, 3]) 1 2 (addrStringH (fun _ => [1, 2, 3]) 2 [0xab]) = some [0xab]
    ∧ addrStringH (fun _ => [1, 2, 3]) 2 [0xab] = ofString "ab0102"
    ∧ parseAddrH (fun _ => [1, 2, 3]) 1 2 (ofString "ab0103") = none
    ∧ parseAddrH (fun _ => [1, 2, 3]) 1 2 (ofString "ab010") = none := by decide +kernel

/-! ## ChainIndex, ProtocolVersion, Work -/

/-- `ChainIndex`: parse (MarshalText ci) = ci -/
theorem c20_chainindex_roundtrip (guard : Bool) (n : Nat) (ci : ChainIndex) (hh : ci.height < 2 ^ 64) (hid : ci.id.length = n) :
    parseCi guard n (ciText ci) = .ok ci := by
  unfold parseCi ciText
  have : natToDec ci.height ++ [58, 58] ++ hexEnc ci.id = natToDec ci.height ++ 58 :: 58 :: hexEnc ci.id := by simp
  rw [this, splitSep_append _ _ (digits_ne_colon _)]
  simp only [splitSep_none _ (hex_ne_colon _), parseUint_natToDec 64 _ hh]
  rw [hexDecodeInto_hexEnc _ n [] (by omega)]
  simp [hid]

example : parseCi false 2 (ciText ⟨300, [0xab, 0x07]⟩) = .ok ⟨300, [0xab, 0x07]⟩
    ∧ ciText ⟨300, [0xab, 0x07]⟩ = ofString "300::ab07" := by decide +kernel
/-- without the length guard (`guard = false`) an over-long id is a run-time panic, not a
    rejection; the source has the guard (`Gen.FactsText.ciHexGuarded = true`) -/
example : parseCi false 2 (ofString "300::ab0700") = .panic ∧ parseCi true 2 (ofString "300::ab0700") = .err := by decide +kernel

theorem scanU8_natToDec (a : Nat) (ha : a < 256) (rest : Txt)
    (hr : rest = [] ∨ ∃ c r, rest = c :: r ∧ isDigit c = false) :
    scanU8 (natToDec a ++ rest) = some (a, rest) := by
  have hne := natToDec_ne_nil a
  have hd := natToDec_digits a
  unfold scanU8
  match hq : natToDec a with
  | [] => exact absurd hq hne
  | c :: cs =>
    have hc : isDigit c = true := hd c (by simp [hq])
    simp only [List.cons_append, scanSkip_digit c _ hc]
    have : c :: (cs ++ rest) = natToDec a ++ rest := by rw [hq]; rfl
    rw [this, takeNum_append _ _ hd hr]
    simp [parseUint_natToDec 64 a (by omega), ha]

/-- rhp/v4 `ProtocolVersion`: parse (print v) = v for every three bytes -/
theorem c20_version_roundtrip (a b c : Nat) (ha : a < 256) (hb : b < 256) (hc : c < 256) :
    parseVersion (versionText a b c) = some (a, b, c) := by
  have dot : isDigit 46 = false := by decide
  unfold parseVersion versionText
  simp only [expect, beq_self_eq_true, if_true]
  rw [scanU8_natToDec a ha _ (Or.inr ⟨46, _, rfl, dot⟩)]
  simp only [beq_self_eq_true, if_true]
  rw [scanU8_natToDec b hb _ (Or.inr ⟨46, _, rfl, dot⟩)]
  simp only [beq_self_eq_true, if_true]
  have : natToDec c = natToDec c ++ [] := by simp
  rw [this, scanU8_natToDec c hc [] (Or.inl rfl)]

example : parseVersion (versionText 1 22 255) = some (1, 22, 255)
    ∧ versionText 1 22 255 = ofString "v1.22.255" ∧ parseVersion (ofString "v1.22.256") = none := by decide +kernel

/-- `consensus.Work`: parse (print w) = w for every 256-bit value -/
theorem c20_work_roundtrip (n : Nat) (h : n < 2 ^ 256) : parseWork (workText n) = some n := by
  simp [parseWork, workText, natToDec_ne_nil, parseDigits_natToDec, h]

example : parseWork (workText (2 ^ 255 + 12345)) = some (2 ^ 255 + 12345) :=
  c20_work_roundtrip _ (by decide)

/-! ## Specifier (quoting rule) and UnlockKey -/

/-- `Specifier`: parse (print s) = s for ALL 2^128 values — non-alphanumeric bytes,
    interior zero bytes, quotes, backslashes, control characters, valid and invalid
    UTF-8 — and for every IsPrint table `hi` (see Quote.lean). -/
theorem c20_specifier_roundtrip (hi : Nat → Bool) (n : Nat) (s : List UInt8) (hs : s.length = n) :
    parseSpec n (specString hi s) = some s :=
  parseSpec_specString hi n s hs

/-- the underlying library fact: `strconv.Unquote (strconv.Quote b) = b` for every byte string -/
theorem c20_unquote_quote (hi : Nat → Bool) (b : Txt) : unquote (quote hi b) = some b :=
  unquote_quote hi b

example : specString (fun _ => false) [97, 34, 0, 255, 10, 0xc3, 0xa9, 0, 0] = ofString "\"a\\\"\\x00\\xff\\né\""
    ∧ parseSpec 9 (specString (fun _ => false) [97, 34, 0, 255, 10, 0xc3, 0xa9, 0, 0]) = some [97, 34, 0, 255, 10, 0xc3, 0xa9, 0, 0]
    ∧ specString (fun _ => false) [101, 100, 0, 0] = ofString "ed"
    ∧ parseSpec 4 (ofString "\"toolong\"") = none := by decide +kernel

/-- `UnlockKey`: parse (print k) = k, for any key length and any algorithm specifier -/
theorem c20_unlockkey_roundtrip (hi : Nat → Bool) (n : Nat) (uk : UnlockKey) (h : uk.alg.length = n) :
    parseUk n (ukText hi uk) = some uk :=
  parseUk_ukText hi n uk h

example : ukText (fun _ => false) ⟨[97, 58, 98, 0], [0xab]⟩ = ofString "\"a:b\":ab"
    ∧ parseUk 4 (ukText (fun _ => false) ⟨[97, 58, 98, 0], [0xab]⟩) = some ⟨[97, 58, 98, 0], [0xab]⟩ := by decide +kernel

/-! ## SpendPolicy.String / ParseSpendPolicy -/

/-- no rune above U+00FF is printable: enough for texts without such runes -/
def hi0 : Nat → Bool := fun _ => false

/-- the parser configuration read from the source has the shape the proofs are written for
    (delimiter set "(),[]", 64-bit heights and timelocks, 8-bit thresholds, 16-byte
    specifiers); signature-count width and the quoted-key step are left to the source -/
theorem tie_policy_cfg (hi : Nat → Bool) : CfgStd (goCfg hi) :=
  ⟨rfl, rfl, rfl, rfl, rfl⟩

/-- the unlock-key reader is the one the model was written for -/
theorem tie_policy_unlockkey_shape :
    (Gen.FactsText.ukQuotedPrefix = true ∧ Gen.FactsText.parseUnlockKeyCalls =
      ["len", "nextToken", "strconv.QuotedPrefix", "strings.HasPrefix", "strings.TrimSpace", "uk.UnmarshalText"])
    ∨ (Gen.FactsText.ukQuotedPrefix = false ∧ Gen.FactsText.parseUnlockKeyCalls = ["nextToken", "uk.UnmarshalText"]) := by
  decide +kernel

/-- BOTH repairs are in the source: the `uc` signature count is read with the printer's 64
    bits (F2) and a quoted key specifier is lifted off the input before tokenizing (F3).
    A regression of either breaks this tie (and with it `c20_policy_string_roundtrip`). -/
theorem tie_policy_repairs : Gen.FactsText.ucSigBits = 64 ∧ Gen.FactsText.ukQuotedPrefix = true := by decide

/-- `ParseSpendPolicy(p.String()) = p` for EVERY policy value: all seven kinds, nested
    thresholds, 64-bit counts, and `uc` keys with any algorithm specifier (quoted,
    with delimiters, quotes, backslashes, arbitrary bytes) and any key length.
    (`After` times are Unix seconds; `hi` is the IsPrint table, arbitrary.) -/
theorem c20_policy_string_roundtrip (hi : Nat → Bool) (p : Policy) (hwf : p.WF) :
    parsePolicy (goCfg hi) (Policy.str hi p) = some p := by
  have hsig : p.SigFits (goCfg hi).ucSigBits := by
    show p.SigFits Gen.FactsText.ucSigBits
    rw [tie_policy_repairs.1]; exact sigFits_of_wf p hwf
  exact parsePolicy_str (tie_policy_cfg hi) hi p hwf hsig (Or.inl tie_policy_repairs.2)

/-- The same for any configuration of the standard shape, with the weakest side
    conditions: (F2) every `uc` count fits the bit size the parser uses; (F3) the parser
    has the quoted-key step OR no key text contains a delimiter.  This form also holds of a
    parser with an 8-bit signature count and no quoted-key step. -/
theorem c20_policy_string_roundtrip_partial (cfg : Cfg) (hc : CfgStd cfg) (hi : Nat → Bool) (p : Policy)
    (hwf : p.WF) (hsig : p.SigFits cfg.ucSigBits) (hkeys : cfg.quotedKeys = true ∨ p.KeysSafe hi) :
    parsePolicy cfg (Policy.str hi p) = some p :=
  parsePolicy_str hc hi p hwf hsig hkeys

/-- 64 bits make exclusion F2 vacuous -/
theorem c20_policy_string_sigfits_64 (p : Policy) (hwf : p.WF) : p.SigFits 64 := sigFits_of_wf p hwf

/-- exclusion F3 only bites for quoted specifiers: alphanumeric algorithm names are always safe -/
theorem c20_policy_string_keys_safe_alnum (hi : Nat → Bool) (tl sg : Nat) (ks : List UnlockKey)
    (h : ∀ k ∈ ks, (trimZeros k.alg).all isAlnum = true) : (Policy.uc tl ks sg).KeysSafe hi := by
  intro k hk
  exact ukText_safe_of_alnum hi k (h k hk)

/-! ### F2, F3: the parser variants without the two repairs -/

/-- `uc(0,[],300)`: 300 signatures required -/
def polSig300 : Policy := .uc 0 [] 300

/-- `uc(0,["a,b":01],1)`: a key whose algorithm specifier is "a,b" -/
def polSpecComma : Policy := .uc 0 [⟨[97, 44, 98, 0, 0, 0, 0, 0, 0, 0, 0, 0, 0, 0, 0, 0], [1]⟩] 1

theorem polSig300_str : Policy.str hi0 polSig300 = ofString "uc(0,[],300)" := by decide +kernel
theorem polSpecComma_str : Policy.str hi0 polSpecComma = ofString "uc(0,[\"a,b\":01],1)" := by decide +kernel

theorem cex_sigcount_8 (q : Bool) : (parsePolicy (goCfgWith 8 q hi0) (Policy.str hi0 polSig300)).isNone = true := by
  cases q <;> decide

/-- F2. Whenever the parser reads the `uc` signature count with 8 bits (the generated
    fact), the printed form of a policy requiring 300 signatures is refused.  Conditional
    on the fact, and vacuous: the source says 64 (`tie_policy_repairs`). -/
theorem c20_policy_string_cex_sigcount (h : Gen.FactsText.ucSigBits = 8) :
    (parsePolicy (goCfg hi0) (Policy.str hi0 polSig300)).isNone = true := by
  unfold goCfg
  rw [h]
  exact cex_sigcount_8 _

/-- F3. Without the quoted-key step the tokenizer (cut at the first of "(),[]", unaware of
    quotes) splits inside the quoted specifier "a,b" and the parser refuses its own output,
    whatever the signature-count width; with the step it reads it back. -/
theorem c20_policy_string_cex_specifier :
    (parsePolicy (goCfgWith 8 false hi0) (Policy.str hi0 polSpecComma)).isNone = true
    ∧ (parsePolicy (goCfgWith 64 false hi0) (Policy.str hi0 polSpecComma)).isNone = true
    ∧ (parsePolicy (goCfgWith 64 true hi0) (Policy.str hi0 polSpecComma)).isSome = true := by decide +kernel

/-- F3 conditional on the generated fact `ukQuotedPrefix = false`; vacuous: the source has
    the quoted-key step (`tie_policy_repairs`) -/
theorem c20_policy_string_cex_specifier_src (h : Gen.FactsText.ukQuotedPrefix = false) :
    (parsePolicy (goCfg hi0) (Policy.str hi0 polSpecComma)).isNone = true := by
  unfold goCfg
  rw [h]
  rcases tie_policy_bits.2.2.2.2.2.2.2 with h8 | h64
  · rw [h8]; exact c20_policy_string_cex_specifier.1
  · rw [h64]; exact c20_policy_string_cex_specifier.2.1

/-- hypotheses are satisfiable by a non-trivial policy: a threshold over every kind,
    including a `uc` with 2^40 required signatures, a quoted specifier containing
    delimiters, a quote and a space, and an empty key -/
def polDemo : Policy :=
  .thresh 2 (.cons (.above 100) (.cons (.after (-5)) (.cons (.pk (List.replicate 32 7))
    (.cons (.uc 9 [⟨[101, 100, 50, 53, 53, 49, 57, 0, 0, 0, 0, 0, 0, 0, 0, 0], [1, 2]⟩,
                    ⟨[97, 32, 34, 98, 44, 40, 93, 0, 0, 0, 0, 0, 0, 0, 0, 0], []⟩] 1099511627776)
      (.cons (.thresh 0 .nil) .nil)))))

theorem polDemo_wf : polDemo.WF := by
  simp [polDemo, Policy.WF, PolicyList.WF]

example : parsePolicy (goCfg hi0) (Policy.str hi0 polDemo) = some polDemo :=
  c20_policy_string_roundtrip hi0 polDemo polDemo_wf

end C20
