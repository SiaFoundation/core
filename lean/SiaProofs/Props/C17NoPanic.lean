import SiaProofs.Props.C17Renew
namespace C17
open Gen.Types Gen.Rhp4 C15

/-!
# C17 — the renewal/refresh constructors do not panic on good contracts when the values fit (hypotheses `fits…`)

Together with `c17_pay_no_panic`, `c17_new_contract_no_panic`, `c17_contract_cost_no_panic`,
`c17_renewal_cost_no_panic`, `c17_refresh_cost_no_panic`.  Each is `Checked.returns` applied to the constructor's `…_checked` theorem
(`C17Renew`), whose precondition lists the checks that can fail: every `Sub` of the refresh constructors is covered by
the constructor invariant `Inv` (missed ≤ total ≤ host output), those of `RenewContract` by `host rollover ≤ old total
collateral ≤ old host output`.
-/

theorem cmp_gt_decide {a b : Currency} (ha : WF a) (hb : WF b) :
    decide (a.Cmp b > 0) = decide (val b < val a) := by
  rw [decide_eq_decide]; exact cmp_gt ha hb

/-- **RefreshContractFullRollover never panics** on a contract satisfying the constructor
invariant when the new values fit in 128 bits. -/
theorem c17_refresh_full_no_panic (fc : V2FileContract) (p : HostPrices) (addr : ByteArray) (rp : RPCRefreshContractParams)
    (hfc : FCWF fc) (hp : PricesWF p) (ha : WF rp.Allowance) (hc : WF rp.Collateral) (inv : Inv fc)
    (fits1 : val fc.RenterOutput.Value + val rp.Allowance < W2)
    (fits2 : val fc.HostOutput.Value + val rp.Collateral + val p.ContractPrice < W2) :
    ∃ r, RefreshContractFullRollover fc p addr rp = .ok r :=
  have i1 := inv.missed_le_total
  have i2 := inv.total_le_host
  (refresh_full_checked fc p addr rp hfc hp ha hc).returns ⟨fits1, by omega, fits2, by omega, by omega, by omega⟩

/-- **RefreshContractPartialRollover never panics** on a contract satisfying the constructor
invariant when the new values fit. -/
theorem c17_refresh_partial_no_panic (fc : V2FileContract) (p : HostPrices) (addr : ByteArray) (rp : RPCRefreshContractParams)
    (hfc : FCWF fc) (hp : PricesWF p) (ha : WF rp.Allowance) (hc : WF rp.Collateral) (inv : Inv fc)
    (fits1 : val rp.Allowance + val p.ContractPrice < W2)
    (fits2 : val fc.HostOutput.Value + val rp.Collateral + val p.ContractPrice < W2) :
    ∃ r, RefreshContractPartialRollover fc p addr rp = .ok r :=
  have i1 := inv.missed_le_total
  have i2 := inv.total_le_host
  (refresh_partial_checked fc p addr rp hfc hp ha hc).returns ⟨i2, i1, by omega, by omega, fits1⟩

/-- **RenewContract never panics** when total collateral ≤ host output (constructor
invariant) and the priced quantities fit in 128 bits (`fits…`: the Go code panics by design
on `Mul64`/`Add` overflow; both the partial products and the full ones are listed because
`Mul64` is applied left to right).  `dur`/`ext` are the `uint64` differences exactly as the
code computes them (`ExpirationHeight − prices.TipHeight`, `… − fc.ExpirationHeight`). -/
theorem c17_renew_no_panic (fc : V2FileContract) (p : HostPrices) (addr : ByteArray) (rp : RPCRenewContractParams)
    (hfc : FCWF fc) (hp : PricesWF p) (ha : WF rp.Allowance) (hc : WF rp.Collateral)
    (hph : rp.ProofHeight + 144 < W)
    (htc : val fc.TotalCollateral ≤ val fc.HostOutput.Value)
    (dur ext : Nat)
    (hdur : (rp.ProofHeight + 144 + W - p.TipHeight) % W = dur)
    (hext : (rp.ProofHeight + 144 + W - fc.ExpirationHeight) % W = ext)
    (fits1 : val p.Collateral * fc.Filesize < W2) (fits2 : val p.Collateral * fc.Filesize * dur < W2)
    (fits3 : val p.StoragePrice * fc.Filesize < W2) (fits4 : val p.StoragePrice * fc.Filesize * ext < W2)
    (fits5 : val rp.Collateral + val p.Collateral * fc.Filesize * dur
              + val p.StoragePrice * fc.Filesize * ext + val p.ContractPrice < W2) :
    ∃ r, RenewContract fc p addr rp = .ok r :=
  (renew_checked fc p addr rp hfc hp ha hc hph dur ext hdur hext).returns
    ⟨fits1, fits2, Nat.lt_of_le_of_lt (Nat.le_add_right _ _) (Nat.lt_of_le_of_lt (Nat.le_add_right _ _) fits5), fits3, fits4,
      Nat.lt_of_le_of_lt (Nat.le_add_right _ _) fits5, fits5, Nat.le_trans (Nat.min_le_left _ _) htc⟩

end C17
