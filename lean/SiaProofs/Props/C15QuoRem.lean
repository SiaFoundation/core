import SiaProofs.Props.C15
import SiaProofs.Lemmas.GoLoops
/-!
# C15 (continued) — `Currency.quoRem`, `Div`, `Div64` are exact 128-bit Euclidean division

Stated about the generated `Gen.Types.Currency.quoRem` (from `types/currency.go`); `c15_div64` is in `Props/C15`.

Proof outline for the `v.Hi ≠ 0` branch (`c15_quoRem_hi`): with `b = log2 v.Hi`, `n = 63 - b`,
`P = 2^(b+1)`, the normalized top limb is `D = ⌊val v / P⌋ ≥ 2^63` (`v1hi_eq`, `v1hi_facts`),
`u1 = ⌊val c / 2⌋` (`u1_eq`), so the trial quotient is `T = ⌊val c / (D·P)⌋` with
`D·P ≤ val v < D·P + P`.  `trial_upper` gives `val c < (T+1)·val v`, `trial_lower` gives
`(T-1)·val v ≤ val c`; hence after the decrement the tail (`qrTail_checked`) neither overflows in
`Mul64` nor underflows in `Sub`, and a single correction step leaves `r < v`.
-/
namespace C15
open Gen.Types

/-- the part of `quoRem` after the trial quotient `tq` has been fixed. `qrTail`, `qrDec`, `qrV1Hi`, `qrU1Lo` are pieces of the
generated `Currency.quoRem` (`SiaModel/Gen/CodeTypes.lean`) copied as the translator prints them, temporaries included; `quoRem_hi`
ties them to it by `rfl`, so when `quoRem` changes in `types/currency.go` that `rfl` fails and the pieces are to be copied again. -/
def qrTail (c v : Currency) (tq : Nat) : Except String (Currency × Currency) := do
  let q := (Gen.Types.NewCurrency64 tq)
  let t_7 ← Gen.Types.Currency.Mul64 v tq
  let t_8 ← Gen.Types.Currency.Sub c t_7
  let r := t_8
  if (decide ((Gen.Types.Currency.Cmp r v) ≥ (0 : Int))) then do
    let q := { q with Lo := ((q.Lo + (1 : Nat)) % 18446744073709551616) }
    let q := if (decide (q.Lo = (0 : Nat))) then
        let q := { q with Hi := ((q.Hi + (1 : Nat)) % 18446744073709551616) }
        q
      else
        q
    let t_9 ← Gen.Types.Currency.Sub r v
    let r := t_9
    pure (q, r)
  else do
    pure (q, r)

/-- `if tq != 0 { tq-- }` on uint64 -/
def qrDec (tq : Nat) : Nat := if (decide (tq ≠ (0 : Nat))) then (tq + W - 1) % W else tq

def qrV1Hi (v : Currency) (n : Int) : Nat :=
  ((v.Hi <<< (Int.toNat n)) % W) ||| (v.Lo >>> (Int.toNat ((64 : Int) - n)))
def qrU1Lo (c : Currency) : Nat := (c.Lo >>> 1) ||| ((c.Hi <<< 63) % W)

theorem quoRem_hi (c v : Currency) (h : v.Hi ≠ 0) :
    c.quoRem v =
      (Go.bits_Div64 (c.Hi >>> 1) (qrU1Lo c) (qrV1Hi v (Go.bits_LeadingZeros64 v.Hi))) >>= fun t =>
        qrTail c v (qrDec (t.1 >>> (Int.toNat ((63 : Int) - Go.bits_LeadingZeros64 v.Hi)))) := by
  unfold Currency.quoRem
  simp only [h, decide_false, Bool.false_eq_true, if_false]
  rfl

theorem quoRem_lo (c v : Currency) (h : v.Hi = 0) :
    c.quoRem v = (c.quoRem64 v.Lo) >>= fun t => pure (t.1, NewCurrency64 t.2) := by
  unfold Currency.quoRem
  simp only [h, decide_true, if_true]


/-- the `q++` with carry into `Hi` -/
def qrInc (tq : Nat) : Currency :=
  if decide ((tq + 1) % W = 0) = true then { Lo := (tq + 1) % W, Hi := (0 + 1) % W }
  else { Lo := (tq + 1) % W, Hi := 0 }

theorem qrInc_spec (tq : Nat) (ht : tq < W) : WF (qrInc tq) ∧ val (qrInc tq) = tq + 1 := by
  unfold qrInc
  by_cases h : (tq + 1) % W = 0
  · simp only [h, decide_true, if_true, WF, val]; omega
  · simp only [h, decide_false, Bool.false_eq_true, if_false, WF, val]; omega

theorem qrTail_checked (c v : Currency) (tq : Nat) (hc : WF c) (hv : WF v) (ht : tq < W) :
    Checked (qrTail c v tq) (tq * val v ≤ val c) fun r =>
      WF r.1 ∧ WF r.2 ∧ val r.1 * val v + val r.2 = val c ∧ (val c < (tq + 2) * val v → val r.2 < val v) := by
  have hcl := val_lt hc
  have hcomm : tq * val v = val v * tq := Nat.mul_comm _ _
  unfold qrTail
  refine ((c15_mul64_panics_iff hv.is ht).bind fun s is =>
    (c15_sub_panics_iff hc.is is).bind (Q := True) fun d id => ?_).conv
      ⟨fun h => ⟨by omega, by omega, trivial⟩, fun h => by omega⟩ fun _ h => h
  have e2 : (tq + 2) * val v = val v * tq + val v + val v := by rw [Nat.add_mul, hcomm]; omega
  have hge : decide (d.Cmp v ≥ 0) = true ↔ val v ≤ val d := decide_eq_true_iff.trans (cmp_ge id.1.wf hv)
  have vd := id.1.eq
  have hs := id.2
  by_cases hcmp : val v ≤ val d
  · obtain ⟨wfq, vq⟩ := qrInc_spec tq ht
    rw [if_pos (hge.mpr hcmp)]
    exact (c15_sub_panics_iff id.1.wf.is hv.is).bind_of hcmp fun e ie =>
      .pure (a := (qrInc tq, e)) ⟨wfq, ie.1.wf, by rw [vq, Nat.add_mul, hcomm, ie.1.eq]; omega,
        fun hlt => by show val e < val v; rw [ie.1.eq]; omega⟩
  · rw [if_neg fun h => hcmp (hge.mp h)]
    exact .pure ⟨⟨ht, show (0 : Nat) < W by decide⟩, id.1.wf,
      by show (0 * W + tq) * val v + val d = val c; rw [Nat.zero_mul, Nat.zero_add, hcomm]; omega,
      fun _ => Nat.lt_of_not_le hcmp⟩

theorem qrDec_lt (tq : Nat) : qrDec tq < W := by
  unfold qrDec
  by_cases h : tq = 0
  · simp [h]
  · simp only [ne_eq, h, not_false_eq_true, decide_true, if_true]; omega

/-- Division by zero panics. -/
theorem c15_quoRem_zero (c : Currency) (_hc : WF c) :
    ∃ e, c.quoRem ({ Lo := 0, Hi := 0 } : Currency) = .error e := by
  rw [quoRem_lo c _ rfl]
  obtain ⟨e, he⟩ := c15_quoRem64_zero c
  show ∃ e, (c.quoRem64 0 >>= _) = _
  rw [he]
  exact ⟨e, rfl⟩

/-- The 64-bit-divisor branch is exact Euclidean division. -/
theorem c15_quoRem_lo (c v : Currency) (hc : WF c) (hv : WF v) (h : v.Hi = 0) (h0 : v.Lo ≠ 0) :
    ∃ q r, c.quoRem v = .ok (q, r) ∧ WF q ∧ WF r ∧ val q * val v + val r = val c ∧ val r < val v := by
  rw [quoRem_lo c v h]
  obtain ⟨q, r, e, wfq, hdec, hlt⟩ := c15_quoRem64 c v.Lo hc hv.1 h0
  rw [e]
  have vv : val v = v.Lo := by unfold val; rw [h, Nat.zero_mul, Nat.zero_add]
  have vr : val (NewCurrency64 r) = r := by show 0 * W + r = r; rw [Nat.zero_mul, Nat.zero_add]
  refine ⟨q, NewCurrency64 r, rfl, wfq, ?_, ?_, ?_⟩
  · have := hv.1
    exact ⟨by show r < W; omega, by show (0:Nat) < W; omega⟩
  · rw [vv, vr]; exact hdec
  · rw [vv, vr]; exact hlt

theorem lz_spec (hi : Nat) (h0 : hi ≠ 0) (hW : hi < W) :
    ∃ b, b < 64 ∧ 2 ^ b ≤ hi ∧ hi < 2 ^ (b + 1) ∧
      Int.toNat (Go.bits_LeadingZeros64 hi) = 63 - b ∧
      Int.toNat ((64 : Int) - Go.bits_LeadingZeros64 hi) = b + 1 ∧
      Int.toNat ((63 : Int) - Go.bits_LeadingZeros64 hi) = b := by
  refine ⟨Nat.log2 hi, ?_, Nat.log2_self_le h0, Nat.lt_log2_self, ?_⟩
  · exact (Nat.log2_lt h0).mpr hW
  · have hb : Nat.log2 hi < 64 := (Nat.log2_lt h0).mpr hW
    simp only [Go.bits_LeadingZeros64, Go.bits_Len64, h0, if_false, Int.ofNat_eq_natCast]
    generalize Nat.log2 hi = b at *
    clear hW h0
    omega

theorem v1hi_eq (hi lo b : Nat) (hlo : lo < W) (hb : b < 64) (h2 : hi < 2 ^ (b + 1)) :
    (hi <<< (63 - b)) % W ||| (lo >>> (b + 1)) = hi * 2 ^ (63 - b) + lo / 2 ^ (b + 1) := by
  have hMP : 2 ^ (b + 1) * 2 ^ (63 - b) = W := by
    rw [← Nat.pow_add]
    have : b + 1 + (63 - b) = 64 := by omega
    rw [this]
  have hMpos : 0 < 2 ^ (63 - b) := Nat.two_pow_pos _
  have hPpos : 0 < 2 ^ (b + 1) := Nat.two_pow_pos _
  have e1 : hi <<< (63 - b) < W := by
    rw [Nat.shiftLeft_eq, ← hMP]
    exact Nat.mul_lt_mul_of_pos_right h2 hMpos
  rw [Nat.mod_eq_of_lt e1, Nat.shiftRight_eq_div_pow]
  have e2 : lo / 2 ^ (b + 1) < 2 ^ (63 - b) := by
    rw [Nat.div_lt_iff_lt_mul hPpos, Nat.mul_comm, hMP]
    exact hlo
  rw [← Nat.shiftLeft_add_eq_or_of_lt e2, Nat.shiftLeft_eq]


theorem v1hi_facts (hi lo b : Nat) (hb : b < 64) (h1 : 2 ^ b ≤ hi) :
    let D := hi * 2 ^ (63 - b) + lo / 2 ^ (b + 1)
    let P := 2 ^ (b + 1)
    2 ^ 63 ≤ D ∧ D * P ≤ hi * W + lo ∧ hi * W + lo < D * P + P ∧ (P = 2 ∨ 4 ≤ P) := by
  intro D P
  have hMP : 2 ^ (63 - b) * P = W := by
    show 2 ^ (63 - b) * 2 ^ (b + 1) = W
    rw [← Nat.pow_add]
    have : 63 - b + (b + 1) = 64 := by omega
    rw [this]
  have hPpos : 0 < P := Nat.two_pow_pos _
  have hDP : D * P = hi * W + lo / P * P := by
    show (hi * 2 ^ (63 - b) + lo / P) * P = _
    rw [Nat.add_mul, Nat.mul_assoc, hMP]
  have hdm := Nat.div_add_mod lo P
  have hml := Nat.mod_lt lo hPpos
  have hcomm : P * (lo / P) = lo / P * P := Nat.mul_comm _ _
  refine ⟨?_, ?_, ?_, ?_⟩
  · have : 2 ^ b * 2 ^ (63 - b) = 2 ^ 63 := by
      rw [← Nat.pow_add]
      have : b + (63 - b) = 63 := by omega
      rw [this]
    have h3 : 2 ^ b * 2 ^ (63 - b) ≤ hi * 2 ^ (63 - b) := Nat.mul_le_mul_right _ h1
    rw [this] at h3
    exact Nat.le_trans h3 (Nat.le_add_right _ _)
  · rw [hDP]; omega
  · rw [hDP]; omega
  · show 2 ^ (b + 1) = 2 ∨ 4 ≤ 2 ^ (b + 1)
    rcases Nat.eq_zero_or_pos b with hb0 | hb0
    · left; rw [hb0]
    · right
      have : 2 ^ 2 ≤ 2 ^ (b + 1) := Nat.pow_le_pow_right (by omega) (by omega)
      exact this

theorem u1_eq (hi lo : Nat) (hlo : lo < W) :
    (hi >>> 1) * W + ((lo >>> 1) ||| ((hi <<< 63) % W)) = (hi * W + lo) / 2 := by
  have e : (hi <<< 63) % W = (hi % 2) <<< 63 := by
    rw [Nat.shiftLeft_eq, Nat.shiftLeft_eq]; omega
  have e2 : lo >>> 1 < 2 ^ 63 := by
    rw [Nat.shiftRight_eq_div_pow]; omega
  rw [e, Nat.or_comm, ← Nat.shiftLeft_add_eq_or_of_lt e2, Nat.shiftLeft_eq,
    Nat.shiftRight_eq_div_pow, Nat.shiftRight_eq_div_pow]
  omega

theorem trial_upper (C V V' : Nat) (h0 : 0 < V') (h1 : V' ≤ V) : C < (C / V' + 1) * V := by
  have := Nat.lt_mul_div_succ C h0
  rw [Nat.mul_comm] at this
  exact Nat.lt_of_lt_of_le this (Nat.mul_le_mul_left _ h1)

theorem trial_lower (C V D P k : Nat) (hC : C < W2) (hD : 2 ^ 63 ≤ D) (hP : P = 2 ∨ 4 ≤ P)
    (h2 : V < D * P + P) (hT : (k + 1) * (D * P) ≤ C) : k * V ≤ C := by
  have hE : V ≤ D * P + (P - 1) := by omega
  have hkE : k * (P - 1) ≤ D * P := by
    rcases hP with hP | hP
    · subst hP
      have a1 : (k + 1) * W ≤ (k + 1) * (D * 2) := Nat.mul_le_mul_left _ (by omega)
      show k * 1 ≤ D * 2
      omega
    · have a0 : 2 ^ 63 * 4 ≤ D * P := Nat.mul_le_mul hD hP
      have a1 : (k + 1) * (2 ^ 63 * 4) ≤ (k + 1) * (D * P) := Nat.mul_le_mul_left _ a0
      have a2 : k ≤ D := by omega
      exact Nat.mul_le_mul a2 (Nat.sub_le _ _)
  calc k * V ≤ k * (D * P + (P - 1)) := Nat.mul_le_mul_left _ hE
    _ = k * (D * P) + k * (P - 1) := Nat.mul_add _ _ _
    _ ≤ k * (D * P) + D * P := Nat.add_le_add_left hkE _
    _ = (k + 1) * (D * P) := (Nat.succ_mul _ _).symm
    _ ≤ C := hT

theorem c15_quoRem_hi (c v : Currency) (hc : WF c) (hv : WF v) (hhi : v.Hi ≠ 0) :
    ∃ q r, c.quoRem v = .ok (q, r) ∧ WF q ∧ WF r ∧ val q * val v + val r = val c ∧ val r < val v := by
  obtain ⟨b, hb, hb1, hb2, hn, hn64, hn63⟩ := lz_spec v.Hi hhi hv.2
  rw [quoRem_hi c v hhi]
  have hD : qrV1Hi v (Go.bits_LeadingZeros64 v.Hi) = v.Hi * 2 ^ (63 - b) + v.Lo / 2 ^ (b + 1) := by
    unfold qrV1Hi; rw [hn, hn64]; exact v1hi_eq v.Hi v.Lo b hv.1 hb hb2
  obtain ⟨f1, f2, f3, f4⟩ := v1hi_facts v.Hi v.Lo b hb hb1
  rw [hD, hn63]
  clear hD hn hn64 hn63 hb2
  have hV : v.Hi * W + v.Lo = val v := rfl
  rw [hV] at f2 f3
  generalize v.Hi * 2 ^ (63 - b) + v.Lo / 2 ^ (b + 1) = D at *
  have hPb : 2 * 2 ^ b = 2 ^ (b + 1) := by rw [Nat.pow_succ, Nat.mul_comm]
  generalize 2 ^ (b + 1) = P at *
  have hu : c.Hi >>> 1 < D := by
    have := hc.2
    rw [Nat.shiftRight_eq_div_pow]; omega
  rw [GoWords.bits_Div64_ok hu, GoLoops.ok_bind]
  simp only []
  have hU : (c.Hi >>> 1) * W + qrU1Lo c = val c / 2 := u1_eq c.Hi c.Lo hc.1
  rw [hU, Nat.shiftRight_eq_div_pow, Nat.div_div_eq_div_mul, Nat.div_div_eq_div_mul,
    Nat.mul_left_comm, hPb]
  have hcl := val_lt hc
  have hDPW : W ≤ D * P := by
    have : 2 ^ 63 * 2 ≤ D * P := Nat.mul_le_mul f1 (by omega)
    omega
  have hDPpos : 0 < D * P := by omega
  have hup := trial_upper (val c) (val v) (D * P) hDPpos f2
  have hTV : val c / (D * P) * (D * P) ≤ val c := Nat.div_mul_le_self _ _
  generalize val c / (D * P) = T at *
  have hTW : T < W := by
    have a1 : T * W ≤ T * (D * P) := Nat.mul_le_mul_left _ hDPW
    clear f1 f2 f3 f4 hup hu
    omega
  have hspec := qrTail_checked c v (qrDec T) hc hv (qrDec_lt T)
  have hdec : qrDec T * val v ≤ val c ∧ val c < (qrDec T + 2) * val v := by
    rcases Nat.eq_zero_or_pos T with hT0 | hTpos
    · subst hT0
      have : qrDec 0 = 0 := rfl
      rw [this]
      clear hspec
      omega
    · obtain ⟨k, rfl⟩ : ∃ k, T = k + 1 := ⟨T - 1, by omega⟩
      have : qrDec (k + 1) = k := by
        unfold qrDec
        simp only [ne_eq, Nat.add_one_ne_zero, not_false_eq_true, decide_true, if_true]
        omega
      rw [this]
      refine ⟨trial_lower (val c) (val v) D P k hcl f1 f4 f3 hTV, ?_⟩
      have : (k + 1 + 1) * val v ≤ (k + 2) * val v := Nat.le_refl _
      exact Nat.lt_of_lt_of_le hup this
  obtain ⟨⟨q, r⟩, hok, wfq, wfr, hval, hlt⟩ := hspec.ok hdec.1
  exact ⟨q, r, hok, wfq, wfr, hval, hlt hdec.2⟩

/-- `quoRem` is total for a non-zero divisor and is exact Euclidean division on 128-bit values. -/
theorem c15_quoRem (c v : Currency) (hc : WF c) (hv : WF v) (hv0 : val v ≠ 0) :
    ∃ q r, c.quoRem v = .ok (q, r) ∧ WF q ∧ WF r ∧ val q * val v + val r = val c ∧ val r < val v := by
  by_cases hhi : v.Hi = 0
  · have hlo : v.Lo ≠ 0 := by
      intro h
      apply hv0
      unfold val
      rw [hhi, h]
    exact c15_quoRem_lo c v hc hv hhi hlo
  · exact c15_quoRem_hi c v hc hv hhi

/-- Whatever `quoRem` returns is an exact decomposition `c = q*v + r`. -/
theorem c15_quoRem_partial (c v q r : Currency) (hc : WF c) (hv : WF v)
    (h : c.quoRem v = .ok (q, r)) : WF q ∧ WF r ∧ val q * val v + val r = val c := by
  by_cases hv0 : val v = 0
  · have hh : v.Hi = 0 ∧ v.Lo = 0 := by unfold val at hv0; omega
    obtain ⟨e, he⟩ := c15_quoRem64_zero c
    rw [quoRem_lo c v hh.1, hh.2, he] at h
    cases h
  · obtain ⟨q', r', e, wfq, wfr, hdec, _⟩ := c15_quoRem c v hc hv hv0
    cases e.symm.trans h
    exact ⟨wfq, wfr, hdec⟩

/-- the results are `⌊c/v⌋` and `c mod v` -/
theorem c15_quoRem_div_mod (c v : Currency) (hc : WF c) (hv : WF v) (hv0 : val v ≠ 0) :
    ∃ q r, c.quoRem v = .ok (q, r) ∧ WF q ∧ WF r ∧ val q = val c / val v ∧ val r = val c % val v := by
  obtain ⟨q, r, hok, wfq, wfr, hdec, hlt⟩ := c15_quoRem c v hc hv hv0
  obtain ⟨h1, h2⟩ := div_mod_unique hdec hlt
  exact ⟨q, r, hok, wfq, wfr, h1, h2⟩

/-- `Div` is floor division. -/
theorem c15_div (c v : Currency) (hc : WF c) (hv : WF v) (hv0 : val v ≠ 0) :
    ∃ q, c.Div v = .ok q ∧ WF q ∧ val q = val c / val v := by
  obtain ⟨q, r, hok, wfq, _, h1, _⟩ := c15_quoRem_div_mod c v hc hv hv0
  refine ⟨q, ?_, wfq, h1⟩
  unfold Currency.Div
  rw [hok]
  rfl

theorem c15_div_zero (c : Currency) (hc : WF c) :
    ∃ e, c.Div ({ Lo := 0, Hi := 0 } : Currency) = .error e := by
  obtain ⟨e, he⟩ := c15_quoRem_zero c hc
  unfold Currency.Div
  rw [he]
  exact ⟨e, rfl⟩

theorem c15_div64_zero (c : Currency) : ∃ e, c.Div64 0 = .error e := by
  obtain ⟨e, he⟩ := c15_quoRem64_zero c
  unfold Currency.Div64
  rw [he]
  exact ⟨e, rfl⟩

end C15

#print axioms C15.c15_quoRem_zero
#print axioms C15.c15_quoRem_lo
#print axioms C15.c15_quoRem_partial
#print axioms C15.c15_quoRem_hi
#print axioms C15.c15_quoRem
#print axioms C15.c15_quoRem_div_mod
#print axioms C15.c15_div
#print axioms C15.c15_div_zero
#print axioms C15.c15_div64
#print axioms C15.c15_div64_zero
