import SiaModel.Gen.FactsSchema
import SiaModel.Codec.Spec
import SiaProofs.Props.C11
/-!
# C11 ties — the generated schemas (what the code says) against the model's assumptions

`SiaModel/Gen/FactsSchema.lean` is regenerated from the `EncodeTo`/`DecodeFrom` bodies on every
run. For every regular codec type: `tie_symmetric_T` (encoder schema = decoder schema),
`tie_fields_complete_T` (every declared struct field is transmitted, minus the committed
allow-list `nonTransmitted`), and for consensus-critical objects `tie_wire_T` (= the
hand-written layout of `Codec/Spec.lean`). The `tie_all_*` theorems quantify over the
generated tables, so a codec type added later is covered without editing this file.
(Per-type part printed by extract/gen_c11tie.py; allow-list and wire table are hand-maintained.)
-/
namespace C11
open Sia.Codec Sia.Codec.Gen

/-- Documented fields that are deliberately NOT transmitted. `missingFields` (generated: the
declared struct fields of each codec type that no encoder label mentions) must be exactly this. -/
def nonTransmitted : List (String × List String) := [
  ("Consensus_State", ["Network"]),  -- network parameters are not encoded (struct comment)
  ("Rhp3_InstrReadRegistryNoVersion", ["Version"]),  -- pre-1.5.7 form: version implied (decoder sets 1)
  ("Rhp3_InstrUpdateRegistryNoType", ["EntryType"]),  -- pre-1.5.7 form: entry type implied (decoder sets arbitrary)
  ("Types_FileContractRevision.FileContract", ["Payout"]),  -- a revision cannot change the payout; decoder sets the sentinel
  ("Types_StateElement", ["shared"]),  -- in-memory aliasing guard, never on the wire
  ("Types_V1Block", ["V2"])  -- V1Block is the v1 (pre-hardfork) encoding of a Block; V2Block adds the v2 part
]

theorem tie_all_symmetric : (allSchemas.all fun t => t.2.1 == t.2.2) = true := by decide +kernel

/-- slice elements occupy ≥ 1 byte and nothing allocates from an unchecked prefix, so the
hypotheses `wf`/`guarded` of the generic theorems hold for every generated schema -/
theorem tie_all_wf_guarded :
    (allSchemas.all fun t => t.2.1.wf Env.default && t.2.1.guarded Env.default) = true := by decide +kernel

/-- **field completeness**: every declared field of every codec type is transmitted,
except exactly the documented ones -/
theorem tie_all_fields_complete : missingFields = nonTransmitted := rfl

/-- the decoder sets exactly these fields without reading the stream (all allow-listed above) -/
theorem tie_decoder_constants : decoderConstants = [
    ("Rhp3_InstrReadRegistryNoVersion", ["Version"]),
    ("Rhp3_InstrUpdateRegistryNoType", ["EntryType"]),
    ("Types_FileContractRevision", ["FileContract.Payout"])] := rfl

/-- the codecs that are not regular are exactly the committed list (hand-modelled / oracle-only) -/
theorem tie_irregular_list : irregularCodecs = [
    "Gateway_V2BlockOutline",
    "Rhp2_RPCReadResponse",
    "Rhp2_loopKeyExchangeRequest",
    "Rhp2_rpcResponse",
    "Rhp3_Account",
    "Rhp3_RPCExecuteProgramRequest",
    "Rhp3_RPCExecuteProgramResponse",
    "Rhp3_rpcResponse",
    "Types_SpendPolicy",
    "Types_V1Currency",
    "Types_V2FileContractResolution",
    "Types_V2Transaction",
    "Types_V2TransactionSemantics",
    "Types_V2TransactionsMultiproof"
  ] := rfl

/-- number of regular codecs at the pinned commit (a removed codec shows up here) -/
theorem tie_regular_count : allSchemas.length = 174 := by decide +kernel

/-- every generated schema satisfies the hypotheses of `c11_roundtrip` & co. -/
theorem tie_generic_applies (n : String) (e d : Sch) (h : (n, e, d) ∈ allSchemas) :
    e = d ∧ e.wf Env.default = true ∧ e.guarded Env.default = true := by
  have h1 := List.all_eq_true.mp tie_all_symmetric _ h
  have h2 := List.all_eq_true.mp tie_all_wf_guarded _ h
  simp only [Bool.and_eq_true] at h2
  exact ⟨by simpa using h1, h2.1, h2.2⟩

theorem tie_wire_Types_Hash256 : encSchema_Types_Hash256 = Spec.hash32 := rfl
theorem tie_wire_Types_BlockID : encSchema_Types_BlockID = Spec.hash32 := rfl
theorem tie_wire_Types_TransactionID : encSchema_Types_TransactionID = Spec.hash32 := rfl
theorem tie_wire_Types_Address : encSchema_Types_Address = Spec.hash32 := rfl
theorem tie_wire_Types_PublicKey : encSchema_Types_PublicKey = Spec.hash32 := rfl
theorem tie_wire_Types_SiacoinOutputID : encSchema_Types_SiacoinOutputID = Spec.hash32 := rfl
theorem tie_wire_Types_SiafundOutputID : encSchema_Types_SiafundOutputID = Spec.hash32 := rfl
theorem tie_wire_Types_FileContractID : encSchema_Types_FileContractID = Spec.hash32 := rfl
theorem tie_wire_Types_AttestationID : encSchema_Types_AttestationID = Spec.hash32 := rfl
theorem tie_wire_Types_Signature : encSchema_Types_Signature = Spec.signature := rfl
theorem tie_wire_Types_Specifier : encSchema_Types_Specifier = Spec.specifier := rfl
theorem tie_wire_Types_V2Currency : encSchema_Types_V2Currency = Spec.v2Currency := rfl
theorem tie_wire_Types_ChainIndex : encSchema_Types_ChainIndex = Spec.chainIndex := rfl
theorem tie_wire_Types_UnlockKey : encSchema_Types_UnlockKey = Spec.unlockKey := rfl
theorem tie_wire_Types_UnlockConditions : encSchema_Types_UnlockConditions = Spec.unlockConditions := rfl
theorem tie_wire_Types_V1SiacoinOutput : encSchema_Types_V1SiacoinOutput = Spec.v1SiacoinOutput := rfl
theorem tie_wire_Types_V1SiafundOutput : encSchema_Types_V1SiafundOutput = Spec.v1SiafundOutput := rfl
theorem tie_wire_Types_SiacoinInput : encSchema_Types_SiacoinInput = Spec.siacoinInput := rfl
theorem tie_wire_Types_SiafundInput : encSchema_Types_SiafundInput = Spec.siafundInput := rfl
theorem tie_wire_Types_FileContract : encSchema_Types_FileContract = Spec.fileContract := rfl
theorem tie_wire_Types_FileContractRevision : encSchema_Types_FileContractRevision = Spec.fileContractRevision := rfl
theorem tie_wire_Types_StorageProof : encSchema_Types_StorageProof = Spec.storageProof := rfl
theorem tie_wire_Types_FoundationAddressUpdate : encSchema_Types_FoundationAddressUpdate = Spec.foundationAddressUpdate := rfl
theorem tie_wire_Types_CoveredFields : encSchema_Types_CoveredFields = Spec.coveredFields := rfl
theorem tie_wire_Types_TransactionSignature : encSchema_Types_TransactionSignature = Spec.transactionSignature := rfl
theorem tie_wire_Types_Transaction : encSchema_Types_Transaction = Spec.transaction := rfl
theorem tie_wire_Types_BlockHeader : encSchema_Types_BlockHeader = Spec.blockHeader := rfl
theorem tie_wire_Types_V1Block : encSchema_Types_V1Block = Spec.v1Block := rfl
theorem tie_wire_Types_V2BlockData : encSchema_Types_V2BlockData = Spec.v2BlockData := rfl
theorem tie_wire_Types_V2Block : encSchema_Types_V2Block = Spec.v2Block := rfl
theorem tie_wire_Types_V2SiacoinOutput : encSchema_Types_V2SiacoinOutput = Spec.v2SiacoinOutput := rfl
theorem tie_wire_Types_V2SiafundOutput : encSchema_Types_V2SiafundOutput = Spec.v2SiafundOutput := rfl
theorem tie_wire_Types_StateElement : encSchema_Types_StateElement = Spec.stateElement := rfl
theorem tie_wire_Types_ChainIndexElement : encSchema_Types_ChainIndexElement = Spec.chainIndexElement := rfl
theorem tie_wire_Types_SiacoinElement : encSchema_Types_SiacoinElement = Spec.siacoinElement := rfl
theorem tie_wire_Types_SiafundElement : encSchema_Types_SiafundElement = Spec.siafundElement := rfl
theorem tie_wire_Types_FileContractElement : encSchema_Types_FileContractElement = Spec.fileContractElement := rfl
theorem tie_wire_Types_V2FileContract : encSchema_Types_V2FileContract = Spec.v2FileContract := rfl
theorem tie_wire_Types_V2FileContractElement : encSchema_Types_V2FileContractElement = Spec.v2FileContractElement := rfl
theorem tie_wire_Types_SatisfiedPolicy : encSchema_Types_SatisfiedPolicy = Spec.satisfiedPolicy := rfl
theorem tie_wire_Types_V2SiacoinInput : encSchema_Types_V2SiacoinInput = Spec.v2SiacoinInput := rfl
theorem tie_wire_Types_V2SiafundInput : encSchema_Types_V2SiafundInput = Spec.v2SiafundInput := rfl
theorem tie_wire_Types_V2FileContractRevision : encSchema_Types_V2FileContractRevision = Spec.v2FileContractRevision := rfl
theorem tie_wire_Types_V2FileContractRenewal : encSchema_Types_V2FileContractRenewal = Spec.v2FileContractRenewal := rfl
theorem tie_wire_Types_V2StorageProof : encSchema_Types_V2StorageProof = Spec.v2StorageProof := rfl
theorem tie_wire_Types_V2FileContractExpiration : encSchema_Types_V2FileContractExpiration = Spec.v2FileContractExpiration := rfl
theorem tie_wire_Types_Attestation : encSchema_Types_Attestation = Spec.attestation := rfl
theorem tie_wire_Consensus_Work : encSchema_Consensus_Work = Spec.work := rfl
theorem tie_wire_Consensus_V1StorageProofSupplement : encSchema_Consensus_V1StorageProofSupplement = Spec.v1StorageProofSupplement := rfl
theorem tie_wire_Consensus_V1TransactionSupplement : encSchema_Consensus_V1TransactionSupplement = Spec.v1TransactionSupplement := rfl
theorem tie_wire_Consensus_V1BlockSupplement : encSchema_Consensus_V1BlockSupplement = Spec.v1BlockSupplement := rfl
theorem tie_wire_Consensus_ElementAccumulator : encSchema_Consensus_ElementAccumulator = Spec.elementAccumulator := rfl
theorem tie_wire_Consensus_State : encSchema_Consensus_State = Spec.state := rfl

theorem tie_symmetric_Consensus_ElementAccumulator : encSchema_Consensus_ElementAccumulator = decSchema_Consensus_ElementAccumulator := rfl
theorem tie_symmetric_Consensus_State : encSchema_Consensus_State = decSchema_Consensus_State := rfl
theorem tie_symmetric_Consensus_V1BlockSupplement : encSchema_Consensus_V1BlockSupplement = decSchema_Consensus_V1BlockSupplement := rfl
theorem tie_symmetric_Consensus_V1StorageProofSupplement : encSchema_Consensus_V1StorageProofSupplement = decSchema_Consensus_V1StorageProofSupplement := rfl
theorem tie_symmetric_Consensus_V1TransactionSupplement : encSchema_Consensus_V1TransactionSupplement = decSchema_Consensus_V1TransactionSupplement := rfl
theorem tie_symmetric_Consensus_Work : encSchema_Consensus_Work = decSchema_Consensus_Work := rfl
theorem tie_symmetric_Gateway_Header : encSchema_Gateway_Header = decSchema_Gateway_Header := rfl
theorem tie_symmetric_Gateway_RPCDiscoverIP_Response : encSchema_Gateway_RPCDiscoverIP_Response = decSchema_Gateway_RPCDiscoverIP_Response := rfl
theorem tie_symmetric_Gateway_RPCRelayV2BlockOutline_Request : encSchema_Gateway_RPCRelayV2BlockOutline_Request = decSchema_Gateway_RPCRelayV2BlockOutline_Request := rfl
theorem tie_symmetric_Gateway_RPCRelayV2Header_Request : encSchema_Gateway_RPCRelayV2Header_Request = decSchema_Gateway_RPCRelayV2Header_Request := rfl
theorem tie_symmetric_Gateway_RPCRelayV2TransactionSet_Request : encSchema_Gateway_RPCRelayV2TransactionSet_Request = decSchema_Gateway_RPCRelayV2TransactionSet_Request := rfl
theorem tie_symmetric_Gateway_RPCSendCheckpoint_Request : encSchema_Gateway_RPCSendCheckpoint_Request = decSchema_Gateway_RPCSendCheckpoint_Request := rfl
theorem tie_symmetric_Gateway_RPCSendCheckpoint_Response : encSchema_Gateway_RPCSendCheckpoint_Response = decSchema_Gateway_RPCSendCheckpoint_Response := rfl
theorem tie_symmetric_Gateway_RPCSendHeaders_Request : encSchema_Gateway_RPCSendHeaders_Request = decSchema_Gateway_RPCSendHeaders_Request := rfl
theorem tie_symmetric_Gateway_RPCSendHeaders_Response : encSchema_Gateway_RPCSendHeaders_Response = decSchema_Gateway_RPCSendHeaders_Response := rfl
theorem tie_symmetric_Gateway_RPCSendTransactions_Request : encSchema_Gateway_RPCSendTransactions_Request = decSchema_Gateway_RPCSendTransactions_Request := rfl
theorem tie_symmetric_Gateway_RPCSendTransactions_Response : encSchema_Gateway_RPCSendTransactions_Response = decSchema_Gateway_RPCSendTransactions_Response := rfl
theorem tie_symmetric_Gateway_RPCSendV2Blocks_Request : encSchema_Gateway_RPCSendV2Blocks_Request = decSchema_Gateway_RPCSendV2Blocks_Request := rfl
theorem tie_symmetric_Gateway_RPCSendV2Blocks_Response : encSchema_Gateway_RPCSendV2Blocks_Response = decSchema_Gateway_RPCSendV2Blocks_Response := rfl
theorem tie_symmetric_Gateway_RPCShareNodes_Response : encSchema_Gateway_RPCShareNodes_Response = decSchema_Gateway_RPCShareNodes_Response := rfl
theorem tie_symmetric_Gateway_emptyRequest_Request : encSchema_Gateway_emptyRequest_Request = decSchema_Gateway_emptyRequest_Request := rfl
theorem tie_symmetric_Gateway_emptyResponse_Response : encSchema_Gateway_emptyResponse_Response = decSchema_Gateway_emptyResponse_Response := rfl
theorem tie_symmetric_Rhp2_Challenge : encSchema_Rhp2_Challenge = decSchema_Rhp2_Challenge := rfl
theorem tie_symmetric_Rhp2_RPCError : encSchema_Rhp2_RPCError = decSchema_Rhp2_RPCError := rfl
theorem tie_symmetric_Rhp2_RPCFormContractAdditions : encSchema_Rhp2_RPCFormContractAdditions = decSchema_Rhp2_RPCFormContractAdditions := rfl
theorem tie_symmetric_Rhp2_RPCFormContractRequest : encSchema_Rhp2_RPCFormContractRequest = decSchema_Rhp2_RPCFormContractRequest := rfl
theorem tie_symmetric_Rhp2_RPCFormContractSignatures : encSchema_Rhp2_RPCFormContractSignatures = decSchema_Rhp2_RPCFormContractSignatures := rfl
theorem tie_symmetric_Rhp2_RPCLockRequest : encSchema_Rhp2_RPCLockRequest = decSchema_Rhp2_RPCLockRequest := rfl
theorem tie_symmetric_Rhp2_RPCLockResponse : encSchema_Rhp2_RPCLockResponse = decSchema_Rhp2_RPCLockResponse := rfl
theorem tie_symmetric_Rhp2_RPCReadRequest : encSchema_Rhp2_RPCReadRequest = decSchema_Rhp2_RPCReadRequest := rfl
theorem tie_symmetric_Rhp2_RPCRenewAndClearContractRequest : encSchema_Rhp2_RPCRenewAndClearContractRequest = decSchema_Rhp2_RPCRenewAndClearContractRequest := rfl
theorem tie_symmetric_Rhp2_RPCRenewAndClearContractSignatures : encSchema_Rhp2_RPCRenewAndClearContractSignatures = decSchema_Rhp2_RPCRenewAndClearContractSignatures := rfl
theorem tie_symmetric_Rhp2_RPCSectorRootsRequest : encSchema_Rhp2_RPCSectorRootsRequest = decSchema_Rhp2_RPCSectorRootsRequest := rfl
theorem tie_symmetric_Rhp2_RPCSectorRootsResponse : encSchema_Rhp2_RPCSectorRootsResponse = decSchema_Rhp2_RPCSectorRootsResponse := rfl
theorem tie_symmetric_Rhp2_RPCSettingsResponse : encSchema_Rhp2_RPCSettingsResponse = decSchema_Rhp2_RPCSettingsResponse := rfl
theorem tie_symmetric_Rhp2_RPCWriteMerkleProof : encSchema_Rhp2_RPCWriteMerkleProof = decSchema_Rhp2_RPCWriteMerkleProof := rfl
theorem tie_symmetric_Rhp2_RPCWriteRequest : encSchema_Rhp2_RPCWriteRequest = decSchema_Rhp2_RPCWriteRequest := rfl
theorem tie_symmetric_Rhp2_RPCWriteResponse : encSchema_Rhp2_RPCWriteResponse = decSchema_Rhp2_RPCWriteResponse := rfl
theorem tie_symmetric_Rhp2_loopKeyExchangeResponse : encSchema_Rhp2_loopKeyExchangeResponse = decSchema_Rhp2_loopKeyExchangeResponse := rfl
theorem tie_symmetric_Rhp3_FundAccountReceipt : encSchema_Rhp3_FundAccountReceipt = decSchema_Rhp3_FundAccountReceipt := rfl
theorem tie_symmetric_Rhp3_InstrAppendSector : encSchema_Rhp3_InstrAppendSector = decSchema_Rhp3_InstrAppendSector := rfl
theorem tie_symmetric_Rhp3_InstrAppendSectorRoot : encSchema_Rhp3_InstrAppendSectorRoot = decSchema_Rhp3_InstrAppendSectorRoot := rfl
theorem tie_symmetric_Rhp3_InstrDropSectors : encSchema_Rhp3_InstrDropSectors = decSchema_Rhp3_InstrDropSectors := rfl
theorem tie_symmetric_Rhp3_InstrHasSector : encSchema_Rhp3_InstrHasSector = decSchema_Rhp3_InstrHasSector := rfl
theorem tie_symmetric_Rhp3_InstrReadOffset : encSchema_Rhp3_InstrReadOffset = decSchema_Rhp3_InstrReadOffset := rfl
theorem tie_symmetric_Rhp3_InstrReadRegistry : encSchema_Rhp3_InstrReadRegistry = decSchema_Rhp3_InstrReadRegistry := rfl
theorem tie_symmetric_Rhp3_InstrReadRegistryNoVersion : encSchema_Rhp3_InstrReadRegistryNoVersion = decSchema_Rhp3_InstrReadRegistryNoVersion := rfl
theorem tie_symmetric_Rhp3_InstrReadSector : encSchema_Rhp3_InstrReadSector = decSchema_Rhp3_InstrReadSector := rfl
theorem tie_symmetric_Rhp3_InstrRevision : encSchema_Rhp3_InstrRevision = decSchema_Rhp3_InstrRevision := rfl
theorem tie_symmetric_Rhp3_InstrStoreSector : encSchema_Rhp3_InstrStoreSector = decSchema_Rhp3_InstrStoreSector := rfl
theorem tie_symmetric_Rhp3_InstrSwapSector : encSchema_Rhp3_InstrSwapSector = decSchema_Rhp3_InstrSwapSector := rfl
theorem tie_symmetric_Rhp3_InstrUpdateRegistry : encSchema_Rhp3_InstrUpdateRegistry = decSchema_Rhp3_InstrUpdateRegistry := rfl
theorem tie_symmetric_Rhp3_InstrUpdateRegistryNoType : encSchema_Rhp3_InstrUpdateRegistryNoType = decSchema_Rhp3_InstrUpdateRegistryNoType := rfl
theorem tie_symmetric_Rhp3_InstrUpdateSector : encSchema_Rhp3_InstrUpdateSector = decSchema_Rhp3_InstrUpdateSector := rfl
theorem tie_symmetric_Rhp3_PayByContractRequest : encSchema_Rhp3_PayByContractRequest = decSchema_Rhp3_PayByContractRequest := rfl
theorem tie_symmetric_Rhp3_PayByEphemeralAccountRequest : encSchema_Rhp3_PayByEphemeralAccountRequest = decSchema_Rhp3_PayByEphemeralAccountRequest := rfl
theorem tie_symmetric_Rhp3_PaymentResponse : encSchema_Rhp3_PaymentResponse = decSchema_Rhp3_PaymentResponse := rfl
theorem tie_symmetric_Rhp3_RPCAccountBalanceRequest : encSchema_Rhp3_RPCAccountBalanceRequest = decSchema_Rhp3_RPCAccountBalanceRequest := rfl
theorem tie_symmetric_Rhp3_RPCAccountBalanceResponse : encSchema_Rhp3_RPCAccountBalanceResponse = decSchema_Rhp3_RPCAccountBalanceResponse := rfl
theorem tie_symmetric_Rhp3_RPCError : encSchema_Rhp3_RPCError = decSchema_Rhp3_RPCError := rfl
theorem tie_symmetric_Rhp3_RPCFinalizeProgramRequest : encSchema_Rhp3_RPCFinalizeProgramRequest = decSchema_Rhp3_RPCFinalizeProgramRequest := rfl
theorem tie_symmetric_Rhp3_RPCFinalizeProgramResponse : encSchema_Rhp3_RPCFinalizeProgramResponse = decSchema_Rhp3_RPCFinalizeProgramResponse := rfl
theorem tie_symmetric_Rhp3_RPCFundAccountRequest : encSchema_Rhp3_RPCFundAccountRequest = decSchema_Rhp3_RPCFundAccountRequest := rfl
theorem tie_symmetric_Rhp3_RPCFundAccountResponse : encSchema_Rhp3_RPCFundAccountResponse = decSchema_Rhp3_RPCFundAccountResponse := rfl
theorem tie_symmetric_Rhp3_RPCLatestRevisionRequest : encSchema_Rhp3_RPCLatestRevisionRequest = decSchema_Rhp3_RPCLatestRevisionRequest := rfl
theorem tie_symmetric_Rhp3_RPCLatestRevisionResponse : encSchema_Rhp3_RPCLatestRevisionResponse = decSchema_Rhp3_RPCLatestRevisionResponse := rfl
theorem tie_symmetric_Rhp3_RPCPriceTableResponse : encSchema_Rhp3_RPCPriceTableResponse = decSchema_Rhp3_RPCPriceTableResponse := rfl
theorem tie_symmetric_Rhp3_RPCRenewContractHostAdditions : encSchema_Rhp3_RPCRenewContractHostAdditions = decSchema_Rhp3_RPCRenewContractHostAdditions := rfl
theorem tie_symmetric_Rhp3_RPCRenewContractRequest : encSchema_Rhp3_RPCRenewContractRequest = decSchema_Rhp3_RPCRenewContractRequest := rfl
theorem tie_symmetric_Rhp3_RPCRenewSignatures : encSchema_Rhp3_RPCRenewSignatures = decSchema_Rhp3_RPCRenewSignatures := rfl
theorem tie_symmetric_Rhp3_RPCUpdatePriceTableResponse : encSchema_Rhp3_RPCUpdatePriceTableResponse = decSchema_Rhp3_RPCUpdatePriceTableResponse := rfl
theorem tie_symmetric_Rhp3_SettingsID : encSchema_Rhp3_SettingsID = decSchema_Rhp3_SettingsID := rfl
theorem tie_symmetric_Rhp4_Account : encSchema_Rhp4_Account = decSchema_Rhp4_Account := rfl
theorem tie_symmetric_Rhp4_AccountDeposit : encSchema_Rhp4_AccountDeposit = decSchema_Rhp4_AccountDeposit := rfl
theorem tie_symmetric_Rhp4_AccountToken : encSchema_Rhp4_AccountToken = decSchema_Rhp4_AccountToken := rfl
theorem tie_symmetric_Rhp4_HostPrices : encSchema_Rhp4_HostPrices = decSchema_Rhp4_HostPrices := rfl
theorem tie_symmetric_Rhp4_HostSettings : encSchema_Rhp4_HostSettings = decSchema_Rhp4_HostSettings := rfl
theorem tie_symmetric_Rhp4_PoolAttachment : encSchema_Rhp4_PoolAttachment = decSchema_Rhp4_PoolAttachment := rfl
theorem tie_symmetric_Rhp4_PoolDetachment : encSchema_Rhp4_PoolDetachment = decSchema_Rhp4_PoolDetachment := rfl
theorem tie_symmetric_Rhp4_RPCAccountBalanceRequest : encSchema_Rhp4_RPCAccountBalanceRequest = decSchema_Rhp4_RPCAccountBalanceRequest := rfl
theorem tie_symmetric_Rhp4_RPCAccountBalanceResponse : encSchema_Rhp4_RPCAccountBalanceResponse = decSchema_Rhp4_RPCAccountBalanceResponse := rfl
theorem tie_symmetric_Rhp4_RPCAppendSectorsRequest : encSchema_Rhp4_RPCAppendSectorsRequest = decSchema_Rhp4_RPCAppendSectorsRequest := rfl
theorem tie_symmetric_Rhp4_RPCAppendSectorsResponse : encSchema_Rhp4_RPCAppendSectorsResponse = decSchema_Rhp4_RPCAppendSectorsResponse := rfl
theorem tie_symmetric_Rhp4_RPCAppendSectorsSecondResponse : encSchema_Rhp4_RPCAppendSectorsSecondResponse = decSchema_Rhp4_RPCAppendSectorsSecondResponse := rfl
theorem tie_symmetric_Rhp4_RPCAppendSectorsThirdResponse : encSchema_Rhp4_RPCAppendSectorsThirdResponse = decSchema_Rhp4_RPCAppendSectorsThirdResponse := rfl
theorem tie_symmetric_Rhp4_RPCAttachPoolsRequest : encSchema_Rhp4_RPCAttachPoolsRequest = decSchema_Rhp4_RPCAttachPoolsRequest := rfl
theorem tie_symmetric_Rhp4_RPCAttachPoolsResponse : encSchema_Rhp4_RPCAttachPoolsResponse = decSchema_Rhp4_RPCAttachPoolsResponse := rfl
theorem tie_symmetric_Rhp4_RPCDetachPoolsRequest : encSchema_Rhp4_RPCDetachPoolsRequest = decSchema_Rhp4_RPCDetachPoolsRequest := rfl
theorem tie_symmetric_Rhp4_RPCDetachPoolsResponse : encSchema_Rhp4_RPCDetachPoolsResponse = decSchema_Rhp4_RPCDetachPoolsResponse := rfl
theorem tie_symmetric_Rhp4_RPCError : encSchema_Rhp4_RPCError = decSchema_Rhp4_RPCError := rfl
theorem tie_symmetric_Rhp4_RPCFormContractParams : encSchema_Rhp4_RPCFormContractParams = decSchema_Rhp4_RPCFormContractParams := rfl
theorem tie_symmetric_Rhp4_RPCFormContractRequest : encSchema_Rhp4_RPCFormContractRequest = decSchema_Rhp4_RPCFormContractRequest := rfl
theorem tie_symmetric_Rhp4_RPCFormContractResponse : encSchema_Rhp4_RPCFormContractResponse = decSchema_Rhp4_RPCFormContractResponse := rfl
theorem tie_symmetric_Rhp4_RPCFormContractSecondResponse : encSchema_Rhp4_RPCFormContractSecondResponse = decSchema_Rhp4_RPCFormContractSecondResponse := rfl
theorem tie_symmetric_Rhp4_RPCFormContractThirdResponse : encSchema_Rhp4_RPCFormContractThirdResponse = decSchema_Rhp4_RPCFormContractThirdResponse := rfl
theorem tie_symmetric_Rhp4_RPCFreeSectorsRequest : encSchema_Rhp4_RPCFreeSectorsRequest = decSchema_Rhp4_RPCFreeSectorsRequest := rfl
theorem tie_symmetric_Rhp4_RPCFreeSectorsResponse : encSchema_Rhp4_RPCFreeSectorsResponse = decSchema_Rhp4_RPCFreeSectorsResponse := rfl
theorem tie_symmetric_Rhp4_RPCFreeSectorsSecondResponse : encSchema_Rhp4_RPCFreeSectorsSecondResponse = decSchema_Rhp4_RPCFreeSectorsSecondResponse := rfl
theorem tie_symmetric_Rhp4_RPCFreeSectorsThirdResponse : encSchema_Rhp4_RPCFreeSectorsThirdResponse = decSchema_Rhp4_RPCFreeSectorsThirdResponse := rfl
theorem tie_symmetric_Rhp4_RPCFundAccountsRequest : encSchema_Rhp4_RPCFundAccountsRequest = decSchema_Rhp4_RPCFundAccountsRequest := rfl
theorem tie_symmetric_Rhp4_RPCFundAccountsResponse : encSchema_Rhp4_RPCFundAccountsResponse = decSchema_Rhp4_RPCFundAccountsResponse := rfl
theorem tie_symmetric_Rhp4_RPCLatestRevisionRequest : encSchema_Rhp4_RPCLatestRevisionRequest = decSchema_Rhp4_RPCLatestRevisionRequest := rfl
theorem tie_symmetric_Rhp4_RPCLatestRevisionResponse : encSchema_Rhp4_RPCLatestRevisionResponse = decSchema_Rhp4_RPCLatestRevisionResponse := rfl
theorem tie_symmetric_Rhp4_RPCReadSectorRequest : encSchema_Rhp4_RPCReadSectorRequest = decSchema_Rhp4_RPCReadSectorRequest := rfl
theorem tie_symmetric_Rhp4_RPCReadSectorResponse : encSchema_Rhp4_RPCReadSectorResponse = decSchema_Rhp4_RPCReadSectorResponse := rfl
theorem tie_symmetric_Rhp4_RPCRefreshContractParams : encSchema_Rhp4_RPCRefreshContractParams = decSchema_Rhp4_RPCRefreshContractParams := rfl
theorem tie_symmetric_Rhp4_RPCRefreshContractRequest : encSchema_Rhp4_RPCRefreshContractRequest = decSchema_Rhp4_RPCRefreshContractRequest := rfl
theorem tie_symmetric_Rhp4_RPCRefreshContractResponse : encSchema_Rhp4_RPCRefreshContractResponse = decSchema_Rhp4_RPCRefreshContractResponse := rfl
theorem tie_symmetric_Rhp4_RPCRefreshContractSecondResponse : encSchema_Rhp4_RPCRefreshContractSecondResponse = decSchema_Rhp4_RPCRefreshContractSecondResponse := rfl
theorem tie_symmetric_Rhp4_RPCRefreshContractThirdResponse : encSchema_Rhp4_RPCRefreshContractThirdResponse = decSchema_Rhp4_RPCRefreshContractThirdResponse := rfl
theorem tie_symmetric_Rhp4_RPCRenewContractParams : encSchema_Rhp4_RPCRenewContractParams = decSchema_Rhp4_RPCRenewContractParams := rfl
theorem tie_symmetric_Rhp4_RPCRenewContractRequest : encSchema_Rhp4_RPCRenewContractRequest = decSchema_Rhp4_RPCRenewContractRequest := rfl
theorem tie_symmetric_Rhp4_RPCRenewContractResponse : encSchema_Rhp4_RPCRenewContractResponse = decSchema_Rhp4_RPCRenewContractResponse := rfl
theorem tie_symmetric_Rhp4_RPCRenewContractSecondResponse : encSchema_Rhp4_RPCRenewContractSecondResponse = decSchema_Rhp4_RPCRenewContractSecondResponse := rfl
theorem tie_symmetric_Rhp4_RPCRenewContractThirdResponse : encSchema_Rhp4_RPCRenewContractThirdResponse = decSchema_Rhp4_RPCRenewContractThirdResponse := rfl
theorem tie_symmetric_Rhp4_RPCReplenishAccountsRequest : encSchema_Rhp4_RPCReplenishAccountsRequest = decSchema_Rhp4_RPCReplenishAccountsRequest := rfl
theorem tie_symmetric_Rhp4_RPCReplenishAccountsResponse : encSchema_Rhp4_RPCReplenishAccountsResponse = decSchema_Rhp4_RPCReplenishAccountsResponse := rfl
theorem tie_symmetric_Rhp4_RPCReplenishAccountsSecondResponse : encSchema_Rhp4_RPCReplenishAccountsSecondResponse = decSchema_Rhp4_RPCReplenishAccountsSecondResponse := rfl
theorem tie_symmetric_Rhp4_RPCReplenishAccountsThirdResponse : encSchema_Rhp4_RPCReplenishAccountsThirdResponse = decSchema_Rhp4_RPCReplenishAccountsThirdResponse := rfl
theorem tie_symmetric_Rhp4_RPCSectorRootsRequest : encSchema_Rhp4_RPCSectorRootsRequest = decSchema_Rhp4_RPCSectorRootsRequest := rfl
theorem tie_symmetric_Rhp4_RPCSectorRootsResponse : encSchema_Rhp4_RPCSectorRootsResponse = decSchema_Rhp4_RPCSectorRootsResponse := rfl
theorem tie_symmetric_Rhp4_RPCSettingsRequest : encSchema_Rhp4_RPCSettingsRequest = decSchema_Rhp4_RPCSettingsRequest := rfl
theorem tie_symmetric_Rhp4_RPCSettingsResponse : encSchema_Rhp4_RPCSettingsResponse = decSchema_Rhp4_RPCSettingsResponse := rfl
theorem tie_symmetric_Rhp4_RPCVerifySectorRequest : encSchema_Rhp4_RPCVerifySectorRequest = decSchema_Rhp4_RPCVerifySectorRequest := rfl
theorem tie_symmetric_Rhp4_RPCVerifySectorResponse : encSchema_Rhp4_RPCVerifySectorResponse = decSchema_Rhp4_RPCVerifySectorResponse := rfl
theorem tie_symmetric_Rhp4_RPCWriteSectorRequest : encSchema_Rhp4_RPCWriteSectorRequest = decSchema_Rhp4_RPCWriteSectorRequest := rfl
theorem tie_symmetric_Rhp4_RPCWriteSectorResponse : encSchema_Rhp4_RPCWriteSectorResponse = decSchema_Rhp4_RPCWriteSectorResponse := rfl
theorem tie_symmetric_Types_Address : encSchema_Types_Address = decSchema_Types_Address := rfl
theorem tie_symmetric_Types_Attestation : encSchema_Types_Attestation = decSchema_Types_Attestation := rfl
theorem tie_symmetric_Types_AttestationID : encSchema_Types_AttestationID = decSchema_Types_AttestationID := rfl
theorem tie_symmetric_Types_BlockHeader : encSchema_Types_BlockHeader = decSchema_Types_BlockHeader := rfl
theorem tie_symmetric_Types_BlockID : encSchema_Types_BlockID = decSchema_Types_BlockID := rfl
theorem tie_symmetric_Types_ChainIndex : encSchema_Types_ChainIndex = decSchema_Types_ChainIndex := rfl
theorem tie_symmetric_Types_ChainIndexElement : encSchema_Types_ChainIndexElement = decSchema_Types_ChainIndexElement := rfl
theorem tie_symmetric_Types_CoveredFields : encSchema_Types_CoveredFields = decSchema_Types_CoveredFields := rfl
theorem tie_symmetric_Types_FileContract : encSchema_Types_FileContract = decSchema_Types_FileContract := rfl
theorem tie_symmetric_Types_FileContractElement : encSchema_Types_FileContractElement = decSchema_Types_FileContractElement := rfl
theorem tie_symmetric_Types_FileContractID : encSchema_Types_FileContractID = decSchema_Types_FileContractID := rfl
theorem tie_symmetric_Types_FileContractRevision : encSchema_Types_FileContractRevision = decSchema_Types_FileContractRevision := rfl
theorem tie_symmetric_Types_FoundationAddressUpdate : encSchema_Types_FoundationAddressUpdate = decSchema_Types_FoundationAddressUpdate := rfl
theorem tie_symmetric_Types_Hash256 : encSchema_Types_Hash256 = decSchema_Types_Hash256 := rfl
theorem tie_symmetric_Types_PublicKey : encSchema_Types_PublicKey = decSchema_Types_PublicKey := rfl
theorem tie_symmetric_Types_SatisfiedPolicy : encSchema_Types_SatisfiedPolicy = decSchema_Types_SatisfiedPolicy := rfl
theorem tie_symmetric_Types_SiacoinElement : encSchema_Types_SiacoinElement = decSchema_Types_SiacoinElement := rfl
theorem tie_symmetric_Types_SiacoinInput : encSchema_Types_SiacoinInput = decSchema_Types_SiacoinInput := rfl
theorem tie_symmetric_Types_SiacoinOutputID : encSchema_Types_SiacoinOutputID = decSchema_Types_SiacoinOutputID := rfl
theorem tie_symmetric_Types_SiafundElement : encSchema_Types_SiafundElement = decSchema_Types_SiafundElement := rfl
theorem tie_symmetric_Types_SiafundInput : encSchema_Types_SiafundInput = decSchema_Types_SiafundInput := rfl
theorem tie_symmetric_Types_SiafundOutputID : encSchema_Types_SiafundOutputID = decSchema_Types_SiafundOutputID := rfl
theorem tie_symmetric_Types_Signature : encSchema_Types_Signature = decSchema_Types_Signature := rfl
theorem tie_symmetric_Types_Specifier : encSchema_Types_Specifier = decSchema_Types_Specifier := rfl
theorem tie_symmetric_Types_StateElement : encSchema_Types_StateElement = decSchema_Types_StateElement := rfl
theorem tie_symmetric_Types_StorageProof : encSchema_Types_StorageProof = decSchema_Types_StorageProof := rfl
theorem tie_symmetric_Types_Transaction : encSchema_Types_Transaction = decSchema_Types_Transaction := rfl
theorem tie_symmetric_Types_TransactionID : encSchema_Types_TransactionID = decSchema_Types_TransactionID := rfl
theorem tie_symmetric_Types_TransactionSignature : encSchema_Types_TransactionSignature = decSchema_Types_TransactionSignature := rfl
theorem tie_symmetric_Types_UnlockConditions : encSchema_Types_UnlockConditions = decSchema_Types_UnlockConditions := rfl
theorem tie_symmetric_Types_UnlockKey : encSchema_Types_UnlockKey = decSchema_Types_UnlockKey := rfl
theorem tie_symmetric_Types_V1Block : encSchema_Types_V1Block = decSchema_Types_V1Block := rfl
theorem tie_symmetric_Types_V1SiacoinOutput : encSchema_Types_V1SiacoinOutput = decSchema_Types_V1SiacoinOutput := rfl
theorem tie_symmetric_Types_V1SiafundOutput : encSchema_Types_V1SiafundOutput = decSchema_Types_V1SiafundOutput := rfl
theorem tie_symmetric_Types_V2Block : encSchema_Types_V2Block = decSchema_Types_V2Block := rfl
theorem tie_symmetric_Types_V2BlockData : encSchema_Types_V2BlockData = decSchema_Types_V2BlockData := rfl
theorem tie_symmetric_Types_V2Currency : encSchema_Types_V2Currency = decSchema_Types_V2Currency := rfl
theorem tie_symmetric_Types_V2FileContract : encSchema_Types_V2FileContract = decSchema_Types_V2FileContract := rfl
theorem tie_symmetric_Types_V2FileContractElement : encSchema_Types_V2FileContractElement = decSchema_Types_V2FileContractElement := rfl
theorem tie_symmetric_Types_V2FileContractExpiration : encSchema_Types_V2FileContractExpiration = decSchema_Types_V2FileContractExpiration := rfl
theorem tie_symmetric_Types_V2FileContractRenewal : encSchema_Types_V2FileContractRenewal = decSchema_Types_V2FileContractRenewal := rfl
theorem tie_symmetric_Types_V2FileContractRevision : encSchema_Types_V2FileContractRevision = decSchema_Types_V2FileContractRevision := rfl
theorem tie_symmetric_Types_V2SiacoinInput : encSchema_Types_V2SiacoinInput = decSchema_Types_V2SiacoinInput := rfl
theorem tie_symmetric_Types_V2SiacoinOutput : encSchema_Types_V2SiacoinOutput = decSchema_Types_V2SiacoinOutput := rfl
theorem tie_symmetric_Types_V2SiafundInput : encSchema_Types_V2SiafundInput = decSchema_Types_V2SiafundInput := rfl
theorem tie_symmetric_Types_V2SiafundOutput : encSchema_Types_V2SiafundOutput = decSchema_Types_V2SiafundOutput := rfl
theorem tie_symmetric_Types_V2StorageProof : encSchema_Types_V2StorageProof = decSchema_Types_V2StorageProof := rfl

theorem tie_fields_complete_Consensus_ElementAccumulator : missing_Consensus_ElementAccumulator = [] := rfl
theorem tie_fields_complete_Consensus_State : missing_Consensus_State = ["Network"] := rfl
theorem tie_fields_complete_Consensus_V1BlockSupplement : missing_Consensus_V1BlockSupplement = [] := rfl
theorem tie_fields_complete_Consensus_V1StorageProofSupplement : missing_Consensus_V1StorageProofSupplement = [] := rfl
theorem tie_fields_complete_Consensus_V1TransactionSupplement : missing_Consensus_V1TransactionSupplement = [] := rfl
theorem tie_fields_complete_Consensus_Work : missing_Consensus_Work = [] := rfl
theorem tie_fields_complete_Gateway_Header : missing_Gateway_Header = [] := rfl
theorem tie_fields_complete_Gateway_RPCDiscoverIP : missing_Gateway_RPCDiscoverIP = [] := rfl
theorem tie_fields_complete_Gateway_RPCRelayV2BlockOutline : missing_Gateway_RPCRelayV2BlockOutline = [] := rfl
theorem tie_fields_complete_Gateway_RPCRelayV2Header : missing_Gateway_RPCRelayV2Header = [] := rfl
theorem tie_fields_complete_Gateway_RPCRelayV2TransactionSet : missing_Gateway_RPCRelayV2TransactionSet = [] := rfl
theorem tie_fields_complete_Gateway_RPCSendCheckpoint : missing_Gateway_RPCSendCheckpoint = [] := rfl
theorem tie_fields_complete_Gateway_RPCSendHeaders : missing_Gateway_RPCSendHeaders = [] := rfl
theorem tie_fields_complete_Gateway_RPCSendTransactions : missing_Gateway_RPCSendTransactions = [] := rfl
theorem tie_fields_complete_Gateway_RPCSendV2Blocks : missing_Gateway_RPCSendV2Blocks = [] := rfl
theorem tie_fields_complete_Gateway_RPCShareNodes : missing_Gateway_RPCShareNodes = [] := rfl
theorem tie_fields_complete_Gateway_emptyRequest : missing_Gateway_emptyRequest = [] := rfl
theorem tie_fields_complete_Gateway_emptyResponse : missing_Gateway_emptyResponse = [] := rfl
theorem tie_fields_complete_Rhp2_Challenge : missing_Rhp2_Challenge = [] := rfl
theorem tie_fields_complete_Rhp2_RPCError : missing_Rhp2_RPCError = [] := rfl
theorem tie_fields_complete_Rhp2_RPCFormContractAdditions : missing_Rhp2_RPCFormContractAdditions = [] := rfl
theorem tie_fields_complete_Rhp2_RPCFormContractRequest : missing_Rhp2_RPCFormContractRequest = [] := rfl
theorem tie_fields_complete_Rhp2_RPCFormContractSignatures : missing_Rhp2_RPCFormContractSignatures = [] := rfl
theorem tie_fields_complete_Rhp2_RPCLockRequest : missing_Rhp2_RPCLockRequest = [] := rfl
theorem tie_fields_complete_Rhp2_RPCLockResponse : missing_Rhp2_RPCLockResponse = [] := rfl
theorem tie_fields_complete_Rhp2_RPCReadRequest : missing_Rhp2_RPCReadRequest = [] := rfl
theorem tie_fields_complete_Rhp2_RPCRenewAndClearContractRequest : missing_Rhp2_RPCRenewAndClearContractRequest = [] := rfl
theorem tie_fields_complete_Rhp2_RPCRenewAndClearContractSignatures : missing_Rhp2_RPCRenewAndClearContractSignatures = [] := rfl
theorem tie_fields_complete_Rhp2_RPCSectorRootsRequest : missing_Rhp2_RPCSectorRootsRequest = [] := rfl
theorem tie_fields_complete_Rhp2_RPCSectorRootsResponse : missing_Rhp2_RPCSectorRootsResponse = [] := rfl
theorem tie_fields_complete_Rhp2_RPCSettingsResponse : missing_Rhp2_RPCSettingsResponse = [] := rfl
theorem tie_fields_complete_Rhp2_RPCWriteMerkleProof : missing_Rhp2_RPCWriteMerkleProof = [] := rfl
theorem tie_fields_complete_Rhp2_RPCWriteRequest : missing_Rhp2_RPCWriteRequest = [] := rfl
theorem tie_fields_complete_Rhp2_RPCWriteResponse : missing_Rhp2_RPCWriteResponse = [] := rfl
theorem tie_fields_complete_Rhp2_loopKeyExchangeResponse : missing_Rhp2_loopKeyExchangeResponse = [] := rfl
theorem tie_fields_complete_Rhp3_FundAccountReceipt : missing_Rhp3_FundAccountReceipt = [] := rfl
theorem tie_fields_complete_Rhp3_InstrAppendSector : missing_Rhp3_InstrAppendSector = [] := rfl
theorem tie_fields_complete_Rhp3_InstrAppendSectorRoot : missing_Rhp3_InstrAppendSectorRoot = [] := rfl
theorem tie_fields_complete_Rhp3_InstrDropSectors : missing_Rhp3_InstrDropSectors = [] := rfl
theorem tie_fields_complete_Rhp3_InstrHasSector : missing_Rhp3_InstrHasSector = [] := rfl
theorem tie_fields_complete_Rhp3_InstrReadOffset : missing_Rhp3_InstrReadOffset = [] := rfl
theorem tie_fields_complete_Rhp3_InstrReadRegistry : missing_Rhp3_InstrReadRegistry = [] := rfl
theorem tie_fields_complete_Rhp3_InstrReadRegistryNoVersion : missing_Rhp3_InstrReadRegistryNoVersion = ["Version"] := rfl
theorem tie_fields_complete_Rhp3_InstrReadSector : missing_Rhp3_InstrReadSector = [] := rfl
theorem tie_fields_complete_Rhp3_InstrRevision : missing_Rhp3_InstrRevision = [] := rfl
theorem tie_fields_complete_Rhp3_InstrStoreSector : missing_Rhp3_InstrStoreSector = [] := rfl
theorem tie_fields_complete_Rhp3_InstrSwapSector : missing_Rhp3_InstrSwapSector = [] := rfl
theorem tie_fields_complete_Rhp3_InstrUpdateRegistry : missing_Rhp3_InstrUpdateRegistry = [] := rfl
theorem tie_fields_complete_Rhp3_InstrUpdateRegistryNoType : missing_Rhp3_InstrUpdateRegistryNoType = ["EntryType"] := rfl
theorem tie_fields_complete_Rhp3_InstrUpdateSector : missing_Rhp3_InstrUpdateSector = [] := rfl
theorem tie_fields_complete_Rhp3_PayByContractRequest : missing_Rhp3_PayByContractRequest = [] := rfl
theorem tie_fields_complete_Rhp3_PayByEphemeralAccountRequest : missing_Rhp3_PayByEphemeralAccountRequest = [] := rfl
theorem tie_fields_complete_Rhp3_PaymentResponse : missing_Rhp3_PaymentResponse = [] := rfl
theorem tie_fields_complete_Rhp3_RPCAccountBalanceRequest : missing_Rhp3_RPCAccountBalanceRequest = [] := rfl
theorem tie_fields_complete_Rhp3_RPCAccountBalanceResponse : missing_Rhp3_RPCAccountBalanceResponse = [] := rfl
theorem tie_fields_complete_Rhp3_RPCError : missing_Rhp3_RPCError = [] := rfl
theorem tie_fields_complete_Rhp3_RPCFinalizeProgramRequest : missing_Rhp3_RPCFinalizeProgramRequest = [] := rfl
theorem tie_fields_complete_Rhp3_RPCFinalizeProgramResponse : missing_Rhp3_RPCFinalizeProgramResponse = [] := rfl
theorem tie_fields_complete_Rhp3_RPCFundAccountRequest : missing_Rhp3_RPCFundAccountRequest = [] := rfl
theorem tie_fields_complete_Rhp3_RPCFundAccountResponse : missing_Rhp3_RPCFundAccountResponse = [] := rfl
theorem tie_fields_complete_Rhp3_RPCLatestRevisionRequest : missing_Rhp3_RPCLatestRevisionRequest = [] := rfl
theorem tie_fields_complete_Rhp3_RPCLatestRevisionResponse : missing_Rhp3_RPCLatestRevisionResponse = [] := rfl
theorem tie_fields_complete_Rhp3_RPCPriceTableResponse : missing_Rhp3_RPCPriceTableResponse = [] := rfl
theorem tie_fields_complete_Rhp3_RPCRenewContractHostAdditions : missing_Rhp3_RPCRenewContractHostAdditions = [] := rfl
theorem tie_fields_complete_Rhp3_RPCRenewContractRequest : missing_Rhp3_RPCRenewContractRequest = [] := rfl
theorem tie_fields_complete_Rhp3_RPCRenewSignatures : missing_Rhp3_RPCRenewSignatures = [] := rfl
theorem tie_fields_complete_Rhp3_RPCUpdatePriceTableResponse : missing_Rhp3_RPCUpdatePriceTableResponse = [] := rfl
theorem tie_fields_complete_Rhp3_SettingsID : missing_Rhp3_SettingsID = [] := rfl
theorem tie_fields_complete_Rhp4_Account : missing_Rhp4_Account = [] := rfl
theorem tie_fields_complete_Rhp4_AccountDeposit : missing_Rhp4_AccountDeposit = [] := rfl
theorem tie_fields_complete_Rhp4_AccountToken : missing_Rhp4_AccountToken = [] := rfl
theorem tie_fields_complete_Rhp4_HostPrices : missing_Rhp4_HostPrices = [] := rfl
theorem tie_fields_complete_Rhp4_HostSettings : missing_Rhp4_HostSettings = [] := rfl
theorem tie_fields_complete_Rhp4_PoolAttachment : missing_Rhp4_PoolAttachment = [] := rfl
theorem tie_fields_complete_Rhp4_PoolDetachment : missing_Rhp4_PoolDetachment = [] := rfl
theorem tie_fields_complete_Rhp4_RPCAccountBalanceRequest : missing_Rhp4_RPCAccountBalanceRequest = [] := rfl
theorem tie_fields_complete_Rhp4_RPCAccountBalanceResponse : missing_Rhp4_RPCAccountBalanceResponse = [] := rfl
theorem tie_fields_complete_Rhp4_RPCAppendSectorsRequest : missing_Rhp4_RPCAppendSectorsRequest = [] := rfl
theorem tie_fields_complete_Rhp4_RPCAppendSectorsResponse : missing_Rhp4_RPCAppendSectorsResponse = [] := rfl
theorem tie_fields_complete_Rhp4_RPCAppendSectorsSecondResponse : missing_Rhp4_RPCAppendSectorsSecondResponse = [] := rfl
theorem tie_fields_complete_Rhp4_RPCAppendSectorsThirdResponse : missing_Rhp4_RPCAppendSectorsThirdResponse = [] := rfl
theorem tie_fields_complete_Rhp4_RPCAttachPoolsRequest : missing_Rhp4_RPCAttachPoolsRequest = [] := rfl
theorem tie_fields_complete_Rhp4_RPCAttachPoolsResponse : missing_Rhp4_RPCAttachPoolsResponse = [] := rfl
theorem tie_fields_complete_Rhp4_RPCDetachPoolsRequest : missing_Rhp4_RPCDetachPoolsRequest = [] := rfl
theorem tie_fields_complete_Rhp4_RPCDetachPoolsResponse : missing_Rhp4_RPCDetachPoolsResponse = [] := rfl
theorem tie_fields_complete_Rhp4_RPCError : missing_Rhp4_RPCError = [] := rfl
theorem tie_fields_complete_Rhp4_RPCFormContractParams : missing_Rhp4_RPCFormContractParams = [] := rfl
theorem tie_fields_complete_Rhp4_RPCFormContractRequest : missing_Rhp4_RPCFormContractRequest = [] := rfl
theorem tie_fields_complete_Rhp4_RPCFormContractResponse : missing_Rhp4_RPCFormContractResponse = [] := rfl
theorem tie_fields_complete_Rhp4_RPCFormContractSecondResponse : missing_Rhp4_RPCFormContractSecondResponse = [] := rfl
theorem tie_fields_complete_Rhp4_RPCFormContractThirdResponse : missing_Rhp4_RPCFormContractThirdResponse = [] := rfl
theorem tie_fields_complete_Rhp4_RPCFreeSectorsRequest : missing_Rhp4_RPCFreeSectorsRequest = [] := rfl
theorem tie_fields_complete_Rhp4_RPCFreeSectorsResponse : missing_Rhp4_RPCFreeSectorsResponse = [] := rfl
theorem tie_fields_complete_Rhp4_RPCFreeSectorsSecondResponse : missing_Rhp4_RPCFreeSectorsSecondResponse = [] := rfl
theorem tie_fields_complete_Rhp4_RPCFreeSectorsThirdResponse : missing_Rhp4_RPCFreeSectorsThirdResponse = [] := rfl
theorem tie_fields_complete_Rhp4_RPCFundAccountsRequest : missing_Rhp4_RPCFundAccountsRequest = [] := rfl
theorem tie_fields_complete_Rhp4_RPCFundAccountsResponse : missing_Rhp4_RPCFundAccountsResponse = [] := rfl
theorem tie_fields_complete_Rhp4_RPCLatestRevisionRequest : missing_Rhp4_RPCLatestRevisionRequest = [] := rfl
theorem tie_fields_complete_Rhp4_RPCLatestRevisionResponse : missing_Rhp4_RPCLatestRevisionResponse = [] := rfl
theorem tie_fields_complete_Rhp4_RPCReadSectorRequest : missing_Rhp4_RPCReadSectorRequest = [] := rfl
theorem tie_fields_complete_Rhp4_RPCReadSectorResponse : missing_Rhp4_RPCReadSectorResponse = [] := rfl
theorem tie_fields_complete_Rhp4_RPCRefreshContractParams : missing_Rhp4_RPCRefreshContractParams = [] := rfl
theorem tie_fields_complete_Rhp4_RPCRefreshContractRequest : missing_Rhp4_RPCRefreshContractRequest = [] := rfl
theorem tie_fields_complete_Rhp4_RPCRefreshContractResponse : missing_Rhp4_RPCRefreshContractResponse = [] := rfl
theorem tie_fields_complete_Rhp4_RPCRefreshContractSecondResponse : missing_Rhp4_RPCRefreshContractSecondResponse = [] := rfl
theorem tie_fields_complete_Rhp4_RPCRefreshContractThirdResponse : missing_Rhp4_RPCRefreshContractThirdResponse = [] := rfl
theorem tie_fields_complete_Rhp4_RPCRenewContractParams : missing_Rhp4_RPCRenewContractParams = [] := rfl
theorem tie_fields_complete_Rhp4_RPCRenewContractRequest : missing_Rhp4_RPCRenewContractRequest = [] := rfl
theorem tie_fields_complete_Rhp4_RPCRenewContractResponse : missing_Rhp4_RPCRenewContractResponse = [] := rfl
theorem tie_fields_complete_Rhp4_RPCRenewContractSecondResponse : missing_Rhp4_RPCRenewContractSecondResponse = [] := rfl
theorem tie_fields_complete_Rhp4_RPCRenewContractThirdResponse : missing_Rhp4_RPCRenewContractThirdResponse = [] := rfl
theorem tie_fields_complete_Rhp4_RPCReplenishAccountsRequest : missing_Rhp4_RPCReplenishAccountsRequest = [] := rfl
theorem tie_fields_complete_Rhp4_RPCReplenishAccountsResponse : missing_Rhp4_RPCReplenishAccountsResponse = [] := rfl
theorem tie_fields_complete_Rhp4_RPCReplenishAccountsSecondResponse : missing_Rhp4_RPCReplenishAccountsSecondResponse = [] := rfl
theorem tie_fields_complete_Rhp4_RPCReplenishAccountsThirdResponse : missing_Rhp4_RPCReplenishAccountsThirdResponse = [] := rfl
theorem tie_fields_complete_Rhp4_RPCSectorRootsRequest : missing_Rhp4_RPCSectorRootsRequest = [] := rfl
theorem tie_fields_complete_Rhp4_RPCSectorRootsResponse : missing_Rhp4_RPCSectorRootsResponse = [] := rfl
theorem tie_fields_complete_Rhp4_RPCSettingsRequest : missing_Rhp4_RPCSettingsRequest = [] := rfl
theorem tie_fields_complete_Rhp4_RPCSettingsResponse : missing_Rhp4_RPCSettingsResponse = [] := rfl
theorem tie_fields_complete_Rhp4_RPCVerifySectorRequest : missing_Rhp4_RPCVerifySectorRequest = [] := rfl
theorem tie_fields_complete_Rhp4_RPCVerifySectorResponse : missing_Rhp4_RPCVerifySectorResponse = [] := rfl
theorem tie_fields_complete_Rhp4_RPCWriteSectorRequest : missing_Rhp4_RPCWriteSectorRequest = [] := rfl
theorem tie_fields_complete_Rhp4_RPCWriteSectorResponse : missing_Rhp4_RPCWriteSectorResponse = [] := rfl
theorem tie_fields_complete_Types_Address : missing_Types_Address = [] := rfl
theorem tie_fields_complete_Types_Attestation : missing_Types_Attestation = [] := rfl
theorem tie_fields_complete_Types_AttestationID : missing_Types_AttestationID = [] := rfl
theorem tie_fields_complete_Types_BlockHeader : missing_Types_BlockHeader = [] := rfl
theorem tie_fields_complete_Types_BlockID : missing_Types_BlockID = [] := rfl
theorem tie_fields_complete_Types_ChainIndex : missing_Types_ChainIndex = [] := rfl
theorem tie_fields_complete_Types_ChainIndexElement : missing_Types_ChainIndexElement = [] := rfl
theorem tie_fields_complete_Types_CoveredFields : missing_Types_CoveredFields = [] := rfl
theorem tie_fields_complete_Types_FileContract : missing_Types_FileContract = [] := rfl
theorem tie_fields_complete_Types_FileContractElement : missing_Types_FileContractElement = [] := rfl
theorem tie_fields_complete_Types_FileContractID : missing_Types_FileContractID = [] := rfl
theorem tie_fields_complete_Types_FileContractRevision : missing_Types_FileContractRevision = [] := rfl
theorem tie_fields_complete_Types_FoundationAddressUpdate : missing_Types_FoundationAddressUpdate = [] := rfl
theorem tie_fields_complete_Types_Hash256 : missing_Types_Hash256 = [] := rfl
theorem tie_fields_complete_Types_PublicKey : missing_Types_PublicKey = [] := rfl
theorem tie_fields_complete_Types_SatisfiedPolicy : missing_Types_SatisfiedPolicy = [] := rfl
theorem tie_fields_complete_Types_SiacoinElement : missing_Types_SiacoinElement = [] := rfl
theorem tie_fields_complete_Types_SiacoinInput : missing_Types_SiacoinInput = [] := rfl
theorem tie_fields_complete_Types_SiacoinOutputID : missing_Types_SiacoinOutputID = [] := rfl
theorem tie_fields_complete_Types_SiafundElement : missing_Types_SiafundElement = [] := rfl
theorem tie_fields_complete_Types_SiafundInput : missing_Types_SiafundInput = [] := rfl
theorem tie_fields_complete_Types_SiafundOutputID : missing_Types_SiafundOutputID = [] := rfl
theorem tie_fields_complete_Types_Signature : missing_Types_Signature = [] := rfl
theorem tie_fields_complete_Types_Specifier : missing_Types_Specifier = [] := rfl
theorem tie_fields_complete_Types_StateElement : missing_Types_StateElement = ["shared"] := rfl
theorem tie_fields_complete_Types_StorageProof : missing_Types_StorageProof = [] := rfl
theorem tie_fields_complete_Types_Transaction : missing_Types_Transaction = [] := rfl
theorem tie_fields_complete_Types_TransactionID : missing_Types_TransactionID = [] := rfl
theorem tie_fields_complete_Types_TransactionSignature : missing_Types_TransactionSignature = [] := rfl
theorem tie_fields_complete_Types_UnlockConditions : missing_Types_UnlockConditions = [] := rfl
theorem tie_fields_complete_Types_UnlockKey : missing_Types_UnlockKey = [] := rfl
theorem tie_fields_complete_Types_V1Block : missing_Types_V1Block = ["V2"] := rfl
theorem tie_fields_complete_Types_V1SiacoinOutput : missing_Types_V1SiacoinOutput = [] := rfl
theorem tie_fields_complete_Types_V1SiafundOutput : missing_Types_V1SiafundOutput = [] := rfl
theorem tie_fields_complete_Types_V2Block : missing_Types_V2Block = [] := rfl
theorem tie_fields_complete_Types_V2BlockData : missing_Types_V2BlockData = [] := rfl
theorem tie_fields_complete_Types_V2Currency : missing_Types_V2Currency = [] := rfl
theorem tie_fields_complete_Types_V2FileContract : missing_Types_V2FileContract = [] := rfl
theorem tie_fields_complete_Types_V2FileContractElement : missing_Types_V2FileContractElement = [] := rfl
theorem tie_fields_complete_Types_V2FileContractExpiration : missing_Types_V2FileContractExpiration = [] := rfl
theorem tie_fields_complete_Types_V2FileContractRenewal : missing_Types_V2FileContractRenewal = [] := rfl
theorem tie_fields_complete_Types_V2FileContractRevision : missing_Types_V2FileContractRevision = [] := rfl
theorem tie_fields_complete_Types_V2SiacoinInput : missing_Types_V2SiacoinInput = [] := rfl
theorem tie_fields_complete_Types_V2SiacoinOutput : missing_Types_V2SiacoinOutput = [] := rfl
theorem tie_fields_complete_Types_V2SiafundInput : missing_Types_V2SiafundInput = [] := rfl
theorem tie_fields_complete_Types_V2SiafundOutput : missing_Types_V2SiafundOutput = [] := rfl
theorem tie_fields_complete_Types_V2StorageProof : missing_Types_V2StorageProof = [] := rfl

end C11
