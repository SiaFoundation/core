import SiaModel.Gen.FactsAlias
import SiaModel.Ledger.Alias
/-!
# C09 ties: the aliasing facts extracted from `/repo`'s working tree on every run = what the
alias model (`SiaModel/Ledger/Alias.lean`) assumes.

* every element hand-off of the application pipeline goes through `.Share()` into the callee
  and `.Copy()` into the diff record; the accumulator and the update objects guard with
  `.Move()`; validation only ever passes `.Share()`d elements to the (read-only) membership
  checks; nowhere is an element handed off raw;
* the locations `V2Transaction.DeepCopy` clones are exactly the model's list, they cover every
  slice/pointer location go/types can reach inside a `V2Transaction` (apart from the immutable
  `*time.Location`), and a cloned location's enclosing array is cloned too;
* `V2TransactionsMultiproof.EncodeTo` deep-copies, strips the copy, and computes the
  multiproof from the original.
-/
namespace C09
open Gen.FactsAlias

/-- no element is handed off raw or as the result of an arbitrary call: always `Share`,
    `Copy`, `Move` or a fresh composite literal -/
theorem tie_handoffs_no_raw : ∀ h ∈ handoffs, h.2.2.2.2 ∈ ["share", "copy", "move", "literal"] := by decide

/-- the application pipeline (`consensus/application.go`, `consensus/merkle.go`) exactly as the
    model has it: `spend*/revise*/resolve*` store `.Copy()`; their callers pass `.Share()`;
    `applyBlock`/`revertBlock`/`updateElementProof` and `RevertBlock` guard with `.Move()`;
    the JSON forms `.Share()` out and `.Move()` in. -/
theorem tie_handoffs_pipeline :
    handoffs.filter (fun h => h.1 = "application.go" ∨ h.1 = "merkle.go") =
  [("application.go", "MidState.spendSiacoinElement", "assign:sced.SiacoinElement", "sce", "copy"),
   ("application.go", "MidState.spendSiafundElement", "assign:sfed.SiafundElement", "sfe", "copy"),
   ("application.go", "MidState.reviseFileContractElement", "assign:fced.FileContractElement", "fce", "copy"),
   ("application.go", "MidState.resolveFileContractElement", "assign:fced.FileContractElement", "fce", "copy"),
   ("application.go", "MidState.reviseV2FileContractElement", "assign:fced.V2FileContractElement", "fce", "copy"),
   ("application.go", "MidState.resolveV2FileContractElement", "assign:fced.V2FileContractElement", "fce", "copy"),
   ("application.go", "MidState.createAttestationElement", "append", "types.AttestationElement", "literal"),
   ("application.go", "MidState.ApplyTransaction", "ms.spendSiacoinElement", "sce", "share"),
   ("application.go", "MidState.ApplyTransaction", "ms.spendSiafundElement", "sfe", "share"),
   ("application.go", "MidState.ApplyTransaction", "ms.reviseFileContractElement", "fce", "share"),
   ("application.go", "MidState.ApplyTransaction", "ms.resolveFileContractElement", "fce", "share"),
   ("application.go", "MidState.ApplyV2Transaction", "ms.spendSiacoinElement", "sci.Parent", "share"),
   ("application.go", "MidState.ApplyV2Transaction", "ms.spendSiafundElement", "sfi.Parent", "share"),
   ("application.go", "MidState.ApplyV2Transaction", "ms.reviseV2FileContractElement", "fcr.Parent", "share"),
   ("application.go", "MidState.ApplyV2Transaction", "ms.resolveV2FileContractElement", "fcr.Parent", "share"),
   ("application.go", "MidState.ApplyBlock", "ms.resolveFileContractElement", "fce", "share"),
   ("application.go", "RevertBlock", "assign:se", "elems[i].StateElement", "move"),
   ("application.go", "ApplyUpdate.MarshalJSON", "field:ChainIndexElement", "au.cie", "share"),
   ("application.go", "ApplyUpdate.UnmarshalJSON", "assign:au.cie", "js.ChainIndexElement", "move"),
   ("application.go", "RevertUpdate.MarshalJSON", "field:ChainIndexElement", "ru.cie", "share"),
   ("application.go", "RevertUpdate.UnmarshalJSON", "assign:ru.cie", "js.ChainIndexElement", "move"),
   ("merkle.go", "ElementAccumulator.applyBlock", "assign:_", "el", "move"),
   ("merkle.go", "ElementAccumulator.applyBlock", "assign:_", "el", "move"),
   ("merkle.go", "ElementAccumulator.revertBlock", "assign:_", "el", "move"),
   ("merkle.go", "ElementAccumulator.revertBlock", "assign:_", "el", "move"),
   ("merkle.go", "elementApplyUpdate.updateElementProof", "assign:_", "e", "move"),
   ("merkle.go", "elementRevertUpdate.updateElementProof", "assign:_", "e", "move")] := rfl

/-- validation never copies or moves an element: it hands `.Share()`d elements to the
    accumulator's membership checks and to the contract rules -/
theorem tie_handoffs_validation_share :
    ∀ h ∈ handoffs, h.1 = "validation.go" → h.2.2.2.2 = "share" := by decide

/-- the remaining hand-offs (`consensus/state.go`): revision elements are `.Share()`d views of
    the diff's element; a decoded diff is `.Move()`d (fresh from the decoder) -/
theorem tie_handoffs_state :
    handoffs.filter (fun h => h.1 = "state.go") =
  [("state.go", "FileContractElementDiff.RevisionElement", "field:StateElement", "diff.FileContractElement.StateElement", "share"),
   ("state.go", "V2FileContractElementDiff.UnmarshalJSON", "discard", "diff.V2FileContractElement", "move"),
   ("state.go", "V2FileContractElementDiff.V2RevisionElement", "field:StateElement", "diff.V2FileContractElement.StateElement", "share")] := rfl

/-- element `Copy` clones exactly the Merkle proof (model: `StateElement.copy`) -/
theorem tie_copy_methods :
    copy_StateElement = ["MerkleProof"] ∧
    [copy_SiacoinElement, copy_SiafundElement, copy_FileContractElement, copy_V2FileContractElement,
     copy_ChainIndexElement, copy_AttestationElement] = List.replicate 6 ["StateElement/MerkleProof"] := ⟨rfl, rfl⟩

theorem tie_policy_cloned : policyCloned =
    ["Type/(PolicyTypeThreshold)/Of", "Type/(PolicyTypeUnlockConditions)/PublicKeys",
     "Type/(PolicyTypeUnlockConditions)/PublicKeys/[]/Key"] := rfl

/-- the model's `DeepCopy` clones exactly what the code's `DeepCopy` clones -/
theorem tie_deepcopy_model_fields : deepCopyCloned = Sia.Alias.deepCopyCloned := rfl

/- Deciding `a = b` on strings goes through their UTF-8 bytes and is slow to check, and
   membership in a table of paths by `decide` takes hundreds of such comparisons. Below an
   entry is found by its position instead, so that only identical literals are compared. -/

/-- `reachable` is the model's cloned locations with the two `*time.Location`s in their
    places in the sorted order -/
theorem reachable_eq : reachable =
    (Sia.Alias.deepCopyCloned.insertIdx 16 Sia.Alias.immutableShared[0]).insertIdx 25
      Sia.Alias.immutableShared[1] := rfl

/-- Every slice/pointer/map location that go/types
    finds inside a `V2Transaction` is cloned by `DeepCopy` — except `PolicyTypeAfter`'s
    `*time.Location`, an immutable process-wide value. A newly added slice field that
    `DeepCopy` forgets makes this fail. -/
theorem tie_deepcopy_fields_complete :
    ∀ p ∈ reachable, p ∈ Sia.Alias.deepCopyCloned ∨ p ∈ Sia.Alias.immutableShared := by
  intro p hp
  rw [reachable_eq, List.mem_insertIdx (by decide), List.mem_insertIdx (by decide)] at hp
  rcases hp with rfl | rfl | hp
  · exact .inr (List.getElem_mem _)
  · exact .inr (List.getElem_mem _)
  · exact .inl hp

/-- `DeepCopy` clones nothing that is not a location of the type (no stale model entries) -/
theorem tie_deepcopy_nothing_extra : ∀ p ∈ Sia.Alias.deepCopyCloned, p ∈ reachable := by
  intro p hp
  rw [reachable_eq, List.mem_insertIdx (by decide), List.mem_insertIdx (by decide)]
  exact .inr (.inr hp)

/-- a cloned location's enclosing slice/pointer is cloned as well, so the new header is stored
    into the copy's array, never into the original's (hypothesis shape of `deepCopyWith`) -/
theorem tie_deepcopy_parents_cloned :
    ∀ x ∈ reachableInfo, x.1 ∈ Sia.Alias.deepCopyCloned → x.2.2 = "" ∨ x.2.2 ∈ Sia.Alias.deepCopyCloned := by
  -- the enclosing location of the two immutable entries is cloned too
  have h : ∀ x ∈ reachableInfo, x.2.2 = "" ∨ x.2.2 ∈ Sia.Alias.deepCopyCloned := by decide +kernel
  exact fun x hx _ => h x hx

/-- `EncodeTo`: `DeepCopy` each transaction, strip the proofs OF THE COPIES, compute the
    multiproof from the ORIGINALS (model: `multiproofEncode`) -/
theorem tie_multiproof_encode_shape : multiproofEncodeShape =
    ["deepcopy:txns[i]", "foreach:prooflessTxns", "strip:l.MerkleProof", "multiproof:txns"] := rfl

/-- the leaves it strips are five Go expressions, and the model's `multiproofStripped` are five paths among those
    `DeepCopy` clones (entries 15, 23, 11, 4, 9 of `deepCopyCloned`); only the count ties the two lists -/
theorem tie_multiproof_leaves : multiproofLeaves =
    ["txn.SiacoinInputs[i].Parent", "txn.SiafundInputs[i].Parent", "txn.FileContractRevisions[i].Parent",
     "txn.FileContractResolutions[i].Parent", "r.ProofIndex"] ∧
    Sia.Alias.multiproofStripped.length = 5 ∧
    ∀ p ∈ Sia.Alias.multiproofStripped, p ∈ Sia.Alias.deepCopyCloned :=
  ⟨rfl, rfl, fun p hp =>
    have hp : p ∈ [15, 23, 11, 4, 9].filterMap (Sia.Alias.deepCopyCloned[·]?) := hp
    let ⟨_, _, hi⟩ := List.mem_filterMap.1 hp
    List.mem_of_getElem? hi⟩

end C09
