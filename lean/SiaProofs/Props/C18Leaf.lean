/-
# C18 (continued) — the multiproof's leaf hashes are the accumulator's leaf hashes

`types/multiproof.go` has its own copies of the leaf constructors (`siacoinLeaf`, …,
`elementLeaf.hash` with the spent flag always clear). This file ties the element hash used by
the value-tree model of the multiproof codec (`SiaModel/Merkle/TxTraverse.lean`) to the
constructors read off consensus/merkle.go (`Gen.FactsLeaf`, C04).
-/
import SiaModel.Gen.FactsIds
import SiaProofs.Props.C04Fields
import SiaProofs.Props.C18
namespace C18
open Sia.Codec Sia.ElemAcc Sia.Multiproof

/-- the constructor entry (name, distinguisher, schema) of `Gen.FactsLeaf.leafSchemas` -/
def ctorOf (name : String) : Option (String × String × Sch) :=
  Gen.FactsLeaf.leafSchemas.find? (fun c => c.1 == name)

/-- the element hash of the `k`-th parent of the transaction set `t` -/
def ehReal (P : Bytes → Hash32) (t : Val) (k : Nat) (el : Val) : Hash32 :=
  match (txnsKinds t)[k]? with
  | some name => (match ctorOf name with
    | some c => P (C04.elemPre c (contentOf el))
    | none => default)
  | none => default

theorem contentOf_setProof (el : Val) (p : List Hash32) : contentOf (setProof el p) = contentOf el := by
  rcases setProof_cases el with ⟨i, vs, u, rest, rfl⟩ | h
  · rfl
  · rw [h]

/-- the element hash does not read the proof (the side condition of `c18_codec_roundtrip`) -/
theorem ehReal_setProof (P : Bytes → Hash32) (t : Val) (k : Nat) (el : Val) (p : List Hash32) :
    ehReal P t k (setProof el p) = ehReal P t k el := by
  unfold ehReal; rw [contentOf_setProof]

section
variable [Hasher Hash32]

/-- **The multiproof's leaf hash is the accumulator's leaf of the unspent element.** -/
theorem c18_leaf_hash_eq_c04 (P : Bytes → Hash32) (t : Val) (k : Nat) (el : Val) (name : String)
    (c : String × String × Sch) (hk : (txnsKinds t)[k]? = some name) (hc : ctorOf name = some c) :
    ({ tag := k, elem := ehReal P t k el, index := idxOf el, proof := proofOf el } : MLeaf Hash32).hash =
      Hasher.leaf (P (C04.elemPre c (contentOf el))) (idxOf el) false := by
  simp only [MLeaf.hash, ehReal, hk, hc]

/-- `c18_codec_roundtrip` with the real element hashes plugged in -/
theorem c18_codec_roundtrip_real (P : Bytes → Hash32)
    (encP : Val → Bytes) (decP : Bytes → Except DecErr (Val × Bytes))
    (CanonP : Val → Prop) (hrt : ∀ t rest, CanonP t → decP (encP t ++ rest) = .ok (t, rest))
    (ls : List Hash32) (t : Val) (hgood : GoodTxns t)
    (hv : ∀ l ∈ (valOps (ehReal P t) encP decP).leaves t, Valid ls l) (hn : ls.length < 2 ^ 64)
    (hcanon : CanonP ((valOps (ehReal P t) encP decP).strip t)) (tail : Bytes) :
    decodeBytes (valOps (ehReal P t) encP decP) (encodeBytes (valOps (ehReal P t) encP decP) t ++ tail) = .ok (t, tail) :=
  c18_codec_roundtrip (ehReal P t) (ehReal_setProof P t) encP decP CanonP hrt ls t hgood hv hn hcanon tail

/-- `c18_codec_roundtrip_real` with C11's codec over any lawful environment containing the modelled transaction
    codecs: the byte-level round trip with the accumulator's own leaf hashes, from
    canonicity of `t` and the premise that its parents are leaves of one forest -/
theorem c18_codec_roundtrip_real_env {E E2 E1 E0 : Env} (hE : EnvOK E) (henv : TxnEnv E E2 E1 E0) (k : Nat)
    (P : Bytes → Hash32) (ls : List Hash32) (t : Val) (hc : Canon E txnsSch t)
    (hv : ∀ l ∈ (valOps (ehReal P t) (enc E txnsSch) (dec E k txnsSch)).leaves t, Valid ls l)
    (hn : ls.length < 2 ^ 64) (tail : Bytes) :
    decodeBytes (valOps (ehReal P t) (enc E txnsSch) (dec E k txnsSch))
      (encodeBytes (valOps (ehReal P t) (enc E txnsSch) (dec E k txnsSch)) t ++ tail) = .ok (t, tail) :=
  c18_codec_roundtrip_env hE henv k (ehReal P t) (ehReal_setProof P t) ls t hc hv hn tail

end

/-- a schema without its field labels (labels carry no wire meaning) -/
def eraseLabels : Sch → Sch
  | .cons _ s r => .cons "" (eraseLabels s) (eraseLabels r)
  | .slice s => .slice (eraseLabels s)
  | .opt s => .opt (eraseLabels s)
  | .uslice s => .uslice (eraseLabels s)
  | .aslice s => .aslice (eraseLabels s)
  | s => s

/-- the schema of an element after its first field (the StateElement) -/
def elementTail : Sch → Sch
  | .cons _ _ r => r
  | s => s

open Sia.Codec.Gen in
/-- **what each constructor hashes is the element's content**: the hashed schema equals the
    element's codec schema minus the StateElement, labels aside, so the element hash is over
    the schema of every encoded field of the element except the StateElement. (That `contentOf el`
    of a canonical element value is canonical for the constructor's schema is not proved: no lemma
    says that `Canon` ignores labels.)
    (`types.AttestationElement` has no codec of its own, hence no line here.) -/
theorem tie_leaf_schema_is_element_tail :
    eraseLabels Gen.FactsLeaf.leafSchema_siacoinLeaf = eraseLabels (elementTail encSchema_Types_SiacoinElement) ∧
    eraseLabels Gen.FactsLeaf.leafSchema_siafundLeaf = eraseLabels (elementTail encSchema_Types_SiafundElement) ∧
    eraseLabels Gen.FactsLeaf.leafSchema_v2FileContractLeaf = eraseLabels (elementTail encSchema_Types_V2FileContractElement) ∧
    eraseLabels Gen.FactsLeaf.leafSchema_chainIndexLeaf = eraseLabels (elementTail encSchema_Types_ChainIndexElement) ∧
    eraseLabels Gen.FactsLeaf.leafSchema_fileContractLeaf = eraseLabels (elementTail encSchema_Types_FileContractElement) := by
  refine ⟨by rfl, by rfl, by rfl, by rfl, by rfl⟩

/-- the leaf constructors copied into package types (used by the multiproof code) hash the
    same distinguishers and argument lists, written the same way, as those of package
    consensus (`Gen.FactsIds.hashAllCalls` lists every `hashAll` call of both packages) -/
theorem tie_multiproof_constructors :
    ∀ n ∈ ["chainIndexLeaf", "siacoinLeaf", "siafundLeaf", "v2FileContractLeaf"],
      ((Gen.FactsIds.hashAllCalls.find? (fun c => c.1 == "types." ++ n)).map fun c => (c.2.1, c.2.2.map (·.2))) =
      ((Gen.FactsIds.hashAllCalls.find? (fun c => c.1 == "consensus." ++ n)).map fun c => (c.2.1, c.2.2.map (·.2))) ∧
      (Gen.FactsIds.hashAllCalls.find? (fun c => c.1 == "types." ++ n)).isSome = true := by decide +kernel

end C18
