import SiaProofs.Lemmas.TextJsonUpdate
import SiaProofs.Props.C20
/-!
# C20 — the JSON layer at tree level

`encoding/json` (bytes ↔ tree) is trusted.  Proved here, about `SiaModel/Text/JsonTree.lean`
and `JsonUpdate.lean`: every hand-written marshaler modelled there reads back what it writes
(`c20_json_tree_roundtrip_*`; not modelled: `V2StorageProof`, the `claimAddress` of `SiafundInput`,
rhp/v3 `SettingsID`, rhp/v2 `HostSettings`, the outer object of `V2FileContractElementDiff`),
the byte splice of `V2FileContractElementDiff` is the
tree operation "append one `type` field" (`c20_diff_splice`), and an update that went
through its tree refreshes proofs exactly as the original (`c20_update_json_equiv`) —
which is false for the encoding before repair fcf35a3 (`c20_update_json_old_cex`).
-/
namespace C20
open Sia.Text Sia.Text.Json Sia.ElemAcc

/-- field names (and `omitempty`) of the leaf form and of the two update forms -/
theorem tie_update_json_fields :
    Gen.FactsText.elementLeafJSONTags = ["leafIndex", "merkleProof,omitempty", "elementHash", "spent"]
    ∧ Gen.FactsText.applyUpdateJSONTags = ["siacoinElements", "siafundElementDiffs", "fileContractElementDiffs",
        "v2FileContractElementDiffs", "attestationElements", "chainIndexElement",
        "updatedLeaves", "treeGrowth", "oldNumLeaves", "numLeaves"]
    ∧ Gen.FactsText.revertUpdateJSONTags = ["siacoinElements", "siafundElementDiffs", "fileContractElementDiffs",
        "v2FileContractElementDiffs", "attestationElements", "chainIndexElement", "updatedLeaves", "numLeaves"]
    ∧ Gen.FactsText.elementLeafCustomJSON = true := by decide +kernel

/-- `MarshalJSON` writes entry `i` of the `[64]` arrays under map key `i`, and `UnmarshalJSON`
    files every map entry under ITS KEY (`updated[i] = els`, `treeGrowth[i] = els`) — not by
    any property of the decoded leaves.  (`mapToTree` / `fileEntries` of the model.) -/
theorem tie_update_json_files_by_key :
    Gen.FactsText.applyUpdateWritesLeavesByIndex = true ∧ Gen.FactsText.applyUpdateWritesGrowthByIndex = true
    ∧ Gen.FactsText.revertUpdateWritesLeavesByIndex = true
    ∧ Gen.FactsText.applyUpdateFilesLeavesByKey = true ∧ Gen.FactsText.applyUpdateFilesGrowthByKey = true
    ∧ Gen.FactsText.revertUpdateFilesLeavesByKey = true := by decide

/-- the resolution kinds' `type` strings, and no resolution has a field called `type` of its
    own (so the splice adds the only one) -/
theorem tie_diff_no_type_field :
    Gen.FactsText.resolutionTags = ["renewal", "storageProof", "expiration"]
    ∧ "type" ∉ Gen.FactsText.renewalJSONTags ∧ "type" ∉ Gen.FactsText.v2StorageProofJSONTags
    ∧ Gen.FactsText.renewalJSONTags ≠ [] ∧ Gen.FactsText.v2StorageProofJSONTags ≠ [] := by decide +kernel

section
variable {H : Type} (encH : H → Json) (decH : Json → Option H) (zero : H)

/-- what Go's `[64]` arrays and `uint64` counters guarantee of an update -/
structure ApplyWF (u : ApplyUpdate H) : Prop where
  upd64 : ∀ k, 64 ≤ k → u.updated k = []
  growth64 : ∀ k, 64 ≤ k → u.growth k = []
  idx : ∀ k, ∀ l ∈ u.updated k, l.index < 2 ^ 64
  old : u.oldNumLeaves < 2 ^ 64
  new : u.numLeaves < 2 ^ 64

structure RevertWF (u : RevertUpdate H) : Prop where
  upd64 : ∀ k, 64 ≤ k → u.updated k = []
  idx : ∀ k, ∀ l ∈ u.updated k, l.index < 2 ^ 64
  new : u.numLeaves < 2 ^ 64

theorem applyOfTree_applyToTreeWith (hc : HashCodec encH decH) (leafEnc : Leaf H → Json) (φ : Leaf H → Leaf H)
    (hlaw : ∀ l : Leaf H, l.index < 2 ^ 64 → leafOfTree decH zero (leafEnc l) = some (φ l))
    (diffs : List (Txt × Json)) (u : ApplyUpdate H) (hwf : ApplyWF u) :
    applyOfTree decH zero (applyToTreeWith encH leafEnc diffs u)
      = some { u with updated := fun k => (u.updated k).map φ } := by
  have nd : [key! "updatedLeaves", key! "treeGrowth", key! "oldNumLeaves", key! "numLeaves"].Nodup := by decide
  have hU := mapOfTree_mapToTree_gen leafEnc (leafOfTree decH zero) φ u.updated
    (fun k l hl => hlaw l (hwf.idx k l hl)) hwf.upd64
  have hG := mapOfTree_mapToTree encH decH u.growth (fun _ a _ => hc.law a) hwf.growth64
  unfold applyToTreeWith
  simp only [applyOfTree]
  rw [fieldOr_get _ (key! "updatedLeaves") _ _ _ (getF_append_right (getF_nth nd (by rfl) 0 (by rfl))) (by rfl),
    fieldOr_get _ (key! "treeGrowth") _ _ _ (getF_append_right (getF_nth nd (by rfl) 1 (by rfl))) (by rfl),
    fieldOr_get _ (key! "oldNumLeaves") _ _ _ (getF_append_right (getF_nth nd (by rfl) 2 (by rfl))) (by rfl),
    fieldOr_get _ (key! "numLeaves") _ _ _ (getF_append_right (getF_nth nd (by rfl) 3 (by rfl))) (by rfl),
    hU, hG, toNatBits_ofNat 64 _ hwf.old, toNatBits_ofNat 64 _ hwf.new]

/-- `ApplyUpdate`: UnmarshalJSON (MarshalJSON u) = u — the leaves come back WITH element
    hash, spent flag, index and proof, under the height they were filed at, and so do
    treeGrowth and both leaf counts.  The element diffs `diffs` are irrelevant. -/
theorem c20_json_tree_roundtrip_ApplyUpdate (hc : HashCodec encH decH) (diffs : List (Txt × Json))
    (u : ApplyUpdate H) (hwf : ApplyWF u) :
    applyOfTree decH zero (applyToTree encH diffs u) = some u := by
  rw [applyToTree, applyOfTree_applyToTreeWith encH decH zero hc (leafToTree encH) id
    (fun l => leafOfTree_leafToTree encH decH zero hc l) diffs u hwf]
  simp only [List.map_id_fun, id_eq]

theorem c20_json_tree_roundtrip_RevertUpdate (hc : HashCodec encH decH) (diffs : List (Txt × Json))
    (u : RevertUpdate H) (hwf : RevertWF u) :
    revertOfTree decH zero (revertToTree encH diffs u) = some u := by
  have hU := mapOfTree_mapToTree (leafToTree encH) (leafOfTree decH zero) u.updated
    (fun k l hl => leafOfTree_leafToTree encH decH zero hc l (hwf.idx k l hl)) hwf.upd64
  unfold revertToTree revertToTreeWith
  simp only [revertOfTree]
  rw [fieldOr_get _ (key! "updatedLeaves") _ _ _ (getF_append_right (by rfl)) (by rfl),
    fieldOr_get _ (key! "numLeaves") _ _ _ (getF_append_right (by rfl)) (by rfl),
    hU, toNatBits_ofNat 64 _ hwf.new]

/-- The encoding BEFORE repair fcf35a3 (only the embedded StateElement of each leaf is
    written): what comes back is the update with every updated leaf's element hash zeroed
    and its spent flag cleared. -/
theorem c20_json_tree_old_ApplyUpdate (hc : HashCodec encH decH) (diffs : List (Txt × Json))
    (u : ApplyUpdate H) (hwf : ApplyWF u) :
    applyOfTree decH zero (applyToTreeOld encH diffs u)
      = some { u with updated := fun k => (u.updated k).map (fun l => { l with elem := zero, spent := false }) } :=
  applyOfTree_applyToTreeWith encH decH zero hc (leafToTreeOld encH) _
    (fun l => leafOfTree_leafToTreeOld encH decH zero hc l) diffs u hwf

variable [Hasher H]

/-- An `ApplyUpdate` that has been through its JSON tree refreshes every element proof
    exactly as the original does (`elementApplyUpdate.updateElementProof` of the
    accumulator model), for every tracked element `(idx, proof)`. -/
theorem c20_update_json_equiv (hc : HashCodec encH decH) (diffs : List (Txt × Json)) (u : ApplyUpdate H)
    (hwf : ApplyWF u) (idx : Nat) (proof : List H) :
    (applyOfTree decH zero (applyToTree encH diffs u)).map (fun u' => u'.updateElementProof idx proof)
      = some (u.updateElementProof idx proof) := by
  rw [c20_json_tree_roundtrip_ApplyUpdate encH decH zero hc diffs u hwf]
  rfl

/-- the same for a `RevertUpdate` -/
theorem c20_update_json_equiv_revert (hc : HashCodec encH decH) (diffs : List (Txt × Json)) (u : RevertUpdate H)
    (hwf : RevertWF u) (idx : Nat) (proof : List H) :
    (revertOfTree decH zero (revertToTree encH diffs u)).map (fun u' => u'.updateElementProof idx proof)
      = some (u.updateElementProof idx proof) := by
  rw [c20_json_tree_roundtrip_RevertUpdate encH decH zero hc diffs u hwf]
  rfl

end

/-! ### the guard for repair fcf35a3 -/

def okOf {α : Type} : Except String α → Option α
  | .ok x => some x
  | .error _ => none

theorem mh01 : mergeHeight 0 1 = 1 := by decide
theorem mh31 : mergeHeight 3 0 = 2 := by decide

section
variable {H : Type} [Hasher H] (encH : H → Json) (decH : Json → Option H) (zero : H)

/-- three leaves; leaf 1 (element hash `e`) is spent by the block, its proof is `[p]` -/
def uWit (e p : H) : ApplyUpdate H :=
  { updated := fun k => if k = 1 then [⟨e, true, 1, [p]⟩] else []
    growth := fun _ => [], oldNumLeaves := 3, numLeaves := 3 }

omit [Hasher H] in
theorem uWit_wf (e p : H) : ApplyWF (uWit e p) := by
  refine ⟨?_, ?_, ?_, by simp [uWit], by simp [uWit]⟩
  · intro k hk; simp [uWit]; omega
  · intro k _; rfl
  · intro k l hl
    simp only [uWit] at hl
    split at hl
    · simp at hl; subst hl; simp
    · simp at hl

/-- **Counter-theorem for the encoding before repair fcf35a3.**  A tracked element at leaf 0
    (proof `[x]`), refreshed by the ORIGINAL update, gets the hash of the spent leaf 1 —
    `leaf e 1 true` — as its sibling; refreshed by the update that went through the OLD
    JSON form (leaf index and proof only) it gets `leaf zero 1 false`, computed from a zero
    element hash and a cleared spent flag.  The two differ as soon as the leaf hash
    distinguishes them (any collision-free hash), so the refreshed proof cannot verify. -/
theorem c20_update_json_old_cex (hc : HashCodec encH decH) (e p x : H) :
    (applyOfTree decH zero (applyToTreeOld encH [] (uWit e p))).bind (fun u' => okOf (u'.updateElementProof 0 [x]))
      = some [Hasher.leaf zero 1 false]
    ∧ okOf ((uWit e p).updateElementProof 0 [x]) = some [Hasher.leaf e 1 true]
    ∧ (applyOfTree decH zero (applyToTree encH [] (uWit e p))).bind (fun u' => okOf (u'.updateElementProof 0 [x]))
      = some [Hasher.leaf e 1 true] := by
  have horig : okOf ((uWit e p).updateElementProof 0 [x]) = some [Hasher.leaf e 1 true] := by
    simp [uWit, ApplyUpdate.updateElementProof, updateProof, unassignedLeafIndex, mh01, mh31, okOf,
      Leaf.hash, Sia.ElemAcc.proofRoot, proofRootFrom, copyInto]
  refine ⟨?_, horig, ?_⟩
  · rw [c20_json_tree_old_ApplyUpdate encH decH zero hc [] (uWit e p) (uWit_wf e p)]
    simp [uWit, ApplyUpdate.updateElementProof, updateProof, unassignedLeafIndex, mh01, mh31, okOf,
      Leaf.hash, Sia.ElemAcc.proofRoot, proofRootFrom, copyInto]
  · rw [c20_json_tree_roundtrip_ApplyUpdate encH decH zero hc [] (uWit e p) (uWit_wf e p)]
    exact horig

end

/-- the hypotheses are satisfiable: natural numbers as hashes, written as JSON numbers -/
example : HashCodec (fun n : Nat => Json.num n) (fun j => match j with | .num i => some i.toNat | _ => none) :=
  ⟨fun h => by simp, fun h => by simp⟩

theorem ciOfTree_obj (fs : List (Txt × Json)) : ciOfTree (.obj fs) =
    match fieldOr fs (key! "height") 0 (toNatBits 64), fieldOr fs (key! "id") (List.replicate 32 0) (toHex 32) with
    | some h, some id => some ⟨h, id⟩
    | _, _ => none := rfl

/-- `types.ChainIndex` (object form) -/
theorem c20_json_tree_roundtrip_ChainIndex (ci : ChainIndex) (hh : ci.height < 2 ^ 64) (hid : ci.id.length = 32) :
    ciOfTree (ciToTree ci) = some ci := by
  have nd : [key! "height", key! "id"].Nodup := by decide
  unfold ciToTree
  rw [ciOfTree_obj, fieldOr_nth nd 0, fieldOr_nth nd 1, toNatBits_ofNat 64 _ hh, toHex_ofHex 32 _ hid]

/-- `consensus.Work` -/
theorem c20_json_tree_roundtrip_Work (n : Nat) (h : n < 2 ^ 256) : workOfTree (workToTree n) = some n := by
  simp [workOfTree, workToTree, c20_work_roundtrip n h]

/-- rhp/v4 `ProtocolVersion`: the string form, and the legacy array form denotes the same value -/
theorem c20_json_tree_roundtrip_ProtocolVersion (a b c : Nat) (ha : a < 256) (hb : b < 256) (hc : c < 256) :
    versionOfTree (versionToTree a b c) = some (a, b, c)
    ∧ versionOfTree (.arr [ofNat a, ofNat b, ofNat c]) = some (a, b, c) := by
  constructor
  · simp [versionOfTree, versionToTree, c20_version_roundtrip a b c ha hb hc]
  · simp [versionOfTree, toNatBits_ofNat 8 a (by omega), toNatBits_ofNat 8 b (by omega), toNatBits_ofNat 8 c (by omega)]

/-- `types.StorageProof` (leaf as a 128-character hex string; a nil proof is null) -/
theorem c20_json_tree_roundtrip_StorageProof (sp : StorageProofV) (hp : sp.parentID.length = 32)
    (hl : sp.leaf.length = 64) (hpr : ∀ l, sp.proof = some l → ∀ h ∈ l, h.length = 32) :
    spOfTree (spToTree sp) = some sp := by
  have nd : [key! "parentID", key! "leaf", key! "proof"].Nodup := by decide
  have hl' : ¬ (hexEnc sp.leaf).length ≠ 128 := by rw [hexEnc_length, hl]; decide
  unfold spToTree
  simp only [spOfTree]
  rw [fieldOr_nth nd 0, fieldOr_nth_ne nd 1, fieldOr_nth nd 2, toHex_ofHex 32 _ hp,
    toSlice_ofSlice ofHex (toHex 32) sp.proof (fun l hl' a ha => toHex_ofHex 32 a (hpr l hl' a ha))]
  simp only [hl', if_false, hexDec_hexEnc]

/-! ### ElementAccumulator: the `trees` list holds exactly the occupied slots -/

theorem assignTrees_map {H : Type} (zero : H) (t : Nat → H) : ∀ (is : List Nat), is.Nodup →
    ∀ j, assignTrees zero is (is.map t) j = if j ∈ is then t j else zero := by
  intro is
  induction is with
  | nil => intro _ j; simp [assignTrees]
  | cons i is ih =>
    intro hnd j
    have hi : i ∉ is := (List.nodup_cons.mp hnd).1
    simp only [List.map, assignTrees]
    by_cases hj : j = i
    · subst hj; simp
    · rw [if_neg hj, ih (List.nodup_cons.mp hnd).2 j]
      simp [hj]

theorem occupied_nodup (n : Nat) : (occupied n).Nodup := by
  unfold occupied
  exact List.Nodup.sublist List.filter_sublist List.nodup_range

theorem accOfTree_obj {H : Type} (zero : H) (decH : Json → Option H) (fs : List (Txt × Json)) :
    accOfTree zero decH (.obj fs) =
    match fieldOr fs (key! "numLeaves") 0 (toNatBits 64), fieldOr fs (key! "trees") none (toSlice decH) with
    | some n, some ts =>
      let roots := ts.getD []
      if roots.length ≠ (occupied n).length then none
      else some (n, assignTrees zero (occupied n) roots)
    | _, _ => none := rfl

/-- `consensus.ElementAccumulator`: reading back the written form gives the same leaf count
    and, at every height where the accumulator has a tree (bit set in `numLeaves`), the same
    root; the other 64 − popcount slots — stale in Go, never encoded — come back zero. -/
theorem c20_json_tree_roundtrip_ElementAccumulator {H : Type} (encH : H → Json) (decH : Json → Option H) (zero : H)
    (hc : HashCodec encH decH) (n : Nat) (hn : n < 2 ^ 64) (trees : Nat → H) :
    ∃ g, accOfTree zero decH (accToTree encH n trees) = some (n, g)
      ∧ ∀ i, g i = if i < 64 ∧ n.testBit i then trees i else zero := by
  refine ⟨assignTrees zero (occupied n) ((occupied n).map trees), ?_, ?_⟩
  · unfold accToTree
    have nd : [key! "numLeaves", key! "trees"].Nodup := by decide
    have hdl : decList decH (((occupied n).map (fun i => encH (trees i)))) = some ((occupied n).map trees) :=
      decList_map_gen (fun i => encH (trees i)) decH trees (occupied n) (fun a _ => hc.law (trees a))
    rw [accOfTree_obj, fieldOr_nth nd 0, fieldOr_nth nd 1, toNatBits_ofNat 64 n hn, toSlice, hdl]
    simp
  · intro i
    rw [assignTrees_map zero trees (occupied n) (occupied_nodup n) i]
    simp [occupied]

section
variable (Hh : List UInt8 → List UInt8) (hi : Nat → Bool)

theorem keysOfTree_keysToTree (ks : List UnlockKey) (h : ∀ k ∈ ks, k.alg.length = 16) :
    keysOfTree (keysToTree hi ks) = some ks := by
  cases ks with
  | nil => rfl
  | cons k ks =>
    simp only [keysToTree, keysOfTree]
    exact decList_map (ukToTree hi) ukOfTree (k :: ks) (fun a ha => by
      simp [ukToTree, ukOfTree, parseUk_ukText hi 16 a (h a ha)])

theorem ucOfFields_ucFields (tl sg : Nat) (ks : List UnlockKey) (htl : tl < 2 ^ 64) (hsg : sg < 2 ^ 64)
    (h : ∀ k ∈ ks, k.alg.length = 16) : ucOfFields (ucFields hi tl ks sg) = some (tl, ks, sg) := by
  have nd : [key! "timelock", key! "publicKeys", key! "signaturesRequired"].Nodup := by decide
  unfold ucFields
  rw [ucOfFields, fieldOr_nth nd 0, fieldOr_nth nd 1, fieldOr_nth nd 2, toNatBits_ofNat 64 _ htl,
    toNatBits_ofNat 64 _ hsg, keysOfTree_keysToTree hi ks h]

theorem ucOfTree_obj (fs : List (Txt × Json)) : ucOfTree (.obj fs) = ucOfFields fs := rfl

theorem policyOfTree_two (f : Nat) (typ : Txt) (body : Json) :
    policyOfTree Hh (f + 1) (.obj [(key! "type", .str typ), (key! "policy", body)])
      = policyBody Hh (policyListOfTree Hh f) typ body := rfl

theorem pk_prefix_eq : Gen.FactsText.pkPrefixBytes = Gen.FactsText.pkAlgBytes ++ [58] := by decide

mutual
  theorem policyOfTree_policyToTree (hH : ∀ x, 6 ≤ (Hh x).length) : ∀ (p : Policy) (f : Nat), p.WF → p.size ≤ f →
      policyOfTree Hh f (policyToTree Hh hi p) = some p
    | p, 0, _, hf => absurd hf (Nat.not_le.2 p.size_pos)
    | .above h, f + 1, hwf, _ => by
      rw [policyToTree, policyOfTree_two]
      unfold policyBody
      simp (decide := true) only [if_true, toNatBits_ofNat 64 h hwf, Option.map_some]
    | .after t, f + 1, hwf, _ => by
      have : -(2 ^ 63 : Int) ≤ t ∧ t < 2 ^ 63 := hwf
      rw [policyToTree, policyOfTree_two]
      unfold policyBody
      simp (decide := true) only [if_false, if_true, this, and_self]
    | .pk k, f + 1, hwf, _ => by
      rw [policyToTree, policyOfTree_two]
      unfold policyBody
      simp (decide := true) only [if_false, if_true, pk_prefix_eq,
        (c20_pk_prefix Gen.FactsText.pkAlgBytes 32 alg_no_colon).1 k hwf, Option.map_some]
    | .hash k, f + 1, hwf, _ => by
      rw [policyToTree, policyOfTree_two]
      unfold policyBody
      simp (decide := true) only [if_false, if_true, toHex_ofHex 32 k hwf, Option.map_some]
    | .opaque a, f + 1, hwf, _ => by
      rw [policyToTree, policyOfTree_two]
      unfold policyBody
      simp (decide := true) only [if_false, if_true, c20_address_roundtrip Hh 32 6 hH a hwf, Option.map_some]
    | .uc tl ks sg, f + 1, hwf, _ => by
      rw [policyToTree, policyOfTree_two]
      unfold policyBody
      simp (decide := true) only [if_false, if_true,
        ucOfFields_ucFields hi tl sg ks hwf.1 hwf.2.1 hwf.2.2, Option.map_some]
    | .thresh n ps, f + 1, hwf, hf => by
      have nd : [key! "n", key! "of"].Nodup := by decide
      rw [policyToTree, policyOfTree_two]
      unfold policyBody
      simp (decide := true) only [if_false, if_true]
      rw [fieldOr_nth nd 0, getF_nth nd rfl 1 rfl, toNatBits_ofNat 8 n hwf.1]
      cases ps with
      | nil => rfl
      | cons p ps' =>
        simp only [Policy.size] at hf
        simp only [policyListToTree]
        rw [← policyItems, policyItems_roundtrip hH (.cons p ps') f hwf.2 (by omega)]
        rfl
  theorem policyItems_roundtrip (hH : ∀ x, 6 ≤ (Hh x).length) : ∀ (ps : PolicyList) (f : Nat), ps.WF → ps.size ≤ f →
      policyListOfTree Hh f (policyItems Hh hi ps) = some ps
    | ps, 0, _, hf => absurd hf (by cases ps <;> simp [PolicyList.size])
    | .nil, f + 1, _, _ => rfl
    | .cons p ps, f + 1, hwf, hf => by
      simp only [PolicyList.size] at hf
      simp only [policyItems, policyListOfTree]
      rw [policyOfTree_policyToTree hH p f hwf.1 (by omega), policyItems_roundtrip hH ps f hwf.2 (by omega)]
end

/-- `types.SpendPolicy`, object form `{"type","policy"}`: every kind, nested thresholds, `uc`
    with any keys; `Hh` is the address checksum hash (any function with ≥ 6 bytes of output) -/
theorem c20_json_tree_roundtrip_SpendPolicy (hH : ∀ x, 6 ≤ (Hh x).length) (p : Policy) (hwf : p.WF) :
    policyOfTree Hh p.size (policyToTree Hh hi p) = some p :=
  policyOfTree_policyToTree Hh hi hH p p.size hwf (Nat.le_refl _)

end

section
variable (Hh : List UInt8 → List UInt8) (hi : Nat → Bool)

theorem addrOfTree_str (hH : ∀ x, 6 ≤ (Hh x).length) (a : List UInt8) (ha : a.length = 32) :
    addrOfTree Hh (.str (addrStringH Hh 6 a)) = some a := by
  simp [addrOfTree, c20_address_roundtrip Hh 32 6 hH a ha]

/-- `SiacoinOutput` (default form), also with an extra leading `id` field as
    Transaction.MarshalJSON writes it -/
theorem outputOfTree_outputToTree (hH : ∀ x, 6 ≤ (Hh x).length) (o : OutputV) (hv : o.value < 2 ^ 128)
    (ha : o.address.length = 32) :
    outputOfTree Hh (outputToTree Hh o) = some o
    ∧ ∀ idv, outputOfTree Hh (withField (key! "id") idv (outputToTree Hh o)) = some o := by
  have nd : [key! "value", key! "address"].Nodup := by decide
  have nd' : [key! "id", key! "value", key! "address"].Nodup := by decide
  constructor
  · show outputOfFields Hh (outputFields Hh o) = _
    unfold outputFields
    rw [outputOfFields, fieldOr_nth nd 0, fieldOr_nth nd 1, toCurrency_ofCurrency _ hv, addrOfTree_str Hh hH _ ha]
  · intro idv
    show outputOfFields Hh ((key! "id", idv) :: outputFields Hh o) = _
    unfold outputFields
    rw [outputOfFields, fieldOr_nth nd' 1, fieldOr_nth nd' 2, toCurrency_ofCurrency _ hv, addrOfTree_str Hh hH _ ha]

/-- the values a revision can hold -/
structure RevisionWF (r : RevisionV) : Prop where
  pid : r.parentID.length = 32
  tl : r.timelock < 2 ^ 64
  keys : ∀ k ∈ r.keys, k.alg.length = 16
  sg : r.sigsRequired < 2 ^ 64
  fsz : r.filesize < 2 ^ 64
  root : r.fileMerkleRoot.length = 32
  ws : r.windowStart < 2 ^ 64
  we : r.windowEnd < 2 ^ 64
  vo : ∀ l, r.validOutputs = some l → ∀ o ∈ l, o.value < 2 ^ 128 ∧ o.address.length = 32
  mo : ∀ l, r.missedOutputs = some l → ∀ o ∈ l, o.value < 2 ^ 128 ∧ o.address.length = 32
  uh : r.unlockHash.length = 32
  rn : r.revisionNumber < 2 ^ 64

/-- `types.FileContractRevision`: the payout is not written; whatever it was, it reads back
    as the sentinel `2^128 − 1` — every other field is preserved.  (So the round trip is the
    identity exactly on revisions whose payout already is the sentinel, which is what the
    decoders — binary and JSON — always produce.) -/
theorem c20_json_tree_roundtrip_FileContractRevision (hH : ∀ x, 6 ≤ (Hh x).length) (r : RevisionV) (hwf : RevisionWF r) :
    revisionOfTree Hh (revisionToTree Hh hi r) = some { r with payout := payoutSentinel } := by
  have nd : [key! "parentID", key! "unlockConditions", key! "filesize", key! "fileMerkleRoot", key! "windowStart",
      key! "windowEnd", key! "validProofOutputs", key! "missedProofOutputs", key! "unlockHash",
      key! "revisionNumber"].Nodup := by decide
  have outs : ∀ (s : Option (List OutputV)), (∀ l, s = some l → ∀ o ∈ l, o.value < 2 ^ 128 ∧ o.address.length = 32) →
      toSlice (outputOfTree Hh) (ofSlice (outputToTree Hh) s) = some s := fun s h =>
    toSlice_ofSlice _ _ s fun l hl o ho => (outputOfTree_outputToTree Hh hH o (h l hl o ho).1 (h l hl o ho).2).1
  unfold revisionToTree
  simp only [revisionOfTree]
  rw [fieldOr_nth nd 0, fieldOr_nth nd 1, fieldOr_nth nd 2, fieldOr_nth nd 3, fieldOr_nth nd 4,
    fieldOr_nth nd 5, fieldOr_nth nd 6, fieldOr_nth nd 7, fieldOr_nth nd 8, fieldOr_nth nd 9,
    toHex_ofHex 32 _ hwf.pid, ucOfTree_obj, ucOfFields_ucFields hi _ _ _ hwf.tl hwf.sg hwf.keys,
    toNatBits_ofNat 64 _ hwf.fsz, toHex_ofHex 32 _ hwf.root, toNatBits_ofNat 64 _ hwf.ws,
    toNatBits_ofNat 64 _ hwf.we, outs _ hwf.vo, outs _ hwf.mo, addrOfTree_str Hh hH _ hwf.uh,
    toNatBits_ofNat 64 _ hwf.rn]

/-- `SiacoinInput` (and what `SiafundInput` shares with it; its `claimAddress` is not modelled):
    the extra `address` field (whatever `unlockHash` computes) is written and ignored on input -/
theorem c20_json_tree_roundtrip_SiacoinInput (unlockHash : InputV → List UInt8) (i : InputV)
    (hp : i.parentID.length = 32) (htl : i.timelock < 2 ^ 64) (hsg : i.sigsRequired < 2 ^ 64)
    (hk : ∀ k ∈ i.keys, k.alg.length = 16) :
    inputOfTree (inputToTree Hh hi unlockHash i) = some i := by
  have nd : [key! "parentID", key! "unlockConditions", key! "address"].Nodup := by decide
  unfold inputToTree
  simp only [inputOfTree]
  rw [fieldOr_nth nd 0, fieldOr_nth nd 1, toHex_ofHex 32 _ hp, ucOfTree_obj,
    ucOfFields_ucFields hi _ _ _ htl hsg hk]

end

section
variable (Hh : List UInt8 → List UInt8) (hi : Nat → Bool)

/-- `types.SatisfiedPolicy`: preimages as hex strings; empty signature / preimage lists are
    omitted and read back as empty -/
theorem c20_json_tree_roundtrip_SatisfiedPolicy (hH : ∀ x, 6 ≤ (Hh x).length) (sp : SatisfiedV) (hwf : sp.policy.WF)
    (hs : ∀ x ∈ sp.signatures, x.length = 64) (hp : ∀ x ∈ sp.preimages, x.length = 32) :
    satisfiedOfTree Hh sp.policy.size (satisfiedToTree Hh hi sp) = some sp := by
  have hsig (l : List Json) := getF_omitEmpty_ne (k := key! "preimages") (k' := key! "signatures") (by decide) l
  have hpre (l : List Json) := getF_omitEmpty_ne (k := key! "signatures") (k' := key! "preimages") (by decide) l
  unfold satisfiedToTree
  simp only [satisfiedOfTree]
  rw [getF_append_left (getF_omitEmpty_ne (by decide) _),
    getF_append_left (getF_omitEmpty_ne (by decide) _),
    fieldOr_optArr _ (key! "signatures") _ (toHex 64)
      (by rw [getF_append_left (hpre _), getF_append_of_none rfl]; exact optArr_omitEmpty _ _),
    fieldOr_optArr _ (key! "preimages") _ (toHexStrict 32)
      (by rw [getF_append_of_none (by rw [getF_append_left (hsig _)]; rfl)]; exact optArr_omitEmpty _ _),
    decList_map ofHex (toHex 64) _ (fun a ha => toHex_ofHex 64 a (hs a ha)),
    decList_map ofHex (toHexStrict 32) _ (fun a ha => toHex_ofHex 32 a (hp a ha))]
  rw [show getF (key! "policy") [(key! "policy", policyToTree Hh hi sp.policy)] = some (policyToTree Hh hi sp.policy) from rfl,
    Option.bind_some, c20_json_tree_roundtrip_SpendPolicy Hh hi hH sp.policy hwf]

end

/-! ## Transaction / V2Transaction: the emitted `id` fields are ignored on input -/

/-- a decoder of a field list that does not look at field `k` -/
def IgnoresFront {ρ : Type} (dec : List (Txt × Json) → Option ρ) (k : Txt) : Prop :=
  ∀ v fs, dec ((k, v) :: fs) = dec fs

theorem getF_outsField_ne {k k' : Txt} (h : k' ≠ k) (omitE : Bool) (l : List (Json × Json)) :
    getF k (outsField omitE k' l) = none := by
  unfold outsField
  split
  · rfl
  · simp only [getF, if_neg h]

theorem optArr_outsField (omitE : Bool) (k : Txt) (l : List (Json × Json)) :
    OptArr (getF k (outsField omitE k l)) (l.map fun x => withField (key! "id") x.1 x.2) := by
  unfold outsField
  split
  · next h => exact Or.inr ⟨rfl, by simpa using h.2⟩
  · exact Or.inl (by simp [getF])

theorem ignores_outsField {ρ : Type} {dec : List (Txt × Json) → Option ρ} {k : Txt} (h : IgnoresFront dec k)
    (omitE : Bool) (l : List (Json × Json)) (fs : List (Txt × Json)) : dec (outsField omitE k l ++ fs) = dec fs := by
  unfold outsField
  split
  · rfl
  · exact h _ fs

theorem decList_withId {α : Type} (enc : α → Json) (dec : Json → Option α) (l : List (Json × α))
    (hid : ∀ idv a, a ∈ l.map (·.2) → dec (withField (key! "id") idv (enc a)) = some a) :
    decList dec ((l.map fun x => (x.1, enc x.2)).map fun x => withField (key! "id") x.1 x.2) = some (l.map (·.2)) := by
  induction l with
  | nil => rfl
  | cons x xs ih =>
    simp only [List.map, decList]
    rw [hid x.1 x.2 (by simp), ih (fun idv a ha => hid idv a (by simp at ha ⊢; right; exact ha))]

/-- `Transaction.MarshalJSON` / `V2Transaction.MarshalJSON` (v2: the two output lists are always
    written): reading the tree back gives the outputs and the remaining fields — the
    transaction `id` and every output `id` are ignored.  Stated for any lawful encodings of an
    output and of the remaining fields, as long as their decoders look fields up by name
    (ignore an `id` in front; the rest-decoder also ignores the two output lists) and the
    remaining fields do not themselves use those three names. -/
theorem c20_json_tree_roundtrip_Transaction {α β ρ : Type} (omitE : Bool) (idT : Json)
    (encA : α → Json) (decA : Json → Option α) (encB : β → Json) (decB : Json → Option β)
    (encR : ρ → List (Txt × Json)) (decR : List (Txt × Json) → Option ρ)
    (scos : List (Json × α)) (sfos : List (Json × β)) (r : ρ)
    (hA : ∀ idv a, a ∈ scos.map (·.2) → decA (withField (key! "id") idv (encA a)) = some a)
    (hB : ∀ idv b, b ∈ sfos.map (·.2) → decB (withField (key! "id") idv (encB b)) = some b)
    (hR : decR (encR r) = some r)
    (hi1 : IgnoresFront decR (key! "id")) (hi2 : IgnoresFront decR (key! "siacoinOutputs"))
    (hi3 : IgnoresFront decR (key! "siafundOutputs"))
    (hn1 : getF (key! "siacoinOutputs") (encR r) = none) (hn2 : getF (key! "siafundOutputs") (encR r) = none) :
    txnOfTree decA decB decR
      (txnToTree omitE idT (scos.map (fun x => (x.1, encA x.2))) (sfos.map (fun x => (x.1, encB x.2))) (encR r))
      = some (scos.map (·.2), sfos.map (·.2), r) := by
  unfold txnToTree
  simp only [txnOfTree]
  rw [fieldOr_optArr _ (key! "siacoinOutputs") _ decA (by
      rw [getF_cons_ne (by decide), getF_append_left hn1, getF_append_left (getF_outsField_ne (by decide) _ _)]
      exact optArr_outsField _ _ _),
    fieldOr_optArr _ (key! "siafundOutputs") _ decB (by
      rw [getF_cons_ne (by decide), getF_append_left hn2, getF_append_of_none (getF_outsField_ne (by decide) _ _)]
      exact optArr_outsField _ _ _),
    hi1, List.append_assoc, ignores_outsField hi2, ignores_outsField hi3, hR, decList_withId encA decA scos hA,
    decList_withId encB decB sfos hB]

/-! ## V2FileContractResolution (the `type` tag) and the diff's byte splice -/

theorem ofTag_tag (k : ResKind) : ResKind.ofTag k.tag = some k := by
  cases k <;> decide

/-- `types.V2FileContractResolution`: `{"parent","type","resolution"}`; the tag written for a
    resolution kind selects the same kind when read back.  Stated for any lawful encodings of
    the parent element and of the three resolution bodies. -/
theorem c20_json_tree_roundtrip_V2FileContractResolution {P R : Type}
    (encP : P → Json) (decP : Json → Option P) (encB : ResKind → R → Json) (decB : ResKind → Json → Option R)
    (p : P) (k : ResKind) (r : R) (hP : decP (encP p) = some p) (hB : decB k (encB k r) = some r) :
    resolutionOfTree decP decB (resolutionToTree (encP p) k (encB k r)) = some (p, k, r) := by
  have h1 : getF (key! "parent") [(key! "parent", encP p), (key! "type", Json.str k.tag), (key! "resolution", encB k r)]
      = some (encP p) := by simp [getF]
  have h2 : getF (key! "type") [(key! "parent", encP p), (key! "type", Json.str k.tag), (key! "resolution", encB k r)]
      = some (.str k.tag) := by simp [getF]
  have h3 : getF (key! "resolution") [(key! "parent", encP p), (key! "type", Json.str k.tag), (key! "resolution", encB k r)]
      = some (encB k r) := by simp [getF]
  simp only [resolutionToTree, resolutionOfTree, h1, h2, h3, Option.bind_some, hP, ofTag_tag, Option.getD_some, hB]

theorem renderFields_snoc (k2 : Txt) (v2 : Json) : ∀ (fs : List (Txt × Json)), fs ≠ [] →
    renderFields (fs ++ [(k2, v2)]) = renderFields fs ++ 44 :: (quoteJ k2 ++ 58 :: render v2) := by
  intro fs
  induction fs with
  | nil => intro h; exact absurd rfl h
  | cons x xs ih =>
    intro _
    obtain ⟨k, v⟩ := x
    cases xs with
    | nil => simp [renderFields]
    | cons y ys =>
      have := ih (by simp)
      simp only [List.cons_append] at this ⊢
      simp only [renderFields]
      rw [this]
      simp

theorem dropLast_brace (X : Txt) : (123 :: (X ++ [125])).dropLast = 123 :: X := by
  rw [← List.cons_append, List.dropLast_concat]

theorem diffResolution_of_ne {k : ResKind} (hk : k ≠ .expiration) (fs : List (Txt × Json)) :
    diffResolutionText k (.obj fs) = spliceType (render (.obj fs)) k.tag
    ∧ diffResolutionTree k (.obj fs) = .obj (fs ++ [(key! "type", .str k.tag)]) := by
  cases k
  · exact ⟨rfl, rfl⟩
  · exact ⟨rfl, rfl⟩
  · exact absurd rfl hk

theorem tags_plain (k : ResKind) : quoteJ k.tag = 34 :: (k.tag ++ [34]) := by
  cases k <;> decide

/-- **The byte splice of `V2FileContractElementDiff.MarshalJSON`.**  For a renewal or a
    storage proof (whose JSON is a non-empty object) cutting the closing brace off the
    resolution's own JSON and appending `,"type":"<kind>"}` gives exactly the rendering of the
    same object with one more field `type`; for an expiration the literal is the rendering of
    `{"type":"expiration"}`.  So the spliced text is always a well-formed object, and (when
    the resolution has no field called `type` of its own — `tie_diff_no_type_field`) it has
    exactly one `type` field. -/
theorem c20_diff_splice (k : ResKind) (fs : List (Txt × Json)) (hfs : fs ≠ []) :
    diffResolutionText k (if k = .expiration then .obj [] else .obj fs)
      = render (diffResolutionTree k (if k = .expiration then .obj [] else .obj fs))
    ∧ ((∀ f ∈ fs, f.1 ≠ key! "type") →
        ∀ fs', diffResolutionTree k (if k = .expiration then .obj [] else .obj fs) = .obj fs' →
          (fs'.filter (fun f => f.1 == key! "type")).length = 1) := by
  by_cases hk : k = .expiration
  · subst hk
    rw [if_pos rfl]
    exact ⟨by decide, fun _ fs' h => by cases h; rfl⟩
  obtain ⟨htext, htree⟩ := diffResolution_of_ne hk fs
  rw [if_neg hk, htext, htree]
  constructor
  · simp only [spliceType, render, renderFields_snoc (key! "type") (.str k.tag) fs hfs, dropLast_brace, tags_plain]
    simp [quoteJ, escape, escByte]
  · intro hno fs' hfs'
    cases hfs'
    have hfil : fs.filter (fun f => f.1 == key! "type") = [] :=
      List.filter_eq_nil_iff.2 fun f hf => by simpa using hno f hf
    simp [List.filter_append, hfil]

/-- reading the spliced object back: the `type` field selects the kind, and the same object
    (the extra `type` field is not a field of the resolution) is decoded as that kind -/
theorem c20_diff_splice_decode {R : Type} (decB : ResKind → Json → Option R) (k : ResKind) (hk : k ≠ .expiration)
    (fs : List (Txt × Json)) :
    diffResolutionOfTree decB (diffResolutionTree k (.obj fs))
      = (decB k (.obj (fs ++ [(key! "type", .str k.tag)]))).map (fun r => (k, r)) := by
  have hget : getF (key! "type") (fs ++ [(key! "type", Json.str k.tag)]) = some (.str k.tag) :=
    getF_append_right rfl
  rw [(diffResolution_of_ne hk fs).2]
  cases k with
  | expiration => exact absurd rfl hk
  | renewal => simp only [diffResolutionOfTree, hget, ofTag_tag]
  | storageProof => simp only [diffResolutionOfTree, hget, ofTag_tag]

/-- why regrouping the decoded leaves by proof length (instead of filing them under their
    map key) is wrong for an ApplyUpdate: `applyBlock` extends the proofs of the updated
    leaves by the tree growth AFTER grouping them by height, so a leaf filed under height 1
    can carry a proof of length 2 — regrouped, bucket 1 is empty and the leaf sits in
    bucket 2, where `updateProof` (which looks in `updated[len(e.MerkleProof)]` with the
    element's pre-growth proof) does not find it -/
theorem c20_update_json_regroup_cex :
    let f : Nat → List (Leaf Nat) := fun k => if k = 1 then [⟨7, true, 1, [5, 6]⟩] else []
    (f 1).length = 1 ∧ (regroupByProofLength f 1).length = 0 ∧ (regroupByProofLength f 2).length = 1 := by
  decide +kernel

end C20
