import SiaProofs.Props.C17Revise
/-!
# C17 — why `fc.Filesize -= SectorSize * deletions` cannot wrap

`RPCFreeSectorsRequest.Validate` (rhp/v4/validation.go) accepts an index list only if
every index is below `fc.Filesize / SectorSize` and no index repeats.  By counting, the
number of deletions is then at most the sector count, which is the hypothesis `hn` of
`c17_revise_free`.
-/
namespace C17

theorem nodup_length_le (l : List Nat) (m : Nat) (hnd : l.Nodup) (hlt : ∀ i ∈ l, i < m) : l.length ≤ m := by
  have := hnd.length_le_of_subset (l₂ := List.range m) fun i hi => List.mem_range.2 (hlt i hi)
  rwa [List.length_range] at this

/-- **No wrap-around in `ReviseForFreeSectors`** for requests that pass `Validate`:
distinct indices, each below the contract's sector count. -/
theorem c17_free_no_wrap (filesize : Nat) (indices : List Nat)
    (hnd : indices.Nodup) (hlt : ∀ i ∈ indices, i < filesize / 4194304) :
    4194304 * indices.length ≤ filesize := by
  have := nodup_length_le indices _ hnd hlt
  have := Nat.div_mul_le_self filesize 4194304
  omega

example : 4194304 * [2, 0, 1].length ≤ 3 * 4194304 + 17 :=
  c17_free_no_wrap _ _ (by decide) (by decide)

end C17
