import SiaProofs.Props.C11
import SiaModel.Codec.Irregular
import SiaModel.Gen.FactsSchema
/-!
# C10 (decode half) — decoding untrusted bytes is total

`decG` is a total Lean function (structural recursion: termination — "no loop" — is
checked by the kernel). Go panics are values: the only source of `DecErr.panic` in
the model is an allocation sized by an unchecked length prefix (`ubytes`, `uslice`:
`make([]T, d.ReadUint64())`), which panics in `makeslice` above the runtime limit
`E.lim`. `Sch.guarded` says a schema contains no such construct.
-/
namespace C10D
open Sia.Codec

/-- For every guarded schema and every byte string the decoder
returns a value or an ordinary error, never `panic`: the error of a composite is the error of one of its components or a
constant other than `panic`, and the atoms do not panic (`CodecOK.no_panic`). -/
theorem c10_decode_total {E : Env} (hE : EnvOK E) (st : Bool) (k : Nat) (s : Sch)
    (hg : s.guarded E = true) (bs : Bytes) : decG E st k s bs ≠ .error .panic := by
  induction s generalizing bs with
  | atom a => exact (atom_ok E.lim a).no_panic hg st k bs
  | nil => simp [decG]
  | cons l s r ihs ihr =>
    simp only [Sch.guarded, Bool.and_eq_true] at hg
    simp only [decG]
    split
    · rename_i a bs1 h1
      split
      · simp
      · rename_i e h2; intro h; injection h with h; subst h; exact ihr hg.2 _ h2
    · rename_i e h1; intro h; injection h with h; subst h; exact ihs hg.1 _ h1
  | slice s ih =>
    simp only [Sch.guarded] at hg
    simp only [decG]
    split
    · split
      · simp
      · simp only [okList]
        split
        · simp
        · rename_i e h2; intro h; injection h with h; subst h
          obtain ⟨bs', hb⟩ := decRep_error h2
          exact ih hg _ hb
    · rename_i e h1; have := (readU64_error h1).1; subst this; simp
  | opt s ih =>
    simp only [Sch.guarded] at hg
    simp only [decG]
    split
    · split
      · simp
      · split
        · split
          · simp
          · rename_i e h2; intro h; injection h with h; subst h; exact ih hg _ h2
        · simp
    · rename_i e h1; have := (takeN_error h1).1; subst this; simp
  | uslice s _ => simp [Sch.guarded] at hg
  | aslice s ih =>
    simp only [Sch.guarded] at hg
    simp only [decG]
    split
    · simp only [okList]
      split
      · simp
      · rename_i e h2; intro h; injection h with h; subst h
        obtain ⟨bs', hb⟩ := decRep_error h2
        exact ih hg _ hb
    · rename_i e h1; have := (readU64_error h1).1; subst this; simp
  | ext n => exact (hE n).no_panic hg st k bs

/-- the guard is necessary: an unguarded `make([]byte, n)` (`ubytes`; rhp/v2 `RPCReadResponse`
before fix 3d18561) panics on an 8-byte input announcing more than the runtime limit. -/
theorem c10_unguarded_panics (E : Env) (k : Nat) (n : Nat) (hn : E.lim < n) (hn2 : n < W64) :
    dec E k .ubytes (u64le n) = .error .panic := by
  simp only [dec, decG, Atom.codec]
  have := readU64_append hn2 []
  rw [List.append_nil] at this
  rw [this]
  simp [hn]

example : Sch.guarded Env.default C11.exS = true := by decide
example : dec Env.default 0 C11.exS [1, 2, 255,255,255,255,255,255,255,255] = .error .invalid := rfl

/-- the decoder BEFORE fix 3d18561 (`make([]byte, dataLen)` from the wire) panics on a
16-byte input — `c10_decode_total` could not hold for it. -/
theorem c10_rhp2_readresponse_old_panics :
    Sch.guarded Env.default Irregular.rhp2ReadResponseOld = false ∧
    dec Env.default 0 Irregular.rhp2ReadResponseOld
      [0,0,0,0,0,0,0,0, 0,0,0,0,0,0,0,128] = .error .panic := ⟨by decide, rfl⟩

/-- the decoder BEFORE fix 1d18dfd (`make([]Instruction, n)` from the wire) panics on
a 40-byte input. -/
theorem c10_rhp3_executeprogram_old_panics :
    Sch.guarded Env.default Irregular.rhp3ExecuteProgramRequestOld = false ∧
    dec Env.default 0 Irregular.rhp3ExecuteProgramRequestOld
      (List.replicate 32 0 ++ [0,0,0,0,0,0,0,16]) = .error .panic := ⟨by decide, rfl⟩

/-- the guard the model's `bytes`/`slice` assume (`n > remaining allowance → error`) is the
one the shared helpers `ReadBytes`, `DecodeSlice`, `DecodeSliceFn` have in the code
(`d.lr.N` is what the limited reader still allows = `bs.length + slack` in the model) -/
theorem tie_prefix_guards : Gen.prefixGuards = [
    ("Decoder.ReadBytes", "n > uint64(d.lr.N)"),
    ("DecodeSlice", "n > uint64(d.lr.N)"),
    ("DecodeSliceFn", "n > uint64(d.lr.N)")] := rfl

/-- every `make` with a run-time length inside a decoder body, reviewed: the outline's are
sums of lengths of slices already decoded under the guard; the policy's is a `uint8`
(≤ 255 per node, depth ≤ 32); the multiproof's are ≤ 63 per element and
`multiproofSize` of the decoded transactions. In particular the three rhp decoders fixed
in 3d18561 / 1d18dfd (`RPCReadResponse`, `RPCExecuteProgramRequest/Response`) do not
allocate from a wire length: a regression appears in this list. -/
theorem tie_decoder_makes : Gen.decoderMakes = [
    ("Gateway_V2BlockOutline", "make([]uint8, len(txns)+len(v2txns)+len(hashes))"),
    ("Gateway_V2BlockOutline", "make([]OutlineTransaction, len(kinds))"),
    ("Types_SpendPolicy", "make([]SpendPolicy, d.ReadUint8())"),
    ("Types_V2TransactionsMultiproof", "make([]Hash256, bits.Len64(l.LeafIndex^numLeaves)-1)"),
    ("Types_V2TransactionsMultiproof", "make([]Hash256, multiproofSize(*txns))")] := rfl

theorem dec_consumes {E : Env} (hE : EnvOK E) {st : Bool} {k : Nat} {s : Sch} {bs : Bytes} {v : Val} {r : Bytes}
    (h : decG E st k s bs = .ok (v, r)) : r.length + s.minLen E ≤ bs.length := by
  obtain ⟨_, cs, hb, hm, _⟩ := C11.decG_sound hE st k s bs v r h
  rw [hb, List.length_append]; omega

theorem dec_shrinks {E : Env} (hE : EnvOK E) {k : Nat} {s : Sch} (bs : Bytes) (v : Val) (r : Bytes)
    (h : dec E k s bs = .ok (v, r)) : r.length ≤ bs.length :=
  Nat.le_trans (Nat.le_add_right _ _) (dec_consumes hE h)

section
variable {E : Env} {k d κ : Nat}

/-- a record: the meter of the first field, then that of the rest on what the first field left -/
theorem pays_cons {l : String} {s r : Sch} {ms mr m : Bytes → Nat}
    (hs : Pays (decG E false k s) ms d κ) (hr : Pays (decG E false k r) mr d κ)
    (hok : ∀ bs a r1, decG E false k s bs = .ok (a, r1) → m bs = ms bs + mr r1)
    (herr : ∀ bs e, decG E false k s bs = .error e → m bs = ms bs) :
    Pays (decG E false k (.cons l s r)) m d κ :=
  hs.seq (fun bs a r1 h => ⟨_, mr, hr, hok bs a r1 h, fun c rest hc => by
      simp only [decG, h] at hc
      split at hc
      · cases hc; exact ⟨_, ‹_›⟩
      · cases hc⟩)
    (fun bs e h => ⟨herr bs e h, by simp only [decG, h]; exact nofun⟩)

/-- a pointer: nothing for the flag byte, the meter of the payload when the flag is 1 -/
theorem pays_opt {s : Sch} {ms m : Bytes → Nat} (hs : Pays (decG E false k s) ms d κ)
    (hm : ∀ bs a r, takeN 1 bs = .ok (a, r) → m bs = if leVal a = 1 then ms r else 0)
    (herr : ∀ bs e, takeN 1 bs = .error e → m bs = 0) :
    Pays (decG E false k (.opt s)) m d κ :=
  (takeN_pays 1 d κ).seq (fun bs a r h => by
      have hm := hm bs a r h
      by_cases h1 : leVal a = 1
      · refine ⟨_, ms, hs, by rw [hm, if_pos h1, Nat.zero_add], fun c rest hc => ?_⟩
        simp only [decG, h, h1, show ¬ (1 = 0) by decide, if_false, if_true] at hc
        split at hc
        · cases hc; exact ⟨_, ‹_›⟩
        · cases hc
      · refine ⟨fun r => .ok (Val.none, r), fun _ => 0, .free (fun _ => rfl) fun _ _ _ h => by cases h; exact Nat.le_refl _,
          by rw [hm, if_neg h1]; rfl, fun c rest hc => ?_⟩
        simp only [decG, h, h1, if_false] at hc
        split at hc
        · cases hc; exact ⟨_, rfl⟩
        · cases hc)
    (fun bs e h => ⟨herr bs e h, by simp only [decG, h]; exact nofun⟩)

theorem pays_elems (hE : EnvOK E) {s : Sch} {ms : Bytes → Nat} (hs : Pays (decG E false k s) ms d κ)
    (hwf : 1 ≤ s.minLen E) (n : Nat) :
    Pays (fun r => okList (decRep (decG E false k s) n r)) (allocRep (decG E false k s) ms n) (d + 1) κ :=
  (hs.rep (fun _ _ _ h => Nat.le_trans (Nat.add_le_add_left hwf _) (dec_consumes hE h)) n).sub
    fun _ _ _ hv => let ⟨vs, hvs, _⟩ := okList_ok hv; ⟨vs, hvs⟩

/-- a counted list: `f` reads the count, refuses it or decodes that many elements; `m` meters the element loop -/
theorem pays_list (hE : EnvOK E) {s : Sch} {ms : Bytes → Nat} (hs : Pays (decG E false k s) ms d κ)
    (hwf : 1 ≤ s.minLen E) {f : Bytes → DecRes} {m : Bytes → Nat}
    (herr : ∀ bs e, readU64 bs = .error e → m bs = 0 ∧ f bs = .error e)
    (hok : ∀ bs n r, readU64 bs = .ok (n, r) → (m bs = 0 ∧ ∃ e, f bs = .error e) ∨
      (m bs = allocRep (decG E false k s) ms n r ∧ f bs = okList (decRep (decG E false k s) n r))) :
    Pays f m (d + 1) κ := by
  intro bs
  cases h : readU64 bs with
  | error e => obtain ⟨h1, h2⟩ := herr bs e h; rw [h1, h2]; exact ⟨Nat.zero_le _, nofun⟩
  | ok p =>
    obtain ⟨n, r⟩ := p
    have hl := ((readU64_pays (d + 1) 0 bs).2 n r h).1
    rcases hok bs n r h with ⟨h1, e, h2⟩ | ⟨h1, h2⟩
    · rw [h1, h2]; exact ⟨Nat.zero_le _, nofun⟩
    · rw [h1, h2]; exact (pays_elems hE hs hwf n).after hl

end

/-- allocation of a guarded, well-formed schema: `depth` slots per byte of input plus slack whatever the outcome,
per byte consumed on success -/
theorem alloc_pays {E : Env} (hE : EnvOK E) (k : Nat) (s : Sch) (hwf : s.wf E = true) (hg : s.guarded E = true) :
    Pays (dec E k s) (allocOf E k s) (s.depth E) k := by
  induction s with
  | atom a => exact (atom_ok E.lim a).pays hg k
  | nil => exact .free (fun _ => rfl) fun bs a rest h => by cases h; exact Nat.le_refl _
  | cons l s r ihs ihr =>
    simp only [Sch.wf, Sch.guarded, Bool.and_eq_true] at hwf hg
    exact pays_cons ((ihs hwf.1 hg.1).mono (Nat.le_max_left _ _)) ((ihr hwf.2 hg.2).mono (Nat.le_max_right _ _))
      (fun _ _ _ h => by simp only [allocOf, h]) (fun _ _ h => by simp only [allocOf, h])
  | slice s ih =>
    simp only [Sch.wf, Sch.guarded, Bool.and_eq_true, decide_eq_true_eq] at hwf hg
    exact pays_list hE (ih hwf.1 hg) hwf.2 (fun _ _ h => by simp only [allocOf, dec, decG, h, and_self])
      (fun _ _ _ h => by
        simp only [allocOf, dec, decG, h]
        split
        · exact .inl ⟨rfl, _, rfl⟩
        · exact .inr ⟨rfl, rfl⟩)
  | opt s ih =>
    simp only [Sch.wf, Sch.guarded] at hwf hg
    exact pays_opt (ih hwf hg) (fun _ _ _ h => by simp only [allocOf, h]) (fun _ _ h => by simp only [allocOf, h])
  | uslice s _ => cases hg
  | aslice s ih =>
    simp only [Sch.wf, Sch.guarded, Bool.and_eq_true, decide_eq_true_eq] at hwf hg
    exact pays_list hE (ih hwf.1 hg) hwf.2 (fun _ _ h => by simp only [allocOf, dec, decG, h, and_self])
      (fun _ _ _ h => by simp only [allocOf, dec, decG, h, and_self, or_true])
  | ext n => exact (hE n).pays hg k

/-- Whatever the input and the outcome, the slots the
decoder allocates are at most `c·|input| + c₀` with `c = depth s` (nesting depth of
slices / byte strings in the schema) and `c₀ = depth s · slack` (0 for buffer
decoders; `maxLen - |input|` for the stream decoders, C19). The length-prefix guard
and `Sch.wf` (slice elements occupy ≥ 1 byte) are what make this go through. -/
theorem c10_decode_alloc_bounded {E : Env} (hE : EnvOK E) (k : Nat) (s : Sch)
    (hwf : s.wf E = true) (hg : s.guarded E = true) (bs : Bytes) :
    allocOf E k s bs ≤ s.depth E * bs.length + s.depth E * k := by
  have := (alloc_pays hE k s hwf hg bs).1
  rw [Nat.mul_add] at this; exact this

example : allocOf Env.default 0 C11.exS (enc Env.default C11.exS C11.exV) = 3 := by decide
example : Sch.depth Env.default C11.exS = 2 := by decide

/-- **rhp/v2 `RPCReadResponse`** (mirrored model of the fixed decoder): total, and the
allocation is at most the input length plus the slack `k` (signature copy + data, each bounded
by what arrives) whatever length the peer announces. -/
theorem c10_rhp2_readresponse_total {E : Env} (hE : EnvOK E) (k : Nat) (bs : Bytes) :
    dec E k Irregular.rhp2ReadResponse bs ≠ .error .panic ∧
    allocOf E k Irregular.rhp2ReadResponse bs ≤ 1 * bs.length + 1 * k := by
  have hgs : Sch.guarded E Irregular.rhp2ReadResponse = true := rfl
  have hwf : Sch.wf E Irregular.rhp2ReadResponse = true := rfl
  have hd : Sch.depth E Irregular.rhp2ReadResponse = 1 := rfl
  have h := c10_decode_alloc_bounded hE k Irregular.rhp2ReadResponse hwf hgs bs
  rw [hd] at h
  exact ⟨c10_decode_total hE false k _ hgs bs, h⟩

/-- the witness of `c10_rhp2_readresponse_old_panics` (empty signature, `dataLen = 2^63`) is an ordinary error here -/
example : dec Env.default 0 Irregular.rhp2ReadResponse
    [0,0,0,0,0,0,0,0, 0,0,0,0,0,0,0,128] = .error .short := rfl

/-- **rhp/v3 `RPCExecuteProgramRequest`** (mirrored model of the fixed decoder): total and
linearly allocating, for any lawful model of the instruction codec. -/
theorem c10_rhp3_executeprogramrequest_total {E : Env} (hE : EnvOK E)
    (hg : (E.ext "Rhp3.Instruction").guarded = true) (hm : 1 ≤ (E.ext "Rhp3.Instruction").minLen)
    (k : Nat) (bs : Bytes) :
    dec E k Irregular.rhp3ExecuteProgramRequest bs ≠ .error .panic ∧
    allocOf E k Irregular.rhp3ExecuteProgramRequest bs ≤
      Irregular.rhp3ExecuteProgramRequest.depth E * bs.length + Irregular.rhp3ExecuteProgramRequest.depth E * k := by
  have hgs : Sch.guarded E Irregular.rhp3ExecuteProgramRequest = true := by
    simp [Irregular.rhp3ExecuteProgramRequest, Sch.seq, Sch.guarded, Atom.codec, hg]
  have hwf : Sch.wf E Irregular.rhp3ExecuteProgramRequest = true := by
    simp [Irregular.rhp3ExecuteProgramRequest, Sch.seq, Sch.wf, Sch.minLen, hm]
  exact ⟨c10_decode_total hE false k _ hgs bs, c10_decode_alloc_bounded hE k _ hwf hgs bs⟩

example : dec Env.default 0 Irregular.rhp3ExecuteProgramRequest
    (List.replicate 32 0 ++ [0,0,0,0,0,0,0,16]) = .error .unsupported := rfl

end C10D
