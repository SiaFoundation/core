import SiaProofs.Lemmas.MerkleRhpSector
import SiaProofs.Props.C16
/-!
# C16 — the 4-lane `sectorAccumulator` (SectorRoot, ReaderRoot, MetaRoot, BuildProof's subtree roots)

`SecAcc` models the algorithm of the SIMD code: rows of four subtree roots per height merged
eight-at-a-time (`SumNodes`), a four-node buffer, and `root()` folding the rows. `SInv sa ls` says
that the accumulator holds exactly the nodes `ls`. The AVX2 kernel itself, the `unsafe` casts and
the goroutine fan-out are compared by the harness, not modelled.
-/
set_option linter.unusedSectionVars false
namespace C16
open Sia.Rhp Sia.Rhp.HashOps

variable {H : Type} [HashOps H]

/-- any number of `appendNode` calls, then `root()`: the plain root (in the model, which has no
15-level bound; Go's `trees [15]` is exhausted by the 2^17-th node) -/
theorem c16_sector_accumulator_root (ls : List H) :
    (ls.foldl SecAcc.appendNode SecAcc.empty).root = metaRoot ls := by
  have := (SInv.empty (H := H)).foldl_appendNode ls
  simpa using this.root

example : (([T.lf [1], T.lf [2], T.lf [3], T.lf [4], T.lf [5]] : List T).foldl SecAcc.appendNode SecAcc.empty).root
    = metaRoot ([T.lf [1], T.lf [2], T.lf [3], T.lf [4], T.lf [5]] : List T) :=
  c16_sector_accumulator_root _

/-- any split of the input into `appendLeaves` / `appendNode` calls keeps the accumulator equal to
the plain tree, provided `appendLeaves` gets four or more leaves only when the count is a multiple
of four (the precondition every caller in core satisfies; without it the code overwrites its
buffer — the model reproduces that too, see the `rhp-saleaves` correspondence op) -/
theorem c16_sector_accumulator_split (sa : SecAcc H) (ls hs : List H) (h : H) (hi : SInv sa ls) :
    sa.root = metaRoot ls ∧
    SInv (sa.appendNode h) (ls ++ [h]) ∧
    ((sa.numLeaves % 4 = 0 ∨ hs.length < 4) → SInv (sa.appendLeafHashes hs) (ls ++ hs)) :=
  ⟨hi.root, hi.appendNode h, fun hp => SInv.appendLeafHashes hs sa ls hi hp⟩

example : SInv (SecAcc.empty : SecAcc T) [] := SInv.empty

/-- `appendLeaves` of a whole buffer from the empty accumulator (ReaderRoot's and SectorRoot's
inner loop, BuildProof's `subtreeRoot`) -/
theorem c16_sector_accumulator_leaves (hs : List H) :
    ((SecAcc.empty : SecAcc H).appendLeafHashes hs).root = metaRoot hs := by
  have := SInv.appendLeafHashes hs SecAcc.empty [] SInv.empty (Or.inl rfl)
  simpa using this.root

/-- Go's `MetaRoot` (sector accumulator up to `LeavesPerSector` roots, recursion above) is the
plain root, for every number of roots -/
theorem c16_go_metaroot (ls : List H) : goMetaRootSA ls = metaRoot ls :=
  c16_metaroot_split leavesPerSector _ (fun l _ => c16_sector_accumulator_root l) ls

/-- `SectorRoot` / `ReadSectorRoot` / `CachedSectorSubtrees`+`MetaRoot`: hashing `2^a`-leaf chunks
separately (one goroutine each) and taking `MetaRoot` of the chunk roots gives the plain root of
the whole sector -/
theorem c16_sector_root_parallel (a : Nat) (chunks : List (List H)) (hc : ∀ c ∈ chunks, c.length = 2 ^ a) :
    goMetaRootSA (chunks.map (fun c => ((SecAcc.empty : SecAcc H).appendLeafHashes c).root))
      = metaRoot chunks.flatten := by
  rw [c16_go_metaroot]
  have : chunks.map (fun c => ((SecAcc.empty : SecAcc H).appendLeafHashes c).root) = chunks.map metaRoot := by
    apply List.map_congr_left
    intro c _
    exact c16_sector_accumulator_leaves c
  rw [this]
  exact c16_metaroot_chunks a chunks hc

example : goMetaRootSA ([[T.lf [0], T.lf [1]], [T.lf [2], T.lf [3]]].map
      (fun c => ((SecAcc.empty : SecAcc T).appendLeafHashes c).root))
    = metaRoot ([T.lf [0], T.lf [1], T.lf [2], T.lf [3]] : List T) :=
  c16_sector_root_parallel 1 _ (by simp)

end C16
