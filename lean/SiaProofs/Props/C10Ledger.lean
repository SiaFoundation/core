import SiaProofs.Props.C08
import SiaProofs.Lemmas.LedgerGenuine
import SiaProofs.Lemmas.LedgerFees
/-!
# C10 (validation half) on the ledger model: where `validateBlock` can and cannot panic;
accepted blocks apply

* regression guards of three checks of the Go code, as theorems that the model *rejects* the input that would
  panic without the check: the checked input sums of commit 1c6bcb4 (renewal rollovers added to the input sum,
  `c10_rollover_overflow_rejected`; a v1 transaction listing one parent several times,
  `c10_duplicate_parent_overflow_rejected`) and, inside the legacy window, the claim-start check on an ephemeral
  siafund parent of commit 9d7f24e (`c10_legacy_forged_claim_rejected`);
* every check that does not add ledger values never panics (`c10_checks_no_panic`, unconditional); the two siacoin
  validators do not after the overflow pre-check (`c10_v2_siacoins_no_panic`, `c10_v1_siacoins_no_panic`);
* `validateV2FileContracts` and `validateV2Transaction` do not panic when the totals of the genuine parents are
  representable (the two `…_partial` theorems; `Props/C10Block` gets that bound from `WeakInv`);
* `c10_accepted_applies`: a block accepted by `validateBlock` is applied by `applyBlock` without
  panic, given only that the Foundation subsidy of the height is computable.
-/
namespace C10
open Sia.Ledger C08 C08.Ex

def rn0 : Renewal :=
  { finalRenter := { value := 0, addr := 1 }, finalHost := { value := 0, addr := 2 }, renterRollover := curLimit - 1, hostRollover := 0, newContract := { c2.fc with renter := { value := 0, addr := 1 }, host := { value := 0, addr := 2 }, missedHost := 0, totalCollateral := 0 }, newId := 502, newSigOk := false, sigOk := false }
/-- one genuine 50-hasting input and a (never examined) renewal whose rollover is 2^128 − 1 -/
def tRollover : Txn2 :=
  { txn2 with scIns := [{ parent := e0, addrOk := true, authOk := true }], ress := [{ parent := c2, renterOutId := 601, hostOutId := 602, res := .renewal rn0 }] }

/-- guard of the checked `inputSum.Add(rollover)` in `validateV2Siacoins` (Go commit 1c6bcb4; unchecked, the addition
panics, reachable with any 1-hasting input because the overflow pre-check only bounds the output side): rejected -/
theorem c10_rollover_overflow_rejected :
    validateV2CurrencyOverflow tRollover = .ok () ∧
    validateV2Transaction (M 15) tRollover 100 = .error (.reject "siacoin inputs overflow") := by decide

def eBig : ScElem := { id := 100, value := curLimit / 2, addr := 7, maturity := 0, leaf := some 2 }
def LBig : Ledger := { (default : Ledger) with P := P0, child := 15, sc := [eBig] }
def tDup : Txn1 :=
  { txn1 with scIns := [{ parent := 100, timelock := 0, ucAddr := 7 }, { parent := 100, timelock := 0, ucAddr := 7 }], supp := { (default : Supp1) with scIns := [eBig] } }

/-- guard of the checked input sum of `validateSiacoins` (Go commit 1c6bcb4; the duplicate parent is only detected
later, by `validateSignatures`): rejected -/
theorem c10_duplicate_parent_overflow_rejected :
    validateTransaction (newMid LBig) tDup 0 100 = .error (.reject "siacoin inputs overflow") := rfl

/-- `LLegacy`: a ledger inside the legacy window (child 15 < ephemeralFix 100) with one siafund element -/
def PLegacy : Params := { P0 with ephemeralFix := 100 }
def sf0 : SfElem := { id := 700, value := 10, addr := 7, claimStart := 0, leaf := some 1 }
def LLegacy : Ledger := { (default : Ledger) with P := PLegacy, child := 15, sf := [sf0] }
def tSfA : Txn2 := { txn2 with sfIns := [{ parent := sf0, claimAddr := 7, claimId := 702, addrOk := true, authOk := true }], sfOuts := [(701, 10, 8)] }
/-- spends the siafund output 701 created by `tSfA` in the same block, claiming a forged claim start -/
def tSfB : Txn2 := { txn2 with sfIns := [{ parent := { id := 701, value := 10, addr := 8, claimStart := 999, leaf := none }, claimAddr := 8, claimId := 703, addrOk := true, authOk := true }], sfOuts := [(704, 10, 9)] }

/-- inside the legacy window a transaction with a forged claim start is rejected by `validateEphemeralSf`
(Go commit 9d7f24e; without that check `claimPortion`'s unchecked subtraction panics when the block applies it) -/
theorem c10_legacy_forged_claim_rejected :
    (do validateV2Transaction (newMid LLegacy) tSfA 100
        let ms ← applyV2Transaction (newMid LLegacy) tSfA
        validateV2Transaction ms tSfB 100) =
      .error (.reject "claims invalid claim start for ephemeral output") := rfl

/-- The checks of the block validator that involve no unchecked arithmetic on ledger values never
panic, for any ledger, mid-state, block or transaction: the orphan checks (weight, miner payouts,
header), the supplement check, both currency-overflow pre-checks, minimum values, the whole v1 and
v2 siafund validators, the input loop of the v2 siacoin validator, arbitrary data, signatures'
duplicate detection, contract-formation and parent checks, the Foundation update. -/
theorem c10_checks_no_panic (L : Ledger) (b : Block) (ms : Mid) (t1 : Txn1) (t2 : Txn2) :
    NoPanic (validateOrphan L b) ∧ NoPanic (validateSupplement L b) ∧
    NoPanic (validateCurrencyOverflow t1) ∧ NoPanic (validateMinimumValues t1) ∧
    NoPanic (validateSiafunds ms t1) ∧ NoPanic (validateArbitraryData ms t1) ∧ NoPanic (validateSignatures t1) ∧
    NoPanic (validateV2CurrencyOverflow t2) ∧ NoPanic (t2.scIns.foldlM (scIn2Step ms) []) ∧
    NoPanic (validateV2Siafunds ms t2) ∧ NoPanic (validateFoundationUpdate ms t2) ∧
    (∀ fc sig, NoPanic (validateContract2 ms fc sig)) ∧ (∀ rv rs e, NoPanic (validateParent2 ms rv rs e)) :=
  ⟨validateOrphan_noPanic L b, validateSupplement_noPanic L b, validateCurrencyOverflow_noPanic t1,
    validateMinimumValues_noPanic t1, validateSiafunds_noPanic ms t1, validateArbitraryData_noPanic ms t1,
    validateSignatures_noPanic t1, validateV2CurrencyOverflow_noPanic t2,
    foldlM_noPanic (scIn2Step_noPanic ms) _ _, validateV2Siafunds_noPanic ms t2,
    validateFoundationUpdate_noPanic ms t2, fun fc sig => validateContract2_noPanic ms fc sig,
    fun rv rs e => validateParent2_noPanic ms rv rs e⟩

/-- A block accepted by `validateBlock` is applied by `applyBlock` without panic or error, provided
the Foundation subsidy of the height is computable (`foundationSubsidy L` does not panic: it divides
by `blocksPerYear / 12` and multiplies 30000 SC by `blocksPerYear`, which `validateBlock` never
evaluates).  `RevertBlock` performs the same computation (`C06.revertDiffs`). -/
theorem c10_accepted_applies (L : Ledger) (b : Block) (pid : Id) (ms0 : Mid)
    (hv : validateBlock L b pid = .ok ms0) (hsub : ∃ o, foundationSubsidy L = .ok o) :
    ∃ r, applyBlock L b = .ok r := by
  obtain ⟨ms, hms⟩ := blockTail_total ms0 b (by rw [(stable_base L).validateBlock rfl hv]; exact hsub)
  exact ⟨(ms.commit b.blockId, ms), by unfold applyBlock; rw [midApplyBlock_of_validated hv, hms]; rfl⟩

example : foundationSubsidy (L 15) = .ok none := rfl

theorem v2_renewal_bound {t : Txn2} (hov : validateV2CurrencyOverflow t = .ok ()) {r : Resolution2} (hr : r ∈ t.ress)
    {rn : Renewal} (hres : r.res = .renewal rn) :
    rn.newContract.renter.value + rn.newContract.host.value < curLimit ∧
    (rn.newContract.values ++ [(rn.newContract.renter.value + rn.newContract.host.value) / 25] ++
      [rn.finalRenter.value, rn.finalHost.value, rn.renterRollover, rn.hostRollover]).sum < curLimit := by
  have htot := (validateV2CurrencyOverflow_ok hov).2
  have hc := (v2_created_bounds hov).2.1 r hr rn hres
  have hm := v2Parts_res hr
  unfold v2ResPart at hm
  rw [hres] at hm
  simp only [show v2Contract rn.newContract = some _ from if_pos hc, Option.map_some] at hm
  have := sum_le_flatten_sum (List.mem_filterMap (f := id).2 ⟨_, hm, rfl⟩)
  exact ⟨hc, by cur_omega⟩

/-- After the overflow pre-check `validateV2FileContracts` does not panic provided the totals of
the *genuine* parents (unspent members of the ledger) are representable: of the contract as it
currently stands for a revision, of the presented parent for a resolution.  Forged parents are
rejected by `validateParent2` before anything is added. -/
theorem validateV2FileContracts_noPanic (ms : Mid) (t : Txn2) (hov : validateV2CurrencyOverflow t = .ok ())
    (hrev : ∀ r ∈ t.revs, ms.isSpent r.parent.id = false → ms.base.hasFc2 r.parent = true →
      (ms.curFc2 r.parent).renter.value + (ms.curFc2 r.parent).host.value < curLimit)
    (hres : ∀ r ∈ t.ress, ms.isSpent r.parent.id = false → ms.base.hasFc2 r.parent = true →
      r.parent.fc.renter.value + r.parent.fc.host.value < curLimit) :
    NoPanic (validateV2FileContracts ms t) := by
  rw [validateV2FileContracts_eq]
  refine bind_noPanic (forIn_step_noPanic _ (fun x => validateContract2_noPanic _ _ _) _) (fun _ _ => ?_)
  refine bind_noPanic (foldlM_noPanic_on _ (fun s r hr => ?_) _) (fun revised _ => ?_)
  · refine bind_noPanic (validateParent2_noPanic _ _ _ _) (fun _ hp => bind_noPanic ?_ (fun _ _ => noPanic_pure _))
    have hpr := (validateParent2_ok_iff _ _ _ _).1 hp
    simp only [rev2Check, noPanic_ite, noPanic_reject, implies_true, true_and]
    intro _
    rw [validateRevision2_eq]
    exact revision2Check_noPanic _ _ _ _ _ (hrev r hr hpr.notSpent hpr.present)
      ((v2_created_bounds hov).2.2 r hr)
  · refine bind_noPanic (foldlM_noPanic_on _ (fun s r hr => ?_) _) (fun _ _ => noPanic_pure _)
    refine bind_noPanic (validateParent2_noPanic _ _ _ _) (fun _ hp => bind_noPanic ?_ (fun _ _ => noPanic_pure _))
    have hpr := (validateParent2_ok_iff _ _ _ _).1 hp
    unfold res2Check
    cases hk : r.res with
    | renewal rn =>
      obtain ⟨hc, hsum⟩ := v2_renewal_bound hov hr hk
      exact renewalCheck_noPanic ms _ rn (hres r hr hpr.notSpent hpr.present) hc hsum
    | proof ih iid a c => simp only [noPanic_ite, noPanic_reject, noPanic_pure, implies_true, and_self]
    | expiration => simp only [noPanic_ite, noPanic_reject, noPanic_pure, implies_true, and_self]

/-- After the overflow pre-check, `validateV2FileContracts` does not panic provided the *parents'* totals are
representable: for every revision the contract as it currently stands, for every resolution the presented parent, has
`renter + host < 2^128`. The bound is only needed for genuine parents (`validateParent2` rejects a forged parent
record before the sums; `validateV2FileContracts_noPanic` is that form), and for those it follows from the
element-wise bounds of `WeakInv` (`genuineBound2_of_num` in `Props/C10Block`). -/
theorem c10_v2_contracts_no_panic_partial (ms : Mid) (t : Txn2) (hov : validateV2CurrencyOverflow t = .ok ())
    (hrev : ∀ r ∈ t.revs, (ms.curFc2 r.parent).renter.value + (ms.curFc2 r.parent).host.value < curLimit)
    (hres : ∀ r ∈ t.ress, r.parent.fc.renter.value + r.parent.fc.host.value < curLimit) :
    NoPanic (validateV2FileContracts ms t) :=
  validateV2FileContracts_noPanic ms t hov (fun r hr _ _ => hrev r hr) (fun r hr _ _ => hres r hr)

theorem segment_le {α} (xs : List α) (g : α → Option (List Cur)) (w : α → Nat)
    (hw : ∀ x ∈ xs, ∃ l, g x = some l ∧ w x ≤ l.sum) :
    (xs.map w).sum ≤ ((xs.map g).filterMap id).flatten.sum := by
  induction xs with
  | nil => simp
  | cons a xs ih =>
    obtain ⟨l, hl, hle⟩ := hw a List.mem_cons_self
    have := ih (fun x hx => hw x (List.mem_cons_of_mem _ hx))
    simp only [List.map_cons, List.sum_cons, List.filterMap_cons, hl, id, List.flatten_cons, List.sum_append]
    omega

theorem v2_output_bound {t : Txn2} (hov : validateV2CurrencyOverflow t = .ok ()) :
    (t.scOuts.map (·.2.value)).sum + (t.fcs.map fun x => x.2.1.val + x.2.1.val / 25).sum + (t.ress.map resCost).sum + t.fee <
      curLimit := by
  have htot := (validateV2CurrencyOverflow_ok hov).2
  obtain ⟨hfc, hren, _⟩ := v2_created_bounds hov
  have s1 := segment_le t.fcs (fun x => v2Contract x.2.1) (fun x => x.2.1.val + x.2.1.val / 25) (fun x hx => by
    refine ⟨_, if_pos (hfc x hx), ?_⟩
    simp only [Fc2.val, Fc2.values, List.sum_append, List.sum_cons, List.sum_nil]; cur_omega)
  have s2 := segment_le t.ress v2ResPart resCost (fun r hr => by
    cases hres : r.res with
    | renewal rn =>
      refine ⟨rn.newContract.values ++ [(rn.newContract.renter.value + rn.newContract.host.value) / 25] ++
        [rn.finalRenter.value, rn.finalHost.value, rn.renterRollover, rn.hostRollover], ?_, ?_⟩
      · unfold v2ResPart; rw [hres]; exact congrArg (Option.map _) (if_pos (hren r hr rn hres))
      · simp only [resCost, hres, Fc2.val, Fc2.values, List.sum_append, List.sum_cons, List.sum_nil]; cur_omega
    | proof a b c d => exact ⟨[], by unfold v2ResPart; rw [hres], by simp [resCost, hres]⟩
    | expiration => exact ⟨[], by unfold v2ResPart; rw [hres], by simp [resCost, hres]⟩)
  unfold v2Parts at htot
  simp only [List.filterMap_append, List.flatten_append, List.sum_append, List.filterMap_cons, id,
    List.filterMap_nil, List.flatten_cons, List.flatten_nil, List.sum_cons, List.sum_nil, List.append_nil] at htot
  have e1 : (t.fcs.map fun x => match x with | (_, fc, _) => v2Contract fc) = t.fcs.map (fun x => v2Contract x.2.1) := by
    apply List.map_congr_left; intro x _; rfl
  rw [e1] at htot
  cur_omega

theorem v2ResStep_spec (x : Cur × Cur) (r : Resolution2) (h : x.2 + resCost r < curLimit) :
    NoPanic (v2ResStep x r) ∧ ∀ v, v2ResStep x r = .ok v → v.2 = x.2 + resCost r := by
  unfold v2ResStep resCost at *
  cases hres : r.res with
  | renewal rn =>
    simp only [hres] at h
    simp only [addC_eq_ok h, ok_bind, pure_bind, reject_bind, noPanic_ite, noPanic_reject, noPanic_pure, implies_true,
      and_self, true_and, ite_else_reject_ok_iff, pure_eq_ok]
    rintro v ⟨_, _, rfl⟩; rfl
  | proof a b c d => exact ⟨noPanic_pure x, fun v hv => by cases hv; rfl⟩
  | expiration => exact ⟨noPanic_pure x, fun v hv => by cases hv; rfl⟩

theorem scOutStep_spec (s : Cur) (o : Id × ScOut) (h : s + o.2.value < curLimit) :
    NoPanic (if o.2.value = 0 then reject "siacoin output has zero value" else addC s o.2.value) ∧
    ∀ s', (if o.2.value = 0 then reject "siacoin output has zero value" else addC s o.2.value) = .ok s' →
      s' = s + o.2.value := by
  simp only [addC_eq_ok h, noPanic_ite, noPanic_reject, noPanic_ok, implies_true, and_self, true_and,
    ite_reject_ok_iff, ok_eq_ok]
  rintro s' ⟨_, rfl⟩; rfl

/-- `c10_validate_no_panic`, v2 siacoins: after the overflow pre-check `validateV2Siacoins` never
panics, for any mid-state and transaction whatsoever (forged parents, legacy window included): the
per-input loop only rejects, the input side of the balance is checked addition, and every unchecked
addition on the output side is bounded by the pre-check. -/
theorem c10_v2_siacoins_no_panic (ms : Mid) (t : Txn2) (hov : validateV2CurrencyOverflow t = .ok ()) :
    NoPanic (validateV2Siacoins ms t) := by
  have hout := v2_output_bound hov
  rw [validateV2Siacoins_eq, v2ScBalance_eq]
  refine bind_noPanic (foldlM_noPanic (scIn2Step_noPanic ms) _ _) (fun _ _ => ?_)
  refine bind_noPanic (foldlM_noPanic (fun s x => by
    simp only [noPanic_ite, noPanic_reject, noPanic_pure, implies_true, and_self]) _ _) (fun i0 _ => ?_)
  obtain ⟨np0, v0⟩ := foldlM_measure id (fun o : Id × ScOut => o.2.value) curLimit t.scOuts
    (fun s o _ => scOutStep_spec s o) 0 (by simp only [id]; cur_omega)
  refine bind_noPanic np0 (fun o0 ho0 => ?_)
  have e0 : o0 = 0 + _ := v0 o0 ho0
  rw [addC_fold_ok _ t.fcs o0 (by rw [e0]; cur_omega), ok_bind]
  obtain ⟨np2, v2⟩ := foldlM_measure (·.2) resCost curLimit t.ress
    (fun x r _ => v2ResStep_spec x r) (i0, o0 + (t.fcs.map fun x => x.2.1.val + x.2.1.val / 25).sum) (by rw [e0]; cur_omega)
  refine bind_noPanic np2 (fun io hio => ?_)
  have e2 : io.2 = _ + _ := v2 io hio
  rw [addC_eq_ok (by rw [e2, e0]; cur_omega)]
  simp only [ok_bind, noPanic_ite, noPanic_reject, noPanic_pure, implies_true, and_self]

/-- the whole v2 transaction validator up to and including the siafund validator never panics -/
theorem c10_v2_prefix_no_panic (ms : Mid) (t : Txn2) :
    NoPanic (validateV2CurrencyOverflow t) ∧
    (validateV2CurrencyOverflow t = .ok () → NoPanic (validateV2Siacoins ms t) ∧ NoPanic (validateV2Siafunds ms t)) :=
  ⟨validateV2CurrencyOverflow_noPanic t, fun h => ⟨c10_v2_siacoins_no_panic ms t h, validateV2Siafunds_noPanic ms t⟩⟩

/-- `validateV2Transaction` never panics provided the totals of the *genuine* parents of its revisions (as they
currently stand) and resolutions are representable: every other step is a rejection, a checked addition, or an
addition bounded by the overflow pre-check. -/
theorem validateV2Transaction_noPanic (ms : Mid) (t : Txn2) (mw : Nat)
    (hrev : ∀ r ∈ t.revs, ms.isSpent r.parent.id = false → ms.base.hasFc2 r.parent = true →
      (ms.curFc2 r.parent).renter.value + (ms.curFc2 r.parent).host.value < curLimit)
    (hres : ∀ r ∈ t.ress, ms.isSpent r.parent.id = false → ms.base.hasFc2 r.parent = true →
      r.parent.fc.renter.value + r.parent.fc.host.value < curLimit) :
    NoPanic (validateV2Transaction ms t mw) := by
  rw [validateV2Transaction_eq]
  simp only [v2TxnChecks, noPanic_ite, noPanic_reject, implies_true, true_and]
  intro _
  refine bind_noPanic (validateV2CurrencyOverflow_noPanic t) (fun u hov => ?_)
  cases u
  refine bind_noPanic (validateV2TaxPool_noPanic ms t) (fun _ _ => ?_)
  simp only [noPanic_ite, noPanic_reject, implies_true, true_and]
  intro _ _
  refine bind_noPanic (c10_v2_siacoins_no_panic ms t hov) (fun _ _ => ?_)
  refine bind_noPanic (validateV2Siafunds_noPanic ms t) (fun _ _ => ?_)
  refine bind_noPanic (validateV2FileContracts_noPanic ms t hov hrev hres) (fun _ _ => ?_)
  simp only [noPanic_ite, noPanic_reject, implies_true, true_and]
  exact fun _ => validateFoundationUpdate_noPanic ms t

/-- `validateV2Transaction` never panics provided the parents of its revisions (as they currently stand) and
resolutions have representable totals; `validateV2Transaction_noPanic` asks it of genuine parents only, and
`v2_fold_weak` in `Props/C10Block` gets it for them from `WeakInv`. -/
theorem c10_v2_transaction_no_panic_partial (ms : Mid) (t : Txn2) (mw : Nat)
    (hrev : ∀ r ∈ t.revs, (ms.curFc2 r.parent).renter.value + (ms.curFc2 r.parent).host.value < curLimit)
    (hres : ∀ r ∈ t.ress, r.parent.fc.renter.value + r.parent.fc.host.value < curLimit) :
    NoPanic (validateV2Transaction ms t mw) :=
  validateV2Transaction_noPanic ms t mw (fun r hr _ _ => hrev r hr) (fun r hr _ _ => hres r hr)

theorem flatten_sum_ge {α} (xs : List α) (g : α → List Cur) (w : α → Nat) (hw : ∀ x ∈ xs, w x ≤ (g x).sum) :
    (xs.map w).sum ≤ (xs.map g).flatten.sum := by
  simpa [List.filterMap_map] using segment_le xs (fun x => some (g x)) w (fun x hx => ⟨_, rfl, hw x hx⟩)

/-- `c10_validate_no_panic`, v1 siacoins: after the overflow pre-check `validateSiacoins` never
panics — the input loop and the fee loop are checked additions, the output loops are bounded by the
pre-check. -/
theorem c10_v1_siacoins_no_panic (ms : Mid) (t : Txn1) (hov : validateCurrencyOverflow t = .ok ()) :
    NoPanic (validateSiacoins ms t) := by
  have htot := currencyValues_sum t ▸ ((validateCurrencyOverflow_ok_iff t).1 hov).1
  have hb : (t.scOuts.map (·.2.value)).sum + (t.fcs.map (·.2.payout)).sum < curLimit := by
    have := flatten_sum_ge t.fcs (fun x => [x.2.payout] ++ x.2.valid.map (·.value) ++ x.2.missed.map (·.value))
      (fun x => x.2.payout) (fun x _ => by simp only [List.sum_append, List.sum_cons, List.sum_nil]; omega)
    cur_omega
  rw [validateSiacoins_eq]
  refine bind_noPanic (foldlM_noPanic (scIn1Step_noPanic ms t) _ _) (fun i0 _ => ?_)
  unfold v1ScBalance
  rw [addC_fold_ok (fun o : Id × ScOut => o.2.value) t.scOuts 0 (by cur_omega)]
  simp only [ok_bind, Nat.zero_add]
  rw [addC_fold_ok (fun f : Id × Fc1 => f.2.payout) t.fcs _ hb]
  simp only [ok_bind]
  refine bind_noPanic (foldlM_noPanic (fun s x => ?_) _ _) (fun _ _ => ?_) <;>
    simp only [noPanic_ite, noPanic_reject, noPanic_pure, implies_true, and_self]

end C10
