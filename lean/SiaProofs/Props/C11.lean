import SiaProofs.Lemmas.CodecSch
/-!
# C11 — Binary encoding round-trips, is canonical, field-complete, wire-format exact

Generic theorems, by induction on the schema language `Sch` of
`SiaModel/Codec/Schema.lean`; they hold for **every** schema the extractor will ever
generate (the per-type ties are in `C11Tie.lean`), over any environment of
hand-modelled irregular codecs that satisfy the leaf laws `CodecOK` (`EnvOK E`).

`dec E slack` is the real decoder (`slack` = what the limited reader still allows
beyond the bytes actually present: 0 for `NewBufDecoder`), `decStrict` the same
decoder with the canonicality checks the real one lacks (three in the atoms, two more in
`Codec.bitmap`).
-/
namespace C11
open Sia.Codec

theorem minLen_le {E : Env} (hE : EnvOK E) (s : Sch) (v : Val) (hc : Canon E s v) :
    s.minLen E ≤ (enc E s v).length := by
  induction s generalizing v with
  | atom a => exact (atom_ok E.lim a).minLen_le v hc
  | nil => exact Nat.zero_le _
  | cons l s r ihs ihr =>
    obtain ⟨a, b, rfl, ha, hb⟩ := canon_cons_inv hc
    simp only [Sch.minLen, enc, List.length_append]
    exact Nat.add_le_add (ihs a ha) (ihr b hb)
  | slice s _ | aslice s _ => obtain ⟨vs, rfl, _⟩ := canon_slice_inv (s := s) hc; exact prefixed_length_ge _ _
  | opt s _ =>
    rcases canon_opt_inv hc with rfl | ⟨a, rfl, _⟩
    · exact Nat.le_refl 1
    · exact Nat.le_add_left 1 _
  | uslice s _ => obtain ⟨vs, rfl, _⟩ := canon_uslice_inv hc; exact prefixed_length_ge _ _
  | ext n => exact (hE n).minLen_le v hc

/-- **Round trip.** Decoding the encoding of a canonical value (followed by anything)
returns exactly that value and the untouched remainder. Holds for the real and the
strict decoder and every reader allowance. -/
theorem c11_roundtrip_gen {E : Env} (hE : EnvOK E) (st : Bool) (k : Nat) (s : Sch) (hwf : s.wf E = true)
    (v : Val) (rest : Bytes) (hc : Canon E s v) :
    decG E st k s (enc E s v ++ rest) = .ok (v, rest) := by
  induction s generalizing v rest with
  | atom a => exact (atom_ok E.lim a).roundtrip st k v rest hc
  | nil => cases canon_nil_inv hc; rfl
  | cons l s r ihs ihr =>
    obtain ⟨a, b, rfl, ha, hb⟩ := canon_cons_inv hc
    simp only [Sch.wf, Bool.and_eq_true] at hwf
    simp only [decG, enc, List.append_assoc]
    rw [ihs hwf.1 a _ ha]
    simp only
    rw [ihr hwf.2 b _ hb]
  | slice s ih =>
    obtain ⟨vs, rfl, hn, hall⟩ := canon_slice_inv hc
    simp only [Sch.wf, Bool.and_eq_true, decide_eq_true_eq] at hwf
    simp only [decG, enc, List.append_assoc]
    rw [readU64_append hn]
    simp only
    -- the guard passes: every element occupies at least one byte
    have hlen := encList_length_ge vs (fun w hw => Nat.le_trans hwf.2 (minLen_le hE s w (hall w hw)))
    rw [if_neg (by rw [List.length_append]; omega)]
    rw [decRep_roundtrip (fun w hw r => ih hwf.1 w r (hall w hw))]
    rfl
  | opt s ih =>
    simp only [Sch.wf] at hwf
    rcases canon_opt_inv hc with rfl | ⟨a, rfl, ha⟩
    · rfl
    · simp only [decG, enc]
      rw [show (1 :: enc E s a) ++ rest = [1] ++ (enc E s a ++ rest) from rfl, takeN_append' (n := 1) [1] _ rfl]
      simp only [show leVal ([1] : Bytes) = 1 from rfl, ih hwf a rest ha]
      rfl
  | uslice s ih =>
    obtain ⟨vs, rfl, hn, hlim, hall⟩ := canon_uslice_inv hc
    simp only [Sch.wf, Bool.and_eq_true, decide_eq_true_eq] at hwf
    simp only [decG, enc, List.append_assoc]
    rw [readU64_append hn]
    simp only
    rw [if_neg (Nat.not_lt.mpr hlim)]
    rw [decRep_roundtrip (fun w hw r => ih hwf.1 w r (hall w hw))]
    rfl
  | aslice s ih =>
    obtain ⟨vs, rfl, hn, hall⟩ := canon_slice_inv (s := s) hc
    simp only [Sch.wf, Bool.and_eq_true, decide_eq_true_eq] at hwf
    simp only [decG, enc, List.append_assoc]
    rw [readU64_append hn]
    simp only
    rw [decRep_roundtrip (fun w hw r => ih hwf.1 w r (hall w hw))]
    rfl
  | ext n => exact (hE n).roundtrip st k v rest hc

/-- `c11_roundtrip_gen` for the real decoder -/
theorem c11_roundtrip {E : Env} (hE : EnvOK E) (k : Nat) (s : Sch) (hwf : s.wf E = true)
    (v : Val) (rest : Bytes) (hc : Canon E s v) :
    dec E k s (enc E s v ++ rest) = .ok (v, rest) :=
  c11_roundtrip_gen hE false k s hwf v rest hc

/-- a concrete schema and value on which the hypotheses of the theorems of this file
are satisfiable (non-vacuity): a record with a fixed array, a slice of byte strings, a
v1 currency and an optional u64 -/
def exS : Sch := Sch.seq [("Algorithm", .fixed 2), ("Keys", .slice .bytes), ("Fee", .cur1), ("Next", .opt .u64)]
def exV : Val := .pair (.bytes [1, 2]) (.pair (.list [.bytes [9], .bytes []]) (.pair (.nat 258) (.pair (.some (.nat 5)) .unit)))
def exW : Val := .pair (.bytes [1, 2]) (.pair (.list [.bytes [9], .bytes []]) (.pair (.nat 259) (.pair (.some (.nat 5)) .unit)))

example : EnvOK Env.default ∧ exS.wf Env.default = true ∧ Canon Env.default exS exV :=
  ⟨Env.default_ok, by decide, by decide⟩
example : dec Env.default 0 exS (enc Env.default exS exV ++ [7]) = .ok (exV, [7]) :=
  c11_roundtrip Env.default_ok 0 exS (by decide) exV [7] (by decide)
example : enc Env.default exS exV =
    [1,2, 2,0,0,0,0,0,0,0, 1,0,0,0,0,0,0,0, 9, 0,0,0,0,0,0,0,0, 2,0,0,0,0,0,0,0, 1,2, 1, 5,0,0,0,0,0,0,0] := by decide

/-- encodings are prefix-free: no canonical encoding is a proper prefix of another -/
theorem c11_prefix_free {E : Env} (hE : EnvOK E) (s : Sch) (hwf : s.wf E = true)
    (v w : Val) (hv : Canon E s v) (hw : Canon E s w) (t : Bytes)
    (h : enc E s v ++ t = enc E s w) : v = w ∧ t = [] := by
  have h1 := c11_roundtrip hE 0 s hwf v t hv
  have h2 := c11_roundtrip hE 0 s hwf w [] hw
  rw [h] at h1
  rw [List.append_nil] at h2
  rw [h2] at h1
  injection h1 with h1; injection h1 with h1 h3
  exact ⟨h1.symm, h3.symm⟩

/-- Distinct canonical values have distinct encodings — every
field of the schema influences the bytes. -/
theorem c11_injective {E : Env} (hE : EnvOK E) (s : Sch) (hwf : s.wf E = true)
    (v w : Val) (hv : Canon E s v) (hw : Canon E s w) (h : enc E s v = enc E s w) : v = w :=
  (c11_prefix_free hE s hwf v w hv hw [] (by rw [List.append_nil, h])).1

example : enc Env.default exS exV ≠ enc Env.default exS exW :=
  fun h => absurd (c11_injective Env.default_ok exS (by decide) exV exW (by decide) (by decide) h) (by
    intro h; injection h with _ h; injection h with _ h; injection h with h _; injection h with h; exact absurd h (by decide))

/-- the list case of `c11_truncation_fails`, for the three list constructors: a proper prefix of a length-prefixed list is
cut inside the length word, or inside the elements, where `ih` (the statement for the element schema) applies -/
theorem list_trunc {E : Env} (hE : EnvOK E) {st : Bool} {k : Nat} {s : Sch} (hwf : s.wf E = true)
    (ih : s.wf E = true → ∀ v, Canon E s v → ∀ p q, p ++ q = enc E s v → q ≠ [] →
      ∃ e, decG E st k s p = .error e)
    {vs : List Val} (hn : vs.length < W64) (hall : ∀ w ∈ vs, Canon E s w) {p q : Bytes}
    (h : p ++ q = u64le vs.length ++ encList (enc E s) vs) (hq : q ≠ []) :
    readU64 p = .error .short ∨
      ∃ p', readU64 p = .ok (vs.length, p') ∧ ∃ e, decRep (decG E st k s) vs.length p' = .error e := by
  rcases prefix_split h with ⟨q', h1, hq'⟩ | ⟨p', rfl, h2⟩
  · exact .inl (readU64_short (Nat.lt_of_lt_of_eq (prefix_len_lt h1 hq') (u64le_length _)))
  · exact .inr ⟨p', readU64_append hn p', decRep_trunc (g := enc E s)
      (fun w hw r => c11_roundtrip_gen hE st k s hwf w r (hall w hw))
      (fun w hw p q hpq hq => ih hwf w (hall w hw) p q hpq hq) h2 hq⟩

/-- Every proper prefix `p` of an encoding (`p ++ q = enc s v`,
`q ≠ []`) fails to decode — an error, never a partial value. (Schemas with empty
encodings have no proper prefix and are covered vacuously.) -/
theorem c11_truncation_fails {E : Env} (hE : EnvOK E) (st : Bool) (k : Nat) (s : Sch) (hwf : s.wf E = true)
    (v : Val) (hc : Canon E s v) (p q : Bytes) (h : p ++ q = enc E s v) (hq : q ≠ []) :
    ∃ e, decG E st k s p = .error e := by
  induction s generalizing v p q with
  | atom a => exact (atom_ok E.lim a).trunc st k v p q hc h hq
  | nil => exact absurd (List.append_eq_nil_iff.mp h).2 hq
  | cons l s r ihs ihr =>
    obtain ⟨a, b, rfl, ha, hb⟩ := canon_cons_inv hc
    simp only [Sch.wf, Bool.and_eq_true] at hwf
    simp only [decG]
    rcases prefix_split h with ⟨q', h1, hq'⟩ | ⟨p', rfl, h2⟩
    · obtain ⟨e, he⟩ := ihs hwf.1 a ha p q' h1 hq'
      rw [he]; exact ⟨_, rfl⟩
    · rw [c11_roundtrip_gen hE st k s hwf.1 a p' ha]
      obtain ⟨e, he⟩ := ihr hwf.2 b hb p' q h2 hq
      simp only [he]; exact ⟨_, rfl⟩
  | slice s ih =>
    obtain ⟨vs, rfl, hn, hall⟩ := canon_slice_inv hc
    simp only [Sch.wf, Bool.and_eq_true] at hwf
    simp only [decG]
    rcases list_trunc hE hwf.1 ih hn hall h hq with h1 | ⟨p', h1, e, he⟩
    · rw [h1]; exact ⟨_, rfl⟩
    · rw [h1]; simp only [he]; split <;> exact ⟨_, rfl⟩
  | opt s ih =>
    simp only [Sch.wf] at hwf
    simp only [decG]
    rcases canon_opt_inv hc with rfl | ⟨a, rfl, ha⟩
    · rw [takeN_short (n := 1) (prefix_len_lt h hq)]; exact ⟨_, rfl⟩
    · rcases prefix_split (x := [1]) (y := enc E s a) h with ⟨q', h1, hq'⟩ | ⟨p', rfl, h2⟩
      · rw [takeN_short (n := 1) (prefix_len_lt h1 hq')]; exact ⟨_, rfl⟩
      · obtain ⟨e, he⟩ := ih hwf a ha p' q h2 hq
        rw [takeN_append' (n := 1) [1] _ rfl]
        simp only [show leVal ([1] : Bytes) = 1 from rfl, he]
        exact ⟨_, rfl⟩
  | uslice s ih =>
    obtain ⟨vs, rfl, hn, hlim, hall⟩ := canon_uslice_inv hc
    simp only [Sch.wf, Bool.and_eq_true] at hwf
    simp only [decG]
    rcases list_trunc hE hwf.1 ih hn hall h hq with h1 | ⟨p', h1, e, he⟩
    · rw [h1]; exact ⟨_, rfl⟩
    · rw [h1]; simp only [he]; split <;> exact ⟨_, rfl⟩
  | aslice s ih =>
    obtain ⟨vs, rfl, hn, hall⟩ := canon_slice_inv (s := s) hc
    simp only [Sch.wf, Bool.and_eq_true] at hwf
    simp only [decG]
    rcases list_trunc hE hwf.1 ih hn hall h hq with h1 | ⟨p', h1, e, he⟩
    · rw [h1]; exact ⟨_, rfl⟩
    · rw [h1]; simp only [he]; exact ⟨_, rfl⟩
  | ext n => exact (hE n).trunc st k v p q hc h hq


example : ∃ e, dec Env.default 0 exS ((enc Env.default exS exV).take 30) = .error e :=
  c11_truncation_fails Env.default_ok false 0 exS (by decide) exV (by decide)
    ((enc Env.default exS exV).take 30) ((enc Env.default exS exV).drop 30) (List.take_append_drop _ _) (by decide)

/-- the list case of `decG_sound`, for the three list constructors: a decoded list is canonical element by element and
consumed its length word and the elements' bytes; `ih` is the statement for the element schema -/
theorem list_sound {E : Env} {st : Bool} {k : Nat} {s : Sch}
    (ih : ∀ bs v rest, decG E st k s bs = .ok (v, rest) →
      Canon E s v ∧ ∃ cs, bs = cs ++ rest ∧ s.minLen E ≤ cs.length ∧ (st = true → cs = enc E s v))
    {bs r1 rest : Bytes} {n : Nat} {v : Val} (h1 : readU64 bs = .ok (n, r1))
    (h : okList (decRep (decG E st k s) n r1) = .ok (v, rest)) :
    ∃ vs, v = .list vs ∧ vs.length = n ∧ n < W64 ∧ (∀ w ∈ vs, Canon E s w) ∧
      ∃ cs, bs = cs ++ rest ∧ 8 ≤ cs.length ∧
        (st = true → cs = u64le vs.length ++ encList (enc E s) vs) := by
  obtain ⟨hb, hn⟩ := readU64_ok h1
  obtain ⟨vs, h2, rfl⟩ := okList_ok h
  obtain ⟨hl, hall, cs, hcs, hs⟩ := decRep_sound (g := enc E s) (P := Canon E s) (str := st = true)
    (fun bs v r hf => let ⟨c, cs, hb, _, hs⟩ := ih bs v r hf; ⟨c, cs, hb, hs⟩) h2
  exact ⟨vs, rfl, hl, hn, hall, u64le n ++ cs, by rw [hb, hcs, List.append_assoc],
    prefixed_length_ge _ _, fun e => by rw [hs e, hl]⟩

/-- Soundness of the decoder: whatever it accepts is a canonical value of the schema, read from
a prefix of the input of at least `minLen` bytes; the strict decoder accepts only the encoding
of that value. -/
theorem decG_sound {E : Env} (hE : EnvOK E) (st : Bool) (k : Nat) (s : Sch)
    (bs : Bytes) (v : Val) (rest : Bytes) (h : decG E st k s bs = .ok (v, rest)) :
    Canon E s v ∧ ∃ cs, bs = cs ++ rest ∧ s.minLen E ≤ cs.length ∧ (st = true → cs = enc E s v) := by
  induction s generalizing v bs rest with
  | atom a => exact (atom_ok E.lim a).sound h
  | nil => cases h; exact ⟨rfl, [], rfl, Nat.le_refl 0, fun _ => rfl⟩
  | cons l s r ihs ihr =>
    simp only [decG] at h
    split at h
    · rename_i a bs1 h1
      split at h
      · rename_i b bs2 h2
        cases h
        obtain ⟨c1, cs1, hb1, hm1, hs1⟩ := ihs _ _ _ h1
        obtain ⟨c2, cs2, hb2, hm2, hs2⟩ := ihr _ _ _ h2
        exact ⟨(Bool.and_eq_true _ _).mpr ⟨c1, c2⟩, cs1 ++ cs2, by rw [hb1, hb2, List.append_assoc],
          by rw [List.length_append]; exact Nat.add_le_add hm1 hm2, fun e => by rw [hs1 e, hs2 e]; rfl⟩
      · cases h
    · cases h
  | slice s ih =>
    simp only [decG] at h
    split at h
    · rename_i n r1 h1
      split at h
      · cases h
      · obtain ⟨vs, rfl, hl, hn, hall, cs, hb, hlen, hs⟩ := list_sound ih h1 h
        exact ⟨(Bool.and_eq_true _ _).mpr ⟨decide_eq_true (hl ▸ hn), List.all_eq_true.mpr hall⟩,
          cs, hb, hlen, hs⟩
    · cases h
  | opt s ih =>
    simp only [decG] at h
    split at h
    · rename_i a r1 h1
      obtain ⟨hb, hl⟩ := takeN_ok h1
      have ha : a = leBytes 1 (leVal a) := by rw [← hl, leBytes_leVal]
      split at h
      · rename_i h0
        cases h
        exact ⟨rfl, a, hb, Nat.le_of_eq hl.symm, fun _ => by rw [ha, h0]; rfl⟩
      · split at h
        · rename_i h0
          split at h
          · rename_i w r2 h2
            cases h
            obtain ⟨c, cs, hcs, _, hs⟩ := ih _ _ _ h2
            exact ⟨c, a ++ cs, by rw [hb, hcs, List.append_assoc],
              by rw [List.length_append, hl]; exact Nat.le_add_right 1 _,
              fun e => by rw [ha, h0, hs e]; rfl⟩
          · cases h
        · cases h
    · cases h
  | uslice s ih =>
    simp only [decG] at h
    split at h
    · rename_i n r1 h1
      split at h
      · cases h
      · rename_i hlim
        obtain ⟨vs, rfl, hl, hn, hall, cs, hb, hlen, hs⟩ := list_sound ih h1 h
        exact ⟨(Bool.and_eq_true _ _).mpr ⟨(Bool.and_eq_true _ _).mpr
          ⟨decide_eq_true (hl ▸ hn), decide_eq_true (hl ▸ Nat.not_lt.mp hlim)⟩, List.all_eq_true.mpr hall⟩,
          cs, hb, hlen, hs⟩
    · cases h
  | aslice s ih =>
    simp only [decG] at h
    split at h
    · rename_i n r1 h1
      obtain ⟨vs, rfl, hl, hn, hall, cs, hb, hlen, hs⟩ := list_sound ih h1 h
      exact ⟨(Bool.and_eq_true _ _).mpr ⟨decide_eq_true (hl ▸ hn), List.all_eq_true.mpr hall⟩,
        cs, hb, hlen, hs⟩
    · cases h
  | ext n => exact (hE n).sound h

/-- Whatever the decoder accepts is a canonical value of the
schema, and the decoder consumed a prefix of its input (at least `minLen` bytes). -/
theorem c11_decode_canon {E : Env} (hE : EnvOK E) (st : Bool) (k : Nat) (s : Sch)
    (bs : Bytes) (v : Val) (rest : Bytes) (h : decG E st k s bs = .ok (v, rest)) :
    Canon E s v ∧ ∃ cs, bs = cs ++ rest ∧ s.minLen E ≤ cs.length :=
  have ⟨hc, cs, hb, hl, _⟩ := decG_sound hE st k s bs v rest h
  ⟨hc, cs, hb, hl⟩

theorem strict_reencode {E : Env} (hE : EnvOK E) (k : Nat) (s : Sch)
    (bs : Bytes) (v : Val) (rest : Bytes) (h : decStrict E k s bs = .ok (v, rest)) :
    enc E s v ++ rest = bs :=
  have ⟨_, _, hb, _, hs⟩ := decG_sound hE true k s bs v rest h
  (hs rfl ▸ hb).symm

/-- If the real decoder accepts `bs` as `(v, rest)`, then
re-encoding gives back the consumed bytes **iff** the strict decoder accepts `bs`
too. Among the atoms the strict decoder differs from the real one in exactly three, so for
schemas without `ext` leaves the non-canonical inputs the real decoder accepts are: a V1
currency (or v1 siafund value) with a leading zero byte, a length-prefixed fixed
array (`pfixed n`: signatures in rhp v2/v3) whose prefix is not `n`, and a non-zero
discarded "ClaimStart" of a v1 siafund output. (`Codec.bitmap`, the V2Transaction codec of
`Irregular.env`, has two more strict-only rejections: a present field that is zero, mask bits
beyond the field list.) -/
theorem c11_reencode {E : Env} (hE : EnvOK E) (k : Nat) (s : Sch) (hwf : s.wf E = true)
    (bs : Bytes) (v : Val) (rest : Bytes) (h : dec E k s bs = .ok (v, rest)) :
    (enc E s v ++ rest = bs ↔ decStrict E k s bs = .ok (v, rest)) := by
  constructor
  · intro he
    have hc := (c11_decode_canon hE false k s bs v rest h).1
    rw [← he]
    exact c11_roundtrip_gen hE true k s hwf v rest hc
  · exact strict_reencode hE k s bs v rest

/-- the hypotheses are satisfiable, and both sides of the equivalence occur: a V1 currency
with a leading zero byte is accepted by the real decoder, re-encodes to different
bytes, and is rejected by the strict decoder; the canonical form is accepted by both -/
def ncCur : Bytes := [2,0,0,0,0,0,0,0, 0,1]
example : dec Env.default 0 .cur1 ncCur = .ok (.nat 1, []) := rfl
example : enc Env.default .cur1 (.nat 1) ++ [] ≠ ncCur := by decide
example : decStrict Env.default 0 .cur1 ncCur = .error .invalid := rfl
example : decStrict Env.default 0 .cur1 [1,0,0,0,0,0,0,0, 1] = .ok (.nat 1, []) := rfl
/-- a 64-byte signature sent with a 1-byte prefix (rhp v2/v3 `copy(sig[:], d.ReadBytes())`) -/
example : dec Env.default 0 (.pfixed 2) [1,0,0,0,0,0,0,0, 7] = .ok (.bytes [7, 0], []) := rfl
example : decStrict Env.default 0 (.pfixed 2) [1,0,0,0,0,0,0,0, 7] = .error .invalid := rfl

/-- canonical re-encoding is a fixpoint for *everything* the real decoder accepts (also
non-canonical input): decode, encode, decode again gives the same value. -/
theorem c11_reencode_fixpoint {E : Env} (hE : EnvOK E) (k : Nat) (s : Sch) (hwf : s.wf E = true)
    (bs : Bytes) (v : Val) (rest : Bytes) (h : dec E k s bs = .ok (v, rest)) :
    dec E k s (enc E s v ++ rest) = .ok (v, rest) :=
  c11_roundtrip hE k s hwf v rest (c11_decode_canon hE false k s bs v rest h).1

/-- The encoding is a function of the value alone (and the
decoding a function of the bytes alone) — recorded because the property says so. -/
theorem c11_deterministic (E : Env) (s : Sch) (v w : Val) (k : Nat) (bs bs' : Bytes) :
    (v = w → enc E s v = enc E s w) ∧ (bs = bs' → dec E k s bs = dec E k s bs') :=
  ⟨fun h => by rw [h], fun h => by rw [h]⟩

end C11
