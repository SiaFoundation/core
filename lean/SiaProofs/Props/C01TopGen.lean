import SiaModel.Gen.CodeConsensus
import SiaProofs.Props.C02LoopGen
import SiaProofs.Props.C01TxnGen
import SiaProofs.Props.C01SfGen
import SiaProofs.Props.C03AttGen
import SiaProofs.Props.C01V1Gen
import SiaProofs.Props.C03V1Gen

/-!
# The top of v2 transaction validation, on REGENERATED code: `consensus.ValidateV2Transaction` as a whole

`ValidateV2Transaction`, `validateV2Siacoins` and `validateV2Siafunds` are translated as whole functions
(what is not generated — `validateV2CurrencyOverflow`, `V2TransactionWeight`, `validateV2FileContracts` — stays a field of
`Ext`, and the acceptance of a transaction is stated to *include* their acceptance).  The theorem composes the
per-phase theorems proved on the statement ranges: a transaction that `ValidateV2Transaction` accepts

* is validated at or after the v2 allow height (C08), has a non-zero weight within the block limit,
* names pairwise different siacoin (siafund) parents, each not spent earlier in the block, matured, a member of the
  accumulator (or a checked ephemeral element) and authorised by its spend policy (C02, C03, C04, C08),
* creates exactly the value it consumes, in siacoins (as unbounded naturals) and in siafunds (modulo 2^64; equal
  outright under the siafund-supply bound of C01SfGen), with no zero-valued output (C01),
* carries only signed, non-empty-keyed attestations, and changes the foundation address only if one of its inputs
  is controlled by the foundation management address (C03).
-/
namespace C01
open Gen.Consensus Gen.Types

open GoLoops

theorem tie_v2_siacoins_split_gen (ext : Ext) (ms : MidState) (txn : V2Transaction)
    (h : validateV2Siacoins ext ms txn = .ok none) :
    validateV2Siacoins_inputs ext ms txn = .ok none ∧ validateV2Siacoins_balance ext txn ms = .ok none := by
  obtain ⟨⟨t, st'⟩, hl, hk⟩ := of_bind_ok h
  cases t with
  | some q =>
    -- an early return of the first loop is an error, which the function returns as it is
    cases hk
    refine absurd rfl (forRangeFrom_ok (R := fun _ _ _ => True) (P := (· ≠ none)) (fun i x st t st1 hx => ?_) _ 0 _ _ _ hl)
    refine ite_exit hx nofun fun _ hx => ?_
    refine ite_exit hx nofun fun _ hx => ?_
    refine ite_exit hx nofun fun _ hx => ?_
    obtain ⟨_, hx⟩ | ⟨_, hx⟩ := ite_cases hx
    · refine ite_exit hx nofun fun _ hx => ?_
      refine ite_exit hx nofun fun _ hx => ?_
      cases hx; trivial
    · obtain ⟨_, hx⟩ | ⟨_, hx⟩ := ite_cases hx
      · split at hx <;> cases hx <;> nofun
      refine ite_exit hx nofun fun _ hx => ?_
      cases hx; trivial
  | none => exact ⟨by rw [validateV2Siacoins_inputs, hl]; rfl, hk⟩

theorem tie_v2_siafunds_split_gen (ext : Ext) (ms : MidState) (txn : V2Transaction)
    (h : validateV2Siafunds ext ms txn = .ok none) :
    validateV2Siafunds_inputs ext ms txn = .ok none ∧ validateV2Siafunds_balance txn = .ok none := by
  obtain ⟨⟨t, st'⟩, hl, hk⟩ := of_bind_ok h
  cases t with
  | some q =>
    cases hk
    refine absurd rfl (forRangeFrom_ok (R := fun _ _ _ => True) (P := (· ≠ none)) (fun i x st t st1 hx => ?_) _ 0 _ _ _ hl)
    refine ite_exit hx nofun fun _ hx => ?_
    refine ite_exit hx nofun fun _ hx => ?_
    obtain ⟨_, hx⟩ | ⟨_, hx⟩ := ite_cases hx
    · refine ite_exit hx nofun fun _ hx => ?_
      refine ite_exit hx nofun fun _ hx => ?_
      cases hx; trivial
    · obtain ⟨_, hx⟩ | ⟨_, hx⟩ := ite_cases hx
      · split at hx <;> cases hx <;> nofun
      refine ite_exit hx nofun fun _ hx => ?_
      cases hx; trivial
  | none => exact ⟨by rw [validateV2Siafunds_inputs, hl]; rfl, hk⟩

theorem c01_v2_transaction_accepted_gen (ext : Ext) (ms : MidState) (txn : V2Transaction) (hw : TxnCurWF ext txn)
    (h : ValidateV2Transaction ext ms txn = .ok none) :
    ms.base.Network.HardforkV2.AllowHeight ≤ State.childHeight ms.base ∧
    ext.validateV2CurrencyOverflow ms txn = none ∧
    0 < ext.V2TransactionWeight ms.base txn ∧ ext.V2TransactionWeight ms.base txn ≤ State.MaxBlockWeight ms.base ∧
    ((txn.SiacoinInputs.map (fun i => i.Parent.ID)).Nodup ∧ ∀ sci ∈ txn.SiacoinInputs, C02.SiacoinInputOk ext ms txn sci) ∧
    (inSum txn + resIn ext txn = outSumV2 txn + fcSum txn + resOut ext txn + C15.val txn.MinerFee ∧
      ∀ o ∈ txn.SiacoinOutputs, C15.val o.Value ≠ 0) ∧
    ((txn.SiafundInputs.map (fun i => i.Parent.ID)).Nodup ∧ ∀ sfi ∈ txn.SiafundInputs, C02.SiafundInputOk ext ms txn sfi) ∧
    (sfIn txn % 18446744073709551616 = sfOut txn % 18446744073709551616 ∧ ∀ o ∈ txn.SiafundOutputs, o.Value ≠ 0) ∧
    ext.validateV2FileContracts ms txn = none ∧
    (∀ a ∈ txn.Attestations, a.Key.length ≠ 0 ∧
        ext.VerifyHash a.PublicKey (ext.AttestationSigHash ms.base a) a.Signature = true) ∧
    (txn.NewFoundationAddress = none ∨
        ∃ i ∈ txn.SiacoinInputs, i.Parent.SiacoinOutput.Address = ms.base.FoundationManagementAddress) := by
  obtain ⟨g1, h⟩ := ite_else h nofun
  obtain ⟨g2, h⟩ := err_else h
  obtain ⟨g3, h⟩ := ite_else h nofun
  obtain ⟨g4, h⟩ := ite_else h nofun
  obtain ⟨r5, g5, h⟩ := of_bind_ok h
  obtain ⟨e5, h⟩ := err_else h
  obtain ⟨r6, g6, h⟩ := of_bind_ok h
  obtain ⟨e6, h⟩ := err_else h
  obtain ⟨g7, h⟩ := err_else h
  obtain ⟨r8, g8, h⟩ := of_bind_ok h
  obtain ⟨e8, h⟩ := err_else h
  obtain ⟨r9, g9, h⟩ := of_bind_ok h
  obtain ⟨e9, _⟩ := err_else h
  subst e5 e6 e8 e9
  obtain ⟨r8', e8, i8⟩ := C03.c03_attestations_gen ext ms txn
  obtain ⟨r9', e9, i9⟩ := C03.c03_foundation_update_gen ms txn
  obtain ⟨s1, s2⟩ := tie_v2_siacoins_split_gen ext ms txn g5
  obtain ⟨f1, f2⟩ := tie_v2_siafunds_split_gen ext ms txn g6
  obtain ⟨b1, _, b3⟩ := c01_v2_txn_balance_gen ext ms txn hw s2
  simp only [decide_eq_true_eq] at g1 g3 g4
  exact ⟨by omega, g2, by omega, by omega, C02.c02_v2_siacoin_inputs_nodup_gen ext ms txn s1, ⟨b1, b3⟩,
    C02.c02_v2_siafund_inputs_nodup_gen ext ms txn f1, c01_v2_siafund_balance_mod_gen txn f2, g7,
    i8.1 (Except.ok.inj (e8.symm.trans g8)), i9.1 (Except.ok.inj (e9.symm.trans g9))⟩

/-- non-vacuity: a transaction with one output-less fee-less body and weight 1 is accepted; before the allow height and
at weight 0 it is refused -/
example : ValidateV2Transaction { Ext.trivial with V2TransactionWeight := fun _ _ => 1 } {} {} = .ok none := by rfl
example : ValidateV2Transaction { Ext.trivial with V2TransactionWeight := fun _ _ => 1 }
    { base := { Network := { HardforkV2 := { AllowHeight := 5 } } } } {}
    = .ok (some "v2 transactions are not allowed until v2 hardfork begins") := by rfl
example : ValidateV2Transaction Ext.trivial {} {} = .ok (some "transactions cannot be empty") := by rfl

/-- The v1 counterpart: `consensus.ValidateTransaction` regenerated whole.  An accepted v1 transaction is validated
strictly below the v2 require height (C08), within the block weight, passes the phases that stay in `Ext`, balances in
siacoins over ℕ with every input individually checked (C01, C03, C08), and balances in siafunds modulo 2^64 with every
siafund input individually checked (C01, C03). -/
theorem c01_v1_transaction_accepted_gen (ext : Ext) (ms : MidState) (txn : Transaction) (ts : V1TransactionSupplement)
    (hw : V1CurWF ext ms ts txn) (h : ValidateTransaction ext ms txn ts = .ok none) :
    State.childHeight ms.base < ms.base.Network.HardforkV2.RequireHeight ∧
    ext.validateCurrencyOverflow ms txn = none ∧
    ext.TransactionWeight ms.base txn ≤ State.MaxBlockWeight ms.base ∧
    ext.validateMinimumValues ms txn = none ∧
    (v1InSum ext ms ts txn = v1OutSum txn + v1PayoutSum txn + v1FeeSum txn ∧
      ∀ sci ∈ txn.SiacoinInputs, V1InputOk ext ms ts sci) ∧
    ((∀ sfi ∈ txn.SiafundInputs, C03.V1SiafundInputOk ext ms ts sfi) ∧
      (txn.SiafundInputs.map (fun i => (C03.sfParent ext ms ts i).SiafundOutput.Value)).sum % 18446744073709551616
        = (txn.SiafundOutputs.map (fun o => o.Value)).sum % 18446744073709551616) ∧
    ext.validateFileContracts ms txn ts = none ∧
    ext.validateArbitraryData ms txn = none ∧
    ext.validateSignatures ms txn = none := by
  obtain ⟨g1, h⟩ := ite_else h nofun
  obtain ⟨g2, h⟩ := err_else h
  obtain ⟨g4, h⟩ := ite_else h nofun
  obtain ⟨g3, h⟩ := err_else h
  obtain ⟨r5, g5, h⟩ := of_bind_ok h
  obtain ⟨e5, h⟩ := err_else h
  obtain ⟨r6, g6, h⟩ := of_bind_ok h
  obtain ⟨e6, h⟩ := err_else h
  obtain ⟨g7, h⟩ := err_else h
  obtain ⟨g8, h⟩ := err_else h
  obtain ⟨g9, _⟩ := err_else h
  subst e5 e6
  obtain ⟨b1, _, b3⟩ := c01_v1_txn_balance_gen ext ms txn ts hw g5
  simp only [decide_eq_true_eq] at g1 g4
  exact ⟨by omega, g2, by omega, g3, ⟨b1, b3⟩, C03.c03_v1_siafund_inputs_gen ext ms txn ts g6, g7, g8, g9⟩

example : ValidateTransaction Ext.trivial { base := { Network := { HardforkV2 := { RequireHeight := 5 } } } } {} {} = .ok none := by rfl
example : ValidateTransaction Ext.trivial {} {} {}
    = .ok (some "v1 transactions are not allowed after v2 hardfork is complete") := by rfl

end C01
