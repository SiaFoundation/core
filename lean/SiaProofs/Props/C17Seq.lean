import SiaProofs.Props.C17Renew
/-!
# C17 — sequences of constructor calls

`Good ch fc` collects everything the constructors maintain: machine well-formedness, the
live-contract facts consensus enforces, and the constructor invariant `Inv`.  Every
successful `ReviseFor*` step maps a good contract to a good contract that consensus
accepts as a revision of its predecessor; `NewContract`, `RenewContract` and both
refreshes produce good contracts.  Hence (`c17_sequence`) along any sequence of `ReviseFor*` steps from a good
contract, as long as the revision number has room to grow, every consecutive pair is accepted.
-/
namespace C17
open Gen.Types Gen.Rhp4 C15

structure Good (ch : Nat) (fc : V2FileContract) : Prop where
  wf : FCWF fc
  live : Live ch fc
  inv : Inv fc

/-- one successful revision step with a request that is valid in the sense of the RPC's
own `Validate` (see the hypotheses of the `c17_revise_*` theorems) -/
inductive Step : V2FileContract → V2FileContract → Prop
  | fund (fc fc' : V2FileContract) (a : Currency) (u : Usage) :
      WF a → ReviseForFundAccounts fc a = .ok (fc', u, none) → Step fc fc'
  | replenish (fc fc' : V2FileContract) (a : Currency) (u : Usage) :
      WF a → ReviseForReplenish fc a = .ok (fc', u, none) → Step fc fc'
  | roots (fc fc' : V2FileContract) (p : HostPrices) (n : Nat) (u : Usage) :
      PricesWF p → ReviseForSectorRoots fc p n = .ok (fc', u, none) → Step fc fc'
  | free (fc fc' : V2FileContract) (p : HostPrices) (root : ByteArray) (n : Nat) (u : Usage) :
      PricesWF p → 4194304 * n ≤ fc.Filesize →
      ReviseForFreeSectors fc p root (Int.ofNat n) = .ok (fc', u, none) → Step fc fc'
  | append (fc fc' : V2FileContract) (p : HostPrices) (root : ByteArray) (n : Nat) (u : Usage) :
      PricesWF p → fc.Capacity + 4194304 * n < W →
      ReviseForAppendSectors fc p root n = .ok (fc', u, none) → Step fc fc'

theorem good_of_revised {ch eph : Nat} {fc fc' : V2FileContract} {u : Usage} (g : Good ch fc)
    (r : Revised ch eph fc fc' u) (room : fc'.RevisionNumber + 1 < W) : Good ch fc' := by
  have i1 := g.inv.missed_le_total
  have i2 := g.inv.total_le_host
  have h1 := r.host
  have h2 := r.missed
  refine ⟨r.wf, r.live room, ⟨?_, ?_⟩⟩
  · rw [r.collateral]; omega
  · rw [r.collateral]; omega

/-- **One step**: consensus accepts the result as a revision of its input, and the result is
good again (as long as the revision number has room to grow). -/
theorem c17_step (ch eph : Nat) (fc fc' : V2FileContract) (g : Good ch fc) (s : Step fc fc') :
    Sia.Ledger.validateRevision ch eph fc fc' = .ok none ∧ (fc'.RevisionNumber + 1 < W → Good ch fc') := by
  cases s with
  | fund a u ha h =>
    have r := (c17_revise_fund ch eph fc fc' a u none g.wf ha g.live h).2.2.2.2 rfl
    exact ⟨r.accepted, good_of_revised g r⟩
  | replenish a u ha h =>
    have r := (c17_revise_replenish ch eph fc fc' a u none g.wf ha g.live h).2.2.2.2 rfl
    exact ⟨r.accepted, good_of_revised g r⟩
  | roots p n u hp h =>
    have r := (c17_revise_roots ch eph fc fc' p n u none g.wf hp g.live h).2.2.2.2 rfl
    exact ⟨r.accepted, good_of_revised g r⟩
  | free p root n u hp hn h =>
    have r := ((c17_revise_free ch eph fc fc' p root n u none g.wf hp g.live hn h).2.2 rfl).2.2.2.2.2
    exact ⟨r.accepted, good_of_revised g r⟩
  | append p root n u hp hn h =>
    obtain ⟨_, _, _, _, _, _, hok⟩ := c17_revise_append ch eph fc fc' p root n u none g.wf hp g.live hn h
    have r := (hok rfl).2.2.2.2.2.2.2.2
    exact ⟨r.accepted, good_of_revised g r⟩

/-- a sequence of steps in which the revision number never reaches 2^64 − 1 -/
inductive Chain : V2FileContract → V2FileContract → Prop
  | nil (fc : V2FileContract) : Chain fc fc
  | cons (a b c : V2FileContract) : Step a b → b.RevisionNumber + 1 < W → Chain b c → Chain a c

/-- every consecutive pair is accepted by the consensus revision rules -/
inductive RevChain (ch eph : Nat) : V2FileContract → V2FileContract → Prop
  | nil (fc : V2FileContract) : RevChain ch eph fc fc
  | cons (a b c : V2FileContract) : Sia.Ledger.validateRevision ch eph a b = .ok none → RevChain ch eph b c → RevChain ch eph a c

/-- Along a sequence of successful constructor steps from a good contract every consecutive pair is accepted by the consensus
revision rules, and the last contract is good again. -/
theorem c17_sequence (ch eph : Nat) (fc fc' : V2FileContract) (g : Good ch fc) (c : Chain fc fc') :
    RevChain ch eph fc fc' ∧ Good ch fc' := by
  induction c with
  | nil fc => exact ⟨RevChain.nil fc, g⟩
  | cons a b c s room _ ih =>
    obtain ⟨acc, gb⟩ := c17_step ch eph a b g s
    obtain ⟨rc, gc⟩ := ih (gb room)
    exact ⟨RevChain.cons a b c acc rc, gc⟩

/-- The starting point: `NewContract` from a request that passed `Validate` (its numeric facts are the hypotheses, as in
`c17_new_contract_valid`) is good, provided the two outputs together fit in 128 bits (`fits`). -/
theorem c17_new_contract_good (ch : Nat) (p : HostPrices) (cp : RPCFormContractParams) (hk ha : ByteArray)
    (fc : V2FileContract) (u : Usage)
    (hp : WF p.ContractPrice) (hal : WF cp.Allowance) (hco : WF cp.Collateral)
    (hph : cp.ProofHeight + 144 < W) (hch : ch ≤ cp.ProofHeight) (hnz : val cp.Allowance ≠ 0)
    (h : NewContract p cp hk ha = .ok (fc, u))
    (fits : val fc.RenterOutput.Value + val fc.HostOutput.Value < W2) : Good ch fc := by
  obtain ⟨_, wf, inv, live, _⟩ := c17_new_contract_valid ch p cp hk ha fc u hp hal hco hph hch hnz h
  exact ⟨wf, live fits, inv⟩

/-- … and so is the new contract of any renewal/refresh with the `RenewalOK` facts. -/
theorem c17_renewal_good (ch : Nat) (fc : V2FileContract) (rn : V2FileContractRenewal) (ok : RenewalOK fc rn)
    (hph : ch ≤ rn.NewContract.ProofHeight) (hwin : rn.NewContract.ProofHeight < rn.NewContract.ExpirationHeight)
    (fits : val rn.NewContract.RenterOutput.Value + val rn.NewContract.HostOutput.Value < W2) :
    Good ch rn.NewContract := by
  have i1 := ok.inv.missed_le_total
  have i2 := ok.inv.total_le_host
  refine ⟨ok.wf_nc, ⟨ok.fresh.2.2.2, by omega, hph, hwin, ?_, fits⟩, ok.inv⟩
  rw [ok.fresh.1]; omega

end C17
