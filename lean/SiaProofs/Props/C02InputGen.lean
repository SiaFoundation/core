import SiaModel.Gen.CodeConsensus
/-!
# C02 / C08 — the double-spend and maturity tests on ONE v2 input, on REGENERATED code

The first half of the loop bodies of `validateV2Siacoins` / `validateV2Siafunds` (up to the bookkeeping assignment
`spent[id] = i`) is translated from `consensus/validation.go`.  `ext.spent` is the block-wide table of
elements consumed by earlier transactions of the block, `spent` the transaction's own table of parents consumed by
its earlier inputs (a Go map, modelled as an association list, read through `Go.mapGet`).

* `c02_v2_siacoin_input_fresh_gen`, `c02_v2_siafund_input_fresh_gen`: an input passes exactly when its parent has not
  been consumed earlier in the block, has not been named by an earlier input of the same transaction, and (siacoins)
  has matured — `MaturityHeight ≤ child height`, the C08 boundary.
* `c02_mapGet_mem`: a parent id that an earlier input recorded in `spent` is found there.
-/
namespace C02
open Gen.Types Gen.Consensus

theorem c02_v2_siacoin_input_fresh_gen (ext : Ext) (ms : MidState) (sci : V2SiacoinInput) (i : Int)
    (spent : List (ByteArray × Int)) :
    validateV2Siacoins_inputFresh ext ms sci i spent = none ↔
      ((ext.spent ms sci.Parent.ID).2 = false ∧ (Go.mapGet spent sci.Parent.ID (0 : Int)).2 = false ∧
       sci.Parent.MaturityHeight ≤ State.childHeight ms.base) := by
  unfold validateV2Siacoins_inputFresh
  cases h1 : (ext.spent ms sci.Parent.ID).2 <;> cases h2 : (Go.mapGet spent sci.Parent.ID (0 : Int)).2 <;>
  by_cases h3 : sci.Parent.MaturityHeight > State.childHeight ms.base <;> simp [h1, h2, h3] <;> omega

theorem c02_v2_siafund_input_fresh_gen (ext : Ext) (ms : MidState) (sfi : V2SiafundInput) (i : Int)
    (spent : List (ByteArray × Int)) :
    validateV2Siafunds_inputFresh ext ms sfi i spent = none ↔
      ((ext.spent ms sfi.Parent.ID).2 = false ∧ (Go.mapGet spent sfi.Parent.ID (0 : Int)).2 = false) := by
  unfold validateV2Siafunds_inputFresh
  cases h1 : (ext.spent ms sfi.Parent.ID).2 <;> cases h2 : (Go.mapGet spent sfi.Parent.ID (0 : Int)).2 <;> simp [h1, h2]

theorem c02_mapGet_mem (m : List (ByteArray × Int)) (k : ByteArray) (v : Int) (h : (k, v) ∈ m) :
    (Go.mapGet m k (0 : Int)).2 = true := by
  unfold Go.mapGet
  cases hf : m.find? (fun p => decide (p.1 = k)) with
  | some p => rfl
  | none =>
    have := List.find?_eq_none.mp hf (k, v) h
    simp at this

example : validateV2Siacoins_inputFresh Ext.trivial {} {} 0 [] = none := by rfl
example : validateV2Siacoins_inputFresh Ext.trivial {} {} 1 [(Go.zeros 32, 0)]
    = some "siacoin input %v double-spends parent output (previously spent by input %v)" := by rfl
example : validateV2Siacoins_inputFresh Ext.trivial {} { Parent := { MaturityHeight := 2 } } 0 []
    = some "siacoin input %v has immature parent" := by rfl
example : validateV2Siacoins_inputFresh Ext.trivial {} { Parent := { MaturityHeight := 1 } } 0 [] = none := by rfl

end C02
