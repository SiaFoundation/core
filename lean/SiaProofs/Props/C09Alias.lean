import SiaProofs.Lemmas.Alias
/-!
# C09 — aliasing theorems (model `SiaModel/Ledger/Alias.lean`)

`base` below is always the bump pointer of the heap a call starts from: everything the
caller owns (block, supplement, state, proofs of tracked elements) lives at addresses
`< base`; "allocated during the call" is `base ≤ a`.
-/
namespace C09
open Sia.Alias

theorem moveGuards_fresh {base : Nat} {ms : Mid} (hm : MidFresh base ms) {l : List Diff}
    (hl : ∀ d ∈ l, d ∈ ms) : moveGuards l = .ok () := by
  induction l with
  | nil => rfl
  | cons d rest ih =>
    simp only [moveGuards, StateElement.move, (hm d (hl d List.mem_cons_self)).1, bind, Except.bind]
    exact ih fun x hx => hl x (List.mem_cons_of_mem _ hx)

theorem updateLeaves_good {base : Nat} {s0 : St} (o : Oracle) (l : List Diff) :
    ∀ {s : St}, Good base s0 s → (∀ d ∈ l, Fresh base d.elem) →
      Good base s0 (l.foldl (fun s d => updateLeavesStep o d s) s) := by
  induction l with
  | nil => intro s hg _; exact hg
  | cons d rest ih =>
    intro s hg hf
    simp only [List.foldl_cons]
    apply ih _ (fun x hx => hf x (List.mem_cons_of_mem _ hx))
    have fd := hf d List.mem_cons_self
    unfold updateLeavesStep
    split
    · rename_i a hi hp
      exact hg.write (fd.2 a hp) _
    · exact hg

theorem appendProof_good {base : Nat} {s0 s : St} (o : Oracle) {e : StateElement}
    (hg : Good base s0 s) (hf : Fresh base e) :
    Good base s0 (appendProof o e s).2 ∧ Fresh base (appendProof o e s).1 := by
  unfold appendProof
  dsimp only
  split
  · exact ⟨hg, hf⟩
  · cases hp : e.proof with
    | none =>
      obtain ⟨g, hb⟩ := hg.alloc (o.suffix e)
      exact ⟨g, hf.1, fun x hx => Option.some.inj hx ▸ hb⟩
    | some a =>
      dsimp only
      split
      · obtain ⟨g, hb⟩ := hg.alloc (s.read a ++ o.suffix e)
        exact ⟨g, hf.1, fun x hx => Option.some.inj hx ▸ hb⟩
      · exact ⟨hg.write (hf.2 a hp) _, hf⟩

theorem growAll_good {base : Nat} {s0 : St} (o : Oracle) (l : List Diff) :
    ∀ {s : St} (n : Nat), Good base s0 s → (∀ d ∈ l, Fresh base d.elem) →
      Good base s0 (growAll o n l s).2 ∧ (∀ d ∈ (growAll o n l s).1, Fresh base d.elem) := by
  induction l with
  | nil => intro s n hg _; exact ⟨hg, fun d hd => by simp [growAll] at hd⟩
  | cons d rest ih =>
    intro s n hg hf
    have fd := hf d List.mem_cons_self
    have fe : Fresh base (match d.elem.leafIndex with
        | none => { d.elem with leafIndex := some (o.newIndex n) }
        | some _ => d.elem) := by
      split
      · exact ⟨fd.1, fd.2⟩
      · exact fd
    obtain ⟨g1, f1⟩ := appendProof_good o hg fe
    obtain ⟨g2, f2⟩ := ih (n + 1) g1 (fun x hx => hf x (List.mem_cons_of_mem _ hx))
    simp only [growAll, growStep]
    refine ⟨g2, fun x hx => ?_⟩
    rcases List.mem_cons.1 hx with rfl | hx
    · exact f1
    · exact f2 x hx

theorem mem_appliedOrder {ms : Mid} {d : Diff} (h : d ∈ appliedOrder ms) : d ∈ ms := by
  simp only [appliedOrder, List.mem_append, List.mem_filter] at h
  rcases h with ((((h | h) | h) | h) | h) | h <;> exact h.1

theorem mem_revertedOrder {ms : Mid} {d : Diff} (h : d ∈ revertedOrder ms) : d ∈ ms := by
  simp only [revertedOrder, List.mem_append, List.mem_filter] at h
  rcases h with ((h | h) | h) | h <;> exact h.1

theorem block_good {o : Oracle} {s s' : St} {ops : List Op} {bid : Nat} {ds : List Diff}
    (h : applyBlock o s ops bid = .ok (ds, s') ∨ revertBlock o s ops bid = .ok (ds, s')) :
    Good s.heap.next s s' ∧ ∀ d ∈ ds, Fresh s.heap.next d.elem := by
  rcases applyOps_cases s (ops ++ [.create .cie bid]) with ⟨p, -, e⟩ | ⟨ms, s1, e, g1, m1⟩ <;>
    simp only [applyBlock, revertBlock, e, bind, Except.bind] at h
  · rcases h with h | h <;> cases h
  · rcases h with h | h
    · have hl : ∀ d ∈ appliedOrder ms, Fresh s.heap.next d.elem := fun d hd => m1 d (mem_appliedOrder hd)
      rw [moveGuards_fresh m1 fun _ => mem_appliedOrder] at h
      have g := growAll_good o (appliedOrder ms) 0 (updateLeaves_good o (appliedOrder ms) g1 hl) hl
      rwa [Except.ok.inj h] at g
    · have hl : ∀ d ∈ revertedOrder ms, Fresh s.heap.next d.elem := fun d hd => m1 d (mem_revertedOrder hd)
      rw [moveGuards_fresh m1 fun _ => mem_revertedOrder,
        moveGuards_fresh m1 fun _ hd => mem_revertedOrder (List.mem_filter.1 hd).1] at h
      cases h
      exact ⟨updateLeaves_good o (revertedOrder ms) g1 hl, hl⟩

/-- **Every address written through during `ApplyBlock` / `RevertBlock` was allocated during
    the call** (the log may also contain what was in it before the call). Holds for every
    oracle, i.e. whatever the Merkle arithmetic computes and wherever `append` reallocates,
    and for every input: elements passed shared or not, with or without proofs. -/
theorem c09_apply_writes_only_fresh (o : Oracle) (s s' : St) (ops : List Op) (bid : Nat) (ds : List Diff) :
    (applyBlock o s ops bid = .ok (ds, s') ∨ revertBlock o s ops bid = .ok (ds, s')) →
    ∀ a ∈ s'.written, a ∈ s.written ∨ s.heap.next ≤ a :=
  fun h => (block_good h).1.2.2

/-- … hence **the block, the supplement, the state and every proof held by the caller are
    unchanged**: every backing array that existed before the call has the same contents
    after it. -/
theorem c09_inputs_unchanged (o : Oracle) (s s' : St) (ops : List Op) (bid : Nat) (ds : List Diff) :
    (applyBlock o s ops bid = .ok (ds, s') ∨ revertBlock o s ops bid = .ok (ds, s')) →
    ∀ a, a < s.heap.next → s'.heap.cells a = s.heap.cells a :=
  fun h => (block_good h).1.2.1

/-- The elements of the returned update own their proofs: none of them points into the
    caller's memory and none is marked shared (so the caller may `Move()` them). -/
theorem c09_update_elements_fresh (o : Oracle) (s s' : St) (ops : List Op) (bid : Nat) (ds : List Diff) :
    (applyBlock o s ops bid = .ok (ds, s') ∨ revertBlock o s ops bid = .ok (ds, s')) →
    ∀ d ∈ ds, d.elem.shared = false ∧ ∀ a, d.elem.proof = some a → s.heap.next ≤ a :=
  fun h => (block_good h).2

/-- **The `Move()` guards never fire**: whatever hand-offs the block contains and however
    the elements passed in are flagged (shared or not), neither `ApplyBlock` nor
    `RevertBlock` panics with "Move called on shared StateElement" — every recorded element
    went through `Share()` → `Copy()` (which clears the flag) or is a fresh literal. -/
theorem c09_no_move_of_shared (o : Oracle) (s : St) (ops : List Op) (bid : Nat) :
    applyBlock o s ops bid ≠ .error .moveShared ∧ revertBlock o s ops bid ≠ .error .moveShared := by
  rcases applyOps_cases s (ops ++ [.create .cie bid]) with ⟨p, hp, e⟩ | ⟨ms, s1, e, -, m1⟩
  · constructor <;> intro h
    · simp only [applyBlock, e, bind, Except.bind] at h; cases h; exact hp rfl
    · simp only [revertBlock, e, bind, Except.bind] at h; cases h; exact hp rfl
  · constructor <;> intro h
    · simp only [applyBlock, e, bind, Except.bind, moveGuards_fresh m1 fun _ => mem_appliedOrder] at h
      cases h
    · simp only [revertBlock, e, bind, Except.bind, moveGuards_fresh m1 fun _ => mem_revertedOrder,
        moveGuards_fresh m1 fun _ hd => mem_revertedOrder (List.mem_filter.1 hd).1] at h
      cases h

/-- The guard itself is meaningful: `Move` on a shared element panics, on an unshared one it
    is the identity; `Share` sets the flag and nothing else. -/
theorem c09_move_share_spec (e : StateElement) :
    e.share.move = .error .moveShared ∧ ({ e with shared := false } : StateElement).move = .ok { e with shared := false } ∧
    e.share.proof = e.proof ∧ e.share.leafIndex = e.leafIndex := by
  simp [StateElement.share, StateElement.move]

/-- `UpdateElementProof` is the one operation meant to modify the element passed in: it
    panics on a shared element, and otherwise writes only through that element's own proof
    buffer or into memory it allocates. -/
theorem c09_update_proof_target_only (o : Oracle) (e e' : StateElement) (s s' : St)
    (h : updateElementProof o e s = .ok (e', s')) :
    e.shared = false ∧ (∀ a, a < s.heap.next → e.proof ≠ some a → s'.heap.cells a = s.heap.cells a) := by
  simp only [updateElementProof, StateElement.move, bind, Except.bind] at h
  by_cases hs : e.shared = true
  · simp [hs] at h
  · have hs' : e.shared = false := by simpa using hs
    refine ⟨hs', ?_⟩
    simp only [hs', Bool.false_eq_true, if_false] at h
    cases hl : e.leafIndex with
    | none => simp [hl, throw, throwThe, MonadExceptOf.throw] at h
    | some i =>
      simp only [hl, pure, Except.pure, Except.ok.injEq] at h
      intro a ha hne
      have hs'eq := (congrArg Prod.snd h).symm
      dsimp only at hs'eq
      rw [hs'eq]
      unfold appendProof
      dsimp only
      cases hp : e.proof with
      | none =>
        split
        · rfl
        · show (if a = s.heap.next then _ else s.heap.cells a) = _
          rw [if_neg (by omega)]
      | some b =>
        have hb : a ≠ b := fun c => hne (by rw [hp, c])
        dsimp only
        split
        · show (if a = b then _ else s.heap.cells a) = _
          rw [if_neg hb]
        · split
          · show (if a = (s.write b _).heap.next then _ else (if a = b then _ else s.heap.cells a)) = _
            rw [if_neg (by show a ≠ s.heap.next; omega), if_neg hb]
          · show (if a = b then _ else (if a = b then _ else s.heap.cells a)) = _
            rw [if_neg hb, if_neg hb]

/-- **Element `Copy`**: the copy is unshared, keeps the leaf index and nil-ness, points to a
    buffer allocated by the call (hence different from every buffer that existed, the
    original's included) with the same contents, and nothing else changed. -/
theorem c09_copy_disjoint (e : StateElement) (s : St) :
    (e.copy s).1.shared = false ∧ (e.copy s).1.leafIndex = e.leafIndex ∧
    ((e.copy s).1.proof = none ↔ e.proof = none) ∧
    (∀ a', (e.copy s).1.proof = some a' →
        s.heap.next ≤ a' ∧ ∀ a, e.proof = some a → (e.copy s).2.read a' = s.read a) ∧
    (∀ a, a < s.heap.next → (e.copy s).2.heap.cells a = s.heap.cells a) ∧
    (e.copy s).2.written = s.written := by
  unfold StateElement.copy
  cases hp : e.proof with
  | none => simp
  | some a =>
    refine ⟨rfl, rfl, by simp, ?_, ?_, rfl⟩
    · intro a' ha'
      have : a' = s.heap.next := by simpa [St.alloc] using ha'.symm
      subst this
      refine ⟨Nat.le_refl _, fun b hb => ?_⟩
      have : b = a := by simpa using hb.symm
      subst this
      simp [St.read, St.alloc]
    · intro x hx
      show (if x = s.heap.next then _ else s.heap.cells x) = _
      rw [if_neg (by omega)]

/-- containers come before their contents: the backing array that holds a location's
    header is the address of an earlier location (or the transaction struct itself) -/
def ContOk : List Nat → Footprint → Prop
  | _, [] => True
  | seen, l :: rest =>
    (∀ c, l.container = some c → c ∈ seen) ∧
    ContOk (match l.addr with | some a => a :: seen | none => seen) rest

theorem rename_fresh {base : Nat} {ren : List (Nat × Nat)} {seen : List Nat}
    (hr : ∀ c ∈ seen, ∃ c', ren.lookup c = some c' ∧ base ≤ c')
    {cont : Option Nat} (hc : ∀ c, cont = some c → c ∈ seen) :
    ∀ c', rename ren cont = some c' → base ≤ c' := by
  intro c' h
  cases cont with
  | none => simp [rename] at h
  | some c =>
    obtain ⟨x, hx, hb⟩ := hr c (hc c rfl)
    simp only [rename, hx, Option.some.injEq] at h
    omega

theorem storeHeader_good {base : Nat} {s0 s : St} (hg : Good base s0 s) (hdr : Loc → List Nat → List Nat) (l : Loc)
    {c : Option Nat} (hc : ∀ x, c = some x → base ≤ x) : Good base s0 (storeHeader hdr l c s) := by
  unfold storeHeader
  split
  · rename_i x; exact hg.write (hc x rfl) _
  · exact hg

theorem deepCopyWith_fresh {base : Nat} {s0 : St} (cloned : List String) (hdr : Loc → List Nat → List Nat)
    (f : Footprint) :
    ∀ (ren : List (Nat × Nat)) (seen : List Nat) (s : St),
      Good base s0 s → (∀ l ∈ f, cloned.contains l.path = true) → ContOk seen f →
      (∀ c ∈ seen, ∃ c', ren.lookup c = some c' ∧ base ≤ c') →
      Good base s0 (deepCopyWith cloned hdr f ren s).2 ∧
      (∀ l ∈ (deepCopyWith cloned hdr f ren s).1,
          (∀ a, l.addr = some a → base ≤ a) ∧ (∀ c, l.container = some c → base ≤ c)) ∧
      (deepCopyWith cloned hdr f ren s).1.map (·.path) = f.map (·.path) ∧
      (deepCopyWith cloned hdr f ren s).1.map (·.addr.isSome) = f.map (·.addr.isSome) := by
  induction f with
  | nil => intro ren seen s hg _ _ _; exact ⟨hg, fun l hl => by simp [deepCopyWith] at hl, rfl, rfl⟩
  | cons l rest ih =>
    intro ren seen s hg hcl hco hr
    have hl := hcl l List.mem_cons_self
    obtain ⟨hc1, hc2⟩ := hco
    have hfc := rename_fresh hr hc1
    cases ha : l.addr with
    | none =>
      rw [ha] at hc2
      obtain ⟨g, fr, p1, p2⟩ := ih ren seen s hg (fun x hx => hcl x (List.mem_cons_of_mem _ hx)) hc2 hr
      simp only [deepCopyWith, ha]
      refine ⟨g, fun x hx => ?_, by simp [p1], by simp [p2, ha]⟩
      rcases List.mem_cons.1 hx with rfl | hx
      · exact ⟨fun a h => by simp at h, hfc⟩
      · exact fr x hx
    | some a =>
      rw [ha] at hc2
      obtain ⟨g1, hb⟩ := hg.alloc (s.read a)
      have g2 := storeHeader_good g1 hdr l hfc
      have hr' : ∀ c ∈ a :: seen, ∃ c', ((a, (s.alloc (s.read a)).1) :: ren).lookup c = some c' ∧ base ≤ c' := by
        intro c hc
        by_cases e : c = a
        · subst e; exact ⟨_, by simp [List.lookup], hb⟩
        · rcases List.mem_cons.1 hc with h | h
          · exact absurd h e
          · obtain ⟨c', h1, h2⟩ := hr c h
            have hne : (c == a) = false := by simpa using e
            exact ⟨c', by simp only [List.lookup, hne]; exact h1, h2⟩
      obtain ⟨g, fr, p1, p2⟩ := ih _ _ _ g2 (fun x hx => hcl x (List.mem_cons_of_mem _ hx)) hc2 hr'
      simp only [deepCopyWith, ha, hl]
      refine ⟨g, fun x hx => ?_, by simp [p1], by simp [p2, ha]⟩
      rcases List.mem_cons.1 hx with rfl | hx
      · exact ⟨fun x hx => by simp at hx; omega, hfc⟩
      · exact fr x hx

/-- **`V2Transaction.DeepCopy`**: for a transaction all of whose slice/pointer locations are
    among those `DeepCopy` clones (which `tie_deepcopy_fields_complete` establishes for every
    location go/types can reach, apart from the immutable `time.Location`), the copy shares
    no address with the original — every address in it was allocated by the call —, has the
    same shape, and producing it wrote nothing into the original's memory. -/
theorem c09_copies_disjoint (hdr : Loc → List Nat → List Nat) (f : Footprint) (s : St)
    (hcomplete : ∀ l ∈ f, l.path ∈ deepCopyCloned) (hwf : ContOk [] f) :
    (∀ l ∈ (deepCopy hdr f s).1, (∀ a, l.addr = some a → s.heap.next ≤ a) ∧
                                   (∀ c, l.container = some c → s.heap.next ≤ c)) ∧
    (deepCopy hdr f s).1.map (·.path) = f.map (·.path) ∧
    (deepCopy hdr f s).1.map (·.addr.isSome) = f.map (·.addr.isSome) ∧
    (∀ a, a < s.heap.next → (deepCopy hdr f s).2.heap.cells a = s.heap.cells a) ∧
    (∀ a ∈ (deepCopy hdr f s).2.written, a ∈ s.written ∨ s.heap.next ≤ a) := by
  obtain ⟨g, fr, p1, p2⟩ := deepCopyWith_fresh (base := s.heap.next) (s0 := s) deepCopyCloned hdr f [] [] s
    (Good.refl (Nat.le_refl _)) (fun l hl => by simpa using hcomplete l hl) hwf (fun c hc => by cases hc)
  exact ⟨fr, p1, p2, g.2.1, g.2.2⟩

theorem stripProofs_good {base : Nat} {s0 : St} (hdr : Loc → List Nat → List Nat) (f : Footprint) :
    ∀ (s : St), Good base s0 s → (∀ l ∈ f, ∀ c, l.container = some c → base ≤ c) →
      Good base s0 (stripProofs hdr f s).2 := by
  induction f with
  | nil => intro s hg _; exact hg
  | cons l rest ih =>
    intro s hg hc
    simp only [stripProofs]
    split
    · exact ih _ (storeHeader_good hg hdr l (hc l List.mem_cons_self)) (fun x hx => hc x (List.mem_cons_of_mem _ hx))
    · exact ih _ hg (fun x hx => hc x (List.mem_cons_of_mem _ hx))

/-- **`V2TransactionsMultiproof.EncodeTo` copies before it strips**: encoding a multiproof
    leaves every backing array of the transactions being encoded unchanged; all its stores
    (`l.MerkleProof = nil`) go into the private deep copy. -/
theorem c09_multiproof_encode_readonly (hdr : Loc → List Nat → List Nat) (f : Footprint) (s : St)
    (hcomplete : ∀ l ∈ f, l.path ∈ deepCopyCloned) (hwf : ContOk [] f) :
    (∀ a, a < s.heap.next → (multiproofEncode hdr f s).2.heap.cells a = s.heap.cells a) ∧
    (∀ a ∈ (multiproofEncode hdr f s).2.written, a ∈ s.written ∨ s.heap.next ≤ a) := by
  obtain ⟨g, fr, -, -⟩ := deepCopyWith_fresh (base := s.heap.next) (s0 := s) deepCopyCloned hdr f [] [] s
    (Good.refl (Nat.le_refl _)) (fun l hl => by simpa using hcomplete l hl) hwf (fun c hc => by cases hc)
  have := stripProofs_good hdr (deepCopy hdr f s).1 (deepCopy hdr f s).2 g (fun l hl => (fr l hl).2)
  exact ⟨this.2.1, this.2.2⟩

/-- a heap with three caller-owned arrays -/
def exHeap : St :=
  { heap := { cells := fun a => if a = 0 then some [7, 8] else if a = 1 then some [9] else if a = 2 then some [1, 2, 3] else none,
              next := 3 },
    written := [] }

def exOracle : Oracle :=
  { rewrite := fun _ l => l.map (· + 100), suffix := fun _ => [42], newIndex := fun n => 1000 + n, realloc := fun a => a % 2 = 0 }

/-- a block that spends two elements whose proofs live at 0 and 1 (one passed as shared),
    creates an output, revises a contract whose proof lives at 2 and spends an ephemeral element -/
def exOps : List Op :=
  [.spend .sc 11 (.given { leafIndex := some 5, proof := some 0, shared := false }),
   .spend .sf 12 (.given { leafIndex := some 6, proof := some 1, shared := true }),
   .create .sc 13, .spend .sc 13 (.lookup none),
   .revise .v2fc 14 (.given { leafIndex := some 7, proof := some 2, shared := false })]

/-- the pipeline succeeds on it, writes (five times) only to addresses ≥ 3, and the three
    caller-owned arrays are intact — the hypotheses of `c09_apply_writes_only_fresh` /
    `c09_inputs_unchanged` / `c09_no_move_of_shared` are satisfiable and non-trivial -/
example : ∃ ds s', applyBlock exOracle exHeap exOps 99 = .ok (ds, s') ∧ ds.length = 5 ∧
    s'.written.length = 5 ∧ (∀ a ∈ s'.written, 3 ≤ a) ∧
    s'.heap.cells 0 = some [7, 8] ∧ s'.heap.cells 1 = some [9] ∧ s'.heap.cells 2 = some [1, 2, 3] := by
  refine ⟨_, _, rfl, ?_⟩
  decide +kernel

/-- a footprint: `Attestations` (array at 0) holding one `Value` (array at 1), and a proof at 2
    inside the `SiacoinInputs` array at 3 -/
def exFoot : Footprint :=
  [{ path := "Attestations", addr := some 0, container := none },
   { path := "Attestations/[]/Value", addr := some 1, container := some 0 },
   { path := "SiacoinInputs", addr := some 3, container := none },
   { path := "SiacoinInputs/[]/Parent/StateElement/MerkleProof", addr := some 2, container := some 3 }]

def exHeap4 : St := { exHeap with heap := { cells := fun a => if a < 4 then some [a] else none, next := 4 } }

example : (∀ l ∈ exFoot, l.path ∈ deepCopyCloned) ∧ ContOk [] exFoot := by
  refine ⟨by decide +kernel, ?_⟩
  simp [ContOk, exFoot]

/-- the current `DeepCopy` gives all-fresh addresses and writes only fresh memory … -/
example : ((deepCopy (fun _ l => l) exFoot exHeap4).1.map (·.addr)) = [some 4, some 5, some 6, some 7] ∧
    (deepCopy (fun _ l => l) exFoot exHeap4).2.written = [6, 4] := by decide +kernel

/-- … whereas a `DeepCopy` that forgot `Attestations/[]/Value` (the shape of the defect fixed
    in f111759 for renewals, policies and the foundation address) leaves address 1 shared
    between copy and original: the completeness hypothesis is what makes the theorem true -/
example : ((deepCopyWith (deepCopyCloned.erase "Attestations/[]/Value") (fun _ l => l) exFoot [] exHeap4).1.map (·.addr))
    = [some 4, some 1, some 5, some 6] := by decide +kernel

/-- and a `DeepCopy` that cloned the inner proof but forgot the enclosing `SiacoinInputs`
    array would store the new slice header INTO THE ORIGINAL's array 3 -/
example : (deepCopyWith (deepCopyCloned.erase "SiacoinInputs") (fun _ l => l) exFoot [] exHeap4).2.written = [3, 4] := by
  decide +kernel

/-- without the copy, `EncodeTo`'s `l.MerkleProof = nil` writes into the caller's array 3 -/
example : (multiproofEncodeNoCopy (fun _ l => l) exFoot exHeap4).2.written = [3] ∧
    (multiproofEncode (fun _ l => l) exFoot exHeap4).2.written = [6, 6, 4] := by decide +kernel

end C09
