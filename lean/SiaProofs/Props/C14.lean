import SiaModel.Policy.Verify
import SiaModel.Policy.Meaning
import SiaModel.Policy.Address
import SiaModel.Policy.Codec
import SiaModel.Policy.Txn
import SiaModel.Gen.FactsPolicy
import SiaProofs.Lemmas.PolicyLimits
import SiaProofs.Lemmas.PolicyWitness
import SiaProofs.Lemmas.PolicyAddress
import SiaProofs.Lemmas.PolicyMerkle
/-!
# C14 — Spend policy verification matches the policy's meaning and address commitment

* `Sia.Policy.verify` (SiaModel/Policy/Verify.lean) mirrors `SpendPolicy.Verify`
  (types/policy.go) statement by statement; it is tied to the Go code by the
  correspondence harness and the `tie_*` facts below.
* `Sia.Policy.Sat` (SiaModel/Policy/Meaning.lean) is the meaning of a policy, written from
  the property text.
* Signature validity (`E.verifySig`), SHA-256 (`E.sha`) and the address hash (`H`) are
  arbitrary functions; the only cryptographic hypothesis is `HashInj` of the unlock-conditions
  Merkle hashes, in `c14_address_injective_on_uc` and `c14_address_injective_on_uc_bytes`.
-/
namespace C14
open Sia Sia.Policy

theorem verify_ok_iff (E : Env) (p : Policy) (sigs pres : List ByteArray) :
    verify E p sigs pres = .ok () ↔ ∃ t, verifyP E p ⟨sigs, pres, 0⟩ = .ok ⟨[], [], t⟩ := by
  unfold verify
  cases hv : verifyP E p ⟨sigs, pres, 0⟩ with
  | error e => simp
  | ok st =>
    obtain ⟨s, pr, t⟩ := st
    cases s <;> cases pr <;> simp

/-- **Main theorem.** `Verify` accepts exactly when the policy's meaning holds with nothing
    left over and the policy is within the complexity limits (at most `maxPolicies`
    sub-policies, at most `maxChildren` children per threshold).
    `SaneTimes`: every timestamp is within ±2^62 s, where Go's `time.Time` does not wrap.
    The limits stand on the right because they are both: consequences of acceptance (`verifyP_limits`) and the hypotheses under
    which a run of the verifier is the meaning (`verifyP_iff`). -/
theorem c14_verify_iff_meaning (E : Env) (p : Policy) (sigs pres : List ByteArray)
    (hT : SaneTimes E p.leaves) :
    verify E p sigs pres = .ok () ↔
      (Sat E p sigs pres [] [] ∧ p.subCount ≤ maxPolicies ∧ p.breadthLe maxChildren = true) := by
  rw [verify_ok_iff]
  constructor
  · rintro ⟨t, ht⟩
    obtain ⟨l1, l2, l3⟩ := verifyP_limits E p _ _ (Nat.zero_le _) ht
    rw [l1] at l2
    exact ⟨((verifyP_iff E p _ _ hT l3 l2).1 ht).1, by rwa [Nat.zero_add] at l2, l3⟩
  · rintro ⟨hS, hn, hb⟩
    exact ⟨_, (verifyP_iff E p ⟨sigs, pres, 0⟩ ⟨[], [], 0 + p.subCount⟩ hT hb
      (by rwa [Nat.zero_add])).2 ⟨hS, rfl⟩⟩

/-- the hypotheses of the main theorem are satisfiable by a non-trivial instance:
    a 1-of-2 threshold (one branch revealed, the other opaque) accepted with one signature -/
example :
    let E : Env := { height := 10, median := 100, sigHash := ⟨#[7]⟩,
                     verifySig := fun k _ s => k == s, sha := id }
    let p := Policy.thresh 1 [.pk ⟨#[1]⟩, .opaque ⟨#[9]⟩]
    SaneTimes E p.leaves ∧ verify E p [⟨#[1]⟩] [] = .ok () := by
  refine ⟨⟨by unfold InRange; decide, ?_⟩, by rfl⟩
  intro t ht; simp [Policy.leaves, leavesList] at ht

/-- height lock: `above h` holds exactly from height `h` on (inclusive);
    time lock: `after t` holds exactly when the median timestamp is strictly later than `t`. -/
theorem c14_locks (E : Env) :
    (∀ h, verify E (.above h) [] [] = .ok () ↔ h ≤ E.height) ∧
    (∀ t, InRange E.median → InRange t → (verify E (.after t) [] [] = .ok () ↔ t < E.median)) := by
  constructor
  · intro h
    rw [verify_ok_iff]
    exact ⟨fun ⟨_, ht⟩ => (verifyP_above_ok.1 ht).1, fun hh => ⟨0, verifyP_above_ok.2 ⟨hh, rfl⟩⟩⟩
  · intro t hm ht
    rw [verify_ok_iff, ← timeAfter_iff hm ht]
    exact ⟨fun ⟨_, ht⟩ => (verifyP_after_ok.1 ht).1, fun hh => ⟨0, verifyP_after_ok.2 ⟨hh, rfl⟩⟩⟩

example : verify { height := 5, median := 0, sigHash := .empty, verifySig := fun _ _ _ => false, sha := id }
    (.above 5) [] [] = .ok () := by rfl
example : verify { height := 4, median := 0, sigHash := .empty, verifySig := fun _ _ _ => false, sha := id }
    (.above 5) [] [] = .error .height := by rfl
example : verify { height := 0, median := 6, sigHash := .empty, verifySig := fun _ _ _ => false, sha := id }
    (.after 5) [] [] = .ok () := by rfl
example : verify { height := 0, median := 5, sigHash := .empty, verifySig := fun _ _ _ => false, sha := id }
    (.after 5) [] [] = .error .time := by rfl

/-- A threshold is accepted only if EXACTLY `n` children are revealed (not opaque) and none
    is an unlock-conditions policy. In particular an `n+1`-th revealed child is rejected,
    whatever the witnesses. No hypothesis on limits or times. -/
theorem c14_threshold_exact (E : Env) (n : Nat) (subs : List Policy) (sigs pres : List ByteArray)
    (h : verify E (.thresh n subs) sigs pres = .ok ()) :
    revealed subs = n ∧ ∀ c, Policy.uc c ∉ subs := by
  obtain ⟨t, ht⟩ := (verify_ok_iff ..).1 h
  have hv := (verifyP_thresh_ok.1 ht).2.2
  obtain ⟨hr, hu⟩ := verifySubs_revealed E n subs 0 _ _ hv
  exact ⟨(Nat.zero_add _).symm.trans hr, fun c hc => Bool.noConfusion (hu _ hc)⟩

/-- legacy unlock conditions cannot be sub-policies -/
theorem c14_uc_not_subpolicy (E : Env) (n : Nat) (subs : List Policy) (c : UnlockConditions)
    (sigs pres : List ByteArray) (hc : Policy.uc c ∈ subs) :
    verify E (.thresh n subs) sigs pres ≠ .ok () :=
  fun h => (c14_threshold_exact E n subs sigs pres h).2 c hc

example : revealed [Policy.above 1, .opaque .empty, .hash .empty] = 2 := by decide

/-- 2-of-3 with one branch opaque: accepted; the same witnesses with the third branch revealed
    too (an `n+1`-th revealed child): "threshold exceeded"; with only one revealed: "not reached";
    an unlock-conditions child: rejected as such -/
example :
    let E : Env := { height := 10, median := 100, sigHash := ⟨#[7]⟩, verifySig := fun k _ s => k == s, sha := id }
    verify E (.thresh 2 [.pk ⟨#[1]⟩, .opaque ⟨#[9]⟩, .above 3]) [⟨#[1]⟩] [] = .ok () ∧
    verify E (.thresh 2 [.pk ⟨#[1]⟩, .above 2, .above 3]) [⟨#[1]⟩] [] = .error .exceeded ∧
    verify E (.thresh 2 [.pk ⟨#[1]⟩, .opaque ⟨#[9]⟩, .opaque ⟨#[8]⟩]) [⟨#[1]⟩] [] = .error .notReached ∧
    verify E (.thresh 0 [.uc ⟨0, [], 0⟩]) [] [] = .error .ucSub ∧
    verify E (.uc ⟨0, [], 0⟩) [] [] = .ok () := by
  refine ⟨by rfl, by rfl, by rfl, by rfl, by rfl⟩

/-- More than `maxPolicies` (1024) sub-policies in total, or a threshold with more than
    `maxChildren` (255) children anywhere in the tree, is rejected — whatever the
    witnesses. `verify` is a total function (Lean's termination checker accepted its
    structural recursion), so "rejects rather than hangs". -/
theorem c14_limits_reject (E : Env) (p : Policy) (sigs pres : List ByteArray)
    (h : maxPolicies < p.subCount ∨ p.breadthLe maxChildren = false) :
    verify E p sigs pres ≠ .ok () := by
  intro hv
  obtain ⟨t, ht⟩ := (verify_ok_iff ..).1 hv
  obtain ⟨l1, l2, l3⟩ := verifyP_limits E p _ _ (Nat.zero_le _) ht
  rcases h with h | h
  · rw [l1, Nat.zero_add] at l2; exact Nat.lt_irrefl _ (Nat.lt_of_lt_of_le h l2)
  · rw [l3] at h; cases h

example : (Policy.thresh 0 (List.replicate 256 (.opaque .empty))).breadthLe maxChildren = false := by
  simp only [Policy.breadthLe, List.length_replicate, maxChildren]; rfl

/-- **No witness may be left unused.** If a policy is accepted with some witnesses, then
    supplying any surplus signature or preimage (appended to either list) is rejected. -/
theorem c14_no_leftover_witness (E : Env) (p : Policy) (sigs pres xs ys : List ByteArray)
    (h : verify E p sigs pres = .ok ()) (hx : xs ≠ [] ∨ ys ≠ []) :
    verify E p (sigs ++ xs) (pres ++ ys) ≠ .ok () := by
  obtain ⟨t, ht⟩ := (verify_ok_iff ..).1 h
  have := verifyP_frame E p sigs pres [] [] xs ys 0 t ht
  intro h2
  obtain ⟨t2, ht2⟩ := (verify_ok_iff ..).1 h2
  rw [this] at ht2
  simp at ht2
  rcases hx with hx | hx
  · exact hx ht2.1
  · exact hx ht2.2.1

example :
    let E : Env := { height := 10, median := 100, sigHash := ⟨#[7]⟩, verifySig := fun k _ s => k == s, sha := id }
    verify E (.thresh 1 [.pk ⟨#[1]⟩, .opaque ⟨#[9]⟩]) [⟨#[1]⟩] [] = .ok () ∧
    verify E (.thresh 1 [.pk ⟨#[1]⟩, .opaque ⟨#[9]⟩]) [⟨#[1]⟩, ⟨#[1]⟩] [] = .error .superSig ∧
    verify E (.thresh 1 [.pk ⟨#[1]⟩, .opaque ⟨#[9]⟩]) [⟨#[1]⟩] [⟨#[5]⟩] = .error .superPre := by
  refine ⟨by rfl, by rfl, by rfl⟩

/-- **Corrupting a witness causes rejection.** In an accepted (non-legacy) policy every supplied
    signature verifies under the key of some public-key leaf of the policy and every supplied
    preimage hashes to some hash leaf. Hence a signature that is invalid under every key of the
    policy — or a preimage whose hash is no leaf — anywhere in the witness lists is rejected. -/
theorem c14_corrupt_witness_rejected (E : Env) (p : Policy) (sigs pres : List ByteArray)
    (hu : p.isUC = false) (h : verify E p sigs pres = .ok ()) :
    (∀ x ∈ sigs, ∃ k, Policy.pk k ∈ p.leaves ∧ E.verifySig k E.sigHash x = true) ∧
    (∀ x ∈ pres, ∃ hh, Policy.hash hh ∈ p.leaves ∧ E.sha x = hh) := by
  obtain ⟨t, ht⟩ := (verify_ok_iff ..).1 h
  obtain ⟨us, ups, h1, h2, h3, h4⟩ := verifyP_consumed E p _ _ hu ht
  simp only [List.append_nil] at h1 h2
  subst h1; subst h2
  exact ⟨h3, h4⟩

/-- the same, in the form "replace the i-th signature by one that no key of the policy accepts" -/
theorem c14_corrupt_signature_rejected (E : Env) (p : Policy) (sigs pres : List ByteArray) (i : Nat)
    (bad : ByteArray) (hu : p.isUC = false) (hi : i < sigs.length)
    (hbad : ∀ k, Policy.pk k ∈ p.leaves → E.verifySig k E.sigHash bad = false) :
    verify E p (sigs.set i bad) pres ≠ .ok () := by
  intro h
  obtain ⟨k, hk, hv⟩ := (c14_corrupt_witness_rejected E p _ pres hu h).1 bad
    (List.mem_iff_getElem.2 ⟨i, by simpa using hi, by simp⟩)
  rw [hbad k hk] at hv; cases hv

/-- … and "replace the i-th preimage by one whose SHA-256 is not a hash leaf of the policy" -/
theorem c14_corrupt_preimage_rejected (E : Env) (p : Policy) (sigs pres : List ByteArray) (i : Nat)
    (bad : ByteArray) (hu : p.isUC = false) (hi : i < pres.length)
    (hbad : Policy.hash (E.sha bad) ∉ p.leaves) :
    verify E p sigs (pres.set i bad) ≠ .ok () := by
  intro h
  obtain ⟨hh, hk, hv⟩ := (c14_corrupt_witness_rejected E p sigs _ hu h).2 bad
    (List.mem_iff_getElem.2 ⟨i, by simpa using hi, by simp⟩)
  subst hv; exact hbad hk

example :
    let E : Env := { height := 10, median := 100, sigHash := ⟨#[7]⟩, verifySig := fun k _ s => k == s, sha := id }
    verify E (.thresh 2 [.pk ⟨#[1]⟩, .hash ⟨#[4]⟩]) [⟨#[1]⟩] [⟨#[4]⟩] = .ok () ∧
    verify E (.thresh 2 [.pk ⟨#[1]⟩, .hash ⟨#[4]⟩]) [⟨#[2]⟩] [⟨#[4]⟩] = .error .sig ∧
    verify E (.thresh 2 [.pk ⟨#[1]⟩, .hash ⟨#[4]⟩]) [⟨#[1]⟩] [⟨#[5]⟩] = .error .preimage := by
  refine ⟨by rfl, by rfl, by rfl⟩

/-- **Legacy unlock conditions need the required count of distinct listed keys.** If a `uc`
    policy is accepted then: the height has reached the timelock, no preimage was supplied,
    exactly `signaturesRequired` signatures were supplied, and there are strictly increasing
    positions `idx` in the key list (so: distinct listed keys, in list order), one per
    signature, such that the key at `idx[j]` is not an entropy key and — when it is of the
    recognised type ed25519 — the j-th signature verifies under it. (Keys of an unrecognised
    algorithm accept any signature: the code says so and the statement does not ask more.)
    The converse direction is part of `c14_verify_iff_meaning`. -/
theorem c14_uc_counts_distinct_listed_keys (E : Env) (c : UnlockConditions) (sigs pres : List ByteArray)
    (h : verify E (.uc c) sigs pres = .ok ()) :
    c.timelock ≤ E.height ∧ pres = [] ∧ sigs.length = c.signaturesRequired ∧
    ∃ idx : List Nat, idx.length = sigs.length ∧ idx.Pairwise (· < ·) ∧
      ∀ (j i : Nat) (s : ByteArray), idx[j]? = some i → sigs[j]? = some s →
        ∃ k, c.publicKeys[i]? = some k ∧ k.algorithm ≠ specEntropy ∧
          (k.algorithm = specEd25519 → E.verifySig (pad32 k.key) E.sigHash s = true) := by
  obtain ⟨t, ht⟩ := (verify_ok_iff ..).1 h
  obtain ⟨hh, sigs', hl, e⟩ := verifyP_uc_ok.1 ht
  cases e
  obtain ⟨used, hu, hlen, hm⟩ := (ucLoop_ok_iff ..).1 hl
  rw [List.append_nil] at hu; subst hu
  exact ⟨hh, rfl, hlen, hm.indices⟩

/-- 2-of-3 multisig, signatures by the 1st and 3rd key: accepted; in the wrong order, or twice
    the same key: rejected -/
example :
    let E : Env := { height := 10, median := 100, sigHash := ⟨#[7]⟩,
                     verifySig := fun k _ s => s.size == 1 && k.extract 0 1 == s, sha := id }
    let key (b : UInt8) : UnlockKey := ⟨specEd25519, ⟨#[b]⟩⟩
    let c : UnlockConditions := ⟨10, [key 1, key 2, key 3], 2⟩
    verify E (.uc c) [⟨#[1]⟩, ⟨#[3]⟩] [] = .ok () ∧
    verify E (.uc c) [⟨#[3]⟩, ⟨#[1]⟩] [] = .error .ucNotReached ∧
    verify E (.uc c) [⟨#[1]⟩, ⟨#[1]⟩] [] = .error .ucNotReached ∧
    verify E (.uc c) [⟨#[1]⟩] [] = .error .ucNotReached := by
  refine ⟨by rfl, by rfl, by rfl, by rfl⟩

/-- **Opaquification never changes the address.** Replacing any set of sub-policies, at any
    depth, by their opaque form (`PolicyOpaque`) leaves `Address()` unchanged — for every hash
    function `H` (no collision-freeness needed), in particular for BLAKE2b-256. -/
theorem c14_address_opaque_invariant (H : ByteArray → ByteArray) (p q : Policy) (h : Opq H p q) :
    addressWith H q = addressWith H p := h.address_eq.1

theorem c14_address_opaque_invariant_blake2b (p q : Policy) (h : Opq blake2b256 p q) :
    address q = address p := h.address_eq.1

/-- a non-trivial instance: hide the second child and, inside the first, its first child -/
example (H : ByteArray → ByteArray) (a b c : Policy) :
    Opq H (.thresh 1 [.thresh 2 [a, b], c])
          (.thresh 1 [.thresh 2 [policyOpaque H a, b], policyOpaque H c]) :=
  .inside (.same (.inside (.hide (.keep a) (.same (.keep b) .nil))) (.hide (.keep c) .nil))

/-- **An opaque branch is unusable.** (1) An opaque policy is never accepted, and has no
    meaning (`Sat` is `False`). (2) In a threshold that was accepted, replacing any revealed
    child by its opaque form makes the threshold rejected for EVERY choice of witnesses. -/
theorem c14_opaque_unusable (E : Env) (H : ByteArray → ByteArray) :
    (∀ p sigs pres, verify E (policyOpaque H p) sigs pres = .error .opaque) ∧
    (∀ a s pr s' pr', ¬ Sat E (.opaque a) s pr s' pr') ∧
    (∀ n l1 c l2 sigs pres sigs' pres', c.isOpaque = false →
      verify E (.thresh n (l1 ++ c :: l2)) sigs pres = .ok () →
      verify E (.thresh n (l1 ++ policyOpaque H c :: l2)) sigs' pres' ≠ .ok ()) := by
  refine ⟨?_, ?_, ?_⟩
  · intro p sigs pres
    cases p <;> simp [policyOpaque, verify, verifyP]
  · intro a s pr s' pr' h; simp [Sat] at h
  · intro n l1 c l2 sigs pres sigs' pres' hc h1 h2
    have r1 := (c14_threshold_exact E n _ sigs pres h1).1
    have r2 := (c14_threshold_exact E n _ sigs' pres' h2).1
    simp only [revealed, List.filter_append, List.filter_cons, List.length_append,
      policyOpaque_isOpaque, hc, Bool.not_true, Bool.not_false, Bool.false_eq_true, if_false, if_true,
      List.length_cons] at r1 r2
    omega

/-- **The hand-unrolled fast paths equal the general definition.**
    `StandardAddress(pk) = PolicyPublicKey(pk).Address()`; and, for a 32-byte key,
    `StandardUnlockHash(pk)` — with its two precomputed leaf hashes `tl`, `sr` being the leaf
    hashes of `uint64(0)` and `uint64(1)` — equals the address of the standard unlock
    conditions policy. For every `H`. -/
theorem c14_standard_address (H : ByteArray → ByteArray) (pk : ByteArray) :
    standardAddress H pk = addressWith H (.pk pk) ∧
    (pk.size = 32 →
      standardUnlockHash H (leafHash H (le64 0)) (leafHash H (le64 1)) pk
        = addressWith H (.uc ⟨0, [⟨specEd25519, pk⟩], 1⟩)) := by
  constructor
  · simp [standardAddress, addressWith, encode, encPolicy, policyVersion, opPublicKey, ByteArray.append_assoc]
  · intro hs
    simp [standardUnlockHash, addressWith, ucRoot, ucRootG, merkleRootG, accAddG, accRootG, leafHash, nodeHash,
      encUnlockKey, hs, ByteArray.append_assoc]

example :
    standardUnlockHash blake2b256 (leafHash blake2b256 (le64 0)) (leafHash blake2b256 (le64 1)) (Bytes.zeros 32)
      = address (.uc ⟨0, [⟨specEd25519, Bytes.zeros 32⟩], 1⟩) :=
  (c14_standard_address blake2b256 (Bytes.zeros 32)).2 (by decide)

/-- the two precomputed constants in `StandardUnlockHash` (read from hash.go by the extractor)
    ARE the BLAKE2b-256 leaf hashes of `uint64(0)` and `uint64(1)` — evaluated in the kernel
    with the real BLAKE2b of `SiaModel/Prim`. -/
theorem tie_standard_unlock_leaf_constants :
    hexEncode (leafHash blake2b256 (le64 0)) = Gen.FactsPolicy.timelockHashHex ∧
    hexEncode (leafHash blake2b256 (le64 1)) = Gen.FactsPolicy.sigsrequiredHashHex := by
  constructor <;> decide +kernel

theorem c14_fastpath_condition (c : UnlockConditions) :
    fastPathCond c = true ↔
      (c.timelock = 0 ∧ (∃ k, c.publicKeys = [k] ∧ k.algorithm = specEd25519 ∧ k.key.size = 32)
        ∧ c.signaturesRequired = 1) := by
  unfold fastPathCond
  match h : c.publicKeys with
  | [] => simp
  | [k] => simp [Bool.and_eq_true]; constructor <;> (intro h; simp_all)
  | _ :: _ :: _ => simp

/-- **The fast path is the same Merkle tree in closed form.** `UnlockConditions.UnlockHash`
    (with the two precomputed constants being the leaf hashes of 0 and 1 —
    `tie_standard_unlock_leaf_constants`) always equals `unlockConditionsRoot`, i.e. the address
    of the `uc` policy: the fast path never changes the value. -/
theorem c14_unlock_hash_fastpath (H : ByteArray → ByteArray) (c : UnlockConditions) :
    unlockHash H (leafHash H (le64 0)) (leafHash H (le64 1)) c = addressWith H (.uc c) := by
  unfold unlockHash
  by_cases hf : fastPathCond c = true
  · obtain ⟨h0, ⟨k, hk, ha, hs⟩, h1⟩ := (c14_fastpath_condition c).1 hf
    obtain ⟨tl, ks, req⟩ := c
    obtain ⟨alg, key⟩ := k
    simp only at h0 hk ha hs h1
    subst h0; subst hk; subst ha; subst h1
    simp only [hf, if_true]
    exact (c14_standard_address H key).2 hs
  · simp [hf, addressWith]

/-- The special cases of the address code, read from the Go source: the standard fast path
    exists in `UnlockConditions.UnlockHash` ONLY (not in `unlockConditionsRoot`, not in
    `SpendPolicy.Address`), it is guarded by exactly these five conjuncts, both callers fall
    through to `unlockConditionsRoot` — and the model's `unlockHash` takes its fast path under
    exactly that condition (`fastPathCond`), its `address` never. -/
theorem tie_standard_fastpath_condition :
    Gen.FactsPolicy.unlockHashFastPath =
      ["uc.Timelock == 0", "len(uc.PublicKeys) == 1", "uc.PublicKeys[0].Algorithm == SpecifierEd25519",
       "len(uc.PublicKeys[0].Key) == len(PublicKey{})", "uc.SignaturesRequired == 1"] ∧
    Gen.FactsPolicy.ucRootFastPath = [] ∧ Gen.FactsPolicy.addressFastPath = [] ∧
    Gen.FactsPolicy.addressUcReturn = "unlockConditionsRoot(UnlockConditions(uc))" ∧
    Gen.FactsPolicy.unlockHashFallthrough = "unlockConditionsRoot(uc)" ∧
    (∀ H tl sr c, fastPathCond c = false → unlockHash H tl sr c = ucRoot H c) ∧
    (∀ H tl sr c k, fastPathCond c = true → c.publicKeys = [k] →
      unlockHash H tl sr c = standardUnlockHash H tl sr k.key) ∧
    (∀ H c, addressWith H (.uc c) = ucRoot H c) := by
  refine ⟨rfl, rfl, rfl, rfl, rfl, ?_, ?_, ?_⟩
  · intro H tl sr c h; simp [unlockHash, h]
  · intro H tl sr c k h hk; simp [unlockHash, h, hk]
  · intro H c; simp [addressWith]

/-- **The address of a legacy unlock-conditions policy determines the unlock conditions**
    (under `HashInj`: the two Merkle hash constructors are injective and disjoint — "up to a
    BLAKE2b collision"): timelock, every key with its ALGORITHM SPECIFIER and length, and the
    required count are all bound. Over an abstract hash algebra. `WF`: uint64 fields, 16-byte
    specifiers. -/
theorem c14_address_injective_on_uc {D : Type} (leaf : ByteArray → D) (node : D → D → D) (zero : D)
    (h : HashInj leaf node) (c c' : UnlockConditions) (hc : c.WF) (hc' : c'.WF)
    (e : ucRootG leaf node zero c = ucRootG leaf node zero c') : c = c' :=
  ucRootG_inj h zero c c' hc hc' e

/-- … for the byte-level model, for `SpendPolicy.Address` and — across the fast path — for
    `UnlockConditions.UnlockHash`: two different unlock conditions never share an address or an
    unlock hash, standard-shaped or not. -/
theorem c14_address_injective_on_uc_bytes (H : ByteArray → ByteArray)
    (h : HashInj (leafHash H) (nodeHash H)) (c c' : UnlockConditions) (hc : c.WF) (hc' : c'.WF) :
    (addressWith H (.uc c) = addressWith H (.uc c') → c = c') ∧
    (unlockHash H (leafHash H (le64 0)) (leafHash H (le64 1)) c
      = unlockHash H (leafHash H (le64 0)) (leafHash H (le64 1)) c' → c = c') := by
  constructor
  · intro e; simp only [addressWith, ucRoot] at e; exact ucRootG_inj h _ c c' hc hc' e
  · intro e
    rw [c14_unlock_hash_fastpath, c14_unlock_hash_fastpath] at e
    simp only [addressWith, ucRoot] at e; exact ucRootG_inj h _ c c' hc hc' e

/-- `HashInj` is satisfiable (the free term algebra), so the theorem is not vacuous; and in that
    model the standard conditions of a key and the same key under another algorithm specifier
    have different roots -/
example : HashInj MTree.leaf MTree.node := MTree.hashInj_free
example (K : ByteArray) (hK : K.size < 18446744073709551616) :
    ucRootG MTree.leaf MTree.node (.leaf .empty) ⟨0, [⟨specEd25519, K⟩], 1⟩
      ≠ ucRootG MTree.leaf MTree.node (.leaf .empty) ⟨0, [⟨specEntropy, K⟩], 1⟩ := by
  intro e
  have wf : ∀ a : ByteArray, a.size = 16 → UnlockConditions.WF ⟨0, [⟨a, K⟩], 1⟩ := by
    intro a ha
    refine ⟨by simp, by simp, ?_⟩
    intro k hk; simp at hk; subst hk; exact ⟨ha, hK⟩
  have := c14_address_injective_on_uc _ _ _ MTree.hashInj_free _ _ (wf _ (by decide)) (wf _ (by decide)) e
  simp at this
  exact spec_ed_ne_entropy this

theorem validateInputsFrom_ok_iff (H : ByteArray → ByteArray) (E : Env) (idx : Nat) (ins : List TxInput) :
    validateInputsFrom H E idx ins = .ok () ↔
      ∀ i ∈ ins, addressWith H i.policy = i.parentAddress ∧ verify E i.policy i.sigs i.pres = .ok () := by
  induction ins generalizing idx with
  | nil => simp [validateInputsFrom]
  | cons i rest ih =>
    simp only [validateInputsFrom, validateSpendPolicy, List.mem_cons, forall_eq_or_imp]
    by_cases ha : addressWith H i.policy = i.parentAddress
    · cases hv : verify E i.policy i.sigs i.pres with
      | error e => simp [ha]
      | ok u => cases u; simp [ha, ih]
    · simp [ha]

/-- **A transaction is accepted (as far as spend policies go) exactly when EVERY input's policy
    is the one its parent's address commits to and is satisfied by that input's own witnesses**
    — no input can ride on another's verification, whether they share an address, a key, or the
    very same `SatisfiedPolicy`. With `c14_verify_iff_meaning`: … exactly when every input's
    policy holds (`Sat`, nothing left over) within the complexity limits. -/
theorem c14_transaction_inputs_all_verified (H : ByteArray → ByteArray) (E : Env) (ins : List TxInput) :
    (validateInputs H E ins = .ok () ↔
      ∀ i ∈ ins, addressWith H i.policy = i.parentAddress ∧ verify E i.policy i.sigs i.pres = .ok ()) ∧
    ((∀ i ∈ ins, SaneTimes E i.policy.leaves) →
      (validateInputs H E ins = .ok () ↔
        ∀ i ∈ ins, addressWith H i.policy = i.parentAddress ∧ Sat E i.policy i.sigs i.pres [] [] ∧
          i.policy.subCount ≤ maxPolicies ∧ i.policy.breadthLe maxChildren = true)) := by
  refine ⟨validateInputsFrom_ok_iff H E 0 ins, fun hT => ?_⟩
  rw [validateInputs, validateInputsFrom_ok_iff]
  exact forall₂_congr fun i hi => and_congr_right fun _ => c14_verify_iff_meaning E i.policy i.sigs i.pres (hT i hi)

/-- two inputs at the same address with the same policy: a good one first does not excuse a bad
    one (and vice versa) -/
example :
    let E : Env := { height := 10, median := 100, sigHash := ⟨#[7]⟩, verifySig := fun k _ s => k == s, sha := id }
    let p := Policy.pk ⟨#[1]⟩
    let a := addressWith id p
    (validateInputs id E [⟨p, [⟨#[1]⟩], [], a⟩, ⟨p, [⟨#[1]⟩], [], a⟩]).isOk = true ∧
    (validateInputs id E [⟨p, [⟨#[1]⟩], [], a⟩, ⟨p, [⟨#[2]⟩], [], a⟩]).isOk = false ∧
    (validateInputs id E [⟨p, [⟨#[2]⟩], [], a⟩, ⟨p, [⟨#[1]⟩], [], a⟩]).isOk = false ∧
    (validateInputs id E [⟨p, [⟨#[1]⟩], [], a⟩, ⟨p, [], [], a⟩]).isOk = false := by
  exact ⟨rfl, rfl, rfl, rfl⟩

/-- The shape of the code that the transaction-level model mirrors, read from
    consensus/validation.go: `validateV2SpendPolicy` is called unconditionally, as a direct
    statement of the `range` loop over every siacoin / siafund input (no `continue`/`break`), once
    per function; its body is exactly: address comparison → error, `Policy.Verify(parent height,
    median timestamp, sigHash, signatures, preimages)` → error, `return nil` — no other branch
    (memo, cache, skip) and no extra parameter. -/
theorem tie_consensus_policy_loop :
    Gen.FactsPolicy.spendPolicyParams =
      ["ms *MidState", "sigHash types.Hash256", "sp types.SatisfiedPolicy", "parentAddress types.Address",
       "parentID types.Hash256"] ∧
    Gen.FactsPolicy.spendPolicyShape = "if-chain;return nil" ∧
    Gen.FactsPolicy.spendPolicyChain =
      ["sp.Policy.Address() != parentAddress => error",
       "err := sp.Policy.Verify(ms.base.Index.Height, ms.base.medianTimestamp(), sigHash, sp.Signatures, sp.Preimages); err != nil => error"] ∧
    Gen.FactsPolicy.siacoinPolicyLoop =
      ["for i, sci := range txn.SiacoinInputs",
       "unconditional: err := validateV2SpendPolicy(ms, sigHash, sci.SatisfiedPolicy, sci.Parent.SiacoinOutput.Address, types.Hash256(sci.Parent.ID)); err != nil",
       "continue/break in loop: 0", "calls in function: 1"] ∧
    Gen.FactsPolicy.siafundPolicyLoop =
      ["for i, sfi := range txn.SiafundInputs",
       "unconditional: err := validateV2SpendPolicy(ms, sigHash, sfi.SatisfiedPolicy, sfi.Parent.SiafundOutput.Address, types.Hash256(sfi.Parent.ID)); err != nil",
       "continue/break in loop: 0", "calls in function: 1"] := by
  exact ⟨rfl, rfl, rfl, rfl, rfl⟩

/-- `readPolicy(depth)` fails beyond `maxPolicyDepth`, before reading anything -/
theorem c14_decode_depth_limit (b : ByteArray) (depth off : Nat) (h : maxPolicyDepth < depth) :
    decodeP b depth off = none := by
  rw [decodeP]; simp [h]

theorem tie_maxPolicies : Gen.FactsPolicy.maxPolicies = maxPolicies := rfl
theorem tie_maxChildren : Gen.FactsPolicy.maxChildren = maxChildren := rfl
theorem tie_maxPolicyDepth : Gen.FactsPolicy.maxPolicyDepth = maxPolicyDepth := rfl

/-- the complexity test and the two lock comparisons, as source text -/
theorem tie_verify_conditions :
    Gen.FactsPolicy.complexityCond = "totalPolicies > maxPolicies || len(p.Of) > 255" ∧
    Gen.FactsPolicy.aboveCond = "height >= uint64(p)" ∧
    Gen.FactsPolicy.afterCond = "medianTimestamp.After(time.Time(p))" := ⟨rfl, rfl, rfl⟩

/-- opcode tables of `encodePolicy` and `DecodeFrom` agree with each other and with the model -/
theorem tie_opcodes :
    Gen.FactsPolicy.encOpcodes = Gen.FactsPolicy.decOpcodes ∧
    Gen.FactsPolicy.encOpcodes =
      [("opInvalid", 0), ("opAbove", opAbove), ("opAfter", opAfter), ("opPublicKey", opPublicKey),
       ("opHash", opHash), ("opThreshold", opThreshold), ("opOpaque", opOpaque),
       ("opUnlockConditions", opUnlockConditions)] ∧
    Gen.FactsPolicy.encFirstOp =
      [("PolicyTypeAbove", "opAbove"), ("PolicyTypeAfter", "opAfter"), ("PolicyTypePublicKey", "opPublicKey"),
       ("PolicyTypeHash", "opHash"), ("PolicyTypeThreshold", "opThreshold"), ("PolicyTypeOpaque", "opOpaque"),
       ("PolicyTypeUnlockConditions", "opUnlockConditions")] := ⟨rfl, rfl, rfl⟩

theorem tie_versions :
    Gen.FactsPolicy.encVersion = policyVersion ∧ Gen.FactsPolicy.decVersion = policyVersion ∧
    Gen.FactsPolicy.standardAddressVersion = policyVersion ∧
    Gen.FactsPolicy.standardAddressOp = opPublicKey := ⟨rfl, rfl, rfl, rfl⟩

theorem tie_address_prefix :
    ("sia/" ++ Gen.FactsPolicy.addressDistinguisher ++ "|").toUTF8 = addressPrefix ∧
    Gen.FactsPolicy.distinguisherShape = "\"sia/\" + p + \"|\"" ∧
    Gen.FactsPolicy.standardAddressPrefix.toUTF8 = addressPrefix := ⟨rfl, rfl, rfl⟩

theorem tie_specifiers :
    specifier Gen.FactsPolicy.specifierEd25519 = specEd25519 ∧
    specifier Gen.FactsPolicy.specifierEntropy = specEntropy := ⟨rfl, rfl⟩

end C14
