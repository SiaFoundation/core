import SiaModel.Gen.CodeConsensus
/-!
# C04 / C03 — what validation establishes about ONE v2 input, on REGENERATED code

The second half of the loop bodies of `validateV2Siacoins` / `validateV2Siafunds` (accumulator membership or the
ephemeral check) and `validateV2SpendPolicy` are translated from `consensus/validation.go`.  The
accumulator tests, the ephemeral-parent check, the policy's address and the policy verifier are external parameters
(`ext`; their own properties are C04's accumulator theorems, C10's ledger theorems and C14).

* `c04_v2_siacoin_input_member_gen` / `c04_v2_siafund_input_member_gen`: the input is accepted exactly when its
  parent is either marked ephemeral (unassigned leaf index) and passes the ephemeral check, or is an UNSPENT member
  of the state's accumulator — there is no third way in.
* `c03_v2_spend_policy_gen`: the spend is authorised exactly when the revealed policy hashes to the parent's address
  AND verifies for the transaction's sighash at the parent state's height and median timestamp.
-/
namespace C04
open Gen.Types Gen.Consensus

theorem c04_v2_siacoin_input_member_gen (ext : Ext) (ms : MidState) (sci : V2SiacoinInput) (i : Int) :
    validateV2Siacoins_inputMember ext sci ms i = none ↔
      (if sci.Parent.StateElement.LeafIndex = 10101010101010101010
       then ext.validateEphemeralSiacoinElement ms sci = none
       else ext.containsUnspentSiacoinElement ms.base.Elements (SiacoinElement.Share sci.Parent) = true) := by
  unfold validateV2Siacoins_inputMember
  by_cases h : sci.Parent.StateElement.LeafIndex = 10101010101010101010
  · simp only [h, decide_true, if_true]
    cases he : ext.validateEphemeralSiacoinElement ms sci <;> simp
  · simp only [h, decide_false, Bool.false_eq_true, if_false]
    cases hm : ext.containsUnspentSiacoinElement ms.base.Elements (SiacoinElement.Share sci.Parent) <;>
    cases hs : ext.containsSpentSiacoinElement ms.base.Elements (SiacoinElement.Share sci.Parent) <;> simp

theorem c04_v2_siafund_input_member_gen (ext : Ext) (ms : MidState) (sfi : V2SiafundInput) (i : Int) :
    validateV2Siafunds_inputMember ext sfi ms i = none ↔
      (if sfi.Parent.StateElement.LeafIndex = 10101010101010101010
       then ext.validateEphemeralSiafundElement ms sfi = none
       else ext.containsUnspentSiafundElement ms.base.Elements (SiafundElement.Share sfi.Parent) = true) := by
  unfold validateV2Siafunds_inputMember
  by_cases h : sfi.Parent.StateElement.LeafIndex = 10101010101010101010
  · simp only [h, decide_true, if_true]
    cases he : ext.validateEphemeralSiafundElement ms sfi <;> simp
  · simp only [h, decide_false, Bool.false_eq_true, if_false]
    cases hm : ext.containsUnspentSiafundElement ms.base.Elements (SiafundElement.Share sfi.Parent) <;>
    cases hs : ext.containsSpentSiafundElement ms.base.Elements (SiafundElement.Share sfi.Parent) <;> simp

theorem c03_v2_spend_policy_gen (ext : Ext) (ms : MidState) (sigHash : ByteArray) (sp : SatisfiedPolicy)
    (parentAddress parentID : ByteArray) :
    validateV2SpendPolicy ext ms sigHash sp parentAddress parentID = none ↔
      (ext.PolicyAddress sp.Policy = parentAddress ∧
       ext.PolicyVerify sp.Policy ms.base.Index.Height (ext.medianTimestamp ms.base) sigHash sp.Signatures sp.Preimages = none) := by
  unfold validateV2SpendPolicy
  by_cases h : ext.PolicyAddress sp.Policy = parentAddress
  · simp only [h, ne_eq, not_true_eq_false, decide_false, Bool.false_eq_true, if_false, true_and]
    cases hv : ext.PolicyVerify sp.Policy ms.base.Index.Height (ext.medianTimestamp ms.base) sigHash sp.Signatures sp.Preimages <;> simp
  · simp [h]

example : validateV2Siacoins_inputMember { Ext.trivial with containsUnspentSiacoinElement := fun _ _ => true } {} {} 0 = none := by rfl
example : validateV2Siacoins_inputMember Ext.trivial {} {} 0
    = some "siacoin input %v spends output (%v) not present in the accumulator" := by rfl
example : validateV2SpendPolicy Ext.trivial {} ByteArray.empty {} (Go.zeros 32) ByteArray.empty = none := by rfl
example : validateV2SpendPolicy Ext.trivial {} ByteArray.empty {} (Go.zeros 31) ByteArray.empty
    = some "claims incorrect policy for parent address" := by decide

end C04
