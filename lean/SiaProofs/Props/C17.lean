import SiaProofs.Lemmas.C17Arith
/-!
# C17 — RHP contract constructors conserve funds and yield consensus-valid contracts

This file: `PayWithContract`. The `ReviseFor*` family is in `C17Revise`; `NewContract`, the cost functions and the
renewal constructors in `C17Renew`.

All theorems are about the definitions in `SiaModel/Gen/CodeRhp4.lean` (translated from `rhp/v4/rhp.go`) and about
`Sia.Ledger.validateRevision` (hand model of `consensus/validation.go`; `Props/C07Gen` ties it to the translated closure).
-/
namespace C17
open Gen.Types Gen.Rhp4 C15

/-- every Currency field of a usage is a genuine 128-bit value -/
structure UsageWF (u : Usage) : Prop where
  rpc : WF u.RPC
  storage : WF u.Storage
  egress : WF u.Egress
  ingress : WF u.Ingress
  funding : WF u.AccountFunding
  risked : WF u.RiskedCollateral

/-- every Currency / uint64 field of a contract is a genuine machine value -/
structure FCWF (fc : V2FileContract) : Prop where
  renter : WF fc.RenterOutput.Value
  host : WF fc.HostOutput.Value
  missed : WF fc.MissedHostValue
  total : WF fc.TotalCollateral
  rev : fc.RevisionNumber < W
  cap : fc.Capacity < W
  fsz : fc.Filesize < W
  ph : fc.ProofHeight < W
  eh : fc.ExpirationHeight < W

/-- the renter's cost of a usage, as an integer: the sum of the five cost fields -/
def cost (u : Usage) : Nat :=
  val u.RPC + val u.Storage + val u.Egress + val u.Ingress + val u.AccountFunding

/-- `fc'` differs from `fc` at most in the fields `PayWithContract` is allowed to touch
(the two output values, the missed host value, the revision number, the signatures). -/
def SameButPayment (fc fc' : V2FileContract) : Prop :=
  fc'.Capacity = fc.Capacity ∧ fc'.Filesize = fc.Filesize ∧ fc'.FileMerkleRoot = fc.FileMerkleRoot ∧
  fc'.ProofHeight = fc.ProofHeight ∧ fc'.ExpirationHeight = fc.ExpirationHeight ∧
  fc'.RenterOutput.Address = fc.RenterOutput.Address ∧ fc'.HostOutput.Address = fc.HostOutput.Address ∧
  fc'.TotalCollateral = fc.TotalCollateral ∧
  fc'.RenterPublicKey = fc.RenterPublicKey ∧ fc'.HostPublicKey = fc.HostPublicKey

theorem cost_of_rpc_storage {u : Usage} (he : u.Egress = {}) (hi : u.Ingress = {}) (hf : u.AccountFunding = {}) :
    cost u = val u.RPC + val u.Storage := by
  unfold cost; rw [he, hi, hf, val_zero]; omega

theorem cost_of_rpc {u : Usage} (hs : u.Storage = {}) (he : u.Egress = {}) (hi : u.Ingress = {})
    (hf : u.AccountFunding = {}) : cost u = val u.RPC := by
  rw [cost_of_rpc_storage he hi hf, hs, val_zero]; omega

theorem renterCost_checked {u : Usage} (hu : UsageWF u) : Checked u.RenterCost (cost u < W2) (Is · (cost u)) := by
  unfold Usage.RenterCost
  exact ((c15_add_panics_iff hu.rpc.is hu.storage.is).bind fun t1 i1 => (c15_add_panics_iff i1 hu.egress.is).bind fun t2 i2 =>
    (c15_add_panics_iff i2 hu.ingress.is).bind fun t3 i3 => c15_add_panics_iff i3 hu.funding.is).conv
    (by unfold cost; omega) fun _ h => h

/-- `PayWithContract` panics exactly when the cost of the usage overflows or, the payment not being refused, the host
output does; what it returns is the conclusion of `c17_pay_with_contract`. -/
theorem pay_checked {fc : V2FileContract} {u : Usage} (hfc : FCWF fc) (hu : UsageWF u) :
    Checked (PayWithContract fc u)
      (cost u < W2 ∧ (cost u ≤ val fc.RenterOutput.Value → val u.RiskedCollateral ≤ val fc.MissedHostValue →
        val fc.HostOutput.Value + cost u < W2))
      fun r =>
    (r.2 ≠ none ↔ (val fc.RenterOutput.Value < cost u ∨ val fc.MissedHostValue < val u.RiskedCollateral)) ∧
    (r.2 ≠ none → r.1 = fc) ∧
    (r.2 = none →
      FCWF r.1 ∧
      val r.1.RenterOutput.Value + cost u = val fc.RenterOutput.Value ∧
      val r.1.HostOutput.Value = val fc.HostOutput.Value + cost u ∧
      val r.1.RenterOutput.Value + val r.1.HostOutput.Value
        = val fc.RenterOutput.Value + val fc.HostOutput.Value ∧
      val r.1.MissedHostValue + val u.RiskedCollateral = val fc.MissedHostValue ∧
      r.1.RevisionNumber = (fc.RevisionNumber + 1) % W ∧
      r.1.RenterSignature = Go.zeros 64 ∧ r.1.HostSignature = Go.zeros 64 ∧
      SameButPayment fc r.1) := by
  unfold PayWithContract
  simp only [Usage.HostRiskedCollateral]
  refine (renterCost_checked hu).bind fun amount ia => ?_
  have c1 := cmp_lt hfc.renter ia.wf
  have c2 := cmp_lt hfc.missed hu.risked
  rw [ia.eq] at c1
  by_cases g1 : fc.RenterOutput.Value.Cmp amount < 0
  · simp only [g1, decide_true, if_true]
    have := c1.mp g1
    exact .pure ⟨by simp; exact Or.inl this, fun _ => rfl, fun h => by cases h⟩ (by omega)
  simp only [g1, decide_false, Bool.false_eq_true, if_false]
  have n1 := mt c1.mpr g1
  by_cases g2 : fc.MissedHostValue.Cmp u.RiskedCollateral < 0
  · simp only [g2, decide_true, if_true]
    have := c2.mp g2
    exact .pure ⟨by simp; exact Or.inr this, fun _ => rfl, fun h => by cases h⟩ (by omega)
  simp only [g2, decide_false, Bool.false_eq_true, if_false]
  have n2 := mt c2.mpr g2
  exact ((c15_sub_panics_iff hfc.renter.is ia).bind fun t4 i4 => (c15_add_panics_iff hfc.host.is ia).bind fun t5 i5 =>
    (c15_sub_panics_iff hfc.missed.is hu.risked.is).map fun t6 i6 =>
      have := i4.1.eq; have := i5.eq; have := i6.1.eq
      ⟨by simp; omega, fun x => absurd rfl x, fun _ =>
        ⟨⟨i4.1.wf, i5.wf, i6.1.wf, hfc.total, Nat.mod_lt _ (by omega), hfc.cap, hfc.fsz, hfc.ph, hfc.eh⟩,
          by simp only []; omega, by simp only []; omega, by simp only []; omega, by simp only []; omega,
          rfl, rfl, rfl, by simp [SameButPayment]⟩⟩).conv (by omega) fun _ h => h

/--
**PayWithContract is an exact, conservative transfer or a clean failure.**
Whenever the generated `PayWithContract` returns (i.e. does not panic):
* `RenterCost` did not overflow;
* it reports an error **iff** the renter output is below the cost or the missed host
  value is below the risked collateral, and then the contract is returned unmodified;
* otherwise the renter output drops by exactly the cost, the host output rises by
  exactly the cost (so their sum is unchanged), the missed host value drops by exactly
  the risked collateral, the revision number is incremented (mod 2^64), the signatures
  are cleared and every other field — total collateral included — is untouched.
-/
theorem c17_pay_with_contract (fc fc' : V2FileContract) (u : Usage) (err : Option String)
    (hfc : FCWF fc) (hu : UsageWF u)
    (h : PayWithContract fc u = .ok (fc', err)) :
    cost u < W2 ∧
    (err ≠ none ↔ (val fc.RenterOutput.Value < cost u ∨ val fc.MissedHostValue < val u.RiskedCollateral)) ∧
    (err ≠ none → fc' = fc) ∧
    (err = none →
      FCWF fc' ∧
      val fc'.RenterOutput.Value + cost u = val fc.RenterOutput.Value ∧
      val fc'.HostOutput.Value = val fc.HostOutput.Value + cost u ∧
      val fc'.RenterOutput.Value + val fc'.HostOutput.Value
        = val fc.RenterOutput.Value + val fc.HostOutput.Value ∧
      val fc'.MissedHostValue + val u.RiskedCollateral = val fc.MissedHostValue ∧
      fc'.RevisionNumber = (fc.RevisionNumber + 1) % W ∧
      fc'.RenterSignature = Go.zeros 64 ∧ fc'.HostSignature = Go.zeros 64 ∧
      SameButPayment fc fc') :=
  have ⟨p, q⟩ := (pay_checked hfc hu).of_ok h
  ⟨p.1, q⟩

/-- **No panic when the values fit (hypothesis `fits`).** If the usage cost fits in 128 bits and so does the
contract's total value (both are facts about consensus-valid contracts and priced
usages), `PayWithContract` returns. -/
theorem c17_pay_no_panic (fc : V2FileContract) (u : Usage) (hfc : FCWF fc) (hu : UsageWF u)
    (fits1 : cost u < W2)
    (fits2 : val fc.RenterOutput.Value + val fc.HostOutput.Value < W2) :
    ∃ r, PayWithContract fc u = .ok r :=
  (pay_checked hfc hu).returns ⟨fits1, by omega⟩

theorem validateRevision_accepts (ch eph : Nat) (cur rev : V2FileContract)
    (hc : FCWF cur) (hr : FCWF rev)
    (fits : val cur.RenterOutput.Value + val cur.HostOutput.Value < W2)
    (hcap : cur.Capacity ≤ rev.Capacity) (hfs : rev.Filesize ≤ rev.Capacity)
    (hph : ch ≤ cur.ProofHeight) (hrev : cur.RevisionNumber < rev.RevisionNumber)
    (hsum : val rev.RenterOutput.Value + val rev.HostOutput.Value
          = val cur.RenterOutput.Value + val cur.HostOutput.Value)
    (hm : val rev.MissedHostValue ≤ val cur.MissedHostValue)
    (hm2 : val rev.MissedHostValue ≤ val rev.HostOutput.Value)
    (htc : rev.TotalCollateral = cur.TotalCollateral)
    (hph2 : ch ≤ rev.ProofHeight) (hexp : rev.ProofHeight < rev.ExpirationHeight) :
    Sia.Ledger.validateRevision ch eph cur rev = .ok none := by
  obtain ⟨s1, e1, w1, v1⟩ := (c15_add_panics_iff hc.renter.is hc.host.is).ok fits
  obtain ⟨s2, e2, w2, v2⟩ := (c15_add_panics_iff hr.renter.is hr.host.is).ok (by omega)
  unfold Sia.Ledger.validateRevision
  simp only [e1, e2, bind, Except.bind]
  have a1 : ¬ rev.Capacity < cur.Capacity := by omega
  have a2 : ¬ rev.Filesize > rev.Capacity := by omega
  have a3 : ¬ cur.ProofHeight < ch := by omega
  have a4 : ¬ rev.RevisionNumber ≤ cur.RevisionNumber := by omega
  have a5 : s2.Equals s1 = true := (equals_iff w2 w1).mpr (by omega)
  have a6 : ¬ rev.MissedHostValue.Cmp cur.MissedHostValue > 0 := by
    rw [cmp_gt hr.missed hc.missed]; omega
  have a7 : ¬ rev.MissedHostValue.Cmp rev.HostOutput.Value > 0 := by
    rw [cmp_gt hr.missed hr.host]; omega
  have a8 : ¬ rev.ProofHeight < ch := by omega
  have a9 : ¬ rev.ExpirationHeight ≤ rev.ProofHeight := by omega
  simp [a1, a2, a3, a4, a5, a6, a7, htc, a8, a9, pure, Except.pure]

/-- The consensus invariants of a live v2 contract that the revision proofs need
(all enforced by `validateContract`/`validateRevision` plus the transaction-level
overflow check on output sums). -/
structure Live (childHeight : Nat) (fc : V2FileContract) : Prop where
  fsz_le_cap : fc.Filesize ≤ fc.Capacity
  missed_le_host : val fc.MissedHostValue ≤ val fc.HostOutput.Value
  not_in_window : childHeight ≤ fc.ProofHeight
  window : fc.ProofHeight < fc.ExpirationHeight
  revisable : fc.RevisionNumber + 1 < W
  sum_fits : val fc.RenterOutput.Value + val fc.HostOutput.Value < W2

end C17
