import SiaModel.Gen.FactsPow
import SiaModel.Pow.Header
/-!
# C13 ties: facts extracted from `/repo`'s working tree on every run = what the hand
model (`SiaModel/Pow/*.lean`) and the theorems of `C13*.lean` were written from.

Each `tie_*` is closed by `rfl`/`decide`; when a constant, a helper call or the set of
fields touched by `ApplyHeader`/`ApplyBlock` changes in the Go source, the generated
definition changes and the tie no longer checks.
-/
namespace C13
open Gen.FactsPow

/-! ## clamp and decay constants (used by the model at the quoted places) -/

/-- `adjustDifficultyV2` in the model: `wdiv64 s.difficulty 250`; theorem `c13_clamp_v2` -/
theorem tie_v2_clamp_div : v2ClampDiv = 250 := rfl
/-- `adjustDifficultyFinalCut` in the model: `wdiv64 s.difficulty 250`; `c13_clamp_finalcut` -/
theorem tie_finalcut_clamp_div : finalCutClampDiv = 250 := rfl
/-- `updateOakWork` in the model: `wdiv64 s.oakWork 200` -/
theorem tie_oakwork_decay_div : oakWorkDecayDiv = 200 := rfl
/-- `sufficientlyHeavierThan` in the model: `wdiv64 t.difficulty 5` -/
theorem tie_heavier_div : heavierDiv = 5 := rfl
/-- `updateOakTarget` in the model: `mulTargetFrac s.oakTarget 1000 995` -/
theorem tie_oaktarget_decay : (oakTargetDecayNum, oakTargetDecayDen) = (1000, 995) := rfl
/-- `oakClamp` in the model: `mulTargetFrac s.childTarget 1004 1000` and `… 1000 1004`; `c13_clamp_oak` -/
theorem tie_oak_clamp : (oakClampUpNum, oakClampUpDen, oakClampDownNum, oakClampDownDen) = (1004, 1000, 1000, 1004) := rfl
/-- `preOakAdjust` in the model: the unclamped branch multiplies by `elapsed/expected` -/
theorem tie_preoak_mul : preOakMul = ["s.ChildTarget", "elapsed", "expected"] := rfl
/-- `ratioGt25` / `ratioLt04` in the model (exact-rational reading of the float comparison) -/
theorem tie_preoak_clamp_conds : preOakClampConds = ["r > 25.0 / 10.0", "r < 10.0 / 25.0"] := rfl
/-- `preOakAdjust`: clamped branches use `mulTargetFrac _ 10 25` resp. `_ 25 10` (elapsed, expected) -/
theorem tie_preoak_clamp_assigns : preOakClampAssigns = ["expected,elapsed=25,10", "expected,elapsed=10,25"] := rfl
/-- `numTimestamps` / `medianTimestamp` in the model: 11 -/
theorem tie_median_window : medianWindow = 11 := rfl
/-- `intToTarget` in the model: `|i| ≥ 2^255` ⇔ `BitLen ≥ 256` -/
theorem tie_intToTarget_cond : intToTargetConds = ["i.BitLen() >= 256"] := rfl

/-! ## literal fingerprints of every function the model mirrors -/

theorem tie_lits_updateOakTime : lits_updateOakTime = ["1", "1", "995", "1000"] := rfl
theorem tie_lits_updateOakTarget : lits_updateOakTarget = ["1", "1000", "995"] := rfl
theorem tie_lits_updateOakWork : lits_updateOakWork = ["200"] := rfl
theorem tie_lits_updateTotalWork : lits_updateTotalWork = [] := rfl
theorem tie_lits_adjustTarget : lits_adjustTarget =
    ["1000", "2", "0", "25.0", "10.0", "25", "10", "10.0", "25.0", "10", "25", "0", "0", "10", "10000",
     "10000", "3", "3", "0", "1", "0", "1", "0", "1", "1004", "1000", "1000", "1004", "0", "0"] := rfl
theorem tie_lits_adjustDifficultyV2 : lits_adjustDifficultyV2 =
    ["10", "10000", "10000", "0", "3", "3", "250", "0", "0"] := rfl
theorem tie_lits_adjustDifficultyFinalCut : lits_adjustDifficultyFinalCut =
    ["1000", "3", "3", "2", "1", "250"] := rfl
theorem tie_lits_adjustDifficulty : lits_adjustDifficulty = [] := rfl
theorem tie_lits_applyHeader : lits_applyHeader = ["0", "0", "0", "1", "0", "1"] := rfl
theorem tie_lits_intToTarget : lits_intToTarget = ["256"] := rfl
theorem tie_lits_heavier : lits_sufficientlyHeavierThan = ["5", "0"] := rfl
theorem tie_lits_median : lits_medianTimestamp = ["2", "0", "2", "2", "1", "2", "2"] := rfl
theorem tie_lits_nonceFactor : lits_nonceFactor = ["1"] := rfl
theorem tie_lits_validateHeader : lits_validateHeader = ["0", "0"] := rfl
theorem tie_lits_work : (lits_workAdd, lits_workSub, lits_workMul64, lits_workDiv64) =
    (["24", "0", "8", "0", "0"], ["24", "0", "8", "0", "0"], ["24", "0", "8", "0", "0", "0"], ["0", "0", "8"]) := rfl

/-! ## helper calls (shape of the Work/target arithmetic) -/

theorem tie_calls_updateTotalWork : calls_updateTotalWork =
    ["addTarget(s.Depth, s.ChildTarget)", "invTarget(depth)", "s.TotalWork.add(s.Difficulty)", "invTarget(totalWork.n)"] := rfl
theorem tie_calls_updateOakTarget : calls_updateOakTarget =
    ["addTarget(mulTargetFrac(s.OakTarget, 1000, 995), s.ChildTarget)", "mulTargetFrac(s.OakTarget, 1000, 995)"] := rfl
theorem tie_calls_updateOakWork : calls_updateOakWork =
    ["invTarget(target)", "s.OakWork.sub(s.OakWork.div64(200)).add(s.Difficulty)",
     "s.OakWork.sub(s.OakWork.div64(200))", "s.OakWork.div64(200)", "invTarget(work.n)"] := rfl
theorem tie_calls_adjustTarget : calls_adjustTarget =
    ["blockTimestamp.Sub(targetTimestamp)", "mulTargetFrac(s.ChildTarget, elapsed, expected)",
     "intToTarget(new(big.Int).Div(maxTarget, estimatedHashrate))",
     "mulTargetFrac(s.ChildTarget, 1004, 1000)", "mulTargetFrac(s.ChildTarget, 1000, 1004)"] := rfl
theorem tie_calls_adjustDifficultyV2 : calls_adjustDifficultyV2 =
    ["blockTimestamp.Sub(s.Network.HardforkOak.GenesisTimestamp)",
     "s.OakWork.div64(uint64(s.OakTime / time.Second))",
     "estimatedHashrate.mul64(uint64(targetBlockTime / time.Second))",
     "s.Difficulty.div64(250)", "s.Difficulty.sub(maxAdjust)", "s.Difficulty.add(maxAdjust)"] := rfl
theorem tie_calls_adjustDifficultyFinalCut : calls_adjustDifficultyFinalCut =
    ["blockTimestamp.Sub(s.Network.HardforkOak.GenesisTimestamp)",
     "min(targetInterval, s.BlockInterval() * 3)", "max(targetInterval, s.BlockInterval() / 3)",
     "s.OakWork.mul64(uint64(targetInterval)).add(oneWork.mul64(uint64(s.OakTime / 2))).div64(uint64(max(s.OakTime, 1)))",
     "s.OakWork.mul64(uint64(targetInterval)).add(oneWork.mul64(uint64(s.OakTime / 2)))",
     "s.OakWork.mul64(uint64(targetInterval))", "oneWork.mul64(uint64(s.OakTime / 2))", "max(s.OakTime, 1)",
     "s.Difficulty.div64(250).max(oneWork)", "s.Difficulty.div64(250)",
     "newDifficulty.min(s.Difficulty.add(maxAdjust))", "s.Difficulty.add(maxAdjust)",
     "newDifficulty.max(s.Difficulty.sub(maxAdjust))", "s.Difficulty.sub(maxAdjust)",
     "newDifficulty.max(oneWork)"] := rfl
theorem tie_calls_adjustDifficulty : calls_adjustDifficulty =
    ["invTarget(target)", "invTarget(difficulty.n)", "invTarget(difficulty.n)"] := rfl
theorem tie_calls_heavier : calls_sufficientlyHeavierThan =
    ["t.TotalWork.add(t.Difficulty.div64(5))", "t.Difficulty.div64(5)"] := rfl
theorem tie_calls_powTarget : calls_powTarget = ["invTarget(s.Difficulty.n)"] := rfl

/-! ## header ≡ block: which `State` fields each side touches -/

/-- The fields `ApplyHeader` (and everything it calls) reads or writes are exactly the
    fields of the model's `PowState` (`Index` = `height`+`id`; `Network` = the `Network`
    argument). -/
theorem tie_header_state_fields : headerStateFields =
    ["ChildTarget", "Depth", "Difficulty", "Index", "Network", "OakTarget", "OakTime", "OakWork",
     "PrevTimestamps", "TotalWork"] := rfl

/-- `ApplyHeader` reaches exactly the functions the model mirrors. -/
theorem tie_header_funcs : headerFuncs =
    ["ApplyHeader", "State.BlockInterval", "State.childHeight", "addTarget", "adjustDifficulty",
     "adjustDifficultyFinalCut", "adjustDifficultyV2", "adjustTarget", "intToTarget", "invTarget",
     "mulTargetFrac", "updateOakTarget", "updateOakTime", "updateOakWork", "updateTotalWork"] := rfl

/-- What `ApplyBlock` assigns itself before handing the state to
    `ApplyHeader(s, b.Header(), targetTimestamp)` (that call shape is checked by the extractor). -/
theorem tie_block_only_fields : blockOnlyStateFields =
    ["Attestations", "Elements", "FoundationManagementAddress", "FoundationSubsidyAddress", "SiafundTaxRevenue"] := rfl

/-- Nothing `ApplyBlock` assigns outside `ApplyHeader` is
    read by `ApplyHeader`. Hence the PoW fields after `ApplyBlock` are those of
    `ApplyHeader` on the block's header. -/
theorem tie_header_reads_only_pow : ∀ f ∈ blockOnlyStateFields, f ∉ headerStateFields := by decide

/-- In the model the PoW projection of applying a full block IS
    `applyHeader` on the block's header. The content of this statement is not this `rfl` but
    (a) the extractor's check that `ApplyBlock` calls `ApplyHeader(s, b.Header(), targetTimestamp)`
    exactly once, (b) `tie_header_reads_only_pow`, and (c) the harness comparison
    `ApplyBlock` vs `ApplyHeader` on mined blocks (violation key `c13-header-vs-block`). -/
theorem c13_header_eq_block (n : Sia.Pow.Network) (s : Sia.Pow.PowState) (hdr : Sia.Pow.Header) (tt : Int) :
    Sia.Pow.applyBlockPow n s hdr tt = Sia.Pow.applyHeader n s hdr tt := rfl

end C13
