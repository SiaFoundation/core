import SiaProofs.Props.C10Decode
import SiaModel.Codec.Alloc
/-!
# C10 (decode half) — slice ELEMENT slots are bounded by the bytes really present

`c10_decode_alloc_bounded` bounds all slots by `depth·|input| + depth·slack`; the slack term
is real for `[]byte` (`ReadBytes` does `make([]byte, n)` for any `n ≤ d.lr.N`) but it also
lets through a decoder that pre-sizes SLICES from the claimed element count. The
refinement (`SiaModel/Codec/Alloc.lean`) meters element slots separately, charged when
requested, for both growth disciplines:

* `c10_decode_elems_bounded` — under `append` growth (what `DecodeSlice` / `DecodeSliceFn`
  do: `tie_slice_growth`), element slots ≤ `depth · |input|`, whatever the slack.
* `c10_presize_unbounded` — under `presize` growth an 8-byte input on a stream with slack
  `k` requests `k` slots: no bound in the input length alone exists.

The harness asserts the first (times the element size and `append`'s amortisation
factor): `allocated ≤ A + B·|supplied|`.
-/
namespace C10D
open Sia.Codec

/-- what the element meter of the external codecs must satisfy (the analogue of
`CodecOK.alloc_ok/alloc_err`, without slack) -/
structure ElemsOK (E : Env) (X : String → Nat → Bytes → Nat) : Prop where
  ok : ∀ n k bs v rest, (E.ext n).dec false k bs = .ok (v, rest) →
      X n k bs + (E.ext n).depth * rest.length ≤ (E.ext n).depth * bs.length
  err : ∀ n k bs, X n k bs ≤ (E.ext n).depth * bs.length

theorem elemsRep_one (f : Bytes → DecRes) (g : Bytes → Nat) (n : Nat) (bs : Bytes) :
    elemsRep f g 1 n bs = allocRep f g n bs := by
  induction n generalizing bs with
  | zero => rfl
  | succ n ih =>
    simp only [elemsRep, allocRep]
    cases f bs with
    | error e => rfl
    | ok p => simp only [ih]

/-- element slots under `append` growth are paid by the bytes really present: the bound of `alloc_pays` without
the slack term, by the same induction -/
theorem elems_pays {E : Env} {X : String → Nat → Bytes → Nat} (hE : EnvOK E) (hX : ElemsOK E X)
    (k : Nat) (s : Sch) (hwf : s.wf E = true) (hg : s.guarded E = true) :
    Pays (dec E k s) (elemsOf .append E X k s) (s.depth E) 0 := by
  induction s with
  | atom a => exact .free (fun _ => rfl) (dec_shrinks hE)
  | nil => exact .free (fun _ => rfl) (dec_shrinks hE)
  | cons l s r ihs ihr =>
    simp only [Sch.wf, Sch.guarded, Bool.and_eq_true] at hwf hg
    exact pays_cons ((ihs hwf.1 hg.1).mono (Nat.le_max_left _ _)) ((ihr hwf.2 hg.2).mono (Nat.le_max_right _ _))
      (fun _ _ _ h => by simp only [elemsOf, h]) (fun _ _ h => by simp only [elemsOf, h])
  | slice s ih =>
    simp only [Sch.wf, Sch.guarded, Bool.and_eq_true, decide_eq_true_eq] at hwf hg
    exact pays_list hE (ih hwf.1 hg) hwf.2 (fun _ _ h => by simp only [elemsOf, dec, decG, h, and_self])
      (fun _ _ _ h => by
        simp only [elemsOf, dec, decG, h, Growth.claim, Growth.perElem, Nat.zero_add, elemsRep_one]
        split
        · exact .inl ⟨rfl, _, rfl⟩
        · exact .inr ⟨rfl, rfl⟩)
  | opt s ih =>
    simp only [Sch.wf, Sch.guarded] at hwf hg
    exact pays_opt (ih hwf hg) (fun _ _ _ h => by simp only [elemsOf, h]) (fun _ _ h => by simp only [elemsOf, h])
  | uslice s _ => cases hg
  | aslice s ih =>
    simp only [Sch.wf, Sch.guarded, Bool.and_eq_true, decide_eq_true_eq] at hwf hg
    exact pays_list hE (ih hwf.1 hg) hwf.2 (fun _ _ h => by simp only [elemsOf, dec, decG, h, and_self])
      (fun _ _ _ h => by simp only [elemsOf, dec, decG, h, elemsRep_one, and_self, or_true])
  | ext n => exact fun bs => ⟨hX.err n k bs, fun v rest h => ⟨dec_shrinks hE bs v rest h, hX.ok n k bs v rest h⟩⟩

/-- With `DecodeSlice`'s append growth, the slice-element
slots requested while decoding are at most `depth s · |input|` — whatever the outcome and
whatever the reader still allows (`slack`): a short message cannot make a stream decoder
reserve elements for bytes that never arrive. This is the bound the harness asserts
(`c10-decode-alloc`): bytes = slots × element size × append amortisation. -/
theorem c10_decode_elems_bounded {E : Env} {X : String → Nat → Bytes → Nat} (hE : EnvOK E)
    (hX : ElemsOK E X) (k : Nat) (s : Sch) (hwf : s.wf E = true) (hg : s.guarded E = true)
    (bs : Bytes) : elemsOf .append E X k s bs ≤ s.depth E * bs.length :=
  (elems_pays hE hX k s hwf hg bs).1

/-- the meter is compositional: a schema used as an external codec satisfies `ElemsOK`'s
clauses again -/
theorem elems_ofSch_ok {E : Env} {X : String → Nat → Bytes → Nat} (hE : EnvOK E) (hX : ElemsOK E X)
    (s : Sch) (hwf : s.wf E = true) (hg : s.guarded E = true) (k : Nat) (bs : Bytes) :
    elemsOf .append E X k s bs ≤ (Codec.ofSch E s).depth * bs.length ∧
    ∀ v rest, (Codec.ofSch E s).dec false k bs = .ok (v, rest) →
      elemsOf .append E X k s bs + (Codec.ofSch E s).depth * rest.length ≤ (Codec.ofSch E s).depth * bs.length :=
  ⟨(elems_pays hE hX k s hwf hg bs).1, fun v rest h => ((elems_pays hE hX k s hwf hg bs).2 v rest h).2⟩

/-- external codecs that decode no slices: the zero meter -/
theorem elems_zero_ok {E : Env} (hE : EnvOK E) : ElemsOK E (fun _ _ _ => 0) := by
  constructor
  · intro n k bs v rest h
    have := Nat.mul_le_mul_left (E.ext n).depth (Nat.le_trans (Nat.le_add_right _ _) ((hE n).consumes h))
    omega
  · intro n k bs; exact Nat.zero_le _

/-- `[]uint64`-like slice on a stream: the 8-byte message "k elements follow" -/
def presizeInput (k : Nat) : Bytes := u64le k

/-- Under `presize` growth the 8-byte input `presizeInput k` on
a decoder whose reader still allows `k` more bytes (slack `k`) passes the guard
(`n ≤ d.lr.N`) and requests `k` element slots; under `append` growth it requests none.
So `c10_decode_elems_bounded` fails for `presize`: it is the statement that separates
the two disciplines (`c10_decode_alloc_bounded`, with its `depth · slack` term, does not). -/
theorem c10_presize_unbounded (k : Nat) (hk : k < W64) :
    elemsOf .presize Env.default (fun _ _ _ => 0) k (.slice (.atom .u64)) (presizeInput k) = k ∧
    elemsOf .append Env.default (fun _ _ _ => 0) k (.slice (.atom .u64)) (presizeInput k) = 0 ∧
    (presizeInput k).length = 8 := by
  have hr : readU64 (presizeInput k) = .ok (k, []) := by
    have := readU64_append hk []
    simpa [presizeInput] using this
  refine ⟨?_, ?_, by simp [presizeInput, u64le_length]⟩
  · simp only [elemsOf, hr, Growth.claim, Growth.perElem]
    rw [if_neg (by simp)]
    cases k with
    | zero => simp [elemsRep]
    | succ n => simp [elemsRep, decG, Atom.codec, okNat, readU64, takeN]
  · simp only [elemsOf, hr, Growth.claim, Growth.perElem]
    rw [if_neg (by simp)]
    cases k with
    | zero => simp [elemsRep]
    | succ n => simp [elemsRep, decG, Atom.codec, okNat, readU64, takeN]

/-- on a buffer decoder (slack 0) the guard alone caps a pre-sized slice at one slot per
remaining byte — times the element size in memory, which is what the harness measures
(`[]Transaction`: 240 bytes per claimed byte) -/
example : elemsOf .presize Env.default (fun _ _ _ => 0) 0 (.slice (.atom .u64))
    (u64le 3 ++ [255, 255, 255]) = 3 := by decide

/-- `DecodeSlice` / `DecodeSliceFn` start from a nil slice and `append` each decoded
element (`Growth.append`; `DecodeSliceCast` delegates); `ReadBytes` allocates the claimed
count at once (the `bytes` atom: `allocPrefixed`, slack term of
`c10_decode_alloc_bounded`). A pre-sizing (`make([]T, n)`, `slices.Grow(.., n)`) appears in
this list. -/
theorem tie_slice_growth : Gen.sliceGrowth = [
    ("Decoder.ReadBytes", ["make([]byte, n)"]),
    ("DecodeSlice", ["var items []T", "append(items, v)"]),
    ("DecodeSliceFn", ["var items []T", "append(items, v)"]),
    ("DecodeSliceCast", ["DecodeSlice[V, VF](d, (*[]V)(unsafe.Pointer(s)))"])] := rfl

end C10D
