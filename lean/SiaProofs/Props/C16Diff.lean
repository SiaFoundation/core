import SiaProofs.Lemmas.MerkleRhpDiffGen
import SiaProofs.Props.C16
import SiaProofs.Props.C16Tie
/-!
# C16 — diff proofs (rhp/v2 Build/VerifyDiffProof, rhp/v4 Build/VerifyFreeSectorsProof)

`VerifyDiffProof` runs `verifyMulti` twice: once over the old leaf hashes against the old root
and once over the modified leaf hashes against the new root, re-using the same tree hashes.

* per pass (`idx` = sorted duplicate-free changed indices, hypothesis `IdxOK 0 idx n`):
  `c16_diff_old_complete`, `c16_diff_new_complete_partial` (patch form), `c16_diff_size`,
  `c16_diff_old_sound` (for the code with the leaf-count check).
* whole verifier, for EVERY valid list of Append / Swap / Trim actions (`ValidActs`: any order and
  number; swap indices below the current count, trims not exceeding it — rhp/v2 write batches):
  `c16_diff_complete_general`, `c16_diff_sound_general` — the accepted new root IS the plain root
  of `applyActions ls actions`, i.e. `modifyLeaves`/`modifyProofRanges`/`sectorsChanged` (the
  compressed bookkeeping) are tied to the full-list meaning of the actions.
* the instances for action lists  swaps ++ [trim k]  (what `convertFreeActions` produces, and
  rhp/v2 swap/trim writes): `c16_diff_complete`, `c16_diff_sound`; `c16_free_complete`,
  `c16_free_sound` specialise these to rhp/v4.
* `c16_diff_forged_accepted`: the verifier WITHOUT the leaf-count check (the code before fix
  9e80790, flag = false) accepts a forged instance; with the check it rejects it.

Not modelled: `Update` actions (the Go code panics on them) and counts ≥ 2^64.
-/
namespace C16
open Sia.Rhp Sia.Rhp.HashOps

variable {H : Type} [HashOps H]

def r6 (i : Nat) : T := T.lf [UInt8.ofNat i]
def six : List T := [r6 0, r6 1, r6 2, r6 3, r6 4, r6 5]
def h0123 : T := T.nd (T.nd (r6 0) (r6 1)) (T.nd (r6 2) (r6 3))

def accepts (r : Except String Bool) : Bool := match r with | .ok true => true | _ => false
/-- `r = .ok x`, as a Bool -/
def isOk {α : Type} [DecidableEq α] (r : Except String α) (x : α) : Bool :=
  match r with | .ok y => decide (y = x) | .error _ => false

/-- new-root pass, completeness in patch form: with the remaining indices `idx'`, ANY modified leaf
hashes `lv` and the new count `n'`, the same gap hashes are accepted against the plain root of
`ls[0:n']` with the positions `idx'` replaced by `lv` -/
theorem c16_diff_new_complete_partial [DecidableEq H] (cc : Bool) (ls : List H) (idx' : List Nat)
    (lv : List H) (n' : Nat)
    (hn : n' ≤ ls.length) (hok : IdxOK 0 idx' n') (hlv : lv.length = idx'.length) :
    verifyMultiG cc idx' (gapHashes ls idx' 0 n') lv n' (metaRoot (patchFrom ls idx' lv 0 n')) = .ok true := by
  obtain ⟨a', h1, h2, hcount⟩ := verifyMultiLoop_patch ls n' hn idx' 0 Acc.empty [] lv [] hok rfl Inv.empty hlv
  rw [List.append_nil] at h1
  exact (verifyMultiG_true_iff ..).2 ⟨_, h1, h2.root, rfl, fun _ => hcount⟩

example : verifyMultiG true [4, 5] (gapHashes six [4, 5] 0 6) [r6 4, r6 5] 6
    (metaRoot (patchFrom six [4, 5] [r6 4, r6 5] 0 6)) = .ok true :=
  c16_diff_new_complete_partial true six [4, 5] [r6 4, r6 5] 6 (by decide) (by simp [IdxOK]) rfl

/-- old-root pass, completeness: the builder's tree hashes are the gap roots, and together with
the old leaf hashes they are accepted against the plain old root -/
theorem c16_diff_old_complete [DecidableEq H] (cc : Bool) (ls : List H) (idx : List Nat)
    (hok : IdxOK 0 idx ls.length) :
    diffTreeHashes ls idx 0 = .ok (gapHashes ls idx 0 ls.length) ∧
    verifyMultiG cc idx (gapHashes ls idx 0 ls.length) (idx.map (fun j => ls.getD j zero)) ls.length (metaRoot ls)
      = .ok true := by
  have h := c16_diff_new_complete_partial cc ls idx (idx.map (fun j => ls.getD j zero)) ls.length
    (Nat.le_refl _) hok (List.length_map _)
  rw [patchFrom_self ls idx 0 hok] at h
  exact ⟨diffTreeHashes_eq ls idx 0 hok, h⟩

example : verifyMultiG true [4, 5] (gapHashes six [4, 5] 0 six.length) ([4, 5].map (fun j => six.getD j zero))
    six.length (metaRoot six) = .ok true :=
  (c16_diff_old_complete true six [4, 5] (by simp [IdxOK, six])).2

/-- number of tree hashes = what `DiffProofSize` counts between the indices -/
theorem c16_diff_size (ls : List H) (n : Nat) (hn : n ≤ ls.length) :
    ∀ (idx : List Nat) (start : Nat), IdxOK start idx n →
      (gapHashes ls idx start n).length = diffTreeCount idx start n := by
  intro idx
  induction idx with
  | nil =>
    intro start h
    exact buildRange_length_inner ls n hn start
  | cons e es ih =>
    intro start h
    simp only [gapHashes, diffTreeCount, List.length_append]
    rw [buildRange_length_inner ls e (Nat.le_trans (Nat.le_of_lt h.2.1) hn) start, ih (e + 1) h.2.2]

/-- With the leaf-count check (`checkCount = true`: `&& acc.numLeaves == numLeaves`, fix 9e80790;
by `c16_diff_old_complete`/`c16_diff_new_complete_partial` it rejects no honest proof) the old-root
pass is sound: with the true count and the true old root,
acceptance implies the tree hashes and the old leaf hashes are the honest ones (so an altered
index, leaf hash or tree hash, or a shorter/longer proof, is rejected). -/
theorem c16_diff_old_sound_checked [DecidableEq H] (hinj : NodeInj H) (ls : List H) (idx : List Nat)
    (th lf : List H) (hok : IdxOK 0 idx ls.length) (hlf : lf.length = idx.length)
    (hacc : verifyMultiG true idx th lf ls.length (metaRoot ls) = .ok true) :
    th = gapHashes ls idx 0 ls.length ∧ lf = idx.map (fun j => ls.getD j zero) := by
  obtain ⟨r1, e1, hroot, hrest, hnum⟩ := (verifyMultiG_true_iff ..).1 hacc
  have hnum := hnum rfl
  obtain ⟨a2, e2, h2, hcount⟩ := verifyMultiLoop_patch ls ls.length (Nat.le_refl _) idx 0 Acc.empty []
    (idx.map (fun j => ls.getD j zero)) [] hok rfl Inv.empty (List.length_map _)
  rw [patchFrom_self ls idx 0 hok] at h2
  -- the leaf count forces the honest number of tree hashes
  have hth : th.length = (gapHashes ls idx 0 ls.length ++ []).length := by
    rw [List.append_nil, c16_diff_size ls ls.length (Nat.le_refl _) idx 0 hok,
      (verifyMultiLoop_count idx 0 ls.length Acc.empty th lf r1 hok e1).2
        (hnum.trans (Nat.zero_add _).symm), hrest]
    rfl
  -- the root pins the last state, and the walk reflects it
  have L := lock_verifyMultiLoop hinj idx 0 ls.length (Acc.empty, th) (Acc.empty, gapHashes ls idx 0 ls.length ++ [])
    lf _ r1 (a2, []) hok ⟨rfl, hth⟩ rfl hlf (List.length_map _) e1 e2 hcount
  obtain ⟨⟨-, q1⟩, q2⟩ := L.2 (SameState.of_root hinj L.1 (hroot.trans h2.root.symm) rfl)
  exact ⟨q1.trans (List.append_nil _), q2⟩

example (th lf : List T) (hlf : lf.length = 2)
    (hacc : verifyMultiG true [4, 5] th lf six.length (metaRoot six) = .ok true) :
    lf = [r6 4, r6 5] := by
  have := (c16_diff_old_sound_checked T_nodeInj six [4, 5] th lf (by simp [IdxOK, six]) hlf hacc).2
  simpa [six] using this

/-- Old-root pass, soundness FOR THE CODE AS IT IS (the flag is read from the source and tied
to `true` by `tie_verifyMulti_checks_leaf_count`): with the true count and the true old root,
acceptance implies the tree hashes and the old leaf hashes are the honest ones. -/
theorem c16_diff_old_sound [DecidableEq H] (hinj : NodeInj H) (ls : List H) (idx : List Nat)
    (th lf : List H) (hok : IdxOK 0 idx ls.length) (hlf : lf.length = idx.length)
    (hacc : verifyMultiG codeChecksLeafCount idx th lf ls.length (metaRoot ls) = .ok true) :
    th = gapHashes ls idx 0 ls.length ∧ lf = idx.map (fun j => ls.getD j zero) := by
  rw [tie_verifyMulti_checks_leaf_count.2] at hacc
  exact c16_diff_old_sound_checked hinj ls idx th lf hok hlf hacc

theorem verifyMultiG_root_unique [DecidableEq H] (cc : Bool) (idx : List Nat) (th lv : List H) (n : Nat)
    (r1 r2 : H) (h1 : verifyMultiG cc idx th lv n r1 = .ok true) (h2 : verifyMultiG cc idx th lv n r2 = .ok true) :
    r1 = r2 := by
  obtain ⟨s1, e1, hr1, _⟩ := (verifyMultiG_true_iff ..).1 h1
  obtain ⟨s2, e2, hr2, _⟩ := (verifyMultiG_true_iff ..).1 h2
  cases e1.symm.trans e2
  exact hr1.symm.trans hr2

/-- Completeness for every valid action list (`ValidActs`: Append, Swap with indices below the
current count, Trim not exceeding the current count, in any order and number): the builder's
proof is accepted with the plain old root and the plain root of `applyActions ls actions`. -/
theorem c16_diff_complete_general [DecidableEq H] (cc : Bool) (ls : List H) (acts : List (Action H))
    (hv : ValidActs ls.length acts) :
    ∃ th lf ls', buildDiffProof acts ls = .ok (th, lf) ∧ applyActions ls acts = .ok ls' ∧
      verifyDiffProofG cc acts ls.length th lf (metaRoot ls) (metaRoot ls') = .ok true := by
  obtain ⟨S, l', hS, hsc, happ, hml, hmp, hlen, hgap⟩ := actions_bookkeeping ls acts hv
  refine ⟨_, _, l', buildDiffProof_eq acts ls _ hsc (IdxOK_below hS _), happ, ?_⟩
  refine (verifyDiffProofG_true_iff ..).2 ⟨_, _, _, hsc, (List.length_map _).symm,
    (c16_diff_old_complete cc ls _ (IdxOK_below hS _)).2, hml, hmp, ?_⟩
  -- the second pass is the first pass of the new list
  rw [List.length_map, List.length_map, hlen, hgap]
  exact (c16_diff_old_complete cc l' _ (IdxOK_below hS _)).2

/-- Soundness for every valid action list, for the code as it is: with the true count and the true
old root, acceptance forces the new root to be the plain root of `applyActions ls actions` and the
proof to be the builder's. -/
theorem c16_diff_sound_general [DecidableEq H] (hinj : NodeInj H) (ls : List H) (acts : List (Action H))
    (hv : ValidActs ls.length acts) (th lf : List H) (newRoot : H)
    (hacc : verifyDiffProofG codeChecksLeafCount acts ls.length th lf (metaRoot ls) newRoot = .ok true) :
    ∃ ls', applyActions ls acts = .ok ls' ∧ newRoot = metaRoot ls' ∧ buildDiffProof acts ls = .ok (th, lf) := by
  obtain ⟨S, l', hS, hsc, happ, hml, hmp, hlen, hgap⟩ := actions_bookkeeping ls acts hv
  obtain ⟨idx, nl, ni, hsc', hl, hold, hml', hmp', hnew⟩ := (verifyDiffProofG_true_iff ..).1 hacc
  cases hsc.symm.trans hsc'
  -- the old pass pins `th` and `lf`, hence what the bookkeeping hands to the new pass
  obtain ⟨rfl, rfl⟩ := c16_diff_old_sound hinj ls _ th lf (IdxOK_below hS _) hl.symm hold
  cases hml.symm.trans hml'
  cases hmp.symm.trans hmp'
  rw [List.length_map, List.length_map, hlen, hgap] at hnew
  exact ⟨l', happ,
    verifyMultiG_root_unique _ _ _ _ _ _ _ hnew (c16_diff_old_complete _ l' _ (IdxOK_below hS _)).2,
    buildDiffProof_eq acts ls _ hsc (IdxOK_below hS _)⟩

/-- Completeness: for `actions = swaps ++ [trim k]` (indices in range, `k ≤ n`) the builder's proof
is accepted with the plain old root and the plain root of the list the actions produce. -/
theorem c16_diff_complete [DecidableEq H] (cc : Bool) (ls : List H) (sw : List (Nat × Nat)) (k : Nat)
    (hn : ls.length < 18446744073709551616) (hk : k ≤ ls.length)
    (hsw : ∀ p ∈ sw, p.1 < ls.length ∧ p.2 < ls.length) :
    ∃ th lf ls', buildDiffProof (swapActs sw ++ [Action.trim k]) ls = .ok (th, lf) ∧
      applyActions ls (swapActs sw ++ [Action.trim k]) = .ok ls' ∧
      verifyDiffProofG cc (swapActs sw ++ [Action.trim k]) ls.length th lf (metaRoot ls) (metaRoot ls') = .ok true :=
  c16_diff_complete_general cc ls _ (validActs_swaps_trim sw k ls.length hn hk hsw)

/-- Soundness for the code as it is: with the true count and the true old root, acceptance forces
the new root to be the plain root of the list after the swaps and the trim — and the proof to be
the honest one. Hence any altered index, leaf hash, tree hash or root is rejected. -/
theorem c16_diff_sound [DecidableEq H] (hinj : NodeInj H) (ls : List H) (sw : List (Nat × Nat)) (k : Nat)
    (hn : ls.length < 18446744073709551616) (hk : k ≤ ls.length)
    (hsw : ∀ p ∈ sw, p.1 < ls.length ∧ p.2 < ls.length)
    (th lf : List H) (newRoot : H)
    (hacc : verifyDiffProofG codeChecksLeafCount (swapActs sw ++ [Action.trim k]) ls.length th lf
      (metaRoot ls) newRoot = .ok true) :
    ∃ ls', applyActions ls (swapActs sw ++ [Action.trim k]) = .ok ls' ∧ newRoot = metaRoot ls' ∧
      buildDiffProof (swapActs sw ++ [Action.trim k]) ls = .ok (th, lf) :=
  c16_diff_sound_general hinj ls _ (validActs_swaps_trim sw k ls.length hn hk hsw) th lf newRoot hacc

example : ∃ th lf ls', buildDiffProof [Action.append (r6 9), Action.swap 1 6, Action.trim 2, Action.append (r6 8)] six = .ok (th, lf) ∧
    applyActions six [Action.append (r6 9), Action.swap 1 6, Action.trim 2, Action.append (r6 8)] = .ok ls' ∧
    verifyDiffProofG true [Action.append (r6 9), Action.swap 1 6, Action.trim 2, Action.append (r6 8)] six.length th lf
      (metaRoot six) (metaRoot ls') = .ok true :=
  c16_diff_complete_general true six _ (by simp [ValidActs, six])

/-- Completeness of `BuildFreeSectorsProof` / `VerifyFreeSectorsProof`: for in-range indices (any
order; `RPCFreeSectorsRequest.Validate` also makes them distinct) the proof is accepted with the
plain old root and the plain root of the list after "swap freed[i] with n-1-i, then trim". -/
theorem c16_free_complete [DecidableEq H] (cc : Bool) (ls : List H) (freed : List Nat)
    (hn : ls.length < 18446744073709551616) (hk : freed.length ≤ ls.length) (hf : ∀ x ∈ freed, x < ls.length) :
    ∃ th lf ls', buildFreeSectorsProof ls freed = .ok (th, lf) ∧ applyFree ls freed = .ok ls' ∧
      verifyFreeSectorsProofG cc th lf freed ls.length (metaRoot ls) (metaRoot ls') = .ok true := by
  have e := convertFreeActions_eq (H := H) freed ls.length hk hn
  obtain ⟨th, lf, ls', h1, h2, h3⟩ := c16_diff_complete cc ls (freeSwaps freed ls.length) freed.length hn hk
    (freeSwaps_lt freed ls.length hk hf)
  exact ⟨th, lf, ls', by rwa [buildFreeSectorsProof, e], by rwa [applyFree_eq ls freed hk hn, e],
    by rwa [verifyFreeSectorsProofG, e]⟩

example : ∃ th lf ls', buildFreeSectorsProof six [1, 4] = .ok (th, lf) ∧ applyFree six [1, 4] = .ok ls' ∧
    verifyFreeSectorsProofG true th lf [1, 4] six.length (metaRoot six) (metaRoot ls') = .ok true :=
  c16_free_complete true six [1, 4] (by decide) (by decide) (by decide)

/-- Soundness of `VerifyFreeSectorsProof` for the code as it is: with the true sector count and
the true old root, acceptance forces the new root to be the plain root of the list after the
requested swap-and-trim (so the proof of freeing OTHER sectors is rejected), and the proof to be
the one the builder emits. -/
theorem c16_free_sound [DecidableEq H] (hinj : NodeInj H) (ls : List H) (freed : List Nat)
    (hn : ls.length < 18446744073709551616) (hk : freed.length ≤ ls.length) (hf : ∀ x ∈ freed, x < ls.length)
    (th lf : List H) (newRoot : H)
    (hacc : verifyFreeSectorsProof th lf freed ls.length (metaRoot ls) newRoot = .ok true) :
    ∃ ls', applyFree ls freed = .ok ls' ∧ newRoot = metaRoot ls' ∧
      buildFreeSectorsProof ls freed = .ok (th, lf) := by
  have e := convertFreeActions_eq (H := H) freed ls.length hk hn
  rw [verifyFreeSectorsProof, verifyFreeSectorsProofG, e] at hacc
  obtain ⟨ls', h1, h2, h3⟩ := c16_diff_sound hinj ls (freeSwaps freed ls.length) freed.length hn hk
    (freeSwaps_lt freed ls.length hk hf) th lf newRoot hacc
  exact ⟨ls', by rwa [applyFree_eq ls freed hk hn, e], h2, by rwa [buildFreeSectorsProof, e]⟩

/-- the forged instance of `c16_diff_forged_accepted` is rejected by the code as it is -/
example : verifyFreeSectorsProof [h0123] [r6 4, r6 5] [3] six.length (metaRoot six) (T.nd h0123 (r6 5)) ≠ .ok true := by
  intro h
  obtain ⟨ls', h1, h2, _⟩ := c16_free_sound T_nodeInj six [3] (by decide) (by decide) (by decide) _ _ _ h
  have : isOk ((applyFree six [3]).map metaRoot) (T.nd h0123 (r6 5)) = true := by
    rw [h1]; simp [Except.map, isOk, h2]
  exact absurd this (by decide +kernel)

/-- With the TRUE count 6 and the TRUE old root of `six`, the honest proof and new root for
"free sector 4" are accepted for the claim "free sector 3", although the list after freeing
sector 3 has a different root (rhp4.VerifyFreeSectorsProof before fix 9e80790 behaves the same).
With the leaf-count check the honest claim is still accepted and the forged one rejected. -/
theorem c16_diff_forged_accepted :
    metaRoot six = T.nd h0123 (T.nd (r6 4) (r6 5)) ∧
    isOk (buildFreeSectorsProof six [4]) ([h0123], [r6 4, r6 5]) = true ∧
    accepts (verifyFreeSectorsProofG false [h0123] [r6 4, r6 5] [4] 6 (metaRoot six) (T.nd h0123 (r6 5))) = true ∧
    accepts (verifyFreeSectorsProofG false [h0123] [r6 4, r6 5] [3] 6 (metaRoot six) (T.nd h0123 (r6 5))) = true ∧
    isOk ((applyFree six [3]).map metaRoot) (T.nd h0123 (r6 5)) = false ∧
    accepts (verifyFreeSectorsProofG true [h0123] [r6 4, r6 5] [4] 6 (metaRoot six) (T.nd h0123 (r6 5))) = true ∧
    accepts (verifyFreeSectorsProofG true [h0123] [r6 4, r6 5] [3] 6 (metaRoot six) (T.nd h0123 (r6 5))) = false := by
  refine ⟨by decide +kernel, by decide +kernel, by decide +kernel, by decide +kernel, by decide +kernel,
    by decide +kernel, by decide +kernel⟩

end C16
