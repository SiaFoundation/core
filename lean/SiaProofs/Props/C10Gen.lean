import SiaModel.Gen.CodeConsensus
import SiaProofs.Lemmas.GoLoops
/-!
# C10 — the range check of v1 covered fields, on REGENERATED code (guard of fix 14c9be0)

`WholeSigHash` / `PartialSigHash` index the transaction with the numbers a v1 signature's covered fields carry and
would panic on an index out of range; `validCoveredFields` is what stands in front of them.  Its closure `inRange`
and its body are translated from `consensus/validation.go`.  The theorem: the regenerated check never
panics, and it answers `true` exactly when every index the sighash functions will use is in range — for every
transaction and every covered-fields value.
-/
namespace C10
open Gen.Types Gen.Consensus GoLoops

theorem inRange_spec (indices : List Nat) (n : Nat) (hn : n < 18446744073709551616) :
    validCoveredFields_inRange indices (Int.ofNat n) = .ok (decide (∀ i ∈ indices, i < n)) := by
  have e : Int.toNat ((Int.ofNat n) % 18446744073709551616) = n := by
    have : (Int.ofNat n) % 18446744073709551616 = Int.ofNat n := Int.emod_eq_of_lt (by simp) (by simp; omega)
    rw [this]; simp
  obtain ⟨r, hr, rfl⟩ : ∃ r, validCoveredFields_inRange indices (Int.ofNat n) = .ok r ∧ r = decide (∀ i ∈ indices, i < n) := by
    refine forRange_total_bind (good := (· < n)) (P := (· = false)) (fun _ x _ => ?_) (fun _ h => ?_) (fun q _ h hq => ?_)
    · rw [e]
      by_cases hx : x ≥ n
      · exact ⟨some false, (), if_pos (decide_eq_true hx), Nat.not_lt.mpr hx, rfl⟩
      · exact ⟨none, (), if_neg (fun h => hx (of_decide_eq_true h)), Nat.lt_of_not_ge hx⟩
    · exact ⟨true, rfl, (decide_eq_true h).symm⟩
    · exact ⟨q, rfl, hq.trans (decide_eq_false h).symm⟩
  exact hr

/-- list lengths as Go sees them (`len` is an `int`, so every slice is shorter than 2^63; the bound 2^64 is all the proof needs) -/
structure LensOk (txn : Transaction) : Prop where
  sci : txn.SiacoinInputs.length < 18446744073709551616
  sco : txn.SiacoinOutputs.length < 18446744073709551616
  fc : txn.FileContracts.length < 18446744073709551616
  fcr : txn.FileContractRevisions.length < 18446744073709551616
  sp : txn.StorageProofs.length < 18446744073709551616
  sfi : txn.SiafundInputs.length < 18446744073709551616
  sfo : txn.SiafundOutputs.length < 18446744073709551616
  fees : txn.MinerFees.length < 18446744073709551616
  arb : txn.ArbitraryData.length < 18446744073709551616
  sigs : txn.Signatures.length < 18446744073709551616

/-- every index of every list of `cf` that the sighash functions use is in range -/
def CoveredInRange (txn : Transaction) (cf : CoveredFields) : Prop :=
  if cf.WholeTransaction then ∀ i ∈ cf.Signatures, i < txn.Signatures.length
  else
    (∀ i ∈ cf.SiacoinInputs, i < txn.SiacoinInputs.length) ∧ (∀ i ∈ cf.SiacoinOutputs, i < txn.SiacoinOutputs.length) ∧
    (∀ i ∈ cf.FileContracts, i < txn.FileContracts.length) ∧ (∀ i ∈ cf.FileContractRevisions, i < txn.FileContractRevisions.length) ∧
    (∀ i ∈ cf.StorageProofs, i < txn.StorageProofs.length) ∧ (∀ i ∈ cf.SiafundInputs, i < txn.SiafundInputs.length) ∧
    (∀ i ∈ cf.SiafundOutputs, i < txn.SiafundOutputs.length) ∧ (∀ i ∈ cf.MinerFees, i < txn.MinerFees.length) ∧
    (∀ i ∈ cf.ArbitraryData, i < txn.ArbitraryData.length) ∧ (∀ i ∈ cf.Signatures, i < txn.Signatures.length)

instance (txn : Transaction) (cf : CoveredFields) : Decidable (CoveredInRange txn cf) := by
  unfold CoveredInRange; infer_instance

/--
**The covered-fields check is total and exact** (about `consensus.validCoveredFields` as regenerated from the source):
it never panics, and it answers `true` exactly when every index the v1 sighash functions will use is in range.
-/
theorem c10_covered_fields_in_range_gen (txn : Transaction) (cf : CoveredFields) (hl : LensOk txn) :
    validCoveredFields_body cf txn = .ok (decide (CoveredInRange txn cf)) := by
  unfold validCoveredFields_body CoveredInRange
  split
  · rw [inRange_spec _ _ hl.sigs]
  · -- each `a && b` of the source is printed as `if a then b else pure false`
    have and_then : ∀ t v : Bool, (if t = true then pure v else pure false : Except String Bool) = .ok (t && v) := by
      intro t v; cases t <;> rfl
    simp only [inRange_spec _ _ hl.sci, inRange_spec _ _ hl.sco, inRange_spec _ _ hl.fc, inRange_spec _ _ hl.fcr,
      inRange_spec _ _ hl.sp, inRange_spec _ _ hl.sfi, inRange_spec _ _ hl.sfo, inRange_spec _ _ hl.fees,
      inRange_spec _ _ hl.arb, inRange_spec _ _ hl.sigs, ok_bind, and_then, Bool.decide_and, Bool.and_assoc]

end C10
