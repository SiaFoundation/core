/-
# C05 — Element proofs survive every apply/revert; roots equal the true Merkle forest

Model: `SiaModel/Merkle/Accumulator.lean` (function-by-function transliteration of
consensus/merkle.go); specification: `SiaModel/Merkle/Forest.lean` (the naive forest).
`acc.toForest = forestOf ls` says that the accumulator's leaf count and roots are those of
the naive forest over the list `ls` of all leaf hashes ever added (spent or revised ones
rewritten in place: `writeLeaves`), `path ls j` is the naive Merkle path of leaf `j`.

All theorems hold for ARBITRARY leaf count (every bit pattern below 2^64; `≤ unassignedLeafIndex`
where `applyBlock` / `revertBlock` are involved), arbitrary set of rewritten leaves and arbitrary
number of added leaves; none needs a hash assumption.
-/
import SiaModel.Gen.CodeConsensus
import SiaProofs.Lemmas.Revert
import SiaProofs.Lemmas.TermHash
import SiaProofs.Props.C04
namespace C05
open Sia.ElemAcc

/-- `mergeHeight` as translated from consensus/merkle.go equals the model's. -/
theorem tie_mergeHeight (x y : Nat) : Gen.Consensus.mergeHeight x y = Int.ofNat (mergeHeight x y) := by
  exact GoWords.bits_Len64_eq _

/-- `x &^ (1<<n - 1)` on `w`-bit words -/
theorem and_mask (w x n : Nat) (hx : x < 2 ^ w) (hn : n ≤ w) : x &&& (2 ^ w - 2 ^ n) = x - x % 2 ^ n := by
  have e1 : 2 ^ w - 2 ^ n = 2 ^ n * (2 ^ (w - n) - 1) := by
    rw [Nat.mul_sub, ← Nat.pow_add, Nat.mul_one, Nat.add_sub_cancel' hn]
  rw [e1, ← clearBits]
  apply Nat.eq_of_testBit_eq
  intro i
  rw [Nat.testBit_and, Nat.testBit_two_pow_mul, Nat.testBit_two_pow_sub_one, testBit_clearBits]
  by_cases h1 : n ≤ i
  · by_cases h2 : i < w
    · simp [h1, show i - n < w - n by omega]
    · rw [Nat.testBit_lt_two_pow (Nat.lt_of_lt_of_le hx (Nat.pow_le_pow_right (by omega) (by omega)))]
      simp
  · simp [h1]

/-- Go's `x &^ (1<<n - 1)` in `w`-bit arithmetic is `clearBits` -/
theorem andNot_mask (w x n : Nat) (hx : x < 2 ^ w) (hn : n < w) :
    Go.andNot w x (((1 <<< n) % 2 ^ w + 2 ^ w - 1) % 2 ^ w) = clearBits x n := by
  have hlt : 2 ^ n < 2 ^ w := Nat.pow_lt_pow_right (by omega) hn
  have hpos := Nat.two_pow_pos n
  unfold Go.andNot clearBits
  rw [GoWords.mask_word (Nat.le_of_lt hn), Nat.mod_eq_of_lt (by omega),
    show 2 ^ w - 1 - (2 ^ n - 1) = 2 ^ w - 2 ^ n by omega]
  exact and_mask w x n hx (Nat.le_of_lt hn)

/-- `clearBits` as translated from consensus/merkle.go equals the model's, for uint64
    arguments and shift counts below 64. (`growStep` also calls it with count 64, at `bit = 63`
    when the leaf count is `≥ 2^63`; that case is not covered here.) -/
theorem tie_clearBits (x n : Nat) (hx : x < 2 ^ 64) (hn : n < 64) :
    Gen.Consensus.clearBits x (Int.ofNat n) = clearBits x n :=
  andNot_mask 64 x n hx hn

/-- every leaf lies in exactly one tree of the forest (one perfect tree per set bit of
    `n`, the higher ones to the left), and `treeHeight` names it -/
theorem c05_spec_tree_partition (n i : Nat) (hi : i < n) :
    (n.testBit (treeHeight n i) = true ∧ treeStart n (treeHeight n i) ≤ i ∧
      i < treeStart n (treeHeight n i) + 2 ^ treeHeight n i) ∧
    ∀ h, n.testBit h = true → treeStart n h ≤ i → i < treeStart n h + 2 ^ h → h = treeHeight n i :=
  ⟨treeHeight_spec hi, fun _ h1 h2 h3 => (treeHeight_unique ⟨h1, h2, h3⟩).symm⟩

/-- the roots used by the specification are the plain "halve the list" Merkle roots -/
theorem c05_spec_root_structural {H : Type} [Hasher H] [Inhabited H] (ls : List H) (h s : Nat) :
    subRoot ls h s = halvingRoot h (ls.drop s) := subRoot_eq_halving ls h s

section
variable {H : Type} [Hasher H] [Inhabited H]

/-- **addLeaves computes the naive forest.** If the accumulator is the naive forest of
    `ls`, then after `addLeaves new` it is the naive forest of `ls ++ new` (the new leaf
    hashes commit to the indices `ls.length, ls.length+1, …`), and every added leaf
    carries its index and exactly its naive Merkle path. -/
theorem c05_addLeaves_forest (acc : Acc H) (ls : List H) (hacc : acc.toForest = forestOf ls)
    (new : List (Leaf H)) (hnp : ∀ l ∈ new, l.proof = []) (hsz : ls.length + new.length < 2 ^ 64) :
    let ls' := ls ++ hashesFrom ls.length new
    (acc.addLeaves new).1.toForest = forestOf ls' ∧
    (acc.addLeaves new).2.1.length = new.length ∧
    ∀ j l, (acc.addLeaves new).2.1[j]? = some l →
      l.index = ls.length + j ∧ l.proof = path ls' (ls.length + j) ∧
      ls'.getD (ls.length + j) default = l.hash ∧
      ∃ l0, new[j]? = some l0 ∧ l.elem = l0.elem ∧ l.spent = l0.spent :=
  addLeaves_spec acc ls hacc new hnp hsz

/-- `treeGrowth` is exactly what a holder of an old proof must append: the path of an
    existing leaf in the grown forest is its old path followed by the growth of its tree. -/
theorem c05_addLeaves_growth (acc : Acc H) (ls : List H) (hacc : acc.toForest = forestOf ls)
    (new : List (Leaf H)) (hnp : ∀ l ∈ new, l.proof = []) (hsz : ls.length + new.length < 2 ^ 64)
    (j : Nat) (hj : j < ls.length) :
    path (ls ++ hashesFrom ls.length new) j = path ls j ++ (acc.addLeaves new).2.2 (path ls j).length :=
  addLeaves_growth acc ls hacc new hnp hsz j hj

/-- **updateLeaves computes the rewritten forest.** If every rewritten leaf carries its
    current naive path (`UpdOK`: distinct existing positions, `proof = path ls index`),
    then `updateLeaves` succeeds (no panic), every rewritten leaf ends up — grouped by the
    height of its tree — with its naive path in the rewritten leaf list
    `writeLeaves ls updated`, and replacing the roots of the touched trees by
    `es[0].proofRoot()` gives exactly the naive forest of the rewritten list. -/
theorem c05_updateLeaves_forest (acc : Acc H) (ls : List H) (hacc : acc.toForest = forestOf ls)
    (updated : List (Leaf H)) (ok : UpdOK ls updated) (hn : ls.length < 2 ^ 64) :
    ∃ upd, updateLeaves updated = .ok upd ∧
      (∀ h l', l' ∈ upd h ↔ ∃ l ∈ updated, l.proof.length = h ∧ l' = withPath (writeLeaves ls updated) l) ∧
      (acc.withUpdatedRoots upd).toForest = forestOf (writeLeaves ls updated) := by
  obtain ⟨upd, h1, h2⟩ := updateLeaves_spec ls updated ok hn
  exact ⟨upd, h1, h2, withUpdatedRoots_forest acc ls hacc updated ok hn upd h2⟩

/-- **applyBlock computes the naive forest over all leaves ever added.** After
    `applyBlock updated added` the leaf count and roots are those of the naive forest of
    `ls2 = (ls with the rewrites) ++ (the added leaf hashes)`; the added leaves carry their
    indices and naive paths; the rewritten leaves (as stored in the update) carry their
    naive paths in `ls2`. -/
theorem c05_applyBlock_forest (acc : Acc H) (ls : List H) (hacc : acc.toForest = forestOf ls)
    (updated : List (Leaf H)) (ok : UpdOK ls updated)
    (added : List (Leaf H)) (hnp : ∀ l ∈ added, l.proof = [])
    (hsz : ls.length + added.length ≤ unassignedLeafIndex) :
    let ls2 := writeLeaves ls updated ++ hashesFrom ls.length added
    ∃ (acc' : Acc H) (u : ApplyUpdate H) (added' : List (Leaf H)), acc.applyBlock updated added = .ok (acc', u, added') ∧
      acc'.toForest = forestOf ls2 ∧
      acc'.numLeaves = ls.length + added.length ∧
      (∀ j l, added'[j]? = some l → l.index = ls.length + j ∧ l.proof = path ls2 (ls.length + j)) ∧
      (∀ h l', l' ∈ u.updated h ↔ ∃ l ∈ updated, l.proof.length = h ∧ l' = withPath ls2 l) := by
  intro ls2
  obtain ⟨acc', u, added', h1, sp⟩ := applyBlock_spec acc ls hacc updated ok added hnp hsz
  exact ⟨acc', u, added', h1, sp.forest, (numLeaves_of_toForest sp.forest).trans (length_applied ls updated added),
    fun j l hl => ⟨(sp.fresh j l hl).1, (sp.fresh j l hl).2.1⟩, sp.rewritten⟩

/-- **Tracked proofs survive apply.** A client proof equal to `path ls j` — for ANY
    existing `j`, rewritten by the block or not — becomes `path ls2 j` after
    `updateElementProof`; a newly added element's proof is already `path ls2 j` and
    `updateElementProof` leaves it alone. -/
theorem c05_tracked_proof_apply (acc : Acc H) (ls : List H) (hacc : acc.toForest = forestOf ls)
    (updated : List (Leaf H)) (ok : UpdOK ls updated)
    (added : List (Leaf H)) (hnp : ∀ l ∈ added, l.proof = [])
    (hsz : ls.length + added.length ≤ unassignedLeafIndex) :
    let ls2 := writeLeaves ls updated ++ hashesFrom ls.length added
    ∃ (acc' : Acc H) (u : ApplyUpdate H) (added' : List (Leaf H)), acc.applyBlock updated added = .ok (acc', u, added') ∧
      (∀ j, j < ls.length → u.updateElementProof j (path ls j) = .ok (path ls2 j)) ∧
      (∀ (j : Nat) (l : Leaf H), added'[j]? = some l → u.updateElementProof l.index l.proof = .ok (path ls2 l.index)) := by
  intro ls2
  obtain ⟨acc', u, added', h1, sp⟩ := applyBlock_spec acc ls hacc updated ok added hnp hsz
  refine ⟨acc', u, added', h1, sp.track, ?_⟩
  intro j l hl
  obtain ⟨a1, a2, _⟩ := sp.fresh j l hl
  have hj : j < added.length := by
    have := (List.getElem?_eq_some_iff.1 hl).1
    rw [← sp.addedLen]; exact this
  simp only [ApplyUpdate.updateElementProof, sp.oldNum, a1]
  rw [if_neg (by omega), if_pos (by omega), a2]

/-- … and the updated proof verifies against the new accumulator with the element's
    CURRENT content and spent flag (whatever leaf hash now sits at position `j`). -/
theorem c05_tracked_proof_apply_verifies [DecidableEq H] (acc : Acc H) (ls : List H) (hacc : acc.toForest = forestOf ls)
    (updated : List (Leaf H)) (ok : UpdOK ls updated)
    (added : List (Leaf H)) (hnp : ∀ l ∈ added, l.proof = [])
    (hsz : ls.length + added.length ≤ unassignedLeafIndex) :
    let ls2 := writeLeaves ls updated ++ hashesFrom ls.length added
    ∃ (acc' : Acc H) (u : ApplyUpdate H) (added' : List (Leaf H)), acc.applyBlock updated added = .ok (acc', u, added') ∧
      ∀ j, j < ls.length → ∀ (e : H) (s : Bool), ls2.getD j default = Hasher.leaf e j s →
        ∃ p, u.updateElementProof j (path ls j) = .ok p ∧
          acc'.containsLeaf { elem := e, spent := s, index := j, proof := p } = true := by
  intro ls2
  obtain ⟨acc', u, added', h1, sp⟩ := applyBlock_spec acc ls hacc updated ok added hnp hsz
  refine ⟨acc', u, added', h1, ?_⟩
  intro j hj e s hleaf
  refine ⟨path ls2 j, sp.track j hj, ?_⟩
  apply C04.c04_contains_complete acc' ls2 sp.forest
  · show j < (writeLeaves ls updated ++ hashesFrom ls.length added).length
    rw [length_applied]; omega
  · exact hleaf
  · rfl

/-- **Tracked proofs survive revert.** `ls` is the parent's leaf list, `ls1 ++ ext` the
    child's (`ls1` = `ls` with the block's rewrites, `ext` = the leaves the block added);
    `updated` = the block's elements in their parent form with their parent proofs (what
    `RevertBlock` passes). Every client proof `path (ls1 ++ ext) j` of an element that
    exists in the parent becomes `path ls j` (truncation at the merge height, then
    `updateProof`). -/
theorem c05_tracked_proof_revert (acc : Acc H) (ls : List H) (hnum : acc.numLeaves = ls.length)
    (updated : List (Leaf H)) (ok : UpdOK ls updated)
    (hhash : ∀ l ∈ updated, ls.getD l.index default = l.hash)
    (added : List (Leaf H)) (ls1 ext : List H) (hlen1 : ls1.length = ls.length)
    (hsame : ∀ q, (∀ l ∈ updated, l.index ≠ q) → ls1.getD q default = ls.getD q default)
    (hsz : ls.length ≤ unassignedLeafIndex) :
    ∃ (ru : RevertUpdate H) (added' : List (Leaf H)), acc.revertBlock updated added = .ok (ru, added') ∧
      ∀ j, j < ls.length → ru.updateElementProof j (path (ls1 ++ ext) j) = .ok (path ls j) := by
  obtain ⟨ru, added', h1, h4⟩ := revertBlock_spec acc ls hnum updated ok hhash added ls1 ext hlen1 hsame hsz
  exact ⟨ru, added', h1, h4⟩

/-- **Apply then revert is the identity on tracked proofs.** `updatedNew` are the block's
    elements in their new form, `updatedOld` the same positions in their parent form. -/
theorem c05_apply_revert_roundtrip (acc : Acc H) (ls : List H) (hacc : acc.toForest = forestOf ls)
    (updatedNew updatedOld : List (Leaf H)) (okN : UpdOK ls updatedNew) (okO : UpdOK ls updatedOld)
    (hhash : ∀ l ∈ updatedOld, ls.getD l.index default = l.hash)
    (hidx : ∀ q, (∃ l ∈ updatedNew, l.index = q) → ∃ l ∈ updatedOld, l.index = q)
    (added : List (Leaf H)) (hnp : ∀ l ∈ added, l.proof = [])
    (hsz : ls.length + added.length ≤ unassignedLeafIndex) :
    ∃ (acc' : Acc H) (u : ApplyUpdate H) (added' : List (Leaf H)) (ru : RevertUpdate H) (added'' : List (Leaf H)), acc.applyBlock updatedNew added = .ok (acc', u, added') ∧
      acc.revertBlock updatedOld added = .ok (ru, added'') ∧
      ∀ j, j < ls.length →
        (u.updateElementProof j (path ls j) >>= ru.updateElementProof j) = .ok (path ls j) := by
  obtain ⟨acc', u, added', h1, sp⟩ := applyBlock_spec acc ls hacc updatedNew okN added hnp hsz
  have hnum := numLeaves_of_toForest hacc
  obtain ⟨ru, added'', r1, r4⟩ := revertBlock_spec acc ls hnum updatedOld okO hhash added
    (writeLeaves ls updatedNew) (hashesFrom ls.length added) (writeLeaves_length _ _)
    (by
      intro q hq
      apply writeLeaves_get_other
      intro l hl e
      obtain ⟨l', hl', e'⟩ := hidx q ⟨l, hl, e⟩
      exact hq l' hl' e')
    (by omega)
  refine ⟨acc', u, added', ru, added'', h1, r1, ?_⟩
  intro j hj
  rw [sp.track j hj]
  exact r4 j hj

/-- States reachable by a client that follows a chain: `Hist acc ls π` — the
    accumulator `acc`, the list `ls` of all leaf hashes ever added on the current branch,
    and the client's current proof `π j` for every element `j`. Each step is the real
    `applyBlock` / `revertBlock` followed by `updateElementProof` on every tracked proof;
    a revert goes from any reachable child state back to any reachable state that is its
    parent (so reorgs of any depth and re-applications are covered). -/
inductive Hist : Acc H → List H → (Nat → List H) → Prop where
  | init (acc : Acc H) (ls : List H) (π : Nat → List H) :
      acc.toForest = forestOf ls → (∀ j, j < ls.length → π j = path ls j) → Hist acc ls π
  | apply (acc : Acc H) (ls : List H) (π : Nat → List H)
      (updated added : List (Leaf H)) (acc' : Acc H) (u : ApplyUpdate H) (added' : List (Leaf H)) (π' : Nat → List H) :
      Hist acc ls π →
      updated.Pairwise (fun a b => a.index ≠ b.index) → (∀ l ∈ updated, l.index < ls.length) →
      (∀ l ∈ updated, l.proof = π l.index) →
      (∀ l ∈ added, l.proof = []) → ls.length + added.length ≤ unassignedLeafIndex →
      acc.applyBlock updated added = .ok (acc', u, added') →
      (∀ j, j < ls.length → u.updateElementProof j (π j) = .ok (π' j)) →
      (∀ j l, added'[j]? = some l → π' (ls.length + j) = l.proof) →
      Hist acc' (writeLeaves ls updated ++ hashesFrom ls.length added) π'
  | revert (accP : Acc H) (lsP : List H) (πP : Nat → List H) (accC : Acc H) (ls1 ext : List H) (πC : Nat → List H)
      (updated added : List (Leaf H)) (ru : RevertUpdate H) (added' : List (Leaf H)) (π' : Nat → List H) :
      Hist accP lsP πP → Hist accC (ls1 ++ ext) πC →
      ls1.length = lsP.length → lsP.length ≤ unassignedLeafIndex →
      updated.Pairwise (fun a b => a.index ≠ b.index) → (∀ l ∈ updated, l.index < lsP.length) →
      (∀ l ∈ updated, l.proof = πP l.index) →
      (∀ l ∈ updated, lsP.getD l.index default = l.hash) →
      (∀ q, (∀ l ∈ updated, l.index ≠ q) → ls1.getD q default = lsP.getD q default) →
      accP.revertBlock updated added = .ok (ru, added') →
      (∀ j, j < lsP.length → ru.updateElementProof j (πC j) = .ok (π' j)) →
      Hist accP lsP π'

/-- **Induction over any interleaving of applies and reverts.** In every reachable state
    the accumulator's leaf count and roots are those of the naive forest over all leaves
    ever added, and every tracked proof is the naive path — hence (C04 completeness)
    verifies against the current state with the element's current content. -/
theorem c05_history (acc : Acc H) (ls : List H) (π : Nat → List H) (h : Hist acc ls π) :
    acc.toForest = forestOf ls ∧ ∀ j, j < ls.length → π j = path ls j := by
  induction h with
  | init acc ls π h1 h2 => exact ⟨h1, h2⟩
  | apply acc ls π updated added acc' u added' π' _ hnd hlt hpr hnp hsz happ hupd hadd ih =>
    obtain ⟨ih1, ih2⟩ := ih
    have ok : UpdOK ls updated := ⟨hnd, hlt, fun l hl => by rw [hpr l hl, ih2 _ (hlt l hl)]⟩
    obtain ⟨_, _, _, e, sp⟩ := applyBlock_spec acc ls ih1 updated ok added hnp hsz
    cases happ.symm.trans e
    refine ⟨sp.forest, ?_⟩
    intro j hj
    rw [length_applied] at hj
    rcases Nat.lt_or_ge j ls.length with hj' | hj'
    · have e1 := hupd j hj'
      rw [ih2 j hj', sp.track j hj'] at e1
      exact (Except.ok.inj e1).symm
    · have hk : j - ls.length < added'.length := by rw [sp.addedLen]; omega
      have hget : added'[j - ls.length]? = some added'[j - ls.length] := List.getElem?_eq_getElem hk
      have e1 := hadd _ _ hget
      have e2 := (sp.fresh _ _ hget).2.1
      have : ls.length + (j - ls.length) = j := by omega
      rw [this] at e1 e2
      rw [e1, e2]
  | revert accP lsP πP accC ls1 ext πC updated added ru added' π' _ _ hlen hsz hnd hlt hpr hh hsame hrev hupd ihP ihC =>
    obtain ⟨p1, p2⟩ := ihP
    obtain ⟨_, c2⟩ := ihC
    have ok : UpdOK lsP updated := ⟨hnd, hlt, fun l hl => by rw [hpr l hl, p2 _ (hlt l hl)]⟩
    have hnum := numLeaves_of_toForest p1
    obtain ⟨_, _, e, r4⟩ := revertBlock_spec accP lsP hnum updated ok hh added ls1 ext hlen hsame hsz
    cases hrev.symm.trans e
    refine ⟨p1, ?_⟩
    intro j hj
    have e1 := hupd j hj
    rw [c2 j (by rw [List.length_append]; omega), r4 j hj] at e1
    exact (Except.ok.inj e1).symm

end

/-! ### The hypotheses are satisfiable (free term algebra `T`), and the model runs -/

theorem emptyAcc_forest : emptyAcc.toForest = forestOf ([] : List T) := by
  rw [toForest_eq_iff]; exact ⟨rfl, fun h hb => by simp at hb⟩

def ex3 : List (Leaf T) := [freshLeaf 10, freshLeaf 11, freshLeaf 12 true]
def ex2 : List (Leaf T) := [freshLeaf 13, freshLeaf 14]

example : (emptyAcc.addLeaves ex3).1.toForest = forestOf (hashesFrom 0 ex3) :=
  (c05_addLeaves_forest emptyAcc [] emptyAcc_forest ex3 (by decide) (by decide)).1

def acc3 : Acc T := (emptyAcc.addLeaves ex3).1
def ls3 : List T := hashesFrom 0 ex3
theorem acc3_forest : acc3.toForest = forestOf ls3 :=
  (c05_addLeaves_forest emptyAcc [] emptyAcc_forest ex3 (by decide) (by decide)).1

/-- a block that spends leaf 1 (its holder's proof attached) and rewrites leaf 2 -/
def exUpdNew : List (Leaf T) :=
  [{ elem := .atom 11, spent := true, index := 1, proof := path ls3 1 },
   { elem := .atom 99, spent := false, index := 2, proof := path ls3 2 }]
/-- the same elements in their parent form (what `RevertBlock` passes) -/
def exUpdOld : List (Leaf T) :=
  [{ elem := .atom 11, spent := false, index := 1, proof := path ls3 1 },
   { elem := .atom 12, spent := true, index := 2, proof := path ls3 2 }]

theorem exUpdNew_ok : UpdOK ls3 exUpdNew :=
  ⟨by decide, by decide, by intro l hl; simp [exUpdNew] at hl; rcases hl with rfl | rfl <;> rfl⟩
theorem exUpdOld_ok : UpdOK ls3 exUpdOld :=
  ⟨by decide, by decide, by intro l hl; simp [exUpdOld] at hl; rcases hl with rfl | rfl <;> rfl⟩

/-- the hypotheses of `c05_applyBlock_forest` / `c05_tracked_proof_apply` /
    `c05_apply_revert_roundtrip` hold for a non-trivial instance: three leaves, two of
    them rewritten, two added -/
example : ∃ (acc' : Acc T) (u : ApplyUpdate T) (added' : List (Leaf T)) (ru : RevertUpdate T) (added'' : List (Leaf T)),
    acc3.applyBlock exUpdNew ex2 = .ok (acc', u, added') ∧ acc3.revertBlock exUpdOld ex2 = .ok (ru, added'') ∧
    ∀ j, j < ls3.length → (u.updateElementProof j (path ls3 j) >>= ru.updateElementProof j) = .ok (path ls3 j) :=
  c05_apply_revert_roundtrip acc3 ls3 acc3_forest exUpdNew exUpdOld exUpdNew_ok exUpdOld_ok
    (by decide)
    (by
      rintro q ⟨l, hl, rfl⟩
      simp [exUpdNew] at hl
      rcases hl with rfl | rfl
      · exact ⟨_, List.mem_cons_self, rfl⟩
      · exact ⟨_, List.mem_cons_of_mem _ List.mem_cons_self, rfl⟩)
    ex2 (by decide) (by decide)

/-- a reachable state in the sense of `Hist` (the initial one), so `c05_history` is not vacuous -/
example : Hist acc3 ls3 (fun j => path ls3 j) := Hist.init _ _ _ acc3_forest (fun _ _ => rfl)

deriving instance DecidableEq for Except

/-- the model evaluated in the kernel: leaf 1's old path, updated across a block that
    adds two leaves (3 → 5 leaves: the trees of height 0 and 1 merge into one of height 2),
    is the naive path of the 5-leaf forest -/
example :
    (match acc3.applyBlock [] ex2 with
     | .ok (_, u, _) => u.updateElementProof 1 (path ls3 1)
     | .error e => .error e)
    = .ok (path (hashesFrom 0 (ex3 ++ ex2)) 1) := by decide +kernel

end C05
