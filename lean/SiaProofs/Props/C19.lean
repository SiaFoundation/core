import SiaProofs.Lemmas.Framing
import SiaProofs.Lemmas.CodecSize
import SiaProofs.Props.C11Irregular
/-!
# C19 — RPC framing admits all valid messages and bounds reads; transports are faithful

Model: `SiaModel/Rhp4/Framing.lean` (bounded reads through `io.LimitedReader`, rhp/v4
request/response framing with the error flag, gateway v1/v2 framing and handshake
decision, rhp/v2 encrypted frames with a symbolic AEAD, rhp/v3 length prefix), over the
schema codec of C11 and the GENERATED limits of `SiaModel/Gen/FactsFraming.lean`.
The per-type `c19_fits_T` theorems are in `C19Fits.lean`.
-/
namespace C19
open Sia.Codec Sia.Codec.Gen Sia.Framing

theorem c19_size_eq (E : Env) (s : Sch) (v : Val) : size E s v = (enc E s v).length := size_eq E s v

/-! ## bounded reads (any schema, any environment of lawful leaf codecs) -/

/-- A canonical message whose encoding fits the limit is
decoded to the same object, pulling exactly its own bytes from the stream. -/
theorem c19_roundtrip_within_limit {E : Env} (hE : EnvOK E) (s : Sch) (hwf : s.wf E = true)
    (N : Nat) (v : Val) (rest : Bytes) (hc : Canon E s v) (hfit : (enc E s v).length ≤ N) :
    readLimited E N s (enc E s v ++ rest) = .ok (v, (enc E s v).length) :=
  readLimitedC_roundtrip (ofSch_ok hE s hwf) N v rest hc hfit

/-- Whatever the peer sends, a read through a reader limited to `N`
pulls at most `N` bytes and its outcome depends on the first `N` bytes only. (That it allocates
at most `depth·N` is `c19_read_alloc_bounded`, for guarded well-formed schemas.) -/
theorem c19_read_bounded (E : Env) (s : Sch) (N : Nat) :
    (∀ stream v n, readLimited E N s stream = .ok (v, n) → n ≤ N ∧ n ≤ stream.length) ∧
    (∀ a x y : Bytes, N ≤ a.length → readLimited E N s (a ++ x) = readLimited E N s (a ++ y)) :=
  ⟨fun stream v n h => readLimitedC_bounded N stream v n h,
   fun a x y h => readLimitedC_prefix_only _ N a x y h⟩

theorem c19_read_alloc_bounded {E : Env} (hE : EnvOK E) (s : Sch) (hwf : s.wf E = true)
    (hg : s.guarded E = true) (N : Nat) (stream : Bytes) :
    allocOf E (N - (stream.take N).length) s (stream.take N) ≤ s.depth E * N := by
  have h := C10D.c10_decode_alloc_bounded hE (N - (stream.take N).length) s hwf hg (stream.take N)
  have hl : (stream.take N).length ≤ N := by simp; omega
  rw [← Nat.mul_add] at h
  rw [show (stream.take N).length + (N - (stream.take N).length) = N by omega] at h
  exact h

/-- A message larger than the limit is refused with an error —
the receiver neither reads past the limit nor returns a partial object. -/
theorem c19_overlimit_rejected {E : Env} (hE : EnvOK E) (s : Sch) (hwf : s.wf E = true)
    (N : Nat) (v : Val) (rest : Bytes) (hc : Canon E s v) (hbig : N < (enc E s v).length) :
    ∃ e, readLimited E N s (enc E s v ++ rest) = .error e :=
  readLimitedC_overlimit (ofSch_ok hE s hwf) N v rest hc hbig

example : readLimited Irregular.env 100 C11.exS (enc Irregular.env C11.exS C11.exV ++ [9, 9]) =
    .ok (C11.exV, 46) :=
  c19_roundtrip_within_limit C11.c11_env_ok C11.exS (by decide) 100 C11.exV [9, 9] (by decide) (by decide)
example : ∃ e, readLimited Irregular.env 45 C11.exS (enc Irregular.env C11.exS C11.exV ++ [9, 9]) = .error e :=
  c19_overlimit_rejected C11.c11_env_ok C11.exS (by decide) 45 C11.exV [9, 9] (by decide) (by decide)

/-- size bound from the per-field limits, as a Bool the kernel can evaluate -/
def fitsB (B : Limits) (s : Sch) (extra lim : Nat) : Bool :=
  match maxSize B s with
  | some m => decide (m + extra ≤ lim)
  | none => false

theorem fitsB_bound {E : Env} {B : Limits} {s : Sch} {extra lim : Nat} (h : fitsB B s extra lim = true)
    (v : Val) (hc : Canon E s v) (hw : within B s v = true) : (enc E s v).length + extra ≤ lim := by
  unfold fitsB at h
  split at h
  · rename_i m hm
    exact Nat.le_trans (Nat.add_le_add_right (maxSize_bound E B s m v hm hc hw) _) (of_decide_eq_true h)
  · cases h

theorem fits_request {E : Env} (B : Limits) (s : Sch) (lim : Nat) (h : fitsB B s 0 lim = true)
    (v : Val) (hc : Canon E s v) (hw : within B s v = true) : (enc E s v).length ≤ lim :=
  fitsB_bound h v hc hw

theorem respObj_length (E : Env) (s : Sch) (v : Val) :
    (rhp4WriteResponse E s (respObj v)).length = 1 + (enc E s v).length := by
  show (leBytes 1 0 ++ enc E s v).length = _
  rw [List.length_append]; rfl

theorem fits_response {E : Env} (B : Limits) (s : Sch) (maxLen : Nat)
    (h : fitsB B s 1 (rhp4RespLimit maxLen) = true)
    (v : Val) (hc : Canon E s v) (hw : within B s v = true) :
    (rhp4WriteResponse E s (respObj v)).length ≤ rhp4RespLimit maxLen := by
  rw [respObj_length, Nat.add_comm]
  exact fitsB_bound h v hc hw

theorem rhp4RespCodec_ok {E : Env} (hE : EnvOK E) (s : Sch) (hwf : s.wf E = true) :
    CodecOK (rhp4RespCodec E s) :=
  tagged_ok <| tagsOK_cons (ofSch_ok hE s hwf) <|
    tagsOK_cons (ofSch_ok hE _ (by simp [rhp4ErrSch, encSchema_Rhp4_RPCError, Sch.wf])) tagsOK_nil

/-- a response object that fits `RPCError.maxLen() + o.maxLen()` (flag byte included) is
read back as that object -/
theorem c19_response_roundtrip {E : Env} (hE : EnvOK E) (s : Sch) (hwf : s.wf E = true)
    (maxLen : Nat) (v : Val) (rest : Bytes) (hc : Canon E s v)
    (hfit : 1 + (enc E s v).length ≤ rhp4RespLimit maxLen) :
    rhp4ReadResponse E s maxLen (rhp4WriteResponse E s (respObj v) ++ rest) =
      .ok (respObj v, 1 + (enc E s v).length) := by
  rw [← respObj_length]
  exact readLimitedC_roundtrip (rhp4RespCodec_ok hE s hwf) (rhp4RespLimit maxLen) (respObj v) rest
    hc (respObj_length E s v ▸ hfit)

theorem rpcError_canon (E : Env) (code : Nat) (desc : Bytes) (hcode : code < 256) (hd : desc.length < W64) :
    Canon E rhp4ErrSch (rpcError code desc) := by
  simp [Canon, rhp4ErrSch, encSchema_Rhp4_RPCError, rpcError, canon, Atom.codec, isNat, isBytes, hcode, hd]

theorem rpcError_resp_length (E : Env) (s : Sch) (code : Nat) (desc : Bytes) :
    (rhp4WriteResponse E s (respErr (rpcError code desc))).length = 10 + desc.length := by
  show (leBytes 1 1 ++ enc E rhp4ErrSch (rpcError code desc)).length = _
  simp [rhp4ErrSch, encSchema_Rhp4_RPCError, rpcError, enc, Atom.codec, leBytes_length, u64le_length]
  omega

/-- An `RPCError` written as a response is read back as exactly that
error — for EVERY response type — provided `10 + |description| ≤ 1024 + o.maxLen()` (flag,
code, 8-byte length prefix, text): at most 1014 description bytes when the expected response
is empty, more otherwise. -/
theorem c19_error_delivered {E : Env} (hE : EnvOK E) (s : Sch) (hwf : s.wf E = true) (maxLen : Nat)
    (code : Nat) (desc rest : Bytes) (hcode : code < 256) (hd : desc.length < W64)
    (hfit : 10 + desc.length ≤ rhp4RespLimit maxLen) :
    rhp4ReadResponse E s maxLen (rhp4WriteResponse E s (respErr (rpcError code desc)) ++ rest) =
      .ok (respErr (rpcError code desc), 10 + desc.length) := by
  rw [← rpcError_resp_length E s]
  exact readLimitedC_roundtrip (rhp4RespCodec_ok hE s hwf) (rhp4RespLimit maxLen) _ rest
    (rpcError_canon E code desc hcode hd) (rpcError_resp_length E s code desc ▸ hfit)

/-- the bound of `c19_error_delivered` is exact: one byte more and the error is lost (the
caller sees a decoding error instead of the host's error) -/
theorem c19_error_bound_exact {E : Env} (hE : EnvOK E) (s : Sch) (hwf : s.wf E = true) (maxLen : Nat)
    (code : Nat) (desc rest : Bytes) (hcode : code < 256) (hd : desc.length < W64)
    (hbig : rhp4RespLimit maxLen < 10 + desc.length) :
    ∃ e, rhp4ReadResponse E s maxLen (rhp4WriteResponse E s (respErr (rpcError code desc)) ++ rest) = .error e :=
  readLimitedC_overlimit (rhp4RespCodec_ok hE s hwf) (rhp4RespLimit maxLen) _ rest
    (rpcError_canon E code desc hcode hd) (rpcError_resp_length E s code desc ▸ hbig)

/-- 1014 description bytes reach the caller even when the expected response is empty -/
example (desc : Bytes) (h : desc.length ≤ 1014) : 10 + desc.length ≤ rhp4RespLimit 0 := by
  simp [rhp4RespLimit, Framing.rhp4_maxLen_RPCError]; omega

/-! ### `RPCFreeSectorsResponse` (candidate F12): exact size, and when it stops fitting -/

/-- a response with `a` old subtree hashes and `b` old leaf hashes -/
def freeSectorsResp (a b : List Val) (root : Val) : Val :=
  .pair (.list a) (.pair (.list b) (.pair root .unit))

theorem encList_const_length {g : Val → Bytes} {k : Nat} (vs : List Val)
    (h : ∀ v ∈ vs, (g v).length = k) : (encList g vs).length = k * vs.length :=
  Nat.mul_comm .. ▸ Nat.le_antisymm (encList_length_le vs fun v hv => Nat.le_of_eq (h v hv))
    (encList_length_ge vs fun v hv => Nat.le_of_eq (h v hv).symm)

theorem fixed_enc_length (lim n : Nat) (v : Val) (h : (Atom.codec lim (.fixed n)).canon v = true) :
    ((Atom.codec lim (.fixed n)).enc v).length = n := by
  obtain ⟨b, rfl, hb⟩ := (isBytes_iff fun _ => beq_iff_eq).mp h
  exact hb

/-- The message is exactly `32·(a + b) + 48` bytes
(`a + b` = `DiffProofSize` hashes + freed leaves), 49 with the response flag. -/
theorem c19_size_RPCFreeSectorsResponse (E : Env) (a b : List Val) (root : Val)
    (hc : Canon E encSchema_Rhp4_RPCFreeSectorsResponse (freeSectorsResp a b root)) :
    (enc E encSchema_Rhp4_RPCFreeSectorsResponse (freeSectorsResp a b root)).length =
      32 * (a.length + b.length) + 48 := by
  simp only [Canon, encSchema_Rhp4_RPCFreeSectorsResponse, encSchema_Types_Hash256, freeSectorsResp, canon,
    Bool.and_eq_true, decide_eq_true_eq, List.all_eq_true] at hc
  obtain ⟨⟨_, ha⟩, ⟨_, hb⟩, hr, _⟩ := hc
  simp only [encSchema_Rhp4_RPCFreeSectorsResponse, encSchema_Types_Hash256, freeSectorsResp, enc,
    List.length_append, u64le_length, List.length_nil]
  rw [encList_const_length a (fun v hv => fixed_enc_length E.lim 32 v (ha v hv)),
    encList_const_length b (fun v hv => fixed_enc_length E.lim 32 v (hb v hv)),
    fixed_enc_length E.lim 32 root hr]
  omega

/-- It fits what `ReadResponse` allows
(`1024 + 20 MiB`) exactly when `a + b ≤ 655 390`; beyond that the renter's `ReadResponse`
fails (`c19_overlimit_rejected`). A request that `Validate` accepts frees up to
`MaxSectorBatchSize = 262 144` sectors, for which a contract of 4 TiB with scattered indices
already needs more hashes than that (harness: `c19-maxlen-too-small:rhp4.RPCFreeSectorsResponse`). -/
theorem c19_fits_RPCFreeSectorsResponse_iff (E : Env) (a b : List Val) (root : Val)
    (hc : Canon E encSchema_Rhp4_RPCFreeSectorsResponse (freeSectorsResp a b root)) :
    (rhp4WriteResponse E encSchema_Rhp4_RPCFreeSectorsResponse (respObj (freeSectorsResp a b root))).length
        ≤ rhp4RespLimit Framing.rhp4_maxLen_RPCFreeSectorsResponse
      ↔ a.length + b.length ≤ 655390 := by
  rw [respObj_length, c19_size_RPCFreeSectorsResponse E a b root hc]
  simp only [rhp4RespLimit, Framing.rhp4_maxLen_RPCError, Framing.rhp4_maxLen_RPCFreeSectorsResponse]
  omega

/-- `RPCSendHeaders` response: with at most `Max` headers (what was asked for) it fits the
limit computed from the request, `8 + Max·80 + 8`, exactly -/
theorem c19_gateway_fits_RPCSendHeaders_Response (rMax : Nat) (v : Val)
    (hc : Canon Irregular.env encSchema_Gateway_RPCSendHeaders_Response v)
    (hw : within [("Headers", some rMax), ("Remaining", none)] encSchema_Gateway_RPCSendHeaders_Response v = true) :
    (enc Irregular.env encSchema_Gateway_RPCSendHeaders_Response v).length ≤ Framing.gw_maxLen_RPCSendHeaders_Response rMax := by
  have hm : maxSize [("Headers", some rMax), ("Remaining", none)] encSchema_Gateway_RPCSendHeaders_Response
      = some (8 + rMax * 80 + (8 + 0)) := by
    simp [maxSize, maxSizeIn, optAdd, optMul, encSchema_Gateway_RPCSendHeaders_Response, encSchema_Types_BlockHeader,
      encSchema_Types_BlockID, encSchema_Types_Hash256]
  have := maxSize_bound Irregular.env _ _ _ v hm hc hw
  simp only [Framing.gw_maxLen_RPCSendHeaders_Response]; omega

/-- a zero limit reads nothing (`ReadRequest`/`ReadResponse` return at once) -/
theorem c19_gateway_empty_reads_nothing (E : Env) (s : Sch) (stream : Bytes) :
    gwRead E s 0 stream = .ok (.unit, 0) := rfl

/-- the v1 framing of the handshake: the 8-byte prefix is written, read and ignored; a payload
within `maxLen` is read back, pulling `8 + |payload|` bytes -/
theorem c19_gateway_v1_roundtrip {E : Env} (hE : EnvOK E) (s : Sch) (hwf : s.wf E = true)
    (maxLen : Nat) (v : Val) (rest : Bytes) (hc : Canon E s v) (hl : (enc E s v).length < W64)
    (hfit : (enc E s v).length ≤ maxLen) :
    gwV1Read E s maxLen (gwV1Write (enc E s v) ++ rest) =
      .ok (.pair (.nat (enc E s v).length) (.pair v .unit), 8 + (enc E s v).length) := by
  have hwf' : (Sch.cons "prefix" .u64 (.cons "payload" s .nil)).wf E = true := by simp [Sch.wf, hwf]
  have hc' : Canon E (.cons "prefix" .u64 (.cons "payload" s .nil)) (.pair (.nat (enc E s v).length) (.pair v .unit)) := by
    simp [Canon, canon, Atom.codec, isNat, hl]; exact hc
  have he : enc E (.cons "prefix" .u64 (.cons "payload" s .nil)) (.pair (.nat (enc E s v).length) (.pair v .unit))
      = gwV1Write (enc E s v) := by simp [enc, Atom.codec, gwV1Write]
  have h := c19_roundtrip_within_limit hE _ hwf' (8 + maxLen) _ rest hc' (by rw [he]; simp [gwV1Write, u64le_length]; omega)
  rw [he] at h
  simp only [gwV1Read]; rw [h]; simp [gwV1Write, u64le_length]

/-- the conditions of the model's `validateHeader` are the ones in the code -/
theorem tie_gateway_validateHeader : Framing.gw_validateHeader =
    [("theirs.GenesisID != ours.GenesisID", "peer has different genesis block"),
     ("theirs.UniqueID == ours.UniqueID", "peer has same unique ID as us")] := rfl

theorem validateHeader_accept (ours theirs : Header) :
    validateHeader ours theirs = .accept ↔ theirs.genesis = ours.genesis ∧ theirs.unique ≠ ours.unique := by
  unfold validateHeader
  split
  · rename_i h; exact ⟨nofun, fun h' => absurd h'.1 h⟩
  · rename_i h
    split
    · rename_i h'; exact ⟨nofun, fun h'' => absurd h' h''.2⟩
    · rename_i h'; exact ⟨fun _ => ⟨Decidable.not_not.mp h, h'⟩, fun _ => rfl⟩

/-- The handshake succeeds on both sides iff the genesis
ids agree and the unique ids differ; otherwise BOTH sides fail (the acceptor tells the
dialer why). This is the header decision (`validateHeader`); that `readHeader` can still fail
afterwards on an unparseable `NetAddress`, and the version exchange, are not modelled. -/
theorem c19_handshake_rejects_mismatch (d a : Header) :
    (handshake d a = (.accept, .accept) ↔ (d.genesis = a.genesis ∧ d.unique ≠ a.unique)) ∧
    (¬ (d.genesis = a.genesis ∧ d.unique ≠ a.unique) →
      (handshake d a).1 ≠ .accept ∧ (handshake d a).2 ≠ .accept) := by
  unfold handshake
  by_cases h : d.genesis = a.genesis ∧ d.unique ≠ a.unique
  · -- both validations accept
    rw [(validateHeader_accept a d).mpr h, (validateHeader_accept d a).mpr ⟨h.1.symm, Ne.symm h.2⟩]
    exact ⟨⟨fun _ => h, fun _ => rfl⟩, fun h' => absurd h h'⟩
  · -- the acceptor's validation already rejects
    cases hv : validateHeader a d with
    | accept => exact absurd ((validateHeader_accept a d).mp hv) h
    | reject m => exact ⟨⟨nofun, fun h' => absurd h' h⟩, fun _ => ⟨nofun, nofun⟩⟩

example : handshake ⟨[1], [7], []⟩ ⟨[1], [8], []⟩ = (.accept, .accept) := by decide
example : (handshake ⟨[1], [7], []⟩ ⟨[2], [8], []⟩).2 = .reject "peer has different genesis block" := by decide
example : (handshake ⟨[1], [7], []⟩ ⟨[1], [7], []⟩).1 =
    .reject "peer rejected our header: peer has same unique ID as us" := by decide

/-- correctness of the AEAD (what `chacha20poly1305` guarantees functionally) -/
structure AEADOK (A : AEAD) : Prop where
  open_seal : ∀ n m, A.openF n (A.sealF n m) = some m
  seal_len : ∀ n m, (A.sealF n m).length = m.length + tagSize

/-- symbolic authenticity (a hypothesis, like `HashInj`): the only (nonce, ciphertext) pairs
that open are the ones honestly sealed in this session -/
def NoForgery (A : AEAD) (honest : List (Bytes × Bytes)) : Prop :=
  ∀ n c, A.openF n c ≠ none → (n, c) ∈ honest

/-- Whatever object one side writes (padded to `minMessageSize`
with arbitrary bytes) is exactly what the other side reads, and the session stays open. -/
theorem c19_rhp2_frame_roundtrip {A : AEAD} (hA : AEADOK A) {E : Env} (hE : EnvOK E) (s : Sch)
    (hwf : s.wf E = true) (v : Val) (hc : Canon E s v) (nonce padding rest : Bytes) (maxLen : Nat)
    (hn : nonce.length = nonceSize)
    (hfit : nonceSize + ((enc E s v).length + padding.length) + tagSize ≤ max maxLen Framing.rhp2_minMessageSize)
    (h64 : nonceSize + ((enc E s v).length + padding.length) + tagSize < W64) :
    rhp2ReadMessage A E s none maxLen (rhp2Frame A nonce (enc E s v) padding ++ rest) = (.ok (v, rest), none) := by
  have hbody : (nonce ++ A.sealF nonce (enc E s v ++ padding)).length =
      nonceSize + ((enc E s v).length + padding.length) + tagSize := by
    simp [hA.seal_len, hn]; omega
  simp only [rhp2ReadMessage, rhp2ReadFrame, rhp2Frame, List.append_assoc]
  rw [readU64_append (by rw [hbody]; exact h64)]
  simp only
  rw [if_neg (by rw [hbody]; omega), if_neg (by rw [hbody]; omega)]
  rw [show nonce ++ (A.sealF nonce (enc E s v ++ padding) ++ rest) =
      (nonce ++ A.sealF nonce (enc E s v ++ padding)) ++ rest by simp, takeN_append]
  simp only
  rw [show (nonce ++ A.sealF nonce (enc E s v ++ padding)).take nonceSize = nonce by
        rw [← hn]; simp,
      show (nonce ++ A.sealF nonce (enc E s v ++ padding)).drop nonceSize = A.sealF nonce (enc E s v ++ padding) by
        rw [← hn]; simp,
      hA.open_seal]
  simp only
  rw [C11.c11_roundtrip hE 0 s hwf v padding hc]

/-- the padding rule: a frame is padded up to `minMessageSize` and never truncated — its total
size is `max(4096, 8 + 12 + |payload| + 16)`; in particular for unsealed sizes 4081…4095
(payloads of 4061…4075 bytes) the padding is 0 and the frame is 4097…4111 bytes, with the
WHOLE payload sealed (`c19_rhp2_frame_roundtrip` holds for every size). -/
theorem c19_rhp2_frame_size {A : AEAD} (hA : AEADOK A) (nonce payload : Bytes) (hn : nonce.length = nonceSize) :
    (rhp2Frame A nonce payload (List.replicate (rhp2PadLen payload.length) 0)).length =
      max Framing.rhp2_minMessageSize (8 + nonceSize + payload.length + tagSize) := by
  simp only [rhp2Frame, List.length_append, u64le_length, hA.seal_len, hn, List.length_replicate, rhp2PadLen,
    Framing.rhp2_minMessageSize, nonceSize, tagSize]
  omega

example : rhp2PadLen 4060 = 0 ∧ rhp2PadLen 4061 = 0 ∧ rhp2PadLen 4075 = 0 ∧ rhp2PadLen 4059 = 1 ∧ rhp2PadLen 100 = 3960 := by decide

/-- If a read delivers a message at all, the bytes on the wire
were exactly a genuine frame of this session — so ANY modification of length, nonce,
ciphertext or tag of a frame in transit makes the read fail. Stated for a session in which
this one frame has been sealed (`hforge` lists it alone). -/
theorem c19_rhp2_tamper_detected {A : AEAD} (hA : AEADOK A) (nonce payload padding : Bytes)
    (hforge : NoForgery A [(nonce, A.sealF nonce (payload ++ padding))])
    (hn : nonce.length = nonceSize)
    (st : Rhp2State) (maxLen : Nat) (stream pt rest : Bytes) (st' : Rhp2State)
    (h : rhp2ReadFrame A st maxLen stream = (.msg pt rest, st')) :
    stream = rhp2Frame A nonce payload padding ++ rest ∧ pt = payload ++ padding ∧ st = none ∧ st' = none := by
  unfold rhp2ReadFrame at h
  split at h
  · simp at h
  · simp only at h
    split at h
    · simp at h
    · rename_i n r h1
      obtain ⟨hb, hn64⟩ := readU64_ok h1
      split at h
      · simp at h
      · split at h
        · simp at h
        · split at h
          · simp at h
          · rename_i body rest' h2
            obtain ⟨hb2, hl⟩ := takeN_ok h2
            split at h
            · simp at h
            · rename_i pt' h3
              have hmem := hforge (body.take nonceSize) (body.drop nonceSize) (by rw [h3]; simp)
              simp only [List.mem_singleton, Prod.mk.injEq] at hmem
              have hbody : body = nonce ++ A.sealF nonce (payload ++ padding) := by
                rw [← List.take_append_drop nonceSize body, hmem.1, hmem.2]
              rw [hmem.1, hmem.2, hA.open_seal] at h3
              injection h3 with h3
              simp only [Prod.mk.injEq, Rhp2Out.msg.injEq] at h
              obtain ⟨⟨hpt, hrest⟩, hst⟩ := h
              refine ⟨?_, by rw [← hpt, ← h3], rfl, hst.symm⟩
              rw [hb, hb2, ← hl, hbody, ← hrest]
              simp [rhp2Frame]

/-- after an authentication failure the session is closed for good: the sticky error is set
and every later read (and write, in the code) fails without touching the stream -/
theorem c19_rhp2_sticky (A : AEAD) (e : DecErr) (maxLen : Nat) (stream : Bytes) :
    rhp2ReadFrame A (some e) maxLen stream = (.fail false, some e) := rfl

/-- which failures close the session: an AEAD failure does (`setErr`), a refused length or a
short read does not set the sticky error (the caller is expected to drop the connection) -/
theorem c19_rhp2_fatal_iff_sticky (A : AEAD) (maxLen : Nat) (stream : Bytes) (fatal : Bool) (st' : Rhp2State)
    (h : rhp2ReadFrame A none maxLen stream = (.fail fatal, st')) :
    (fatal = true ↔ st' ≠ none) := by
  unfold rhp2ReadFrame at h
  simp only at h
  split at h
  · simp at h; obtain ⟨h1, h2⟩ := h; subst h1; subst h2; simp
  · split at h
    · simp at h; obtain ⟨h1, h2⟩ := h; subst h1; subst h2; simp
    · split at h
      · simp at h; obtain ⟨h1, h2⟩ := h; subst h1; subst h2; simp
      · split at h
        · simp at h; obtain ⟨h1, h2⟩ := h; subst h1; subst h2; simp
        · split at h
          · simp at h; obtain ⟨h1, h2⟩ := h; subst h1; subst h2; simp
          · simp at h

/-- a model of the hypotheses: the "identity cipher with a 16-byte zero tag" satisfies `AEADOK`
(authenticity is a hypothesis about the real cipher and has, of course, no such toy model) -/
def toyAEAD : AEAD :=
  { sealF := fun _ m => m ++ List.replicate 16 0
    openF := fun _ c => if c.length < 16 then none else some (c.take (c.length - 16)) }
example : AEADOK toyAEAD := by
  constructor
  · intro n m; simp [toyAEAD]
  · intro n m; simp [toyAEAD, tagSize]

theorem rhp3WriteObject_length (E : Env) (s : Sch) (r : Val) :
    (rhp3WriteObject E s r 0).length = 8 + ((rhp4RespCodec E s).enc r).length := by
  show (u64le _ ++ _).length = _
  rw [List.length_append, u64le_length]

theorem rhp3ReadObject_write {E : Env} (hE : EnvOK E) (s : Sch) (hwf : s.wf E = true)
    (maxLen : Nat) (r : Val) (rest : Bytes) (hc : (rhp4RespCodec E s).canon r = true)
    (hfit : 8 + ((rhp4RespCodec E s).enc r).length ≤ rhp3Limit maxLen)
    (hlen : ((rhp4RespCodec E s).enc r).length < W64) :
    rhp3ReadObject E s maxLen (rhp3WriteObject E s r 0 ++ rest) = .ok (r, (rhp3WriteObject E s r 0).length) := by
  have hw := rhp3WriteObject_length E s r
  simp only [rhp3ReadObject]
  rw [take_append_le (by rw [hw]; exact hfit), hw]
  simp only [rhp3WriteObject, Nat.sub_zero, List.append_assoc]
  rw [readU64_append hlen]
  simp only
  rw [if_neg (by omega)]
  rw [(rhp4RespCodec_ok hE s hwf).roundtrip false _ r _ hc]
  simp only [List.length_append, u64le_length, Nat.add_sub_cancel, ← Nat.add_assoc]

/-- For every object sent whole (`tail = 0`) the
length `writeObject` announces is the number of bytes that follow, and `readObject` with limit
`maxLen + 1024` reads it back when `8 + that ≤ maxLen + 1024`.
GAP (why `_partial`): the `ExecuteProgram` exception (`ProgramData` / `Output` are sent outside
the announced length and read by separate calls) and the subscription-response prefix are not
modelled; the transport below (`mux`) is exercised by the harness only. -/
theorem c19_rhp3_length_accounting_partial {E : Env} (hE : EnvOK E) (s : Sch) (hwf : s.wf E = true)
    (maxLen : Nat) (r : Val) (rest : Bytes) (hc : (rhp4RespCodec E s).canon r = true)
    (hfit : 8 + ((rhp4RespCodec E s).enc r).length ≤ rhp3Limit maxLen)
    (hlen : ((rhp4RespCodec E s).enc r).length < W64) :
    (rhp3WriteObject E s r 0).take 8 = u64le ((rhp4RespCodec E s).enc r).length ∧
    rhp3ReadObject E s maxLen (rhp3WriteObject E s r 0 ++ rest) =
      .ok (r, 8 + ((rhp4RespCodec E s).enc r).length) := by
  constructor
  · exact (u64le_length _ ▸ List.take_left : (u64le _ ++ _).take 8 = _)
  · rw [rhp3ReadObject_write hE s hwf maxLen r rest hc hfit hlen, rhp3WriteObject_length]

theorem rhp3Sub_read {E : Env} (hE : EnvOK E) (rest : Bytes) :
    readLimited E Framing.rhp3_minMessageSize rhp3SubSch (rhp3SubFrame ++ rest) =
      .ok (.pair (.nat 12) (.pair (.bytes rhp3Subscriber) .unit), rhp3SubFrame.length) :=
  c19_roundtrip_within_limit hE rhp3SubSch rfl Framing.rhp3_minMessageSize
    (.pair (.nat 12) (.pair (.bytes rhp3Subscriber) .unit)) rest rfl (by show 20 ≤ 1024; decide)

/-- one RPC (subscription frame, id, request) written by `WriteRequest` is read back by the
host's `ReadID` + `ReadRequest`, leaving exactly the rest of the stream -/
theorem rhp3_rpc_roundtrip {E : Env} (hE : EnvOK E) (s : Sch) (hwf : s.wf E = true) (maxLen : Nat)
    (id req : Val) (rest : Bytes) (hid : Canon E rhp3IdSch id) (hreq : Canon E s req)
    (hfit : 9 + (enc E s req).length ≤ rhp3Limit maxLen) (hlen : 1 + (enc E s req).length < W64) :
    rhp3HostReadRPC E s maxLen (rhp3WriteRPC E s id req ++ rest) = .ok ((id, req), rest) := by
  have hidl : ((rhp4RespCodec E rhp3IdSch).enc (respObj id)).length = 17 :=
    (respObj_length E rhp3IdSch id).trans (congrArg (1 + ·) (fixed_enc_length E.lim 16 id hid))
  have hidr := rhp3ReadObject_write hE rhp3IdSch rfl 16 (respObj id)
    (rhp3WriteObject E s (respObj req) 0 ++ rest) hid (by rw [hidl]; decide) (by rw [hidl]; decide)
  have hrl : ((rhp4RespCodec E s).enc (respObj req)).length = 1 + (enc E s req).length :=
    respObj_length E s req
  have hrr := rhp3ReadObject_write hE s hwf maxLen (respObj req) rest hreq
    (by rw [hrl]; omega) (by rw [hrl]; exact hlen)
  simp only [respObj] at hidr hrr
  simp only [rhp3HostReadRPC, rhp3WriteRPC, List.append_assoc, respObj]
  rw [rhp3Sub_read hE]
  simp only []
  rw [if_neg (fun h => h rfl), List.drop_left, hidr]
  simp only []
  rw [List.drop_left, hrr]
  simp only []
  rw [List.drop_left]

/-- `k` RPCs written one after the other on ONE rhp/v3 stream
(each with its own subscription frame, as `WriteRequest` does) are read back by the host as the
same `k` (id, request) pairs, in order, leaving the rest of the stream — over a symbolic mux
(an ordered, lossless byte stream). A writer that sent the subscription frame only once would
not satisfy this: the host's `ReadID` expects one before EVERY id. -/
theorem c19_rhp3_sequence_roundtrip {E : Env} (hE : EnvOK E) (s : Sch) (hwf : s.wf E = true) (maxLen : Nat)
    (rpcs : List (Val × Val)) (rest : Bytes)
    (h : ∀ r ∈ rpcs, Canon E rhp3IdSch r.1 ∧ Canon E s r.2 ∧
      9 + (enc E s r.2).length ≤ rhp3Limit maxLen ∧ 1 + (enc E s r.2).length < W64) :
    rhp3HostReadSeq E s maxLen rpcs.length (rhp3WriteSeq E s rpcs ++ rest) = .ok (rpcs, rest) := by
  induction rpcs with
  | nil => rfl
  | cons r rs ih =>
    obtain ⟨id, req⟩ := r
    obtain ⟨h1, h2, h3, h4⟩ := h (id, req) (by simp)
    simp only [List.length_cons, rhp3HostReadSeq, rhp3WriteSeq, List.append_assoc]
    rw [rhp3_rpc_roundtrip hE s hwf maxLen id req _ h1 h2 h3 h4]
    simp only
    rw [ih (fun r hr => h r (by simp [hr]))]

/-- the second RPC of a stream without its own subscription frame is NOT read back: the host
takes the id object's length prefix for the subscription frame (model of the seeded defect) -/
example : rhp3HostReadRPC Env.default (.fixed 1) 100
    (rhp3WriteObject Env.default rhp3IdSch (respObj (.bytes (List.replicate 16 7))) 0 ++
      rhp3WriteObject Env.default (.fixed 1) (respObj (.bytes [9])) 0) = .error .invalid := rfl

/-! ## ties: the constants and limit expressions the model uses are the ones in the code -/

theorem tie_rhp4_read_limits :
    Framing.rhp4_ReadRequestLimit = "o.maxLen()" ∧
    Framing.rhp4_ReadResponseLimit = "(*RPCError)(nil).maxLen() + o.maxLen()" := by constructor <;> rfl

/-- the protocol limits that `Limits` / `within` (C19Fits) stand for are the ones `Validate` enforces -/
theorem tie_rhp4_validate_bounds : Framing.rhp4_validateBounds = [
    ("RPCAppendSectorsRequest", "uint64(len(req.Sectors))", "MaxSectorBatchSize"),
    ("RPCAttachPoolsRequest", "uint64(len(req.Attachments))", "MaxAccountBatchSize"),
    ("RPCDetachPoolsRequest", "uint64(len(req.Detachments))", "MaxAccountBatchSize"),
    ("RPCFreeSectorsRequest", "uint64(len(req.Indices))", "MaxSectorBatchSize"),
    ("RPCFundAccountsRequest", "len(req.Deposits)", "MaxAccountBatchSize"),
    ("RPCReadSectorRequest", "req.Offset", "SectorSize"),
    ("RPCReplenishAccountsRequest", "len(req.Accounts)", "MaxAccountBatchSize"),
    ("RPCSectorRootsRequest", "req.Length", "MaxSectorBatchSize"),
    ("RPCWriteSectorRequest", "req.DataLength", "SectorSize")] := rfl

theorem tie_rhp4_constants :
    Framing.rhp4_SectorSize = 4194304 ∧ Framing.rhp4_MaxSectorBatchSize = 262144 ∧
    Framing.rhp4_MaxAccountBatchSize = 1000 ∧ Framing.rhp4_maxLen_RPCError = 1024 ∧
    Framing.rhp4_reasonableObjectSize = 10240 ∧ Framing.rhp4_reasonableTransactionSetSize = 102400 := by decide

/-- the generated `rhp4_sizeof*` (`Sch.zeroSize` of the generated schema, standing for
`sizeof(T{})` of the code) evaluate to these numbers; no statement relates `Sch.zeroSize` to `enc` -/
theorem tie_rhp4_sizeof :
    Framing.rhp4_sizeofCurrency = 16 ∧ Framing.rhp4_sizeofHash = 32 ∧ Framing.rhp4_sizeofSignature = 64 ∧
    Framing.rhp4_sizeofContract = 392 ∧ Framing.rhp4_sizeofPrices = 176 ∧ Framing.rhp4_sizeofAccount = 32 ∧
    Framing.rhp4_sizeofAccountToken = 136 ∧ Framing.rhp4_sizeofAccountDeposit = 48 ∧
    Framing.rhp4_sizeofPoolAttachment = 136 ∧ Framing.rhp4_sizeofPoolDetachment = 136 := by decide +kernel

theorem tie_gateway_handshake_limits :
    Framing.gw_handshakeLimits = [("writeHeader", 128), ("readHeader", 168), ("Dial", 128), ("Accept", 128)] := rfl

theorem tie_min_message_sizes : Framing.rhp2_minMessageSize = 4096 ∧ Framing.rhp3_minMessageSize = 1024 := by decide

theorem tie_rhp2_read_checks : Framing.rhp2_readMessageChecks =
    ["msgSize > maxLen", "msgSize < uint64(t.aead.NonceSize()+t.aead.Overhead())"] := rfl

theorem tie_rhp3_read_checks : Framing.rhp3_readObjectChecks = ["maxLen += minMessageSize", "uint64(l) > maxLen"] := rfl

end C19
