import SiaProofs.Props.C10Ledger
import SiaProofs.Lemmas.LedgerWeakInv
import SiaProofs.Lemmas.LedgerPoolSolv
import SiaProofs.Props.C01
/-!
# C10 on the ledger model, whole blocks: `validateBlock` never panics

The theorem is `c10_validate_no_panic_legacy`: the element-wise `WeakInv` suffices, with no window hypothesis (the
pool additions are bounded by the pre-checks `validateTaxPool` / `validateV2TaxPool`), and an accepted block keeps it
(`c10_weakinv_preserved`).
`c10_validate_no_panic` is its instance for well-formed `Solvent` ledgers, which `c10_solvent_preserved` shows to be
kept by blocks that leave room for the scheduled issuance.

Built on the C01 mid-state invariant (`Lemmas/LedgerInv.lean`), on `Lemmas/LedgerWeakInv.lean` and on the
check-by-check no-panic lemmas of `C10Ledger.lean`.
-/
namespace C10
open Sia.Ledger C08 C01

/-- the totals validation adds up for *genuine* v2 parents are representable -/
def GenuineBound2 (ms : Mid) : Prop :=
  ∀ e : Fc2Elem, ms.isSpent e.id = false → ms.base.hasFc2 e = true →
    (ms.curFc2 e).renter.value + (ms.curFc2 e).host.value < curLimit ∧ e.fc.renter.value + e.fc.host.value < curLimit

theorem fileContractTax_le (L : Ledger) (p : Cur) : fileContractTax L p ≤ p := by
  unfold fileContractTax
  simp only []
  have h1 : p * taxNum / taxDen ≤ p := by
    apply Nat.div_le_of_le_mul
    rw [Nat.mul_comm taxDen p]
    exact Nat.mul_le_mul_left p (by decide)
  have h2 : p * 39 / 1000 ≤ p := by
    apply Nat.div_le_of_le_mul
    rw [Nat.mul_comm 1000 p]
    exact Nat.mul_le_mul_left p (by decide)
  split
  · exact Nat.le_trans (Nat.mod_le _ _) (Nat.le_trans (Nat.sub_le _ _) h1)
  · exact Nat.le_trans (Nat.mod_le _ _) (Nat.le_trans (Nat.sub_le _ _) h2)

/-- the sums validation adds up for *genuine* v1 parents are representable -/
def GenuineBound1 (ms : Mid) (supp : Supp1) : Prop :=
  ∀ id p, ms.isSpent id = false → ms.fc1Element supp id = some p →
    sumVals p.fc.valid < curLimit ∧ sumVals p.fc.missed < curLimit

theorem sumOuts_eq_ok (l : List ScOut) (h : sumVals l < curLimit) : sumOuts l = .ok (sumVals l) :=
  (sumOuts_ok_iff l _).2 ⟨rfl, h⟩

theorem fc1FormStep_noPanic (ms : Mid) (fc : Fc1) (hb : fc.payout + sumVals fc.valid + sumVals fc.missed < curLimit) :
    NoPanic (fc1FormStep ms fc) := by
  have h1 : sumVals fc.valid < curLimit := by cur_omega
  have h2 : sumVals fc.missed < curLimit := by cur_omega
  have h3 : sumVals fc.valid + fileContractTax ms.base fc.payout < curLimit := by
    have := fileContractTax_le ms.base fc.payout; cur_omega
  unfold fc1FormStep
  refine ite_reject_noPanic _ _ _ (ite_reject_noPanic _ _ _ ?_)
  rw [sumOuts_eq_ok _ h1, sumOuts_eq_ok _ h2]
  refine ite_reject_noPanic _ _ _ ?_
  rw [addC_eq_ok h3]
  exact ite_reject_noPanic _ _ _ (noPanic_pure _)

theorem rev1ParentCheck_noPanic (ms : Mid) (r : Rev1) (p : Fc1Elem)
    (hr : sumVals r.fc.valid + sumVals r.fc.missed < curLimit)
    (hp : sumVals p.fc.valid < curLimit ∧ sumVals p.fc.missed < curLimit) : NoPanic (rev1ParentCheck ms r p) := by
  have h1 : sumVals r.fc.valid < curLimit := by cur_omega
  have h2 : sumVals r.fc.missed < curLimit := by cur_omega
  unfold rev1ParentCheck
  refine ite_reject_noPanic _ _ _ (ite_reject_noPanic _ _ _ (ite_reject_noPanic _ _ _ ?_))
  rw [sumOuts_eq_ok _ h1, sumOuts_eq_ok _ hp.1]
  refine ite_reject_noPanic _ _ _ ?_
  rw [sumOuts_eq_ok _ h2, sumOuts_eq_ok _ hp.2]
  exact ite_reject_noPanic _ _ _ (noPanic_pure _)

theorem rev1Step_noPanic (ms : Mid) (t : Txn1) (r : Rev1) (hr : sumVals r.fc.valid + sumVals r.fc.missed < curLimit)
    (hG : GenuineBound1 ms t.supp) : NoPanic (rev1Step ms t r) := by
  unfold rev1Step
  refine ite_reject_noPanic _ _ _ (ite_reject_noPanic _ _ _ (ite_reject_noPanic _ _ _ ?_))
  by_cases hsp : ms.isSpent r.parent = true
  · rw [if_pos hsp]; exact noPanic_reject _
  · rw [if_neg hsp]
    cases hp : ms.fc1Element t.supp r.parent with
    | none => exact noPanic_reject _
    | some p => exact rev1ParentCheck_noPanic ms r p hr (hG r.parent p (by simpa using hsp) hp)

theorem proof1Step_noPanic (ms : Mid) (t : Txn1) (pid : Id) (sp : Proof1) : NoPanic (proof1Step ms t pid sp) := by
  unfold proof1Step
  refine ite_reject_noPanic _ _ _ ?_
  cases ms.fc1Element t.supp sp.parent with
  | none => exact noPanic_reject _
  | some e =>
    cases ms.windowId t.supp sp.parent pid with
    | none => exact noPanic_reject _
    | some w => simp only []; split <;> simp

theorem v1_contracts_noPanic (ms : Mid) (t : Txn1) (pid : Id) (hov : validateCurrencyOverflow t = .ok ())
    (hG : GenuineBound1 ms t.supp) : NoPanic (validateFileContracts ms t pid) := by
  obtain ⟨hb1, hb2⟩ := v1_overflow_bounds hov
  rw [validateFileContracts_eq]
  refine bind_noPanic (forIn_step_noPanic_on _ _ (fun x hx => fc1FormStep_noPanic ms x.2 (hb1 x hx))) (fun _ _ => ?_)
  refine bind_noPanic (forIn_step_noPanic_on _ _ (fun r hr => rev1Step_noPanic ms t r (hb2 r hr) hG)) (fun _ _ => ?_)
  refine ite_reject_noPanic _ _ _ (ite_reject_noPanic _ _ _ ?_)
  exact bind_noPanic (forIn_step_noPanic _ (proof1Step_noPanic ms t pid) _) (fun _ _ => noPanic_pure _)
theorem v1_transaction_noPanic (ms : Mid) (t : Txn1) (pid : Id) (mw : Nat) (hG : GenuineBound1 ms t.supp) :
    NoPanic (validateTransaction ms t pid mw) := by
  rw [validateTransaction_eq]; unfold v1TxnChecks
  split
  · simp
  refine bind_noPanic (validateCurrencyOverflow_noPanic t) (fun u hov => ?_)
  cases u
  refine bind_noPanic (validateTaxPool_noPanic ms t) (fun _ _ => ?_)
  split
  · simp
  refine bind_noPanic (validateMinimumValues_noPanic t) (fun _ _ => ?_)
  refine bind_noPanic (c10_v1_siacoins_no_panic ms t hov) (fun _ _ => ?_)
  refine bind_noPanic (validateSiafunds_noPanic ms t) (fun _ _ => ?_)
  refine bind_noPanic (v1_contracts_noPanic ms t pid hov hG) (fun _ _ => ?_)
  refine bind_noPanic (validateArbitraryData_noPanic ms t) (fun _ _ => ?_)
  exact validateSignatures_noPanic t

theorem le_sum_map_of_mem {α} (l : List α) (f : α → Nat) {x : α} (hx : x ∈ l) : f x ≤ (l.map f).sum := by
  induction l with
  | nil => cases hx
  | cons a l ih =>
    simp only [List.map_cons, List.sum_cons]
    rcases List.mem_cons.1 hx with rfl | h
    · omega
    · have := ih h; omega

theorem fc2_val_le_V {L : Ledger} {e : Fc2Elem} (he : e ∈ L.fc2) : e.fc.val ≤ V L := by
  unfold V
  have := le_sum_map_of_mem L.fc2 (fun e => e.fc.val) he
  omega

theorem fc1_val_le_V {L : Ledger} {e : Fc1Elem} (he : e ∈ L.fc1) : e.fc.val ≤ V L := by
  unfold V
  have := le_sum_map_of_mem L.fc1 (fun e => e.fc.val) he
  omega

theorem fold_validate_apply {α : Type} {val : Mid → α → VM Unit} {app : Mid → α → VM Mid} {J : Mid → List α → Prop}
    (hval : ∀ ms a rest, J ms (a :: rest) → NoPanic (val ms a))
    (happ : ∀ ms a rest, J ms (a :: rest) → val ms a = .ok () → ∃ ms1, app ms a = .ok ms1 ∧ J ms1 rest) :
    ∀ (l : List α) (ms : Mid), J ms l →
      NoPanic (l.foldlM (fun s a => val s a >>= fun _ => app s a) ms) ∧
      ∀ ms', l.foldlM (fun s a => val s a >>= fun _ => app s a) ms = .ok ms' → J ms' [] := by
  intro l
  induction l with
  | nil => intro ms h; exact ⟨noPanic_pure ms, fun ms' e => by cases e; exact h⟩
  | cons a l ih =>
    intro ms h
    have next : ∀ ms1, (val ms a >>= fun _ => app ms a) = .ok ms1 → J ms1 l := by
      intro ms1 h1
      obtain ⟨_, hv, ha⟩ := bind_ok_iff.1 h1
      obtain ⟨ms1', ha', j⟩ := happ ms a l h hv
      rw [ha] at ha'; cases ha'; exact j
    rw [List.foldlM_cons]
    refine ⟨bind_noPanic (bind_noPanic (hval ms a l h) (fun _ hv => ?_)) (fun ms1 h1 => (ih ms1 (next ms1 h1)).1),
      fun ms' e => ?_⟩
    · obtain ⟨ms1, ha, _⟩ := happ ms a l h hv
      rw [ha]; intro m hm; cases hm
    · obtain ⟨ms1, h1, h2⟩ := bind_ok_iff.1 e
      exact (ih ms1 (next ms1 h1)).2 ms' h2

/-- Solvent ledger: twice the value function fits in a `Currency`, at most 10000 siafunds are live, no live siafund
output has a claim start above the pool, and outputs created by claims / resolutions / payouts are not spendable in the
block that creates them (`maturityDelay ≥ 1`).  The factor 2 (one `V L` for the pool plus the mature outputs that can
fund tax in a block, the other for the value locked in v2 contracts that renewals can roll over) and the maturity delay
are what bounding every sum of `validateBlock` by the supply takes; the no-panic theorem
needs only the element-wise consequences (`weakInv_of_wf_solvent` reads `V L < 2^128`, the siafund bound and `CsOkL`),
and `c10_solvent_preserved` re-establishes all four.  (`WF` carries `ParamsOk`.) -/
def Solvent (L : Ledger) : Prop := 2 * V L < curLimit ∧ SFtot L ≤ 10000 ∧ CsOkL L ∧ 1 ≤ L.P.maturityDelay

instance (L : Ledger) : Decidable (Solvent L) := by unfold Solvent CsOkL; exact inferInstance

/-- A block accepted by validation is applied without panic; the Foundation subsidy is computable whenever
the parameters are sane (`ParamsOk`, part of `WF`). -/
theorem c10_accepted_applies_solvent {L : Ledger} (hp : ParamsOk L.P) (b : Block) (pid : Id) (ms : Mid)
    (hv : validateBlock L b pid = .ok ms) : ∃ r, applyBlock L b = .ok r :=
  c10_accepted_applies L b pid ms hv (foundationSubsidy_ok L hp)

/-- Solvency is preserved by an accepted block that leaves room for the scheduled issuance and for the claims
the collected tax can fund. -/
theorem c10_solvent_preserved {L : Ledger} {b : Block} {pid : Id} {msv : Mid}
    (hw : WF L) (hs : Solvent L) (hf : FreshIds L b) (hfix : L.child ≥ L.P.ephemeralFix) (hnw : SfNoWrap b)
    (hcov : IdListsCover L b pid) (hv : validateBlock L b pid = .ok msv)
    (hroom : 2 * (V L + blockReward L + subsidyVal L + L.pool + b.taxSum L) < curLimit) :
    ∀ L' ms, applyBlock L b = .ok (L', ms) → Solvent L' ∧ WF L' := by
  obtain ⟨hV, hS, hcs, hmd⟩ := hs
  obtain ⟨ms, hm, hI, hb, hP, hSf, hpl, hsv, hpf⟩ := block_conserves hw hf hfix hnw hcov hv
  intro L' ms' h
  have hwf := (C01.c01_wf_preserved hw hf hfix hnw hcov hv L' ms' h).1
  unfold applyBlock at h; rw [hm] at h; cases h
  obtain ⟨c, q⟩ := hsv ((csOk_newMid L).mpr hcs)
  rw [Psi_newMid] at q
  refine ⟨⟨?_, ?_, csOkL_commit c _, by show 1 ≤ ms.base.P.maturityDelay; rw [hb]; exact hmd⟩, hwf⟩
  · rw [V_commit]
    have h1 := PsiL_le L
    have h2 : (ms.pool - L.pool) * SFtot L + SFtot L * L.pool = SFtot L * ms.pool := by
      rw [Nat.mul_comm (SFtot L) L.pool, ← Nat.add_mul, Nat.mul_comm]; congr 1; unfold Cur at *; omega
    have h3 : SFtot L * ms.pool ≤ 10000 * ms.pool := Nat.mul_le_mul_right _ hS
    generalize (ms.pool - L.pool) * SFtot L = d at *
    generalize SFtot L * L.pool = e at *
    generalize SFtot L * ms.pool = f at *
    unfold Cur at *; omega
  · rw [SF_commit, hSf]; exact hS

/-! the hypotheses are satisfiable -/

example : ∀ L' ms, applyBlock exL exB = .ok (L', ms) → Solvent L' ∧ WF L' := by
  obtain ⟨ms, hv⟩ := ex_valid
  exact c10_solvent_preserved ex_wf (by decide) ex_fresh (by decide) ex_nowrap ex_cover hv (by decide)

/-! A created siafund output id (7) equal to the id of a live siacoin element: the shared `elements` index then
makes `spendSc` overwrite another diff and a later lookup in the same transaction fails. In Go this needs a
BLAKE2b collision between a `SiafundOutputID` and a `SiacoinOutputID`. -/
def cE1 : ScElem := { id := 1, value := 100, addr := 7, maturity := 0, leaf := some 0 }
def cE7 : ScElem := { id := 7, value := 50, addr := 7, maturity := 0, leaf := some 1 }
def cS2 : SfElem := { id := 2, value := 10000, addr := 8, claimStart := 0, leaf := some 2 }
def cL : Ledger := { exL with sc := [cE1, cE7], sf := [cS2], fc1 := [], fc2 := [], pool := 0 }
def cT1 : Txn1 :=
  { scIns := [{ parent := 1, timelock := 0, ucAddr := 7 }], scOuts := [(5, { value := 100, addr := 7 })],
    fcs := [], revs := [], proofs := [], sfIns := [{ parent := 2, timelock := 0, ucAddr := 8, claimAddr := 8, claimId := 12 }],
    sfOuts := [(7, 10000, 8)], fees := [], foundation := none, sigsOk := true, weight := 1,
    supp := { scIns := [cE1], sfIns := [cS2], revised := [], proofs := [] } }
def cT2 : Txn1 :=
  { scIns := [{ parent := 7, timelock := 0, ucAddr := 7 }, { parent := 5, timelock := 0, ucAddr := 7 }],
    scOuts := [(20, { value := 150, addr := 7 })],
    fcs := [], revs := [], proofs := [], sfIns := [], sfOuts := [], fees := [], foundation := none, sigsOk := true, weight := 1,
    supp := { scIns := [cE7], sfIns := [], revised := [], proofs := [] } }
def cB : Block :=
  { txns1 := [cT1, cT2], v2 := none, payouts := [(30, { value := 30, addr := 9 })],
    foundationOutId := 31, expiring := [], headerOk := true, blockId := 99, maxWeight := 100 }

/-- without `FreshIds` the model's `validateBlock` can panic although every other hypothesis holds -/
theorem c10_collision_panics_model :
    WF cL ∧ Solvent cL ∧ cL.child ≥ cL.P.ephemeralFix ∧ SfNoWrap cB ∧ IdListsCover cL cB 98 ∧
    ¬ FreshIds cL cB ∧ validateBlock cL cB 98 = .error (.panic "missing SiacoinElement") := by
  refine ⟨⟨by decide, by decide, by decide, by decide, by unfold ParamsOk; decide⟩, by decide, by decide,
    by constructor <;> decide, ⟨by decide, by decide⟩, ?_, by rfl⟩
  intro h
  exact h.2 (Kind.sf, 7) (by decide) Kind.sc (by decide)

/-! Below `EphemeralOutputHeight` the value claimed for an ephemeral siacoin parent is not checked, so a block can
conjure 27 inputs of almost 2^128 each and form 27 contracts whose tax (1/26 of 2^128 each) would overflow
`SiafundTaxRevenue` in `createFc2` (`addC pool tax`), which `validateBlock` executes between transactions.
`validateTaxPool` / `validateV2TaxPool` (Go: commit d4a30d9 "fix: reject transactions whose contract tax overflows the
siafund pool"; C10 mutant `v2:ephemeral-inflated-contract-tax`) reject the 27th transaction. The theorem below is the
regression guard of that check: the 27-formation block is rejected, the 26-formation block accepted. -/
def bigY : Nat := (curLimit - 1) / 26 * 25
def lgFc : Fc2 :=
  { capacity := 10, filesize := 0, root := 0, proofHeight := 10, expHeight := 20,
    renter := { value := bigY, addr := 7 }, host := { value := 0, addr := 9 }, missedHost := 0,
    totalCollateral := 0, renterKey := 1, hostKey := 2, revNum := 0 }
def pL : Ledger := { exL with P := { exP with ephemeralFix := 100 }, sc := [exSc1], sf := [exSf2], fc1 := [], fc2 := [], pool := 0 }
def pT0 : Txn2 :=
  { scIns := [{ parent := exSc1, addrOk := true, authOk := true }],
    scOuts := (List.range 27).map (fun i => (100 + i, { value := 1, addr := 9 })) ++ [(99, { value := 973, addr := 9 })],
    sfIns := [], sfOuts := [], fcs := [], revs := [], ress := [], natts := 0, attsOk := true,
    newFoundation := none, fee := 0, weight := 1 }
def pT (i : Nat) : Txn2 :=
  { scIns := [{ parent := { id := 100 + i, value := bigY + bigY / 25, addr := 9, maturity := 0, leaf := none }, addrOk := true, authOk := true }],
    scOuts := [], sfIns := [], sfOuts := [], fcs := [(200 + i, lgFc, true)], revs := [], ress := [], natts := 0, attsOk := true,
    newFoundation := none, fee := 0, weight := 1 }
def pB : Block :=
  { txns1 := [], v2 := some (5, true, pT0 :: (List.range 27).map pT), payouts := [(30, { value := 30, addr := 9 })],
    foundationOutId := 31, expiring := [], headerOk := true, blockId := 99, maxWeight := 100 }
def pB26 : Block := { pB with v2 := some (5, true, pT0 :: (List.range 26).map pT) }

/-- with 26 formations (`pB26`) the block is accepted; with 27 (`pB`) it is rejected — the statement says `.reject _`,
not by which check (`#eval` gives "transaction contract tax overflows the siafund pool"); `WF`, `Solvent`, `SfNoWrap`
and, for the rejected block `pB`, `FreshIds` and `IdListsCover` hold, `child ≥ ephemeralFix` does not
(`pB26_fresh`: `FreshIds` for the accepted block) -/
theorem c10_legacy_window_tax_overflow_rejected :
    WF pL ∧ Solvent pL ∧ pL.child < pL.P.ephemeralFix ∧ FreshIds pL pB ∧ SfNoWrap pB ∧ IdListsCover pL pB 98 ∧
    (match validateBlock pL pB26 98 with | .ok _ => true | .error _ => false) = true ∧
    (match validateBlock pL pB 98 with | .error (.reject _) => true | _ => false) = true := by
  exact ⟨⟨by decide, by decide, by decide, by decide, by unfold ParamsOk; decide⟩, by decide, by decide,
    freshIds_of_forall (by decide +kernel), by constructor <;> decide, ⟨by decide, by decide⟩,
    by decide +kernel, by decide +kernel⟩

/-- What every ledger reachable from a `WeakInv` ledger satisfies **by construction**, in and out of the legacy
window: ids of live elements are pairwise distinct across kinds, v1 contracts are balanced, the parameters are sane,
and *element-wise* bounds — every live siafund output has a claim start at most the pool and a value of at most
10000, every live contract's payout sum fits in a `Currency`, and so does the pool. No bound on any sum over the
ledger (`V L`, `SFtot L`), no `missedHost ≤ host` (both can be broken below `EphemeralOutputHeight`). -/
def WeakInv (L : Ledger) : Prop :=
  (baseIds L .sc ++ baseIds L .sf ++ baseIds L .fc1 ++ baseIds L .fc2).Nodup ∧
  (∀ e ∈ L.fc1, sumVals e.fc.valid = sumVals e.fc.missed) ∧
  ParamsOk L.P ∧
  (∀ e ∈ L.sf, e.claimStart ≤ L.pool ∧ e.value ≤ 10000) ∧
  (∀ e ∈ L.fc1, sumVals e.fc.valid < curLimit) ∧
  (∀ e ∈ L.fc2, e.fc.renter.value + e.fc.host.value < curLimit) ∧
  L.pool < curLimit

instance (L : Ledger) : Decidable (WeakInv L) := by unfold WeakInv ParamsOk; exact inferInstance

theorem WeakInv.numL {L : Ledger} (h : WeakInv L) : NumL L :=
  ⟨h.2.2.2.1, fun e he => ⟨h.2.2.2.2.1 e he, by rw [← h.2.1 e he]; exact h.2.2.2.2.1 e he⟩,
    fun e he => h.2.2.2.2.2.1 e he, h.2.2.2.2.2.2⟩

/-- a well-formed solvent ledger satisfies the weak invariant -/
theorem weakInv_of_wf_solvent {L : Ledger} (hw : WF L) (hs : Solvent L) : WeakInv L := by
  obtain ⟨hV, hS, hcs, _⟩ := hs
  refine ⟨hw.nodup, hw.fc1_bal, hw.params, fun e he => ⟨hcs e he, ?_⟩, fun e he => ?_, fun e he => ?_, ?_⟩
  · have := le_sum_map_of_mem L.sf (·.value) he
    unfold SFtot at hS; omega
  · have := fc1_val_le_V he; unfold Fc1.val at this; cur_omega
  · have := fc2_val_le_V he; unfold Fc2.val at this; cur_omega
  · unfold V at hV; cur_omega

theorem v1_fold_weak {T} (L : Ledger) (hN : NumL L) (pid : Id) (mw : Nat) (l : List Txn1)
    (ms : Mid) (R : List (Kind × Id)) (hc : Ctx T L) (hb : ms.base = L) (hI : Inv T ms) (hn : Num ms)
    (hsupp : ∀ t ∈ l, SuppOk L t.supp) (hF : Fresh T ms (l.flatMap Txn1.created ++ R)) :
    NoPanic (l.foldlM (vb1Step pid mw) ms) ∧
    ∀ ms', l.foldlM (vb1Step pid mw) ms = .ok ms' → Inv T ms' ∧ Num ms' ∧ Fresh T ms' R ∧ ms'.base = L := by
  have key := fold_validate_apply (val := fun s t => validateTransaction s t pid mw) (app := applyTransaction)
    (J := fun ms rest => ms.base = L ∧ Inv T ms ∧ Num ms ∧ (∀ t ∈ rest, SuppOk L t.supp) ∧
      Fresh T ms (rest.flatMap Txn1.created ++ R))
    (fun ms t rest ⟨hb, _, hn, hsupp, _⟩ => v1_transaction_noPanic ms t pid mw (fun id p _ hp =>
      fc1P_of_element hn (by rw [hb]; exact hN) (by rw [hb]; exact hsupp t List.mem_cons_self) hp))
    (fun ms t rest ⟨hb, hI, hn, hsupp, hF⟩ hv => by
      have hsu : SuppOk ms.base t.supp := by rw [hb]; exact hsupp t List.mem_cons_self
      have hNb : NumL ms.base := by rw [hb]; exact hN
      simp only [List.flatMap_cons, List.append_assoc] at hF
      obtain ⟨ms1, ha, hI1, hF1, hb1, _⟩ := v1txn_weak (hb ▸ hc) hI hn hNb hsu hF hv
      exact ⟨ms1, ha, hb1.trans hb, hI1, v1txn_num hn hNb hsu hv ha, fun t' ht' => hsupp t' (List.mem_cons_of_mem _ ht'), hF1⟩)
    l ms ⟨hb, hI, hn, hsupp, hF⟩
  exact ⟨key.1, fun ms' h => ⟨(key.2 ms' h).2.1, (key.2 ms' h).2.2.1, (key.2 ms' h).2.2.2.2, (key.2 ms' h).1⟩⟩

theorem genuineBound2_of_num {ms : Mid} (hn : Num ms) (hN : NumL ms.base) : GenuineBound2 ms := by
  intro e _ hb
  have he := hN.fc2 e (mem_base_fc2 hb).1
  unfold Fc2.val at he
  refine ⟨?_, he⟩
  unfold Mid.curFc2
  cases hlk : ms.lookup e.id with
  | none => exact he
  | some i =>
    simp only []
    cases hdi : ms.v2fces[i]? with
    | none => rw [List.getD_eq_getElem?_getD, hdi]; exact he
    | some d =>
      rw [getD_of_getElem? hdi]
      cases hr : d.revision with
      | none => exact he
      | some r => have := (hn.per.fc2 d (List.mem_of_getElem? hdi)).2 r hr; unfold Fc2.val at this; exact this

theorem v2_fold_weak {T} (L : Ledger) (hN : NumL L) (mw : Nat) (l : List Txn2) (ms : Mid) (R : List (Kind × Id))
    (hc : Ctx T L) (hb : ms.base = L) (hw : WI T ms (l.flatMap Txn2.created ++ R)) :
    NoPanic (l.foldlM (vb2Step mw) ms) ∧
    ∀ ms', l.foldlM (vb2Step mw) ms = .ok ms' → WI T ms' R ∧ ms'.base = L :=
  fold_validate_apply (val := fun s t => validateV2Transaction s t mw) (app := applyV2Transaction)
    (J := fun ms rest => WI T ms (rest.flatMap Txn2.created ++ R) ∧ ms.base = L)
    (fun ms t rest ⟨hw, hb⟩ =>
      have hG := genuineBound2_of_num hw.num (by rw [hb]; exact hN)
      validateV2Transaction_noPanic ms t mw (fun r _ hs hp => (hG r.parent hs hp).1) (fun r _ hs hp => (hG r.parent hs hp).2))
    (fun ms t rest ⟨hw, hb⟩ hv => by
      simp only [List.flatMap_cons, List.append_assoc] at hw
      obtain ⟨ms1, ha, w1, x1, _⟩ := v2txn_weak (hb ▸ hc) (by rw [hb]; exact hN) hw hv
      exact ⟨ms1, ha, w1, x1.1.trans hb⟩)
    l ms ⟨hw, hb⟩

/-- **No window hypothesis, no solvency.** `validateBlock` never panics on a ledger that satisfies the weak
invariant, whether or not the ephemeral-output fix is active. The hypothesis on the block that is used is
`FreshIds` (hash-collision freedom, necessary in the model: `c10_collision_panics_model`). `hcov : IdListsCover` is
a hypothesis the proof does not use (a short id list makes a storage proof create fewer outputs, which cannot panic),
and `SfNoWrap` is not needed.
Why the legacy window adds no panic, given the pre-checks `validateTaxPool` / `validateV2TaxPool`: below
`EphemeralOutputHeight` a forged ephemeral parent can only overwrite a siacoin / siafund diff with a *spent* record,
and no later step reads a spent record; the checked additions reject inflated input sums; a forged siafund parent's
claim is checked to be computable by `validateEphemeralSf`; contract diffs are never touched by a forged parent, so
`resolveFc2` finds an uncreated diff; and every arithmetic step of `apply` is bounded by a pre-check of the same
transaction or by an element-wise bound of `WeakInv`. -/
theorem c10_validate_no_panic_legacy {L : Ledger} (hw : WeakInv L) (b : Block) (pid : Id)
    (hf : FreshIds L b) (hcov : IdListsCover L b pid) :
    ∀ msg, validateBlock L b pid ≠ .error (.panic msg) := by
  show NoPanic (validateBlock L b pid)
  rw [validateBlock_eq]
  refine bind_noPanic (validateOrphan_noPanic L b) (fun _ _ => ?_)
  refine bind_noPanic (validateSupplement_noPanic L b) (fun u hsu => ?_)
  cases u
  have hsupp := ((validateSupplement_ok_iff L b).1 hsu).suppOk
  split
  · simp
  have hc : Ctx (Tb L b) L := ctx_of_nodup hw.1 hw.2.1 hf
  have hF0 := fresh_newMid hf
  unfold Block.created at hF0
  obtain ⟨np1, st1⟩ := v1_fold_weak (T := Tb L b) L hw.numL pid b.maxWeight b.txns1 (newMid L) _ hc rfl (inv_newMid L)
    (num_newMid hw.numL) hsupp hF0
  refine bind_noPanic np1 (fun s hs1 => ?_)
  obtain ⟨hI1, hn1, hF1, hb1⟩ := st1 s hs1
  exact (v2_fold_weak (T := Tb L b) L hw.numL b.maxWeight b.v2txns s _ hc hb1 ⟨li_of_inv (hb1 ▸ hc) hI1, hF1, hn1⟩).1

/-- `validateBlock` never panics on a well-formed solvent ledger with the ephemeral-output fix active: the
instance of `c10_validate_no_panic_legacy` at the `WeakInv` such a ledger satisfies (`weakInv_of_wf_solvent`).
Of `Solvent` only what `weakInv_of_wf_solvent` reads is used; `hfix`, `hnw` and `hcov` are not used; the hypotheses
are those of `c10_solvent_preserved`. -/
theorem c10_validate_no_panic {L : Ledger} (hw : WF L) (hs : Solvent L) (hfix : L.child ≥ L.P.ephemeralFix)
    (b : Block) (pid : Id) (hf : FreshIds L b) (hnw : SfNoWrap b) (hcov : IdListsCover L b pid) :
    ∀ msg, validateBlock L b pid ≠ .error (.panic msg) :=
  c10_validate_no_panic_legacy (weakInv_of_wf_solvent hw hs) b pid hf hcov

/-- the concrete block of C01 (v1 payment, proof, expiry; v2 payment, formation, claim, expiration) -/
example : ∀ msg, validateBlock exL exB 98 ≠ .error (.panic msg) :=
  c10_validate_no_panic ex_wf (by decide) (by decide) exB 98 ex_fresh ex_nowrap ex_cover

/-- **An accepted block keeps the weak invariant**, legacy-window blocks included (one step; `hcov` is not used by
the proof). By induction, which is not stated, every ledger reached from a `WeakInv` ledger through accepted blocks
with fresh ids satisfies it, and `validateBlock` does not panic on it (`c10_validate_no_panic_legacy`;
`c10_reachable_no_panic` is the first step). No theorem says that a genesis ledger satisfies `WeakInv`. -/
theorem c10_weakinv_preserved {L : Ledger} {b : Block} {pid : Id} {msv : Mid} (hw : WeakInv L)
    (hf : FreshIds L b) (hcov : IdListsCover L b pid) (hv : validateBlock L b pid = .ok msv) :
    ∀ L' ms, applyBlock L b = .ok (L', ms) → WeakInv L' := by
  obtain ⟨_, hrules, _, ms1, hl1, hl2⟩ := validateBlock_ok_iff.1 hv
  have hc : Ctx (Tb L b) L := ctx_of_nodup hw.1 hw.2.1 hf
  have hF0 := fresh_newMid hf
  unfold Block.created at hF0
  obtain ⟨_, st1⟩ := v1_fold_weak (T := Tb L b) L hw.numL pid b.maxWeight b.txns1 (newMid L) _ hc rfl (inv_newMid L)
    (num_newMid hw.numL) hrules.suppOk hF0
  obtain ⟨hI1, hn1, hF1, hb1⟩ := st1 ms1 hl1
  obtain ⟨_, st2⟩ := v2_fold_weak (T := Tb L b) L hw.numL b.maxWeight b.v2txns ms1 _ hc hb1 ⟨li_of_inv (hb1 ▸ hc) hI1, hF1, hn1⟩
  obtain ⟨w2, hb2⟩ := st2 msv hl2
  obtain ⟨ms5, a5, w5, hb5⟩ := weak_block_tail hc hw.numL hb2 w2 hrules.expiring hw.2.2.1
  have hm : midApplyBlock (newMid L) b = .ok ms5 := (midApplyBlock_of_validated hv).trans a5
  intro L' ms' h
  unfold applyBlock at h; rw [hm] at h; cases h
  have hc5 : Ctx (Tb L b) ms5.base := by rw [hb5]; exact hc
  obtain ⟨s1, s2⟩ := weak_commit_struct hc5 w5.li b.blockId
  have hN5 := weak_commit_num w5.num (by rw [hb5]; exact hw.numL) b.blockId
  refine ⟨s1, s2, ?_, hN5.sf, fun e he => (hN5.fc1 e he).1, fun e he => hN5.fc2 e he, hN5.pool⟩
  show ParamsOk ms5.base.P
  rw [hb5]; exact hw.2.2.1

/-- corollary: along any chain of accepted blocks starting from a `WeakInv` ledger the next `validateBlock` does not
panic (stated for one step; iterate with `c10_weakinv_preserved`) -/
theorem c10_reachable_no_panic {L : Ledger} {b b' : Block} {pid pid' : Id} {msv : Mid} (hw : WeakInv L)
    (hf : FreshIds L b) (hcov : IdListsCover L b pid) (hv : validateBlock L b pid = .ok msv)
    {L' : Ledger} {ms : Mid} (ha : applyBlock L b = .ok (L', ms))
    (hf' : FreshIds L' b') (hcov' : IdListsCover L' b' pid') :
    ∀ msg, validateBlock L' b' pid' ≠ .error (.panic msg) :=
  c10_validate_no_panic_legacy (c10_weakinv_preserved hw hf hcov hv L' ms ha) b' pid' hf' hcov'

/-- a block accepted by validation is applied without panic (`WeakInv` carries `ParamsOk`) -/
theorem c10_accepted_applies_weak {L : Ledger} (hw : WeakInv L) (b : Block) (pid : Id) (ms : Mid)
    (hv : validateBlock L b pid = .ok ms) : ∃ r, applyBlock L b = .ok r :=
  c10_accepted_applies_solvent hw.2.2.1 b pid ms hv

theorem pL_weak : WeakInv pL := by decide

theorem pB26_fresh : FreshIds pL pB26 := freshIds_of_forall (by decide +kernel)

/-- The 26-formation legacy block (inflated ephemeral inputs, `c10_legacy_window_tax_overflow_rejected`) is accepted
and leads to a ledger that is **not** `Solvent` (26 contracts of almost 2^128 each) but satisfies `WeakInv`:
`Solvent` is not an invariant of reachable states, `WeakInv` is. -/
theorem c10_legacy_reaches_insolvent :
    WeakInv pL ∧ pL.child < pL.P.ephemeralFix ∧ FreshIds pL pB26 ∧ IdListsCover pL pB26 98 ∧
    (match applyBlock pL pB26 with
      | .ok (L', _) => decide (¬ Solvent L' ∧ WeakInv L')
      | .error _ => false) = true :=
  ⟨pL_weak, by decide, pB26_fresh, ⟨by decide, by decide⟩, by decide +kernel⟩

example : ∀ msg, validateBlock pL pB26 98 ≠ .error (.panic msg) :=
  c10_validate_no_panic_legacy pL_weak pB26 98 pB26_fresh ⟨by decide, by decide⟩

/-! Cross-kind forgery in the legacy window: `xT1` spends an "ephemeral siacoin output" whose claimed id 300 is the id
of the *siafund* output created by `xT0`. The shared index maps 300 to slot 1 of the siafund diffs; slot 1 of the
siacoin diffs holds the created output 100, so the legacy check passes and `spendSc` overwrites that diff with the
forged record (5000 coins conjured, output 100 lost). `Struct`/`Inv` no longer hold for the mid-state, the weak
invariant does, nothing panics, and the committed ledger satisfies `WeakInv`. -/
def xT0 : Txn2 :=
  { scIns := [{ parent := exSc1, addrOk := true, authOk := true }], scOuts := [(100, { value := 1000, addr := 9 })],
    sfIns := [{ parent := exSf2, claimAddr := 8, claimId := 12, addrOk := true, authOk := true }],
    sfOuts := [(300, 10000, 8)], fcs := [], revs := [], ress := [], natts := 0, attsOk := true,
    newFoundation := none, fee := 0, weight := 1 }
def xT1 : Txn2 :=
  { scIns := [{ parent := { id := 300, value := 5000, addr := 9, maturity := 0, leaf := none }, addrOk := true, authOk := true }],
    scOuts := [(101, { value := 5000, addr := 9 })], sfIns := [], sfOuts := [], fcs := [], revs := [], ress := [],
    natts := 0, attsOk := true, newFoundation := none, fee := 0, weight := 1 }
def xB : Block :=
  { txns1 := [], v2 := some (5, true, [xT0, xT1]), payouts := [(30, { value := 30, addr := 9 })],
    foundationOutId := 31, expiring := [], headerOk := true, blockId := 99, maxWeight := 100 }

theorem xB_fresh : FreshIds pL xB := freshIds_of_forall (by decide +kernel)

theorem c10_legacy_cross_kind_forgery :
    (match validateBlock pL xB 98 with
      | .ok ms => decide (ms.lookup 100 = some 1 ∧ (ms.sces.getD 1 default).e.id = 300 ∧ (ms.sces.getD 1 default).e.value = 5000)
      | .error _ => false) = true ∧
    (match applyBlock pL xB with
      | .ok (L', _) => decide (WeakInv L' ∧ V L' = V pL + 30 + 4000)
      | .error _ => false) = true := by
  constructor <;> decide

example : ∀ msg, validateBlock pL xB 98 ≠ .error (.panic msg) :=
  c10_validate_no_panic_legacy pL_weak xB 98 xB_fresh ⟨by decide, by decide⟩

example : ∀ L' ms, applyBlock pL xB = .ok (L', ms) → WeakInv L' := by
  have hv : ∃ ms, validateBlock pL xB 98 = .ok ms := exists_ok_of_isOk (by decide)
  obtain ⟨ms, hv⟩ := hv
  exact c10_weakinv_preserved pL_weak xB_fresh ⟨by decide, by decide⟩ hv

end C10
