import SiaProofs.Lemmas.MerkleRhpTie
/-!
# C16 — ties: the integer helpers as generated from rhp/v2/merkle.go equal the hand models

`Gen.Rhp2.nextSubtreeSize` and `Gen.Rhp2.RangeProofSize` are regenerated from the Go source on
every run (uint64 arithmetic written out with explicit `% 2^64`, `math/bits` through
`Go.bits_*`). The hand models `Sia.Rhp.nextSubtreeSize` / `Sia.Rhp.rangeProofSize` are what
the theorems of `Props/C16*.lean` speak about; these ties make those theorems statements about
the Go code.
-/
namespace C16
open Sia.Rhp

/-- Go `nextSubtreeSize(start, end)` for `start < end < 2^64` -/
theorem tie_nextSubtreeSize (i j : Nat) (hij : i < j) (hj : j < 18446744073709551616) :
    Gen.Rhp2.nextSubtreeSize i j = nextSubtreeSize i j := by
  have hd : j - i ≠ 0 := Nat.sub_ne_zero_of_lt hij
  have hlog : (j - i).log2 < 64 := (Nat.log2_lt hd).2 (Nat.lt_of_le_of_lt (Nat.sub_le j i) hj)
  unfold Gen.Rhp2.nextSubtreeSize nextSubtreeSize
  simp only [GoWords.sub_mod_word (Nat.le_of_lt hij) hj, bits_Len64_sub_one hd, Int.toNat_natCast]
  generalize (j - i).log2 = k at hlog
  by_cases h0 : i = 0
  · subst h0
    rw [if_pos (Or.inl rfl), show Go.bits_TrailingZeros64 0 = ((64 : Nat) : Int) from rfl,
      if_pos (decide_eq_true (Int.ofNat_lt.2 hlog))]
    exact GoWords.one_shiftLeft_mod hlog
  · rw [bits_TrailingZeros64_eq h0 (Nat.lt_trans hij hj)]
    simp only [gt_iff_lt, Int.ofNat_lt, Int.toNat_natCast, h0, false_or, decide_eq_true_eq]
    split
    · exact GoWords.one_shiftLeft_mod hlog
    · exact GoWords.one_shiftLeft_mod (Nat.lt_of_le_of_lt (Nat.le_of_not_lt ‹_›) hlog)

/-- Go `RangeProofSize(n, start, end)` for `start < end ≤ n < 2^64` -/
theorem tie_rangeProofSize (n s e : Nat) (hse : s < e) (hen : e ≤ n) (hn : n < 18446744073709551616) :
    Gen.Rhp2.RangeProofSize n s e = rangeProofSize n s e := by
  have he : e < 2 ^ 64 := Nat.lt_of_le_of_lt hen hn
  have hx : e - 1 < 2 ^ 64 := Nat.lt_of_le_of_lt (Nat.sub_le e 1) he
  have hL : diffLen (e - 1) (n - 1) ≤ 64 :=
    bitLen_xor _ _ ▸ (Sia.SP.bitLen_le_iff _ _).2 (Nat.xor_lt_two_pow hx (Nat.lt_of_le_of_lt (Nat.sub_le n 1) hn))
  unfold Gen.Rhp2.RangeProofSize rangeProofSize
  simp only [GoWords.sub_mod_word (Nat.lt_of_le_of_lt (Nat.zero_le s) hse) he,
    GoWords.sub_mod_word (Nat.lt_of_lt_of_le (Nat.lt_of_le_of_lt (Nat.zero_le s) hse) hen) hn,
    bits_Len64_eq, Int.toNat_natCast, bitLen_xor _ _]
  generalize diffLen (e - 1) (n - 1) = L at hL
  have hz := popcount_andNot_mask L 64 (e - 1) hL hx
  rw [show (18446744073709551616 : Nat) = 2 ^ 64 from rfl, GoWords.mask_word hL,
    bits_OnesCount64_eq (Nat.lt_trans hse he),
    bits_OnesCount64_eq (Nat.lt_of_le_of_lt Nat.and_le_left (Nat.lt_of_le_of_lt (Nat.sub_le _ _) (Nat.sub_one_lt (by decide)))),
    hz]
  exact toNat_add_emod (Nat.lt_of_le_of_lt
    (Nat.add_le_add (popAux_eq 64 s (Nat.lt_trans hse he) ▸ popAux_le 64 s)
      (Nat.le_trans (zerosBelow_le (e - 1) L) hL)) (by decide))

/-! ## structural facts extracted from rhp/v2/merkle.go (`extract/facts_rhp.go`) -/

/-- `verifyMulti` (inside `VerifyDiffProof`) requires its accumulator to end with exactly
`numLeaves` leaves — the check added by fix 9e80790. The model reads this flag from the code;
the soundness theorems `c16_diff_old_sound` / `c16_diff_sound` need it to be `true`, so reverting
the fix breaks this tie (and makes the harness keys `c16-accepts-corrupt:free:freed-index` /
`…:diff:swap-index` fire again). -/
theorem tie_verifyMulti_checks_leaf_count :
    Gen.FactsRhp.verifyMultiChecksLeafCount = true ∧ codeChecksLeafCount = true := ⟨rfl, rfl⟩

/-- the verdict of `verifyMulti` is exactly the three conjuncts the model has -/
theorem tie_verifyMulti_verdict :
    Gen.FactsRhp.verifyMultiVerdict = ["acc.root() == root", "len(treeHashes) == 0", "acc.numLeaves == numLeaves"] ∧
    Gen.FactsRhp.verifyDiffProofPasses = 2 := ⟨rfl, rfl⟩

/-- both range verifiers compare the proof length with `RangeProofSize` before they hash anything
(`VerifySectorRangeProof` after its checks of the arguments; `c16_range_length_fixed`,
`c16_leaf_range_length_fixed`) -/
theorem tie_range_length_checks :
    Gen.FactsRhp.verifySectorRangeProofChecksLength = true ∧
    Gen.FactsRhp.rangeProofVerifierChecksLength = true := ⟨rfl, rfl⟩

/-- the bounds up to which builder and verifier walk right of the range, and the constants -/
theorem tie_rhp_constants :
    Gen.FactsRhp.buildRangeRightBound = maxInt32 ∧
    Gen.FactsRhp.verifyRangeRightBound = maxUint64 ∧
    Gen.FactsRhp.leavesPerSector = leavesPerSector ∧
    Gen.FactsRhp.leafSize = 64 ∧
    Gen.FactsRhp.sectorSize = Gen.FactsRhp.leafSize * Gen.FactsRhp.leavesPerSector ∧
    Gen.FactsRhp.leavesPerSector = 2 ^ 16 ∧
    Gen.FactsRhp.leafHashPrefix = 0 ∧ Gen.FactsRhp.nodeHashPrefix = 1 := by
  refine ⟨rfl, rfl, rfl, rfl, by decide, by decide, rfl, rfl⟩

end C16
