import SiaProofs.Lemmas.MerkleRhpConvert
import SiaProofs.Props.C16
/-!
# C16 — range proofs inside one sector (rhp/v2 `RangeProofVerifier`)

rhp/v4 `VerifyLeafProof` checks single-leaf proofs of the same form through `VerifySectorRangeProof`.

The streaming verifier first reduces the covered leaves to the roots of the subtrees that
`nextSubtreeSize` cuts `[start, end)` into (`ReadFrom`, via `ReaderRoot`), then runs the same
accumulator walk as the sector-roots verifier with the fixed leaf count `n = 2^k`
(`LeavesPerSector = 2^16` in Go). `ls` are the leaf hashes of the whole sector.
-/
namespace C16
open Sia.Rhp Sia.Rhp.HashOps

variable {H : Type} [HashOps H]

def ex8 : List T := [T.lf [0], T.lf [1], T.lf [2], T.lf [3], T.lf [4], T.lf [5], T.lf [6], T.lf [7]]

/-- `BuildProof` (recursive halving over the sector; also the shape of rhp/v4 `BuildSectorProof`)
emits exactly the left-to-right proof of `BuildSectorRangeProof` over the leaf hashes -/
theorem c16_buildproof_eq (ls : List H) (k : Nat) (hlen : ls.length = 2 ^ k) (hk : k ≤ 30)
    (s e : Nat) (hse : s < e) (hen : e ≤ ls.length) :
    buildProof ls s e = .ok (honestProof ls s e) := by
  have hn30 : ls.length ≤ 2 ^ 30 := by rw [hlen]; exact Nat.pow_le_pow_right (by omega) hk
  unfold buildProof honestProof
  have hg : ¬ (e > ls.length ∨ s > e ∨ s = e) := by omega
  simp only [hg, if_false]
  have h := buildProofRec_eq ls s e hse k 0 (Nat.dvd_zero _) (by omega)
  simp only [Nat.zero_add] at h
  rw [hlen, Nat.log2_two_pow, h, ← hlen]
  rw [Nat.min_eq_left (by omega), Nat.max_eq_left (Nat.zero_le _)]
  rw [buildRange_bound_pow2 ls k hlen maxInt32 (by unfold maxInt32; omega) e (by omega)]

example : buildProof ex8 2 5 = .ok (honestProof ex8 2 5) :=
  c16_buildproof_eq ex8 3 rfl (by decide) 2 5 (by decide) (by decide)

/-- Completeness: the left-to-right proof for `[s, e)` and the honest leaves are accepted with
the plain sector root. -/
theorem c16_leaf_range_complete [DecidableEq H] (ls : List H) (k : Nat) (hlen : ls.length = 2 ^ k)
    (hk : k ≤ 30) (s e : Nat) (hse : s < e) (hen : e ≤ ls.length) :
    rangeProofVerify (2 ^ k) (honestProof ls s e) ((ls.drop s).take (e - s)) s e (metaRoot ls) = true := by
  have hn30 : ls.length ≤ 2 ^ 30 := by rw [hlen]; exact Nat.pow_le_pow_right (by omega) hk
  have hsz := c16_range_size ls s e hse hen hn30
  rw [hlen] at hsz
  rw [rpv_eq _ _ _ s e _ hsz]
  obtain ⟨_, _, _, _, _, hC⟩ := leafAcc_honest ls k hlen hk s e hse hen
  have := hC.root
  simp only [honestProof]
  simp [this]


example : rangeProofVerify (2 ^ 3) (honestProof ex8 2 5) [T.lf [2], T.lf [3], T.lf [4]] 2 5 (metaRoot ex8) = true :=
  c16_leaf_range_complete ex8 3 rfl (by decide) 2 5 (by decide) (by decide)

/-- Soundness: with the true sector root, acceptance of `e - s` leaf hashes implies that they are
the sector's leaf hashes `ls[s:e]` and that the proof is the honest one; so any altered proof
hash, leaf, index or root is rejected. -/
theorem c16_leaf_range_sound [DecidableEq H] (hinj : NodeInj H) (ls : List H) (k : Nat)
    (hlen : ls.length = 2 ^ k) (hk : k ≤ 30) (proof leaves : List H) (s e : Nat)
    (hse : s < e) (hen : e ≤ ls.length) (hlv : leaves.length = e - s)
    (hacc : rangeProofVerify (2 ^ k) proof leaves s e (metaRoot ls) = true) :
    leaves = (ls.drop s).take (e - s) ∧ proof = honestProof ls s e := by
  have hn30 : ls.length ≤ 2 ^ 30 := by rw [hlen]; exact Nat.pow_le_pow_right (by omega) hk
  have hsz := c16_range_size ls s e hse hen hn30
  rw [hlen] at hsz
  have hl : proof.length = rangeProofSize (2 ^ k) s e := by
    by_cases h : proof.length = rangeProofSize (2 ^ k) s e
    · exact h
    · unfold rangeProofVerify at hacc; simp [h] at hacc
  rw [rpv_eq _ proof leaves s e _ hl] at hacc
  have hroot : (leafAcc (2 ^ k) proof leaves s e).1.root = metaRoot ls := by simpa using hacc
  obtain ⟨hP1n, -, hP2n, hP2r, hP3r, hC⟩ := leafAcc_honest ls k hlen hk s e hse hen
  -- the three phases, against the honest run
  have L1 := Lock.range hinj (x := (Acc.empty, proof)) (y := (Acc.empty, honestProof ls s e))
    ⟨rfl, by rw [hl, hsz]⟩ 0 s rfl
  have L2 := Lock.own hinj L1.1 (rangeSubtreeRoots leaves s e) (rangeSubtreeRoots ((ls.drop s).take (e - s)) s e)
    (by rw [length_rangeSubtreeRoots, length_rangeSubtreeRoots]) s e hP1n hP2r
  have L3 := Lock.range hinj L2.1 e (2 ^ k) hP2n
  obtain ⟨⟨-, hp⟩, ⟨-, hroots⟩, -⟩ :=
    ((L1.trans L2).trans L3).2 (SameState.of_root hinj L3.1 (hroot.trans hC.root.symm) hP3r)
  exact ⟨rangeSubtreeRoots_injective hinj s e _ _ hlv (by simp [List.length_take, List.length_drop]; omega) hroots, hp⟩

example : rangeProofVerify (2 ^ 3) (honestProof ex8 2 5) [T.lf [2], T.lf [9], T.lf [4]] 2 5 (metaRoot ex8) ≠ true := by
  intro h
  have := (c16_leaf_range_sound T_nodeInj ex8 3 rfl (by decide) _ _ 2 5 (by decide) (by decide) rfl h).1
  exact absurd this (by decide)

/-- at the byte level: accepted leaf data are the sector's leaves `start … end-1`
(leaf-hash injectivity) -/
theorem c16_leaf_range_sound_data [DecidableEq H] (hinj : HashInj H) (sector data : ByteArray) (k : Nat)
    (hlen : (leafChunks sector).length = 2 ^ k) (hk : k ≤ 30) (proof : List H) (s e : Nat)
    (hse : s < e) (hen : e ≤ (leafChunks sector).length) (hlv : (leafChunks data).length = e - s)
    (hacc : rangeProofVerify (2 ^ k) proof (leafHashes data) s e (sectorRoot sector : H) = true) :
    leafChunks data = ((leafChunks sector).drop s).take (e - s) := by
  have h := (c16_leaf_range_sound hinj.node_inj (leafHashes sector) k (by simpa [leafHashes] using hlen) hk
    proof (leafHashes data) s e hse (by simpa [leafHashes] using hen) (by simpa [leafHashes] using hlv) hacc).1
  unfold leafHashes at h
  rw [← List.map_drop, ← List.map_take] at h
  exact (List.map_inj_right (fun x y hxy => hinj.leaf_inj x y hxy)).1 h

/-- a proof whose length differs from `RangeProofSize(n, s, e)` is rejected -/
theorem c16_leaf_range_length_fixed [DecidableEq H] (n : Nat) (proof leaves : List H) (s e : Nat) (root : H)
    (hl : proof.length ≠ rangeProofSize n s e) :
    rangeProofVerify n proof leaves s e root = false := by
  unfold rangeProofVerify; simp [hl]

/-- `ConvertProofOrdering` turns the single-leaf proof (lefts high-to-low, then rights low-to-high)
into the leaf-to-root sibling path that consensus storage-proof verification folds: folding it
from the leaf hash with the index bits gives the plain sector root. -/
theorem c16_convert_ordering (ls : List H) (k : Nat) (hlen : ls.length = 2 ^ k) (hk : k ≤ 30)
    (i : Nat) (hi : i < ls.length) :
    ∃ path, convertProofOrdering (honestProof ls i (i + 1)) i = .ok path ∧
      leafToRoot ls[i] i path = metaRoot ls :=
  ⟨Sia.SP.spPath ls i,
    convertProofOrdering_spPath ls i hi (by rw [hlen]; exact Nat.pow_le_pow_right (by omega) hk),
    leafToRoot_spPath ls k hlen i hi⟩

example : ∃ path, convertProofOrdering (honestProof ex8 5 6) 5 = .ok path ∧
    leafToRoot (T.lf [5]) 5 path = metaRoot ex8 :=
  c16_convert_ordering ex8 3 rfl (by decide) 5 (by decide)

end C16
