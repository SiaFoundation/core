import SiaProofs.Props.C13
import SiaProofs.Lemmas.PowTotal
/-!
# C13, totality: applying a header that extends the tip never panics

`Margin` is the explicit "the work actually performed is far below 2^256" side condition
of one step. It is NOT preserved by the step (difficulty may grow 0.4% per block forever in
principle), so it is assumed for every state of a chain; it holds with a margin of more
than 2^50 for every proof-of-work chain that can physically exist (difficulty < 2^200,
cumulative work < 2^255, targets ≥ 2^32, fewer than 2^64-2 blocks).
-/
namespace C13
open Sia.Pow

def Margin (n : Network) (s : PowState) : Prop :=
  s.height ≠ 18446744073709551614 ∧
  (s.childHeight < n.v2AllowHeight →
     4294967296 ≤ s.depth ∧ 4294967296 ≤ s.childTarget ∧ 4294967296 ≤ s.oakTarget) ∧
  (n.v2AllowHeight ≤ s.childHeight →
     s.totalWork < W255 ∧
     s.difficulty < 1606938044258990275541962092341162602522202993782792835301376 ∧
     s.oakWork < 1606938044258990275541962092341162602522202993782792835301376)

theorem updateOakTime_range {n : Network} (s : PowState) (a b : Int)
    (h0 : -9223372036854775808 ≤ n.asicOakTime) (h1 : n.asicOakTime < 9223372036854775808) :
    -9223372036854775808 ≤ updateOakTime n s a b ∧ updateOakTime n s a b < 9223372036854775808 := by
  unfold updateOakTime
  split
  · exact ⟨h0, h1⟩
  · dsimp only
    generalize i64mul (i64div (i64mul (i64div _ SECOND) 995) 1000) SECOND = x
    unfold i64add wrap64
    omega

/-- On a well-formed network, from a state satisfying the invariant and the
    work margin, applying any header that extends the tip (whatever its timestamp — in
    particular every timestamp sequence the median-time rule permits: constant,
    decreasing within the rule, far future) succeeds. -/
theorem c13_apply_header_no_panic {n : Network} {s : PowState} {h : Header} (tt : Int)
    (hwf : n.WF) (hinv : PowInv n s) (hm : Margin n s) (hpar : h.parentID = s.id) :
    ∃ s', applyHeader n s h tt = .ok s' := by
  obtain ⟨hh, -, hdp, hct, -, -, -, -, -, ht1, hd1, hid, -, -⟩ := hinv
  obtain ⟨w1, w2, w3, -, -, w6, -, -, -, -, -, -⟩ := hwf
  obtain ⟨m0, m1, m2⟩ := hm
  have p1 : s.childHeight < n.v2AllowHeight → 2 ≤ s.depth ∧ 2 ≤ s.childTarget ∧ 2 ≤ s.oakTarget :=
    fun c => by have := m1 c; omega
  have p2 : n.v2AllowHeight ≤ s.childHeight →
      s.totalWork + s.difficulty < W256 ∧ s.oakWork + s.difficulty < W256 :=
    fun c => by have := m2 c; omega
  have hoak : ∃ r, updateOakWork n s = .ok r :=
    updateOakWork_total hct hd1 (Nat.ne_of_gt w6) (fun c => ⟨(p1 c).2.2, (p1 c).2.1⟩) (fun c => (p2 c).2)
  unfold applyHeader
  rw [if_neg (by intro c; exact c.2 hpar.symm)]
  by_cases hp : h.parentID = 0
  · rw [if_pos hp]
    obtain ⟨⟨ow, ot⟩, e⟩ := hoak
    rw [e]
    simp only [pure, Except.pure, bind, Except.bind]
    split <;> exact ⟨_, rfl⟩
  · rw [if_neg hp]
    have hch0 : s.childHeight ≠ 0 := by
      have hne : s.height ≠ GEN := fun e => hp (hpar.trans (hid.2 e))
      unfold PowState.childHeight; omega
    obtain ⟨⟨tw, dp⟩, e1⟩ := updateTotalWork_total (n := n) hdp hct hd1
      (fun c => ⟨(p1 c).1, (p1 c).2.1⟩) (fun c => (p2 c).1)
    obtain ⟨⟨d, ct⟩, e2⟩ := adjustDifficulty_total (n := n) (s := s) h.timestamp tt w1 w2 w3 hch0 ht1 hd1
      (fun c => ⟨(m1 c).2.1, (m1 c).2.2⟩) (fun c => (m2 c).2)
    obtain ⟨⟨ow, ot⟩, e3⟩ := hoak
    rw [e1, e2, e3]
    simp only [pure, Except.pure, bind, Except.bind]
    split <;> exact ⟨_, rfl⟩

theorem length_shift (t : Int) (l : List Int) (h : l.length = 11) : (t :: l.take 10).length = 11 := by
  simp [List.length_take, h]

/-- The invariant is preserved by every successful `applyHeader` (header IDs are non-zero:
    hash assumption; the chain is shorter than 2^64-2 blocks). -/
theorem c13_powinv_preserved {n : Network} {s s' : PowState} {h : Header} {tt : Int}
    (hwf : n.WF) (hinv : PowInv n s) (hpar : h.parentID = s.id) (hidnz : h.id ≠ 0)
    (hlen : s.height ≠ 18446744073709551614)
    (hok : applyHeader n s h tt = .ok s') : PowInv n s' := by
  obtain ⟨dp, ct, ot, st⟩ := applyHeader_step hinv hpar.symm.trans hok
  have hc := st.child hinv.1 hlen
  have hH := st.height
  have hlen11 := hinv.2.1
  obtain ⟨-, -, -, -, -, -, wA, -, wT0, wT1, hAF, -⟩ := hwf
  obtain ⟨twlt, dlt, owlt, dplt, clt, otlt⟩ := st.lt
  obtain ⟨zd, zc, zo⟩ := cut_le st.cut
  obtain ⟨p, hOT⟩ := st.oakTime
  obtain ⟨t0, t1⟩ := updateOakTime_range (n := n) s h.timestamp p wT0 wT1
  have k0 : s'.height < W64 ∧ s'.height ≠ GEN := by unfold PowState.childHeight at hc hH; omega
  have hz := st.cut
  refine ⟨k0.1, st.stamps ▸ length_shift _ _ hlen11, Nat.lt_of_le_of_lt zd dplt, Nat.lt_of_le_of_lt zc clt,
    Nat.lt_of_le_of_lt zo (otlt wA), twlt, dlt, owlt, hOT ▸ t0, hOT ▸ t1, Nat.pos_of_ne_zero st.ne.1,
    ⟨fun e => absurd (st.id ▸ e) hidnz, fun e => absurd e k0.2⟩, fun hl => ?_, fun hlt => ?_⟩
  · have hl := hl.resolve_left k0.2
    rw [if_neg (by omega)] at hz
    exact hz.2.1 ▸ st.ne.2
  · rw [if_neg (by omega)] at hz
    obtain ⟨z1, z2, z3⟩ := hz
    obtain ⟨y0, -, w0, y1, x1, -⟩ := st.pre (by omega)
    rw [z1, z2, z3]
    exact ⟨y0, w0, x1, y1⟩

/-- **Totality**: no panic, and the invariant holds
    again, so by induction along any chain whose states stay inside the work margin. -/
theorem c13_apply_header_total {n : Network} {s : PowState} {h : Header} (tt : Int)
    (hwf : n.WF) (hinv : PowInv n s) (hm : Margin n s) (hpar : h.parentID = s.id) (hidnz : h.id ≠ 0) :
    ∃ s', applyHeader n s h tt = .ok s' ∧ PowInv n s' := by
  obtain ⟨s', hok⟩ := c13_apply_header_no_panic tt hwf hinv hm hpar
  exact ⟨s', hok, c13_powinv_preserved hwf hinv hpar hidnz hm.1 hok⟩

/-- The genesis state of a well-formed network satisfies the invariant. -/
theorem c13_genesis_inv {n : Network} (hwf : n.WF) :
    ∃ g, genesisState n = .ok g ∧ PowInv n g := by
  obtain ⟨-, -, -, i0, i1, -, -, -, -, -, -, -⟩ := hwf
  unfold genesisState
  have e1 : intToTarget (Int.ofNat MAXT) = MAXT := by decide
  rw [e1, invTarget_ok_of_ne (by omega), GoLoops.ok_bind, invTarget_ok_of_ne (by omega), GoLoops.ok_bind]
  refine ⟨_, rfl, ?_⟩
  unfold PowInv PowState.childHeight
  dsimp only
  have d1 : 1 ≤ MAXT / n.initialTarget := (Nat.le_div_iff_mul_le (by omega)).2 (by omega)
  have d2 : MAXT / n.initialTarget ≤ MAXT := Nat.div_le_self _ _
  refine ⟨by omega, by simp, by omega, i1, by omega, by decide, by omega, by decide, by omega, by omega,
    d1, by simp, fun _ => by omega, fun _ => ⟨by omega, by omega, rfl, by decide⟩⟩

/-- Under v2 rules one header raises the difficulty by at most `max(D/250, 1)`, adds exactly
    the old difficulty to the cumulative work, and raises the decayed work sum by at most the
    old difficulty. So from difficulty `D₀` it takes more than `250·ln(2^200/D₀)` blocks to
    leave the `Margin` — every one of them mined at that difficulty. -/
theorem c13_margin_growth_v2 {n : Network} {s s' : PowState} {h : Header} {tt : Int}
    (hinv : PowInv n s) (hp : h.parentID ≠ 0) (hv2 : n.v2AllowHeight ≤ s.childHeight)
    (hok : applyHeader n s h tt = .ok s') :
    s'.difficulty ≤ s.difficulty + max (s.difficulty / 250) 1 ∧
    s'.totalWork = s.totalWork + s.difficulty ∧
    s'.oakWork ≤ s.oakWork + s.difficulty := by
  obtain ⟨dp, ct, ot, st⟩ := applyHeader_step hinv (absurd · hp) hok
  obtain ⟨e, o, g, -⟩ := st.v2 hp hv2
  exact ⟨g, e, by omega⟩

/-- apply a list of (header, ancestor timestamp) pairs in order -/
def applyChain (n : Network) (s : PowState) : List (Header × Int) → Except String PowState
  | [] => .ok s
  | (h, tt) :: rest => applyHeader n s h tt >>= fun s' => applyChain n s' rest

/-- every header extends the tip reached so far (the first condition of `ValidateHeader`),
    has a non-zero ID, and every state reached stays inside the work margin; the timestamps
    are completely unconstrained -/
def ChainOk (n : Network) (s : PowState) : List (Header × Int) → Prop
  | [] => True
  | (h, tt) :: rest => h.parentID = s.id ∧ h.id ≠ 0 ∧ Margin n s ∧
      ∀ s', applyHeader n s h tt = .ok s' → ChainOk n s' rest

/-- **Applying headers never fails**, for chains of any length and any timestamps. -/
theorem c13_chain_total {n : Network} (hwf : n.WF) (hs : List (Header × Int)) :
    ∀ s, PowInv n s → ChainOk n s hs → ∃ s', applyChain n s hs = .ok s' ∧ PowInv n s' := by
  induction hs with
  | nil => intro s hinv _; exact ⟨s, rfl, hinv⟩
  | cons x rest ih =>
    intro s hinv hc
    obtain ⟨h, tt⟩ := x
    obtain ⟨hpar, hid, hm, hrest⟩ := hc
    obtain ⟨s1, hok, hinv1⟩ := c13_apply_header_total tt hwf hinv hm hpar hid
    obtain ⟨s', h', hinv'⟩ := ih s1 hinv1 (hrest s1 hok)
    refine ⟨s', ?_, hinv'⟩
    show (applyHeader n s h tt >>= fun s' => applyChain n s' rest) = .ok s'
    rw [hok]; exact h'

/-! ## Satisfiability: every hypothesis above holds on concrete, non-trivial instances -/

example : testnet.WF := by decide
example : mainnetLike.WF := by decide
/-- a network outside `Network.WF` (candidate F5 of the design: sub-second interval with a
    pre-Oak retarget in reach) is rejected by the predicate -/
example : ¬ ({ testnet with oakHeight := 600 } : Network).WF := by decide

/-- a mainnet-like state in the v2 era -/
def exV2 : PowState :=
  { height := 530000, id := 12345, prevTimestamps := List.replicate 11 1751800000,
    depth := MAXT / 4000000000000000000000000, childTarget := MAXT / 18000000000000000000,
    oakTime := 119000 * 1000000000, oakTarget := MAXT / 3600000000000000000000,
    totalWork := 4000000000000000000000000, difficulty := 18000000000000000000,
    oakWork := 3600000000000000000000 }
/-- … after the final cut (deprecated fields zeroed) -/
def exFC : PowState := { exV2 with height := 560000, depth := 0, childTarget := 0, oakTarget := 0 }
/-- … in the Oak era, and before Oak on a retarget height (childHeight = 1000) -/
def exOak : PowState := { exV2 with height := 200000, totalWork := MAXT / exV2.depth, difficulty := MAXT / exV2.childTarget }
def exPre : PowState := { exOak with height := 999 }
def exHdr : Header := { parentID := 12345, timestamp := 1751800700, nonce := 1009, id := 999 }

example : PowInv mainnetLike exV2 ∧ Margin mainnetLike exV2 := ⟨by unfold PowInv; decide, by unfold Margin; decide⟩
example : PowInv mainnetLike exFC ∧ Margin mainnetLike exFC := ⟨by unfold PowInv; decide, by unfold Margin; decide⟩
example : PowInv mainnetLike exOak ∧ Margin mainnetLike exOak := ⟨by unfold PowInv; decide, by unfold Margin; decide⟩
example : PowInv mainnetLike exPre ∧ Margin mainnetLike exPre := ⟨by unfold PowInv; decide, by unfold Margin; decide⟩

/-- `c13_apply_header_total` applies in each era -/
example : ∃ s', applyHeader mainnetLike exV2 exHdr 0 = .ok s' ∧ PowInv mainnetLike s' :=
  c13_apply_header_total 0 (by decide) (by unfold PowInv; decide) (by unfold Margin; decide) rfl (by decide)
example : ∃ s', applyHeader mainnetLike exFC exHdr 0 = .ok s' ∧ PowInv mainnetLike s' :=
  c13_apply_header_total 0 (by decide) (by unfold PowInv; decide) (by unfold Margin; decide) rfl (by decide)
example : ∃ s', applyHeader mainnetLike exOak exHdr 0 = .ok s' ∧ PowInv mainnetLike s' :=
  c13_apply_header_total 0 (by decide) (by unfold PowInv; decide) (by unfold Margin; decide) rfl (by decide)
example : ∃ s', applyHeader mainnetLike exPre exHdr 1751000000 = .ok s' ∧ PowInv mainnetLike s' :=
  c13_apply_header_total _ (by decide) (by unfold PowInv; decide) (by unfold Margin; decide) rfl (by decide)

/-- the clamps are hit (`c13_clamp_v2`, `c13_clamp_finalcut`, `c13_clamp_oak`): on schedule → +0.4%,
    far behind schedule → −0.4% -/
example : adjustDifficultyV2 mainnetLike exV2 1751800000 = .ok (18000000000000000000 + 18000000000000000000 / 250) := by rfl
example : adjustDifficultyFinalCut mainnetLike exFC 1769800600 = .ok (18000000000000000000 - 18000000000000000000 / 250) := by rfl
set_option maxRecDepth 100000 in
example : adjustTarget mainnetLike exOak 1751800600 0 = .ok (exOak.childTarget * 1004 / 1000) := by rfl

/-- `c13_median` / `c13_validate_header_iff`: a median exists on every non-genesis state -/
example : ∃ m, medianTimestamp exV2 = .ok m := by
  obtain ⟨l, -, -, -, h⟩ := c13_median (s := exV2) (by decide) (by decide)
  exact ⟨_, h⟩

end C13
