import SiaProofs.Props.C17
import SiaProofs.Props.C17Renew
import SiaProofs.Props.C07Gen
/-!
# C17 — constructor output is consensus-valid, BOTH ends regenerated

`C17.lean` / `C17Renew.lean` prove that the output of the rhp/v4 constructors (regenerated from
`rhp/v4/rhp.go`) is accepted by the hand-written consensus rules.  `C07Gen.lean` proves those
hand-written rules equivalent to the rule chains regenerated from `consensus/validation.go`.
Composed: the regenerated constructor's output is accepted by the regenerated validator, as soon
as the signatures verify (`ext` is arbitrary: the statements hold for every signature scheme,
every sighash function and every accumulator).
-/
namespace C17
open Gen.Types Gen.Rhp4 Gen.Consensus C15 C07

/-- A successful payment, signed by the contract's current keys, passes the rule chain of
`validateRevision` as translated from `consensus/validation.go`. -/
theorem c17_pay_revision_valid_gen (ext : Ext) (ms : MidState) (fc fc' : V2FileContract) (u : Usage)
    (hfc : FCWF fc) (hu : UsageWF u) (live : Live (chOf ms) fc)
    (h : PayWithContract fc u = .ok (fc', none))
    (sigs : validateV2FileContracts_validateSignatures ext ms fc' fc.RenterPublicKey fc.HostPublicKey = none) :
    validateV2FileContracts_validateRevisionRules ext fc fc' ms = .ok none :=
  (tie_validateRevision_gen ext ms fc fc').1.mpr
    ⟨(c17_pay_revision_valid (chOf ms) (ephOf ms) fc fc' u hfc hu live h).1, sigs⟩

/-- A freshly formed contract, signed by its own keys, passes `validateContract` as translated from
`consensus/validation.go`. -/
theorem c17_new_contract_valid_gen (ext : Ext) (ms : MidState) (p : HostPrices) (cp : RPCFormContractParams)
    (hk ha : ByteArray) (fc : V2FileContract) (u : Usage)
    (hp : WF p.ContractPrice) (hal : WF cp.Allowance) (hco : WF cp.Collateral)
    (hph : cp.ProofHeight + 144 < W) (hch : chOf ms ≤ cp.ProofHeight) (hnz : val cp.Allowance ≠ 0)
    (h : NewContract p cp hk ha = .ok (fc, u))
    (sigs : validateV2FileContracts_validateSignatures ext ms fc fc.RenterPublicKey fc.HostPublicKey = none) :
    validateV2FileContracts_validateContract ext ms fc = none :=
  (tie_validateContract_gen ext ms fc).mpr
    ⟨(c17_new_contract_valid (chOf ms) p cp hk ha fc u hp hal hco hph hch hnz h).1, sigs⟩

/-- A renewal built by `RenewContract`, with the new contract signed by its own keys and the
renewal signed by the keys of the renewed contract, passes the renewal case of
`validateV2FileContracts` as translated from `consensus/validation.go`. -/
theorem c17_renew_valid_gen (ext : Ext) (ms : MidState) (i : Int) (fc : V2FileContract) (p : HostPrices)
    (addr : ByteArray) (rp : RPCRenewContractParams) (rn : V2FileContractRenewal) (u : Usage)
    (hfc : FCWF fc) (hp : PricesWF p) (ha : WF rp.Allowance) (hc : WF rp.Collateral)
    (hph : rp.ProofHeight + 144 < W) (hnz : val rp.Allowance ≠ 0) (hch : chOf ms ≤ rp.ProofHeight)
    (fits_old : val fc.RenterOutput.Value + val fc.HostOutput.Value < W2)
    (h : RenewContract fc p addr rp = .ok (rn, u))
    (fits_new : val rn.NewContract.RenterOutput.Value + val rn.NewContract.HostOutput.Value + tax rn.NewContract < W2)
    (sigsNew : validateV2FileContracts_validateSignatures ext ms rn.NewContract rn.NewContract.RenterPublicKey rn.NewContract.HostPublicKey = none)
    (sigR : ext.VerifyHash fc.RenterPublicKey (ext.RenewalSigHash ms.base rn) rn.RenterSignature = true)
    (sigH : ext.VerifyHash fc.HostPublicKey (ext.RenewalSigHash ms.base rn) rn.HostSignature = true) :
    validateV2FileContracts_renewalRules ext rn fc i ms = .ok none :=
  (tie_renewal_gen ext ms fc rn i).1.mpr
    ⟨c17_renew_valid (chOf ms) fc p addr rp rn u hfc hp ha hc hph hnz hch fits_old h fits_new, sigsNew, sigR, sigH⟩

end C17
