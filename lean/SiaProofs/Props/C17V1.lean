import SiaModel.Rhp.V1Payout
/-!
# C17, v1 era — `taxAdjustedPayout` inverts the consensus tax

`Sia.Rhp.V1.taxAdjustedPayout` is the hand model of the (identical) Go functions in
rhp/v2/contracts.go and rhp/v3/contracts.go (they use a function literal, which the
translator rejects); it is tied to the code by the correspondence op `rhp4c v1payout`.
-/
namespace C17
open Sia.Rhp.V1

theorem tax_of_payout (t k : Nat) (h1 : 9610000 * k ≤ 39 * t) (h2 : 39 * t < 9610000 * k + 9610000) :
    tax (t + 10000 * k) = 10000 * k := by
  unfold tax siafundCount
  simp only []
  have e : (t + 10000 * k) * 39 / 1000 / 10000 = k := by
    rw [Nat.div_div_eq_div_mul]
    apply Nat.div_eq_of_lt_le <;> omega
  have := Nat.div_add_mod ((t + 10000 * k) * 39 / 1000) 10000
  omega

theorem guess_eq (t : Nat) : t * 1000 / 961 = t + 39 * t / 961 := by
  have : t * 1000 = 39 * t + t * 961 := by omega
  rw [this, Nat.add_mul_div_right _ _ (by decide : 0 < 961)]
  omega

/-- The correction step of `taxAdjustedPayout`, with `s` for the siafund count: from the guess
`g = t + s·k + r`, `r < s`, it subtracts `g mod s` and adds `t mod s`, borrowing `s` when the first
exceeds the second; either way the remainder `r` goes. -/
theorem adjust_mod {s : Nat} (t k r : Nat) (hr : r < s) :
    ((t + (s * k + r)) % s < t % s →
      s ≤ t + (s * k + r) ∧ t + (s * k + r) - s + t % s - (t + (s * k + r)) % s = t + s * k) ∧
    (¬(t + (s * k + r)) % s < t % s → t + (s * k + r) + t % s - (t + (s * k + r)) % s = t + s * k) := by
  have ha : t % s < s := Nat.mod_lt t (Nat.lt_of_le_of_lt (Nat.zero_le r) hr)
  have hle : t % s ≤ t := Nat.mod_le t s
  rw [Nat.add_mod t, Nat.mul_add_mod, Nat.mod_eq_of_lt hr]
  generalize t % s = a at ha hle ⊢
  by_cases hc : a + r < s
  · rw [Nat.mod_eq_of_lt hc]; omega
  · rw [Nat.mod_eq_sub_mod (Nat.le_of_not_lt hc), Nat.mod_eq_of_lt (by omega)]; omega

/--
**Tax inversion.** For every target `t` with `1000·t < 2^128` (beyond that `Mul64` panics
by design) `taxAdjustedPayout t` returns a payout `p` with `p = t + tax p`, where
`tax p = ⌊39p/1000⌋` rounded down to a multiple of 10000 — exactly the equation
`validateFileContracts` demands of a v1 contract's payout.  (Explicitly:
`p = t + 10000·⌊39t/9610000⌋`.)
-/
theorem c17_tax_adjusted_payout (t : Nat) (h : t * 1000 < 340282366920938463463374607431768211456) :
    ∃ p, taxAdjustedPayout t = some p ∧ p = t + tax p ∧ p = t + 10000 * (39 * t / 9610000) := by
  obtain ⟨k, hk0⟩ : ∃ k, k = 39 * t / 9610000 := ⟨_, rfl⟩
  have hk : 39 * t / 961 / 10000 = k := by rw [Nat.div_div_eq_div_mul, hk0]
  have h1 : 9610000 * k ≤ 39 * t := by rw [hk0]; exact Nat.mul_div_le _ _
  have h2 : 39 * t < 9610000 * k + 9610000 := by
    have := Nat.lt_mul_div_succ (39 * t) (by decide : 0 < 9610000)
    rw [hk0]; omega
  have hr := Nat.div_add_mod (39 * t / 961) 10000
  rw [hk] at hr
  have hrlt : 39 * t / 961 % 10000 < 10000 := Nat.mod_lt _ (by decide)
  have he : 961 * (39 * t / 961) ≤ 39 * t := Nat.mul_div_le _ _
  have hb : t + 39 * t / 961 + t % 10000 < 340282366920938463463374607431768211456 := by
    have := Nat.mod_le t 10000
    omega
  refine ⟨t + 10000 * k, ?_, (by rw [tax_of_payout t k h1 h2]), by rw [hk0]⟩
  clear hk0 h1 h2 he hk
  unfold taxAdjustedPayout siafundCount
  simp only []
  rw [guess_eq, if_neg (Nat.not_le.mpr h)]
  generalize 39 * t / 961 = e at *
  generalize e % 10000 = r at *
  subst hr
  obtain ⟨a1, a2⟩ := adjust_mod (s := 10000) t k r hrlt
  by_cases hg : (t + (10000 * k + r)) % 10000 < t % 10000
  · obtain ⟨b1, b2⟩ := a1 hg
    rw [if_pos hg, if_neg (Nat.not_lt.mpr b1),
      if_neg (Nat.not_le.mpr (Nat.lt_of_le_of_lt (Nat.add_le_add_right (Nat.sub_le _ _) _) hb)), b2]
  · rw [if_neg hg, if_neg (Nat.not_le.mpr hb), a2 hg]

/-- the panic boundary is exact: beyond it the (modelled) code panics -/
theorem c17_tax_adjusted_payout_overflow (t : Nat) (h : 340282366920938463463374607431768211456 ≤ t * 1000) :
    taxAdjustedPayout t = none := by
  unfold taxAdjustedPayout
  simp [h]

example : taxAdjustedPayout 87654321 = some 91204321 ∧ 91204321 = 87654321 + tax 91204321 := by decide

end C17
