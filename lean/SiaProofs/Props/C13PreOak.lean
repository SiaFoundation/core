import SiaProofs.Props.C13Total
/-!
# C13, clamp of the pre-Oak era (`c13_clamp_preoak`)

The `float64` comparison `float64(expected)/float64(elapsed) > 25.0/10.0` (resp.
`< 10.0/25.0`) is modelled by the exact rational comparison (`ratioGt25`, `ratioLt04`).
For the magnitudes that can occur (|elapsed| ≤ 9.3·10^9 s because `time.Duration`
saturates, 0 < expected ≤ 1.2·10^9) both operands are exactly representable, the
quotient is correctly rounded, and a ratio different from 5/2 (resp. 2/5) differs from it
by more than 2^-36 relative — far more than one ulp — so the two readings agree; the
correspondence run exercises exactly the boundary ratios.
-/
namespace C13
open Sia.Pow

/-- Before the Oak fork the target changes only on multiples of 500 blocks, and then by a
    factor within [10/25, 25/10] (floored; `capT` is the code's 256-bit conversion). -/
theorem c13_clamp_preoak {n : Network} {s : PowState} {ts tt : Int} {r : Nat}
    (hwf : n.WF) (hch : s.childHeight ≤ n.oakHeight) (hch0 : s.childHeight ≠ 0)
    (h : adjustTarget n s ts tt = .ok r) :
    (s.childHeight % 500 ≠ 0 → r = s.childTarget) ∧
    (s.childHeight % 500 = 0 →
      capT (s.childTarget * 10 / 25) ≤ r ∧ r ≤ capT (s.childTarget * 25 / 10)) := by
  obtain ⟨-, h2, hsec, -⟩ := hwf
  unfold adjustTarget at h
  rw [if_pos hch] at h
  obtain ⟨r', e, keep, clamp⟩ := preOakAdjust_clamp ts tt h2 hsec hch hch0
  obtain rfl : r' = r := Except.ok.inj (e.symm.trans h)
  exact ⟨keep, clamp⟩

/-- satisfiable: a retarget height (childHeight = 1000) with the chain three times too slow:
    clamped to ×25/10 -/
example : exPre.childHeight % 500 = 0 ∧ exPre.childHeight ≤ mainnetLike.oakHeight := by decide
set_option maxRecDepth 100000 in
example : adjustTarget mainnetLike exPre 1753800600 1751800000 = .ok (exPre.childTarget * 25 / 10) := by rfl

end C13
