/-
# C04 — Accumulator membership is sound

`containsLeaf` (consensus/merkle.go) accepts a leaf only if exactly that leaf — that
element hash, that spent flag, that leaf index — sits at that position of the naive
Merkle forest over all leaves ever added, and then the proof is the naive path; and
the genuine leaf with the naive path is accepted.

Model: `SiaModel/Merkle/Accumulator.lean` (transliteration of merkle.go),
specification: `SiaModel/Merkle/Forest.lean`. Hash injectivity is a hypothesis
(`HashInj`), never an axiom; a model of it is exhibited below (`T`, the free term
algebra).  Disjointness of leaf and node hashes is NOT needed: `containsLeaf` fixes the
proof length to the height of an existing tree, so a leaf can never be confused with
an interior node.
-/
import SiaProofs.Lemmas.Forest
import SiaProofs.Lemmas.TermHash
namespace C04
open Sia.ElemAcc

/-- BLAKE2b collision freedom in symbolic form, for the two hash shapes the
    accumulator uses: `node l r = H(0x01‖l‖r)` and
    `leaf e i s = H(0x00‖e‖le64 i‖s)`. -/
structure HashInj (H : Type) [Hasher H] : Prop where
  node_inj : ∀ a b c d : H, node a b = node c d → a = c ∧ b = d
  leaf_inj : ∀ (e e' : H) (i i' : Nat) (s s' : Bool),
    (Hasher.leaf e i s : H) = Hasher.leaf e' i' s' → e = e' ∧ i = i' ∧ s = s'

section
variable {H : Type} [Hasher H] [Inhabited H] [DecidableEq H]

/-- every leaf of the forest commits to its own position (true of every leaf list
    produced by `addLeaves`/`updateLeaves`, which hash `LeafIndex` into the leaf) -/
def IndexCommitted (ls : List H) : Prop :=
  ∀ j, j < ls.length → ∃ e s, ls.getD j default = Hasher.leaf e j s

/-- Soundness without the index commitment: an accepted leaf hash is the leaf at the
    position selected by the low bits of the claimed index, inside the tree selected
    by the proof length, and the proof is the naive path of that position. -/
theorem c04_contains_sound_raw (inj : NodeInj H) (acc : Acc H) (ls : List H)
    (hacc : acc.toForest = forestOf ls) (l : Leaf H) (hc : acc.containsLeaf l = true) :
    let p := treeStart ls.length l.proof.length + l.index % 2 ^ l.proof.length
    p < ls.length ∧ ls.getD p default = l.hash ∧ l.proof = path ls p := by
  intro p
  obtain ⟨hbit, hroot⟩ := (containsLeaf_iff hacc l).1 hc
  have hS : 2 ^ l.proof.length ∣ treeStart ls.length l.proof.length := dvd_of_dvd_succ (treeStart_dvd _ _)
  have hs := proofRoot_sound inj ls l.index l.hash l.proof.length _ l.proof rfl hS hroot.symm
  have hlt : l.index % 2 ^ l.proof.length < 2 ^ l.proof.length := Nat.mod_lt _ (Nat.two_pow_pos _)
  have hin : InTree ls.length l.proof.length p := ⟨hbit, by omega, by omega⟩
  refine ⟨inTree_lt hin, hs.1.symm, ?_⟩
  rw [path_eq, treeHeight_unique hin]
  exact hs.2

/-- **Soundness.** If the accumulator is the naive forest of `ls` and accepts `l`, then
    `l.index` is a position of the forest, the leaf there is exactly `l`'s hash (hence,
    by `c04_leaf_commits`, exactly that element hash, index and spent flag) and the
    proof is the naive Merkle path. -/
theorem c04_contains_sound (hi : HashInj H) (acc : Acc H) (ls : List H)
    (hacc : acc.toForest = forestOf ls) (hwf : IndexCommitted ls)
    (l : Leaf H) (hc : acc.containsLeaf l = true) :
    l.index < ls.length ∧ ls.getD l.index default = l.hash ∧ l.proof = path ls l.index := by
  have h := c04_contains_sound_raw hi.node_inj acc ls hacc l hc
  simp only at h
  generalize treeStart ls.length l.proof.length + l.index % 2 ^ l.proof.length = p at h
  obtain ⟨hlt, hleaf, hpath⟩ := h
  obtain ⟨e, s, he⟩ := hwf _ hlt
  have hleaf' := hleaf
  rw [he] at hleaf'
  have hpi : p = l.index := (hi.leaf_inj _ _ _ _ _ _ hleaf').2.1
  subst hpi
  exact ⟨hlt, hleaf, hpath⟩

/-- Either the conclusion holds or BLAKE2b has a collision of one of the two shapes: the
    contrapositive of `c04_contains_sound`. The proof is classical and exhibits no pair. -/
theorem c04_contains_sound_or_collision (acc : Acc H) (ls : List H)
    (hacc : acc.toForest = forestOf ls) (hwf : IndexCommitted ls)
    (l : Leaf H) (hc : acc.containsLeaf l = true) :
    (l.index < ls.length ∧ ls.getD l.index default = l.hash ∧ l.proof = path ls l.index) ∨
    (∃ a b c d : H, node a b = node c d ∧ ¬ (a = c ∧ b = d)) ∨
    (∃ (e e' : H) (i i' : Nat) (s s' : Bool), (Hasher.leaf e i s : H) = Hasher.leaf e' i' s' ∧ ¬ (e = e' ∧ i = i' ∧ s = s')) := by
  by_cases h1 : ∃ a b c d : H, node a b = node c d ∧ ¬ (a = c ∧ b = d)
  · exact Or.inr (Or.inl h1)
  by_cases h2 : ∃ (e e' : H) (i i' : Nat) (s s' : Bool), (Hasher.leaf e i s : H) = Hasher.leaf e' i' s' ∧ ¬ (e = e' ∧ i = i' ∧ s = s')
  · exact Or.inr (Or.inr h2)
  · left
    refine c04_contains_sound ⟨?_, ?_⟩ acc ls hacc hwf l hc
    · intro a b c d h
      exact Classical.byContradiction fun hn => h1 ⟨a, b, c, d, h, hn⟩
    · intro e e' i i' s s' h
      exact Classical.byContradiction fun hn => h2 ⟨e, e', i, i', s, s', h, hn⟩

/-- **Completeness.** The genuine leaf with the naive path is accepted. -/
theorem c04_contains_complete (acc : Acc H) (ls : List H) (hacc : acc.toForest = forestOf ls)
    (l : Leaf H) (hlt : l.index < ls.length) (hleaf : ls.getD l.index default = l.hash)
    (hproof : l.proof = path ls l.index) : acc.containsLeaf l = true := by
  have hin := treeHeight_spec hlt
  have hlen : l.proof.length = treeHeight ls.length l.index := by rw [hproof, path_length]
  rw [containsLeaf_iff hacc, hlen]
  refine ⟨hin.1, ?_⟩
  unfold Leaf.proofRoot
  rw [← hleaf, hproof, path_eq]
  exact (proofRoot_path_block ls (dvd_of_dvd_succ (treeStart_dvd _ _)) hin.2.1 hin.2.2).symm

/-- Membership is exactly "this leaf is at this position of the forest, with the naive
    path". `c04_live_iff_member` (Props/C04History) combines it with C05's invariant
    (`acc.toForest = forestOf ls` after every apply and revert, `ls` = all leaves ever
    added with spent ones rewritten). -/
theorem c04_member_iff (hi : HashInj H) (acc : Acc H) (ls : List H)
    (hacc : acc.toForest = forestOf ls) (hwf : IndexCommitted ls) (l : Leaf H) :
    acc.containsLeaf l = true ↔
      (l.index < ls.length ∧ ls.getD l.index default = l.hash ∧ l.proof = path ls l.index) :=
  ⟨c04_contains_sound hi acc ls hacc hwf l, fun ⟨h1, h2, h3⟩ => c04_contains_complete acc ls hacc l h1 h2 h3⟩

omit [Inhabited H] [DecidableEq H] in
/-- The leaf hash commits to the element hash, the leaf index and the spent flag: two
    leaves with the same hash agree on all three. -/
theorem c04_leaf_commits (hi : HashInj H) (l l' : Leaf H) (h : l.hash = l'.hash) :
    l.elem = l'.elem ∧ l.index = l'.index ∧ l.spent = l'.spent :=
  hi.leaf_inj _ _ _ _ _ _ h

/-- A leaf altered in element hash, index or spent flag (so that it is no longer the
    leaf stored at its claimed position) is rejected, whatever proof accompanies it. -/
theorem c04_rejects_altered (hi : HashInj H) (acc : Acc H) (ls : List H)
    (hacc : acc.toForest = forestOf ls) (hwf : IndexCommitted ls) (l : Leaf H)
    (hne : l.index < ls.length → ls.getD l.index default ≠ l.hash) : acc.containsLeaf l = false := by
  cases hc : acc.containsLeaf l with
  | false => rfl
  | true =>
    have := c04_contains_sound hi acc ls hacc hwf l hc
    exact absurd this.2.1 (hne this.1)

/-- A spent leaf is not accepted as unspent (and vice versa), with any proof. -/
theorem c04_rejects_wrong_spent_flag (hi : HashInj H) (acc : Acc H) (ls : List H)
    (hacc : acc.toForest = forestOf ls) (hwf : IndexCommitted ls)
    (e : H) (i : Nat) (s : Bool) (hleaf : ls.getD i default = Hasher.leaf e i s) (proof : List H) :
    acc.containsLeaf { elem := e, spent := !s, index := i, proof := proof } = false := by
  apply c04_rejects_altered hi acc ls hacc hwf
  intro _ h
  simp only [Leaf.hash] at h
  rw [hleaf] at h
  have := (hi.leaf_inj _ _ _ _ _ _ h).2.2
  cases s <;> simp at this

/-- An index beyond the leaves ever added (a leaf of a reverted branch, or one never
    created) is rejected. -/
theorem c04_rejects_beyond (hi : HashInj H) (acc : Acc H) (ls : List H)
    (hacc : acc.toForest = forestOf ls) (hwf : IndexCommitted ls) (l : Leaf H)
    (hge : ls.length ≤ l.index) : acc.containsLeaf l = false :=
  c04_rejects_altered hi acc ls hacc hwf l (fun h => absurd h (by omega))

end

/-! ### The hypotheses are satisfiable: the free term algebra -/

theorem T.hashInj : HashInj T where
  node_inj := T.node_inj
  leaf_inj := T.leaf_inj

def exLeaves : List T := [T.leaf (.atom 10) 0 false, T.leaf (.atom 11) 1 false, T.leaf (.atom 12) 2 true]

def exAcc : Acc T :=
  (emptyAcc.addLeaves [freshLeaf 10, freshLeaf 11, freshLeaf 12 true]).1

example : exAcc.numLeaves = 3 := by decide
example : exAcc.toForest.trees 0 = (forestOf exLeaves).trees 0 ∧ exAcc.toForest.trees 1 = (forestOf exLeaves).trees 1 := by decide
example : IndexCommitted exLeaves := by
  intro j hj
  have : j = 0 ∨ j = 1 ∨ j = 2 := by simp [exLeaves] at hj; omega
  rcases this with rfl | rfl | rfl
  · exact ⟨.atom 10, false, rfl⟩
  · exact ⟨.atom 11, false, rfl⟩
  · exact ⟨.atom 12, true, rfl⟩
/-- the genuine leaf 1 with its naive path is accepted … -/
example : exAcc.containsLeaf ⟨.atom 11, false, 1, path exLeaves 1⟩ = true := by decide
/-- … and is rejected with the spent flag flipped, at another index, or with another proof -/
example : exAcc.containsLeaf ⟨.atom 11, true, 1, path exLeaves 1⟩ = false := by decide
example : exAcc.containsLeaf ⟨.atom 11, false, 0, path exLeaves 1⟩ = false := by decide
example : exAcc.containsLeaf ⟨.atom 11, false, 1, path exLeaves 0⟩ = false := by decide
example : exAcc.containsLeaf ⟨.atom 12, false, 2, path exLeaves 2⟩ = false := by decide

end C04
