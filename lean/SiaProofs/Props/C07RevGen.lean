import SiaProofs.Props.C07Gen
/-!
# C07 / C03 — `validateRevision` as a WHOLE closure, on REGENERATED code: which contract a revision is judged against

`validateRevision` first selects the contract "as it currently stands": if the block's element table knows the
contract (`ms.elements[fce.ID]`) and the recorded diff carries an in-block revision, that revision; otherwise the
contract of the parent element the transaction supplies.  Then it runs the rule chain (`C07Gen.tie_validateRevision_gen`
relates that chain to the hand-written rules).  The whole closure — map lookup, slice index, nil test and pointer
dereference included — is translated.

* `currentContract` is that selection, written once;
* `tie_validateRevision_whole_gen`: the regenerated closure IS "select `currentContract`, then the regenerated rule
  chain on it" (the selection panics exactly when the element table points outside the diff list);
* `c07_revision_judged_against_current_gen`: consequently a revision is accepted exactly when the hand-written rules
  accept it AGAINST THE CURRENT CONTRACT and it is signed by the current contract's keys.
-/
namespace C07
open Gen.Types Gen.Consensus

/-- the contract a revision of `fce` is judged against -/
def currentContract (ms : MidState) (fce : V2FileContractElement) : Except String V2FileContract :=
  match Go.mapGet ms.elements fce.ID (0 : Int) with
  | (i, true) =>
    match Go.sliceGet ms.v2fces i with
    | .error e => .error e
    | .ok d =>
      match d.Revision with
      | some r => .ok r
      | none => .ok fce.V2FileContract
  | (_, false) => .ok fce.V2FileContract

theorem tie_validateRevision_whole_gen (ext : Ext) (ms : MidState) (fce : V2FileContractElement) (rev : V2FileContract) :
    validateV2FileContracts_validateRevision ext ms fce rev =
      (match currentContract ms fce with
       | .error e => .error e
       | .ok cur => validateV2FileContracts_validateRevisionRules ext cur rev ms) := by
  unfold validateV2FileContracts_validateRevision currentContract validateV2FileContracts_validateRevisionRules
  cases hm : Go.mapGet ms.elements fce.ID (0 : Int) with
  | mk i ok =>
    cases ok with
    | false => simp [bind, Except.bind, pure, Except.pure]
    | true =>
      cases hs : Go.sliceGet ms.v2fces i with
      | error e => simp [hs, bind, Except.bind, pure, Except.pure]
      | ok d =>
        cases hr : d.Revision with
        | none => simp [hs, hr, bind, Except.bind, pure, Except.pure]
        | some r => simp [hs, hr, bind, Except.bind, pure, Except.pure, Go.deref]

/-- A revision is accepted exactly when the hand-written rules accept it against the CURRENT contract (the latest
in-block revision if any) and it carries valid signatures of the CURRENT contract's keys. -/
theorem c07_revision_judged_against_current_gen (ext : Ext) (ms : MidState) (fce : V2FileContractElement)
    (rev cur : V2FileContract) (hc : currentContract ms fce = .ok cur) :
    validateV2FileContracts_validateRevision ext ms fce rev = .ok none ↔
      (Sia.Ledger.validateRevision (chOf ms) (ephOf ms) cur rev = .ok none ∧
       validateV2FileContracts_validateSignatures ext ms rev cur.RenterPublicKey cur.HostPublicKey = none) := by
  rw [tie_validateRevision_whole_gen, hc]
  exact (tie_validateRevision_gen ext ms cur rev).1

/-! ### non-vacuity: an in-block revision is what later revisions are judged against -/

def msWithRevision : MidState :=
  { elements := [(⟨#[9]⟩, 0)],
    v2fces := [{ Revision := some { sampleContract with RevisionNumber := 5 } }] }

example : currentContract msWithRevision { ID := ⟨#[9]⟩, V2FileContract := sampleContract }
    = .ok { sampleContract with RevisionNumber := 5 } := by rfl
example : currentContract msWithRevision { ID := ⟨#[8]⟩, V2FileContract := sampleContract } = .ok sampleContract := by rfl
-- revision number 3 is fine against the parent element (1) but not against the in-block revision (5)
example : validateV2FileContracts_validateRevision extAllOk msWithRevision { ID := ⟨#[9]⟩, V2FileContract := sampleContract }
    { sampleContract with RevisionNumber := 3 } = .ok (some "does not increase revision number (%v -> %v)") := by rfl
example : validateV2FileContracts_validateRevision extAllOk msWithRevision { ID := ⟨#[8]⟩, V2FileContract := sampleContract }
    { sampleContract with RevisionNumber := 3 } = .ok none := by rfl
-- an element table pointing outside the diff list is a panic, in the closure and in the selection alike
example : ∃ m, validateV2FileContracts_validateRevision extAllOk { elements := [(⟨#[9]⟩, 4)] } { ID := ⟨#[9]⟩ } {} = .error m := by apply Exists.intro; rfl

end C07
