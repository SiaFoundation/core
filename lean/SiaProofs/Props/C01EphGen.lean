import SiaModel.Gen.CodeConsensus
/-!
# C01 / C10 — the check of a same-block ("ephemeral") parent record, on REGENERATED code

`validateEphemeralSiacoinElement` / `validateEphemeralSiafundElement` decide whether a v2 input may spend an output
created earlier in the same block (unassigned leaf index: no accumulator proof exists yet).  Both are translated as
whole functions (map lookup in the block's element table, index into the per-kind diff list).

`c01_ephemeral_siacoin_gen`: if the regenerated check accepts, the element table knows the parent id, the diff it points
to was CREATED in this block, and — from `HardforkV2.EphemeralOutputHeight` on — the record the spender claims (id, output
with value and address, maturity height) is exactly the one recorded in that diff: a same-block spend cannot claim a
value the output does not hold.  Below that height only the first two facts follow: this is the documented legacy window
that C01's statement excludes, visible here as the hypothesis of the last conjunct.  `c01_ephemeral_siafund_gen`: the
siafund check accepts only below that height (its docstring says what follows then).
-/
namespace C01
open Gen.Types Gen.Consensus

theorem c01_ephemeral_siacoin_gen (ms : MidState) (sci : V2SiacoinInput)
    (h : validateEphemeralSiacoinElement ms sci = .ok none) :
    ∃ j d, Go.mapGet ms.elements sci.Parent.ID (0 : Int) = (j, true) ∧ Go.sliceGet ms.sces j = .ok d ∧ d.Created = true ∧
      (ms.base.Network.HardforkV2.EphemeralOutputHeight ≤ State.childHeight ms.base →
        d.SiacoinElement.ID = sci.Parent.ID ∧ d.SiacoinElement.SiacoinOutput = sci.Parent.SiacoinOutput ∧
        d.SiacoinElement.MaturityHeight = sci.Parent.MaturityHeight) := by
  unfold validateEphemeralSiacoinElement at h
  cases hm : Go.mapGet ms.elements sci.Parent.ID (0 : Int) with
  | mk j ok =>
    simp only [hm] at h
    cases ok with
    | false => simp [bind, Except.bind, pure, Except.pure] at h
    | true =>
      by_cases hj : (ms.sces.length : Int) ≤ j
      · simp [hj, bind, Except.bind, pure, Except.pure] at h
      cases hs : Go.sliceGet ms.sces j with
      | error e => simp [hj, hs, bind, Except.bind, pure, Except.pure] at h
      | ok d =>
        cases hc : d.Created with
        | false => simp [hj, hs, hc, bind, Except.bind, pure, Except.pure] at h
        | true =>
          refine ⟨j, d, rfl, hs, hc, ?_⟩
          intro hh
          have nlt : ¬ State.childHeight ms.base < ms.base.Network.HardforkV2.EphemeralOutputHeight := by omega
          simp only [hj, hs, hc, nlt, bind, Except.bind, pure, Except.pure, Bool.not_true, Bool.false_eq_true, Bool.or_false,
            decide_false, if_false, Bool.not_false] at h
          by_cases e1 : sci.Parent.ID ≠ d.SiacoinElement.ID
          · simp [hj, e1] at h
          by_cases e2 : sci.Parent.SiacoinOutput ≠ d.SiacoinElement.SiacoinOutput
          · simp [hj, e1, e2] at h
          by_cases e3 : sci.Parent.MaturityHeight ≠ d.SiacoinElement.MaturityHeight
          · simp [hj, e1, e2, e3] at h
          exact ⟨(Classical.not_not.mp e1).symm, (Classical.not_not.mp e2).symm, (Classical.not_not.mp e3).symm⟩

/-- Same-block SIAFUND parents: from the fix height on NO such spend is accepted; in the legacy window an accepted one
names a diff created in this block and claims a claim start that does not exceed the pool (guard of fix 9d7f24e). -/
theorem c01_ephemeral_siafund_gen (ms : MidState) (sfi : V2SiafundInput)
    (h : validateEphemeralSiafundElement ms sfi = .ok none) :
    State.childHeight ms.base < ms.base.Network.HardforkV2.EphemeralOutputHeight ∧
    (∃ j d, Go.mapGet ms.elements sfi.Parent.ID (0 : Int) = (j, true) ∧ Go.sliceGet ms.sfes j = .ok d ∧ d.Created = true) ∧
    ¬ sfi.Parent.ClaimStart.Cmp ms.siafundTaxRevenue > 0 := by
  unfold validateEphemeralSiafundElement at h
  cases hm : Go.mapGet ms.elements sfi.Parent.ID (0 : Int) with
  | mk j ok =>
    simp only [hm] at h
    cases ok with
    | false => simp [bind, Except.bind, pure, Except.pure] at h
    | true =>
      by_cases hj : (ms.sfes.length : Int) ≤ j
      · simp [hj, bind, Except.bind, pure, Except.pure] at h
      cases hs : Go.sliceGet ms.sfes j with
      | error e => simp [hj, hs, bind, Except.bind, pure, Except.pure] at h
      | ok d =>
        cases hc : d.Created with
        | false => simp [hj, hs, hc, bind, Except.bind, pure, Except.pure] at h
        | true =>
          by_cases hh : State.childHeight ms.base ≥ ms.base.Network.HardforkV2.EphemeralOutputHeight
          · simp [hj, hs, hc, hh, bind, Except.bind, pure, Except.pure] at h
          by_cases hcs : sfi.Parent.ClaimStart.Cmp ms.siafundTaxRevenue > 0
          · simp [hj, hs, hc, hh, hcs, bind, Except.bind, pure, Except.pure] at h
          exact ⟨by omega, ⟨j, d, rfl, hs, hc⟩, hcs⟩

def msOneCreated : MidState :=
  { base := { Index := { Height := 9 }, Network := { HardforkV2 := { EphemeralOutputHeight := 5 } } },
    elements := [(⟨#[3]⟩, 0)],
    sces := [{ Created := true, SiacoinElement := { ID := ⟨#[3]⟩, SiacoinOutput := { Value := { Lo := 40 } }, MaturityHeight := 12 } }] }

example : validateEphemeralSiacoinElement msOneCreated
    { Parent := { ID := ⟨#[3]⟩, SiacoinOutput := { Value := { Lo := 40 } }, MaturityHeight := 12 } } = .ok none := by rfl
example : validateEphemeralSiacoinElement msOneCreated
    { Parent := { ID := ⟨#[3]⟩, SiacoinOutput := { Value := { Lo := 41 } }, MaturityHeight := 12 } }
    = .ok (some "claims incorrect value (%v) for ephemeral output %v") := by rfl
-- the legacy window: the same inflated claim is accepted below the fix height
example : validateEphemeralSiacoinElement
    { msOneCreated with base := { Index := { Height := 2 }, Network := { HardforkV2 := { EphemeralOutputHeight := 5 } } } }
    { Parent := { ID := ⟨#[3]⟩, SiacoinOutput := { Value := { Lo := 41 } }, MaturityHeight := 12 } } = .ok none := by rfl
example : validateEphemeralSiafundElement { msOneCreated with sfes := [{ Created := true }] } { Parent := { ID := ⟨#[3]⟩ } }
    = .ok (some "spends ephemeral output %v") := by rfl

end C01
