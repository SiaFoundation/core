import SiaModel.Gen.CodeConsensus
import SiaProofs.Lemmas.GoLoops
/-!
# C04 — every parent record of a v1 block supplement is a member of the accumulator, on REGENERATED code

`consensus.validateSupplement` — the function that stands between the untrusted `V1BlockSupplement` and every v1
validation rule that reads a parent from it — is translated from the source, its six loops included.
The accumulator membership tests are external parameters (`ext.contains…`; their soundness is C04's accumulator
theorems).  The theorem: if the regenerated function accepts, then EVERY siacoin input record, siafund input record,
revised contract, proven contract and expiring contract of the supplement passed its membership test against the
state's accumulator, the supplement lists exactly one entry per v1 transaction, and from the v2 require height on it
is empty.
-/
namespace C04
open Gen.Types Gen.Consensus GoLoops

/-- the loop body `if !g { return err }` -/
theorem member_check {ε : Type} {g : Bool} {e : ε} {t : Option (Option ε)} {u : Unit}
    (h : (if (!g) = true then pure (some (some e), ()) else pure (none, ()) : Except String _) = .ok (t, u)) :
    t.elim (g = true) (· ≠ none) := by
  cases g <;> cases h <;> simp

/-- what the supplement check establishes about one transaction's supplement -/
structure TxnSuppOk (ext : Ext) (s : State) (t : V1TransactionSupplement) : Prop where
  sci : ∀ e ∈ t.SiacoinInputs, ext.containsUnspentSiacoinElement s.Elements (SiacoinElement.Share e) = true
  sfi : ∀ e ∈ t.SiafundInputs, ext.containsUnspentSiafundElement s.Elements (SiafundElement.Share e) = true
  rev : ∀ e ∈ t.RevisedFileContracts, ext.containsUnresolvedFileContractElement s.Elements (FileContractElement.Share e) = true
  sp : ∀ e ∈ t.StorageProofs, ext.containsUnresolvedFileContractElement s.Elements (FileContractElement.Share e.FileContract) = true

/--
**An accepted block supplement contains only members** (about `consensus.validateSupplement` as regenerated from the
source, loops included): every parent record of every kind passed its accumulator membership test, there is exactly
one supplement entry per v1 transaction, and from the v2 require height on the supplement is empty.
-/
theorem c04_supplement_gen (ext : Ext) (s : State) (b : Block) (bs : V1BlockSupplement)
    (h : validateSupplement ext s b bs = .ok none) :
    (State.childHeight s ≥ s.Network.HardforkV2.RequireHeight → bs.Transactions = [] ∧ bs.ExpiringFileContracts = []) ∧
    bs.Transactions.length = b.Transactions.length ∧
    (∀ t ∈ bs.Transactions, TxnSuppOk ext s t) ∧
    (∀ e ∈ bs.ExpiringFileContracts, ext.containsUnresolvedFileContractElement s.Elements (FileContractElement.Share e) = true) := by
  obtain ⟨c1, h⟩ := ite_else h nofun
  obtain ⟨c2, h⟩ := ite_else h nofun
  -- one transaction's supplement: four loops in a row, each passing an early return on to the outer loop
  obtain ⟨_, txns, h⟩ := forRange_accept (R := fun t _ _ => TxnSuppOk ext s t) h (fun _ _ => rfl) (by
    intro i t st r st' hx
    obtain ⟨q, _, hq, hx⟩ | ⟨_, p1, hx⟩ := forRange_bind hx (fun _ _ _ _ _ => member_check)
    · cases hx; exact hq
    obtain ⟨q, _, hq, hx⟩ | ⟨_, p2, hx⟩ := forRange_bind hx (fun _ _ _ _ _ => member_check)
    · cases hx; exact hq
    obtain ⟨q, _, hq, hx⟩ | ⟨_, p3, hx⟩ := forRange_bind hx (fun _ _ _ _ _ => member_check)
    · cases hx; exact hq
    obtain ⟨q, _, hq, hx⟩ | ⟨_, p4, hx⟩ := forRange_bind hx (fun _ _ _ _ _ => member_check)
    · cases hx; exact hq
    cases hx
    exact ⟨p1.forall, p2.forall, p3.forall, p4.forall⟩)
  obtain ⟨_, exp, _⟩ := forRange_accept h (fun _ _ => rfl) (fun _ _ _ _ _ => member_check)
  refine ⟨fun hh => ?_, ?_, txns.forall, exp.forall⟩
  · simpa [hh] using c1
  · simp at c2; omega

def extMember : Ext :=
  { Ext.trivial with containsUnspentSiacoinElement := fun _ e => decide (e.ID = Go.zeros 32) }

def suppOne : V1BlockSupplement := { Transactions := [{ SiacoinInputs := [{}] }] }
def suppForged : V1BlockSupplement := { Transactions := [{ SiacoinInputs := [{}, { ID := ⟨#[1]⟩ }] }] }

example : validateSupplement extMember { Network := { HardforkV2 := { RequireHeight := 100 } } } { Transactions := [{}] } suppOne = .ok none := by rfl
example : validateSupplement extMember { Network := { HardforkV2 := { RequireHeight := 100 } } } { Transactions := [{}] } suppForged
    = .ok (some "siacoin element %v is not present in the accumulator") := by rfl
example : validateSupplement extMember {} { Transactions := [{}] } suppOne
    = .ok (some "v1 block supplements are not allowed after v2 hardfork is complete") := by rfl
example : validateSupplement extMember { Network := { HardforkV2 := { RequireHeight := 100 } } } {} suppOne
    = .ok (some "incorrect number of transactions") := by rfl

end C04
