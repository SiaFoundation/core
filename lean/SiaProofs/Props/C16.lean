import SiaProofs.Lemmas.MerkleRhpAppend
import SiaProofs.Lemmas.MerkleRhpSound
import SiaProofs.Lemmas.MerkleRhpSize
/-!
# C16 — RHP Merkle roots and proofs are complete, sound and implementation-independent

Specification: `Sia.Rhp.metaRoot` (the plainly defined binary Merkle tree).
Implementation models (`SiaModel/Merkle/Rhp.lean`) mirror rhp/v2/merkle.go,
rhp/v4/merkle.go and blake2b/blake2b.go and are run against the Go code by the
correspondence harness with real BLAKE2b. Hash collision freedom is the *hypothesis*
`NodeInj` (`HashInj` in `c16_leaf_range_sound_data` only); the free term algebra `T` is a model
of it (`T_nodeInj`).

Leaf counts are assumed `≤ 2^30` where the builder's constant `math.MaxInt32` matters
(see `c16_range_complete`).
-/
set_option linter.unusedSectionVars false
namespace C16
open Sia.Rhp Sia.Rhp.HashOps

/-! ## a model of the hypotheses: the free term algebra -/

inductive T where
  | z : T
  | lf : List UInt8 → T
  | nd : T → T → T
  deriving DecidableEq

instance : HashOps T where
  zero := T.z
  leaf b := T.lf b.toList
  node := T.nd

theorem T_nodeInj : NodeInj T := by
  intro a b c d h
  cases h; exact ⟨rfl, rfl⟩

variable {H : Type} [HashOps H]

/-- Folding `AddLeaf` (blake2b.Accumulator) or `insertNode(·, 0)` (proofAccumulator) over any
list and taking the root gives the root of the plain tree. -/
theorem c16_accumulator_root (ls : List H) :
    (ls.foldl Acc.addLeaf Acc.empty).root = metaRoot ls ∧
    (ls.foldl (fun a h => a.insertNode h 0) Acc.empty).root = metaRoot ls := by
  constructor
  · exact (Inv.ofList ls).root
  · have := (Inv.empty (H := H)).foldl_insertLeaf ls
    simpa using this.root

example : (([T.lf [1], T.lf [2], T.lf [3]] : List T).foldl Acc.addLeaf Acc.empty).root
    = T.nd (T.nd (T.lf [1]) (T.lf [2])) (T.lf [3]) := by
  rw [(c16_accumulator_root _).1]
  exact metaRoot_triple _ _ _

/-- inserting whole aligned subtrees (any heights, as the proof verifiers do) keeps the
accumulator equal to the plain tree: the general step behind every verifier -/
theorem c16_accumulator_subtree (a : Acc H) (ls B : List H) (k : Nat) (hi : Inv a ls)
    (hB : B.length = 2 ^ k) (hd : 2 ^ k ∣ ls.length) :
    (a.insertNode (metaRoot B) k).root = metaRoot (ls ++ B) :=
  (hi.insertNode B k hB hd).root

/-- `MetaRoot`'s recursion above one sector ("split at the largest power of two") is the plain
root, whatever the leaf limit, as soon as the base case (the 4-lane sector accumulator) is. -/
theorem c16_metaroot_split (limit : Nat) (base : List H → H)
    (hbase : ∀ l : List H, l.length ≤ limit ∨ l.length < 2 → base l = metaRoot l) (ls : List H) :
    goMetaRoot limit base ls = metaRoot ls := by
  generalize hn : ls.length = n
  induction n using Nat.strongRecOn generalizing ls with
  | _ n ih =>
    rw [goMetaRoot]
    by_cases h : ls.length ≤ limit ∨ ls.length < 2
    · simp [h, hbase ls h]
    · simp only [h, dite_false]
      have h2 : 2 ≤ ls.length := by omega
      have hlt := splitPoint_lt h2
      have hpos := splitPoint_pos ls.length
      rw [ih _ (by simp [List.length_take]; omega) (ls.take (splitPoint ls.length)) rfl,
        ih _ (by simp [List.length_drop]; omega) (ls.drop (splitPoint ls.length)) rfl]
      exact (metaRoot_split ls h2).symm

/-- a full subtree of `2^k` leaves followed by at most `2^k` more: the root is the node of the
two plain roots (the step used by every `2^k`-subtree decomposition) -/
theorem c16_metaroot_append (l r : List H) (k : Nat) (hl : l.length = 2 ^ k)
    (hr0 : 0 < r.length) (hr : r.length ≤ 2 ^ k) :
    metaRoot (l ++ r) = node (metaRoot l) (metaRoot r) := metaRoot_append l r k hl hr0 hr

theorem flatten_length_pow (a : Nat) : ∀ (cs : List (List H)), (∀ c ∈ cs, c.length = 2 ^ a) →
    cs.flatten.length = cs.length * 2 ^ a := by
  intro cs
  induction cs with
  | nil => intro _; simp
  | cons c cs ih =>
    intro h
    simp only [List.flatten_cons, List.length_append, List.length_cons]
    rw [ih (fun c' hc' => h c' (List.mem_cons_of_mem _ hc')), h c List.mem_cons_self, Nat.add_mul]
    omega

/-- The parallel decomposition used by `SectorRoot`, `ReadSectorRoot` and `CachedSectorSubtrees`
(and by the streaming verifier): computing the plain roots of equal `2^a`-leaf chunks and then the
plain root of those roots gives the plain root of the whole. -/
theorem c16_metaroot_chunks (a : Nat) (chunks : List (List H)) (hc : ∀ c ∈ chunks, c.length = 2 ^ a) :
    metaRoot (chunks.map metaRoot) = metaRoot chunks.flatten := by
  induction chunks using split_induction with
  | nil => rfl
  | one c => rw [List.map_singleton, metaRoot_singleton, List.flatten_singleton]
  | node L R T hL hR0 hR ihL ihR =>
    -- `2^T` chunks on the left are a full subtree of `2^(T+a)` leaves
    have hcL : ∀ c ∈ L, c.length = 2 ^ a := fun c h => hc c (List.mem_append_left _ h)
    have hcR : ∀ c ∈ R, c.length = 2 ^ a := fun c h => hc c (List.mem_append_right _ h)
    rw [List.map_append, List.flatten_append,
      metaRoot_append _ _ T ((List.length_map _).trans hL) ((List.length_map _).symm ▸ hR0)
        ((List.length_map _).symm ▸ hR), ihL hcL, ihR hcR]
    refine (metaRoot_append _ _ (T + a) ?_ ?_ ?_).symm
    · rw [flatten_length_pow a L hcL, hL, Nat.pow_add]
    · rw [flatten_length_pow a R hcR]; exact Nat.mul_pos hR0 (Nat.two_pow_pos a)
    · rw [flatten_length_pow a R hcR, Nat.pow_add]; exact Nat.mul_le_mul_right _ hR

example : metaRoot ([[T.lf [0], T.lf [1]], [T.lf [2], T.lf [3]], [T.lf [4], T.lf [5]]].map metaRoot)
    = metaRoot ([T.lf [0], T.lf [1], T.lf [2], T.lf [3], T.lf [4], T.lf [5]] : List T) :=
  c16_metaroot_chunks 1 _ (by simp)

/-- equal roots of equal-length lists ⇒ equal lists (under node-hash injectivity) -/
theorem c16_root_injective (hinj : NodeInj H) (l1 l2 : List H) (hlen : l1.length = l2.length)
    (h : metaRoot l1 = metaRoot l2) : l1 = l2 := metaRoot_inj hinj hlen h

example : metaRoot ([T.lf [1], T.lf [2], T.lf [3]] : List T) ≠ metaRoot ([T.lf [1], T.lf [2], T.lf [4]] : List T) := by
  intro h
  have := c16_root_injective T_nodeInj [T.lf [1], T.lf [2], T.lf [3]] [T.lf [1], T.lf [2], T.lf [4]] rfl h
  exact absurd this (by decide)

/-! ## range proofs over a list of roots (Build/VerifySectorRangeProof, rhp4 SectorRootsProof) -/

def honestProof (ls : List H) (s e : Nat) : List H := buildRange ls 0 s ++ buildRange ls e maxInt32

theorem buildSectorRangeProof_eq (ls : List H) (s e : Nat) (hse : s < e) (hen : e ≤ ls.length) :
    buildSectorRangeProof ls s e = .ok (honestProof ls s e) := by
  unfold buildSectorRangeProof honestProof
  have h1 : ls.length ≠ 0 := by omega
  have h2 : ¬ (e > ls.length ∨ s > e ∨ s = e) := by omega
  simp [h1, h2]

/-- `|BuildSectorRangeProof| = RangeProofSize n start end` for every admissible range -/
theorem c16_range_size (ls : List H) (s e : Nat) (hse : s < e) (hen : e ≤ ls.length)
    (hn : ls.length ≤ 2 ^ 30) :
    (honestProof ls s e).length = rangeProofSize ls.length s e :=
  buildRange_total_length ls s e maxInt32 hse hen (by unfold maxInt32; omega)

theorem verify_honest [DecidableEq H] (ls : List H) (s e : Nat) (root : H) (hse : s < e)
    (hen : e ≤ ls.length) (hn : ls.length ≤ 2 ^ 30) :
    verifySectorRangeProof (honestProof ls s e) ((ls.drop s).take (e - s)) s e ls.length root
      = .ok (decide (metaRoot ls = root)) := by
  rw [verify_eq _ _ s e ls.length _ (by omega) (by simp [List.length_take, List.length_drop]; omega)
    (by omega) (c16_range_size ls s e hse hen hn)]
  exact congrArg (fun r => Except.ok (decide (r = root))) (rangeAcc_honest ls s e hse hen hn).2.2

/-- the built proof is accepted with the covered roots `ls[s:e]` and the plain root -/
theorem c16_range_complete [DecidableEq H] (ls : List H) (s e : Nat) (hse : s < e) (hen : e ≤ ls.length)
    (hn : ls.length ≤ 2 ^ 30) :
    ∃ proof, buildSectorRangeProof ls s e = .ok proof ∧
      verifySectorRangeProof proof ((ls.drop s).take (e - s)) s e ls.length (metaRoot ls) = .ok true := by
  refine ⟨honestProof ls s e, buildSectorRangeProof_eq ls s e hse hen, ?_⟩
  rw [verify_honest ls s e _ hse hen hn, decide_eq_true rfl]

def ex5 : List T := [T.lf [0], T.lf [1], T.lf [2], T.lf [3], T.lf [4]]

example : ∃ proof, buildSectorRangeProof ex5 1 3 = .ok proof ∧
    verifySectorRangeProof proof [T.lf [1], T.lf [2]] 1 3 5 (metaRoot ex5) = .ok true :=
  c16_range_complete ex5 1 3 (by decide) (by decide) (by decide)

/-- Soundness: with the true count `n = |ls|` and the true root, acceptance implies that the
covered roots ARE `ls[s:e]` and that the proof is exactly the honest one. Hence any altered
proof hash, covered root, index or root is rejected. -/
theorem c16_range_sound [DecidableEq H] (hinj : NodeInj H) (ls proof data : List H) (s e : Nat)
    (hse : s < e) (hen : e ≤ ls.length) (hn : ls.length ≤ 2 ^ 30)
    (hacc : verifySectorRangeProof proof data s e ls.length (metaRoot ls) = .ok true) :
    data = (ls.drop s).take (e - s) ∧ proof = honestProof ls s e := by
  obtain ⟨hd, hl, hroot⟩ := verify_accepts (by omega) (by omega) hacc
  obtain ⟨hP1n, hP3r, hC⟩ := rangeAcc_honest ls s e hse hen hn
  have hlenD : data.length = ((ls.drop s).take (e - s)).length := by
    rw [hd]; simp [List.length_take, List.length_drop]; omega
  -- the three phases, against the honest run
  have L1 := Lock.range hinj (x := (Acc.empty, proof)) (y := (Acc.empty, honestProof ls s e))
    ⟨rfl, by rw [hl, c16_range_size ls s e hse hen hn]⟩ 0 s rfl
  have L2 := Lock.leaves hinj data ((ls.drop s).take (e - s)) L1.1 hlenD
  have L3 := Lock.range hinj L2.1 e maxUint64
    (((foldl_insertLeaf_n _ _).trans (congrArg (· + _) hP1n)).trans (by rw [← hlenD, hd]; omega))
  obtain ⟨⟨-, hp⟩, ⟨-, hdata⟩, -⟩ :=
    ((L1.trans L2).trans L3).2 (SameState.of_root hinj L3.1 (hroot.trans hC.symm) hP3r)
  exact ⟨hdata, hp⟩

/-- constructive reading: for `T` (where injectivity holds outright) a forged covered root is rejected -/
example : verifySectorRangeProof (honestProof ex5 1 3) [T.lf [1], T.lf [9]] 1 3 5 (metaRoot ex5) ≠ .ok true := by
  intro h
  have := (c16_range_sound T_nodeInj ex5 _ _ 1 3 (by decide) (by decide) (by decide) h).1
  exact absurd this (by decide)

/-- a proof whose length differs from `RangeProofSize` (shorter or longer) is rejected -/
theorem c16_range_length_fixed [DecidableEq H] (proof data : List H) (s e n : Nat) (root : H)
    (hse : s < e) (hen : e ≤ n) (hd : data.length = e - s)
    (hl : proof.length ≠ rangeProofSize n s e) :
    verifySectorRangeProof proof data s e n root = .ok false := by
  unfold verifySectorRangeProof
  have h1 : n ≠ 0 := by omega
  have h2 : ¬ (e > n ∨ s > e ∨ s = e) := by omega
  simp [h1, hd, h2, hl]

/-- a wrong root is rejected (the verifier recomputes the root from proof and data) -/
theorem c16_range_root_bound [DecidableEq H] (ls : List H) (s e : Nat) (root : H)
    (hse : s < e) (hen : e ≤ ls.length) (hn : ls.length ≤ 2 ^ 30) (hroot : root ≠ metaRoot ls) :
    verifySectorRangeProof (honestProof ls s e) ((ls.drop s).take (e - s)) s e ls.length root = .ok false := by
  rw [verify_honest ls s e _ hse hen hn, decide_eq_false (Ne.symm hroot)]

/-! ## append proofs (rhp4 BuildAppendProof / VerifyAppendSectorsProof, rhp2 VerifyAppendProof) -/

theorem append_refill (ls extra : List H) :
    Inv (⟨fillTrees (fun _ => zero) ls.length 0
        ((buildAppendProof ls ([] : List H)).1 ++ extra), ls.length⟩ : Acc H) ls := by
  have hT := Inv.ofList ls
  refine hT.of_stack ?_ hT.2.symm
  unfold Acc.stack buildAppendProof
  simp only
  rw [hT.2]
  have := toStack_fill_collect (ls.foldl Acc.addLeaf (Acc.empty : Acc H)).trees ls.length (fun _ => zero) 0 extra
  rw [← hT.2] at this ⊢
  exact this

theorem buildAppendProof_fst (ls app : List H) :
    (buildAppendProof ls app).1 = (buildAppendProof ls ([] : List H)).1 := rfl

/-- Completeness: the builder's new root is the plain root of `ls ++ appended`; its subtree
roots are accepted by both verifiers together with the plain old and new roots — also when
extra hashes are appended to the list (this verifier does not fix the length). -/
theorem c16_append_complete [DecidableEq H] (ls app extra : List H) (x : H) :
    (buildAppendProof ls app).2 = metaRoot (ls ++ app) ∧
    verifyAppendSectorsProof ls.length ((buildAppendProof ls app).1 ++ extra) app
      (metaRoot ls) (metaRoot (ls ++ app)) = true ∧
    verifyAppendProof ls.length ((buildAppendProof ls app).1 ++ extra) x
      (metaRoot ls) (metaRoot (ls ++ [x])) = true := by
  have hR := append_refill ls extra
  refine ⟨((Inv.ofList ls).foldl_addLeaf app).root, ?_, ?_⟩
  · unfold verifyAppendSectorsProof
    rw [buildAppendProof_fst]
    simp [hR.root, (hR.foldl_addLeaf app).root]
  · unfold verifyAppendProof
    rw [buildAppendProof_fst]
    simp [hR.root, (hR.insertLeaf x).root]

example : verifyAppendSectorsProof 5 ((buildAppendProof ex5 [T.lf [7]]).1 ++ []) [T.lf [7]]
    (metaRoot ex5) (metaRoot (ex5 ++ [T.lf [7]])) = true :=
  (c16_append_complete ex5 [T.lf [7]] [] (T.lf [7])).2.1

/-- an accumulator refilled from ANY hashes that has the right count and root holds `ls`:
under node injectivity the root and the count determine the occupied slots -/
theorem fill_inv (hinj : NodeInj H) (ls hs : List H)
    (h : (⟨fillTrees (fun _ => zero) ls.length 0 hs, ls.length⟩ : Acc H).root = metaRoot ls) :
    Inv (⟨fillTrees (fun _ => zero) ls.length 0 hs, ls.length⟩ : Acc H) ls :=
  have hT := Inv.ofList ls
  hT.of_stack (root_inj hinj _ _ hT.2.symm (by rw [h, hT.root])) hT.2.symm

/-- Soundness: with the true count and the true old root, acceptance forces the new root to be
the plain root of `ls ++ appended` — whatever subtree hashes were supplied. -/
theorem c16_append_sound [DecidableEq H] (hinj : NodeInj H) (ls app hs : List H) (newRoot : H)
    (hacc : verifyAppendSectorsProof ls.length hs app (metaRoot ls) newRoot = true) :
    newRoot = metaRoot (ls ++ app) := by
  unfold verifyAppendSectorsProof at hacc
  simp only at hacc
  by_cases h : (⟨fillTrees (fun _ => zero) ls.length 0 hs, ls.length⟩ : Acc H).root = metaRoot ls
  · simp only [h, ne_eq, not_true_eq_false, if_false, decide_eq_true_eq] at hacc
    rw [← hacc]; exact ((fill_inv hinj ls hs h).foldl_addLeaf app).root
  · simp [h] at hacc

/-- rhp/v2 `VerifyAppendProof` is `VerifyAppendSectorsProof` for one appended sector -/
theorem verifyAppendProof_eq [DecidableEq H] (n : Nat) (hs : List H) (x oldRoot newRoot : H) :
    verifyAppendProof n hs x oldRoot newRoot = verifyAppendSectorsProof n hs [x] oldRoot newRoot := by
  unfold verifyAppendProof verifyAppendSectorsProof
  simp only [List.foldl_cons, List.foldl_nil, addLeaf_eq_insertNode]

/-- same for rhp/v2 `VerifyAppendProof` (one appended sector) -/
theorem c16_append_sound_v2 [DecidableEq H] (hinj : NodeInj H) (ls hs : List H) (x newRoot : H)
    (hacc : verifyAppendProof ls.length hs x (metaRoot ls) newRoot = true) :
    newRoot = metaRoot (ls ++ [x]) :=
  c16_append_sound hinj ls [x] hs newRoot ((verifyAppendProof_eq ..).symm.trans hacc)

/-- hence an altered appended root is rejected when the claimed new root is the true one -/
theorem c16_append_binds_data [DecidableEq H] (hinj : NodeInj H) (ls app app' hs : List H)
    (hlen : app'.length = app.length)
    (hacc : verifyAppendSectorsProof ls.length hs app' (metaRoot ls) (metaRoot (ls ++ app)) = true) :
    app' = app := by
  have h := c16_append_sound hinj ls app' hs _ hacc
  have := c16_root_injective hinj (ls ++ app) (ls ++ app') (by simp [hlen]) h
  exact (List.append_cancel_left this).symm

example : verifyAppendSectorsProof 5 (buildAppendProof ex5 [T.lf [7]]).1 [T.lf [8]]
    (metaRoot ex5) (metaRoot (ex5 ++ [T.lf [7]])) ≠ true := by
  intro h
  have := c16_append_binds_data T_nodeInj ex5 [T.lf [7]] [T.lf [8]] _ rfl h
  exact absurd this (by decide)

end C16
