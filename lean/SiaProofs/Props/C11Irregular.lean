import SiaProofs.Lemmas.CodecEnv
import SiaProofs.Props.C11Tie
import SiaModel.Codec.Spec
import SiaModel.Codec.Irregular
/-!
# C11 for hand-modelled irregular codecs

The generic theorems of `C11.lean` / `C10Decode.lean` hold over any environment whose
leaf codecs satisfy `CodecOK`. Here the environment `Irregular.env` used by the driver
(the policy layer, `V2FileContractResolution` — tag byte + payload —, the V2Transaction
bitmap codec) is shown to satisfy it, which instantiates every generic theorem for these
and for every generated schema that contains them.
-/
namespace C11
open Sia.Codec Sia.Codec.Gen

/-- the tag list `Irregular.resolutionTags` is the one in the code, in both directions (the model
codec `Irregular.resolutionPayload` writes its tags 0/1/2 out and does not read the list) -/
theorem tie_resolution_tags :
    resolutionTagsEnc = Irregular.resolutionTags ∧ resolutionTagsDec = Irregular.resolutionTags := by
  constructor <;> rfl

theorem envP_ok : EnvOK Irregular.envP := Env.with_ok Env.default_ok _ (Policy.codec_ok Env.default_ok)
theorem envP_fine : ExtsFine Irregular.envP :=
  Env.with_fine Env.default_fine _ (by rw [Policy.codec_minLen]; exact Nat.le_refl 1) (Policy.codec_guarded Env.default_fine)

theorem resolutionPayload_ok : CodecOK (Irregular.resolutionPayload Irregular.envP) := by
  apply tagged_ok
  exact tagsOK_cons (ofSch_ok envP_ok _ (wf_of_default envP_fine _ (by decide +kernel))) <|
    tagsOK_cons (ofSch_ok envP_ok _ (wf_of_default envP_fine _ (by decide +kernel))) <|
    tagsOK_cons (ofSch_ok envP_ok _ (wf_of_default envP_fine _ (by decide +kernel))) tagsOK_nil

theorem env1_ok : EnvOK Irregular.env1 := Env.with_ok envP_ok _ resolutionPayload_ok
theorem env1_fine : ExtsFine Irregular.env1 :=
  Env.with_fine envP_fine _ (Nat.le_refl 1) (by
    simp only [Irregular.resolutionPayload, Codec.tagged, tagGuarded, Codec.ofSch, Bool.and_true, Bool.and_eq_true]
    exact ⟨guarded_of_default envP_fine _ (by decide +kernel), guarded_of_default envP_fine _ (by decide +kernel),
      guarded_of_default envP_fine _ (by decide +kernel)⟩)

theorem env2_ok : EnvOK Irregular.env2 :=
  Env.with_ok env1_ok _ (ofSch_ok env1_ok _ (wf_of_default env1_fine _ (by decide +kernel)))
theorem env2_fine : ExtsFine Irregular.env2 :=
  Env.with_fine env1_fine _
    (by simp only [Codec.ofSch]
        exact Nat.le_trans (by decide +kernel) (minLen_default_le env1_fine _))
    (by simp only [Codec.ofSch]; exact guarded_of_default env1_fine _ (by decide +kernel))

/-- the v2 transaction layout in the code: version, bit order, field names, emptiness
tests and field schemas equal the committed specification; encoder and decoder agree:
`tie_symmetric_Types_V2Transaction` -/
theorem tie_wire_Types_V2Transaction :
    v2TxnVersionEnc = Spec.v2TransactionVersion ∧ v2TxnFieldsEnc = Spec.v2TransactionFields := by
  constructor <;> rfl

theorem tie_symmetric_Types_V2Transaction :
    v2TxnVersionEnc = v2TxnVersionDec ∧
    v2TxnFieldsEnc.map (fun t => (t.1, t.2.1, t.2.2.2)) = v2TxnFieldsDec.map (fun t => (t.1, t.2.1, t.2.2.2)) := by
  constructor <;> rfl

/-- the resolution tags of the code equal the committed specification -/
theorem tie_wire_Types_V2FileContractResolution :
    resolutionTagsEnc = Spec.v2FileContractResolutionTags ∧ encSchema_Types_V2FileContractElement = Spec.v2FileContractElement := by
  constructor <;> rfl

theorem v2txn_fields_wf :
    (v2TxnFieldsEnc.all fun t => t.2.2.2.wf Env.default && t.2.2.2.guarded Env.default) = true := by decide +kernel

theorem v2txn_fields_ok : FieldsOK (Irregular.v2TxnBitFields Irregular.env2 v2TxnFieldsEnc) := by
  intro f hf
  simp only [Irregular.v2TxnBitFields, List.mem_map] at hf
  obtain ⟨t, ht, rfl⟩ := hf
  have h := List.all_eq_true.mp v2txn_fields_wf t ht
  simp only [Bool.and_eq_true] at h
  exact ofSch_ok env2_ok _ (wf_of_default env2_fine _ h.1)

theorem fieldsGuarded_of_all {E : Env} (hE : ExtsFine E) (fs : List (Nat × String × ZeroKind × Sch))
    (h : (fs.all fun t => t.2.2.2.guarded Env.default) = true) :
    fieldsGuarded (Irregular.v2TxnBitFields E fs) = true := by
  induction fs with
  | nil => rfl
  | cons t ts ih =>
    simp only [List.all_cons, Bool.and_eq_true] at h
    simp only [Irregular.v2TxnBitFields, List.map_cons, fieldsGuarded, Codec.ofSch, Bool.and_eq_true]
    exact ⟨guarded_of_default hE _ h.1, ih h.2⟩

theorem v2txn_ok : CodecOK (Irregular.v2TxnCodec Irregular.env2) :=
  bitmap_ok (by decide) (by decide) v2txn_fields_ok

/-- **the driver's environment satisfies the leaf laws** (policy, resolution, v2 transaction) -/
theorem c11_env_ok : EnvOK Irregular.env := Env.with_ok env2_ok _ v2txn_ok

theorem env_fine : ExtsFine Irregular.env :=
  Env.with_fine env2_fine _ (by simp [Irregular.v2TxnCodec, Codec.bitmap])
    (by simp only [Irregular.v2TxnCodec, Codec.bitmap]
        exact fieldsGuarded_of_all env2_fine _ (by decide +kernel))

/-- every generated schema is well-formed and guarded in the driver's environment too -/
theorem tie_all_wf_guarded_env (n : String) (e d : Sch) (h : (n, e, d) ∈ allSchemas) :
    e.wf Irregular.env = true ∧ e.guarded Irregular.env = true := by
  obtain ⟨_, h1, h2⟩ := tie_generic_applies n e d h
  exact ⟨wf_of_default env_fine e h1, guarded_of_default env_fine e h2⟩

/-- the schema of a resolution (an `ext` leaf resolved by the environment) -/
def resolution : Sch := .ext "Types.V2FileContractResolution"

theorem c11_resolution_roundtrip (k : Nat) (v : Val) (rest : Bytes) (hc : Canon Irregular.env resolution v) :
    dec Irregular.env k resolution (enc Irregular.env resolution v ++ rest) = .ok (v, rest) :=
  c11_roundtrip c11_env_ok k resolution rfl v rest hc

theorem c11_resolution_injective (v w : Val) (hv : Canon Irregular.env resolution v)
    (hw : Canon Irregular.env resolution w) (h : enc Irregular.env resolution v = enc Irregular.env resolution w) : v = w :=
  c11_injective c11_env_ok resolution rfl v w hv hw h

theorem c11_resolution_truncation (k : Nat) (v : Val) (hc : Canon Irregular.env resolution v)
    (p q : Bytes) (h : p ++ q = enc Irregular.env resolution v) (hq : q ≠ []) :
    ∃ e, dec Irregular.env k resolution p = .error e :=
  c11_truncation_fails c11_env_ok false k resolution rfl v hc p q h hq

/-- decoding a resolution never panics and allocates linearly -/
theorem c10_resolution_total (k : Nat) (bs : Bytes) :
    dec Irregular.env k resolution bs ≠ .error .panic ∧
    allocOf Irregular.env k resolution bs ≤ resolution.depth Irregular.env * bs.length + resolution.depth Irregular.env * k :=
  ⟨C10D.c10_decode_total c11_env_ok false k resolution (by decide +kernel) bs,
   C10D.c10_decode_alloc_bounded c11_env_ok k resolution rfl (by decide +kernel) bs⟩

/-- the schema of a v2 transaction (an `ext` leaf resolved by the environment) -/
def v2txn : Sch := .ext "Types.V2Transaction"

/-- Version byte, bitmap and present fields decode back to the
same transaction (value = one entry per field, `none` when empty) -/
theorem c11_v2txn_roundtrip (k : Nat) (v : Val) (rest : Bytes) (hc : Canon Irregular.env v2txn v) :
    dec Irregular.env k v2txn (enc Irregular.env v2txn v ++ rest) = .ok (v, rest) :=
  c11_roundtrip c11_env_ok k v2txn rfl v rest hc

theorem c11_v2txn_injective (v w : Val) (hv : Canon Irregular.env v2txn v)
    (hw : Canon Irregular.env v2txn w) (h : enc Irregular.env v2txn v = enc Irregular.env v2txn w) : v = w :=
  c11_injective c11_env_ok v2txn rfl v w hv hw h

theorem c11_v2txn_truncation (k : Nat) (v : Val) (hc : Canon Irregular.env v2txn v)
    (p q : Bytes) (h : p ++ q = enc Irregular.env v2txn v) (hq : q ≠ []) :
    ∃ e, dec Irregular.env k v2txn p = .error e :=
  c11_truncation_fails c11_env_ok false k v2txn rfl v hc p q h hq

/-- The non-canonical v2 transactions the real decoder accepts are
exactly: a set bit whose field is empty, bits beyond the last field, and non-canonical
atoms inside fields (the strict decoder rejects precisely these) -/
theorem c11_v2txn_reencode (k : Nat) (bs : Bytes) (v : Val) (rest : Bytes)
    (h : dec Irregular.env k v2txn bs = .ok (v, rest)) :
    (enc Irregular.env v2txn v ++ rest = bs ↔ decStrict Irregular.env k v2txn bs = .ok (v, rest)) :=
  c11_reencode c11_env_ok k v2txn rfl bs v rest h

/-- decoding a v2 transaction never panics and allocates linearly -/
theorem c10_v2txn_total (k : Nat) (bs : Bytes) :
    dec Irregular.env k v2txn bs ≠ .error .panic ∧
    allocOf Irregular.env k v2txn bs ≤ v2txn.depth Irregular.env * bs.length + v2txn.depth Irregular.env * k :=
  ⟨C10D.c10_decode_total c11_env_ok false k v2txn (by decide +kernel) bs,
   C10D.c10_decode_alloc_bounded c11_env_ok k v2txn rfl (by decide +kernel) bs⟩

/-- non-vacuity: a transaction with one attestation-free field set (arbitrary data) and a fee;
and the non-canonical form with the SiacoinInputs bit set on an empty slice -/
def exTxn : Val := .list [.none, .none, .none, .none, .none, .none, .none, .none,
  .some (.bytes [1, 2, 3]), .none, .some (.pair (.nat 5) (.pair (.nat 0) .unit))]
example : Canon Irregular.env v2txn exTxn := by decide +kernel
example : enc Irregular.env v2txn exTxn =
    [2, 0,5,0,0,0,0,0,0, 3,0,0,0,0,0,0,0, 1,2,3, 5,0,0,0,0,0,0,0, 0,0,0,0,0,0,0,0] := by decide +kernel
example : dec Irregular.env 0 v2txn [2, 1,0,0,0,0,0,0,0, 0,0,0,0,0,0,0,0] =
    .ok (.list [.none, .none, .none, .none, .none, .none, .none, .none, .none, .none, .none], []) := rfl
example : decStrict Irregular.env 0 v2txn [2, 1,0,0,0,0,0,0,0, 0,0,0,0,0,0,0,0] = .error .invalid := rfl

/-- non-vacuity: an expiration (tag 2, empty payload) of a contract element with an empty proof -/
def exResolution : Val :=
  let zero32 : Val := .bytes (List.replicate 32 0)
  let zero64 : Val := .bytes (List.replicate 64 0)
  let cur : Val := .pair (.nat 0) (.pair (.nat 0) .unit)
  let out : Val := .pair cur (.pair zero32 .unit)
  let se : Val := .pair (.nat 7) (.pair (.list []) .unit)
  let fc : Val := .pair (.nat 1) <| .pair (.nat 2) <| .pair zero32 <| .pair (.nat 3) <| .pair (.nat 4) <|
    .pair out <| .pair out <| .pair cur <| .pair cur <| .pair zero32 <| .pair zero32 <| .pair (.nat 5) <|
    .pair zero64 <| .pair zero64 .unit
  .pair (.pair se (.pair zero32 (.pair fc .unit))) (.pair (.pair (.nat 2) .unit) .unit)

example : Canon Irregular.env resolution exResolution := by decide +kernel
example : (enc Irregular.env resolution exResolution).length = 441 := by decide +kernel

end C11
