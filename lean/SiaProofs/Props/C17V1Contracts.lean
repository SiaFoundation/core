import SiaProofs.Props.C17V1
import SiaProofs.Lemmas.C17Arith
import SiaModel.Rhp.V1Contracts
import SiaModel.Ledger.Model
/-!
# C17, v1 era — formation / renewal payouts and `PayByContract`

* `Gen.Rhp2.CalculateHostPayouts` (generated from rhp/v2/contracts.go): theorem
  `c17_v1_host_payouts`.
* `Sia.Rhp.V1.prepareFormation`, `prepareRenewalV2`, `renewalCostsV3`, `hostPayoutsV3`,
  `prepareRenewalV3`, `payByContract`: hand models (SiaModel/Rhp/V1Contracts.lean) of the
  Go functions outside the T-code subset, tied by the correspondence ops `rhp1c …`.
* the consensus side is `Sia.Ledger.fileContractTax` / the checks of
  `Sia.Ledger.validateFileContracts` (valid sum = missed sum; payout = valid sum + tax).
-/
namespace C17
open Sia.Rhp.V1

/-- post-hardfork `State.FileContractTax` of the ledger model = the `tax` the payout
inversion is proved against -/
theorem tie_v1_tax (L : Sia.Ledger.Ledger) (p : Nat) (hf : L.P.hfTax ≤ L.child)
    (hp : p < 340282366920938463463374607431768211456) : Sia.Ledger.fileContractTax L p = tax p := by
  unfold Sia.Ledger.fileContractTax tax siafundCount Sia.Ledger.curLimit
  have : ¬ L.child < L.P.hfTax := by omega
  simp only [this, ↓reduceIte]
  have h1 : p * 39 / 1000 - p * 39 / 1000 % 10000 < 340282366920938463463374607431768211456 := by omega
  exact Nat.mod_eq_of_lt h1

theorem add?_inv {a b s : Nat} (h : add? a b = some s) : s = a + b ∧ a + b < 340282366920938463463374607431768211456 := by
  unfold add? lim at h
  split at h
  · cases h; exact ⟨rfl, by assumption⟩
  · cases h

theorem sub?_inv {a b s : Nat} (h : sub? a b = some s) : s + b = a := by
  unfold sub? at h
  split at h
  · cases h; omega
  · cases h

theorem mul64?_inv {a n s : Nat} (h : mul64? a n = some s) : s = a * n := by
  unfold mul64? at h
  split at h
  · cases h; rfl
  · cases h

theorem payout_inv {t p S : Nat} (h : taxAdjustedPayout t = some p) (hS : S = t) :
    p = S + tax p ∧ ∀ L : Sia.Ledger.Ledger, L.P.hfTax ≤ L.child → p = S + Sia.Ledger.fileContractTax L p := by
  subst hS
  by_cases hlt : S * 1000 < 340282366920938463463374607431768211456
  · obtain ⟨p', e, h1, h2⟩ := c17_tax_adjusted_payout S hlt
    rw [e] at h; cases h
    exact ⟨h1, fun L hL => by rw [tie_v1_tax L p hL (by omega)]; exact h1⟩
  · rw [c17_tax_adjusted_payout_overflow S (by omega)] at h; cases h

/--
**v1 formation is consensus-valid** (rhp/v2 `PrepareContractFormation`): the valid and
missed outputs have the same sum (renter payout + contract price + host collateral) and
the payout is that sum plus the consensus tax *of the payout* — the two value checks of
`validateFileContracts` (post tax-hardfork) — and the contract starts at revision 0 with
the requested window.
-/
theorem c17_v1_formation_valid (rp hc cp e ws : Nat) (fc : Contract)
    (h : prepareFormation rp hc cp e ws = some fc) :
    fc.valid.sum = fc.missed.sum ∧ fc.valid.sum = rp + cp + hc ∧
    fc.payout = fc.valid.sum + tax fc.payout ∧
    (∀ L : Sia.Ledger.Ledger, L.P.hfTax ≤ L.child → fc.payout = fc.valid.sum + Sia.Ledger.fileContractTax L fc.payout) ∧
    fc.windowStart = e ∧ fc.windowEnd = (e + ws) % 18446744073709551616 ∧ fc.revNum = 0 ∧ fc.filesize = 0 := by
  unfold prepareFormation at h
  obtain ⟨hp, e1, h⟩ := Option.bind_eq_some_iff.1 h
  obtain ⟨t, e2, h⟩ := Option.bind_eq_some_iff.1 h
  obtain ⟨p, e3, h⟩ := Option.bind_eq_some_iff.1 h
  simp only [pure, Option.some.injEq] at h
  subst h
  obtain ⟨a1, _⟩ := add?_inv e1
  obtain ⟨a2, _⟩ := add?_inv e2
  have s1 : [rp, hp].sum = rp + cp + hc := by simp only [List.sum_cons, List.sum_nil, Nat.add_zero]; omega
  have s2 : [rp, hp, 0].sum = rp + cp + hc := by simp only [List.sum_cons, List.sum_nil, Nat.add_zero]; omega
  obtain ⟨q1, q2⟩ := payout_inv e3 (s1.trans (by omega))
  exact ⟨by simp only []; rw [s1, s2], s1, q1, q2, rfl, rfl, rfl, rfl⟩

/-- … and it does not panic when `1000 · (renter payout + contract price + collateral)`
fits in 128 bits (hypothesis `fits`). -/
theorem c17_v1_formation_no_panic (rp hc cp e ws : Nat)
    (fits : (rp + cp + hc) * 1000 < 340282366920938463463374607431768211456) :
    ∃ fc, prepareFormation rp hc cp e ws = some fc := by
  obtain ⟨p, e3, _⟩ := c17_tax_adjusted_payout (rp + (cp + hc)) (by rw [← Nat.add_assoc]; exact fits)
  have l1 : cp + hc < 340282366920938463463374607431768211456 := by omega
  have l2 : rp + (cp + hc) < 340282366920938463463374607431768211456 := by omega
  have e1 : add? cp hc = some (cp + hc) := by simp only [add?, lim, l1, ↓reduceIte]
  have e2 : add? rp (cp + hc) = some (rp + (cp + hc)) := by simp only [add?, lim, l2, ↓reduceIte]
  unfold prepareFormation
  simp only [e1, e2, e3, bind, Option.bind, pure]
  exact ⟨_, rfl⟩

open Gen.Types C15 in
/-- `CalculateHostPayouts` once base price `bp` and base collateral `bc` are fixed (the code has this tail once, the
translation once per branch of the `if` that sets the two). -/
theorem hostPayouts_tail {cp bp bc nc hv hm vm b : Currency} (wcp : WF cp) (wbp : WF bp) (wbc : WF bc) (wnc : WF nc)
    (h : (do
      let t5 ← cp.Add bp
      let t6 ← t5.Add bc
      let t7 ← t6.Add nc
      let t8 ← bp.Add bc
      if decide (t7.Cmp t8 < 0) then throw "host's settings are unsatisfiable" else do
        let t9 ← t7.Sub t8
        pure (t7, t9, t8, bp)) = Except.ok (hv, hm, vm, b)) :
    WF hv ∧ WF hm ∧ WF vm ∧ b = bp ∧ val hm + val vm = val hv ∧ val hv = val cp + val vm + val nc ∧ val bp ≤ val vm := by
  obtain ⟨t5, e5, h⟩ := GoLoops.of_bind_ok h
  obtain ⟨t6, e6, h⟩ := GoLoops.of_bind_ok h
  obtain ⟨t7, e7, h⟩ := GoLoops.of_bind_ok h
  obtain ⟨t8, e8, h⟩ := GoLoops.of_bind_ok h
  obtain ⟨_, i5⟩ := (c15_add_panics_iff wcp.is wbp.is).of_ok e5
  obtain ⟨_, i6⟩ := (c15_add_panics_iff i5 wbc.is).of_ok e6
  obtain ⟨_, i7⟩ := (c15_add_panics_iff i6 wnc.is).of_ok e7
  obtain ⟨_, i8⟩ := (c15_add_panics_iff wbp.is wbc.is).of_ok e8
  split at h
  · simp [throw, throwThe, MonadExceptOf.throw] at h
  · obtain ⟨t9, e9, h⟩ := GoLoops.of_bind_ok h
    simp only [pure, Except.pure, Except.ok.injEq, Prod.mk.injEq] at h
    obtain ⟨rfl, rfl, rfl, rfl⟩ := h
    obtain ⟨_, i9, _⟩ := (c15_sub_panics_iff i7 i8).of_ok e9
    have := i7.eq; have := i8.eq; have := i9.eq
    exact ⟨i7.wf, i9.wf, i8.wf, rfl, by omega, by omega, by omega⟩

open Gen.Types C15 in
/--
**Host payouts of a v2 renewal** (generated code): whenever the function returns, the
missed host payout plus the void payout equals the valid host payout, the valid payout is
contract price + void payout (base price + base collateral) + new collateral, and the base
price is part of the void payout.
-/
theorem c17_v1_host_payouts (fc : FileContract) (nc : Currency) (s : Gen.Rhp2.HostSettings) (e : Nat)
    (hv hm vm bp : Currency)
    (wnc : WF nc) (wcp : WF s.ContractPrice) (wsp : WF s.StoragePrice) (wco : WF s.Collateral)
    (wfs : fc.Filesize < W)
    (h : Gen.Rhp2.CalculateHostPayouts fc nc s e = .ok (hv, hm, vm, bp)) :
    WF hv ∧ WF hm ∧ WF vm ∧ WF bp ∧
    val hm + val vm = val hv ∧ val hv = val s.ContractPrice + val vm + val nc ∧ val bp ≤ val vm := by
  unfold Gen.Rhp2.CalculateHostPayouts at h
  simp only [] at h
  by_cases hc : (e + s.WindowSize) % 18446744073709551616 > fc.WindowEnd
  · simp only [hc, decide_true, if_true] at h
    obtain ⟨t1, e1, h⟩ := GoLoops.of_bind_ok h
    obtain ⟨t2, e2, h⟩ := GoLoops.of_bind_ok h
    obtain ⟨t3, e3, h⟩ := GoLoops.of_bind_ok h
    obtain ⟨t4, e4, h⟩ := GoLoops.of_bind_ok h
    have hte : ((e + s.WindowSize) % 18446744073709551616 + 18446744073709551616 - fc.WindowEnd) % 18446744073709551616 < W :=
      Nat.mod_lt _ (by omega)
    obtain ⟨_, i1⟩ := (c15_mul64_panics_iff wsp.is wfs).of_ok e1
    obtain ⟨_, i2⟩ := (c15_mul64_panics_iff i1 hte).of_ok e2
    obtain ⟨_, i3⟩ := (c15_mul64_panics_iff wco.is wfs).of_ok e3
    obtain ⟨_, i4⟩ := (c15_mul64_panics_iff i3 hte).of_ok e4
    obtain ⟨a, b, c, rfl, q⟩ := hostPayouts_tail wcp i2.wf i4.wf wnc h
    exact ⟨a, b, c, i2.wf, q⟩
  · simp only [hc, decide_false, Bool.false_eq_true, if_false] at h
    obtain ⟨a, b, c, rfl, q⟩ := hostPayouts_tail wcp wf_zero wf_zero wnc h
    exact ⟨a, b, c, wf_zero, q⟩

theorem cv_eq_val (c : Gen.Types.Currency) : cv c = C15.val c := rfl

theorem sum2 (a b : Nat) : [a, b].sum = a + b := by simp [List.sum_cons]
theorem sum3 (a b c : Nat) : [a, b, c].sum = a + b + c := by simp [List.sum_cons]; omega

open Gen.Types C15 in
/--
**v1 renewal (rhp/v2 `PrepareContractRenewal`) is consensus-valid**: valid outputs
(renter, host) and missed outputs (renter, host missed, void) have the same sum and the
payout is that sum plus the consensus tax of the payout.
-/
theorem c17_v1_renewal_valid (cur : FileContract) (rp : Nat) (nc : Currency) (s : Gen.Rhp2.HostSettings) (e : Nat)
    (fc : Contract) (bp : Nat)
    (wnc : WF nc) (wcp : WF s.ContractPrice) (wsp : WF s.StoragePrice) (wco : WF s.Collateral)
    (wfs : cur.Filesize < W)
    (h : prepareRenewalV2 cur rp nc s e = some (fc, bp)) :
    fc.valid.sum = fc.missed.sum ∧ fc.payout = fc.valid.sum + tax fc.payout ∧
    (∀ L : Sia.Ledger.Ledger, L.P.hfTax ≤ L.child → fc.payout = fc.valid.sum + Sia.Ledger.fileContractTax L fc.payout) ∧
    fc.filesize = cur.Filesize ∧ fc.windowStart = e ∧ fc.revNum = 0 ∧ fc.valid.length = 2 ∧ fc.missed.length = 3 := by
  unfold prepareRenewalV2 at h
  cases hres : Gen.Rhp2.CalculateHostPayouts cur nc s e with
  | error err => rw [hres] at h; cases h
  | ok r =>
    obtain ⟨hv, hm, vm, b⟩ := r
    rw [hres] at h
    simp only [] at h
    obtain ⟨_, _, _, _, q1, _, _⟩ := c17_v1_host_payouts cur nc s e hv hm vm b wnc wcp wsp wco wfs hres
    obtain ⟨t, e2, h⟩ := Option.bind_eq_some_iff.1 h
    obtain ⟨p, e3, h⟩ := Option.bind_eq_some_iff.1 h
    simp only [pure, Option.some.injEq, Prod.mk.injEq] at h
    obtain ⟨rfl, rfl⟩ := h
    obtain ⟨a2, _⟩ := add?_inv e2
    have q1' : cv hm + cv vm = cv hv := by rw [cv_eq_val, cv_eq_val, cv_eq_val]; exact q1
    obtain ⟨q2, q3⟩ := payout_inv e3 ((sum2 rp (cv hv)).trans a2.symm)
    exact ⟨by simp only []; rw [sum2, sum3]; omega, q2, q3, rfl, rfl, rfl, rfl, rfl⟩

/-- rhp/v3 `CalculateHostPayouts` (hand model): missed + void = valid, valid = contract price
+ void + new collateral ≥ …, new collateral respects the requested minimum. -/
theorem c17_v1_host_payouts_v3 (fs wst wend minNC : Nat) (pt : PriceTable) (ens e : Nat) (hv hm vm bp : Nat)
    (h : hostPayoutsV3 fs wst wend minNC pt ens e = some (some (hv, hm, vm, bp))) :
    hm + vm = hv ∧ bp ≤ vm ∧ pt.contractPrice + vm + minNC ≤ hv ∧ wst ≤ e ∧ pt.hostBlockHeight ≤ e := by
  unfold hostPayoutsV3 at h
  split at h
  · cases h
  · split at h
    · cases h
    · obtain ⟨⟨b, bc, nc⟩, e1, h⟩ := Option.bind_eq_some_iff.1 h
      simp only [] at h
      split at h
      · cases h
      · obtain ⟨t1, e2, h⟩ := Option.bind_eq_some_iff.1 h
        obtain ⟨t2, e3, h⟩ := Option.bind_eq_some_iff.1 h
        obtain ⟨t3, e4, h⟩ := Option.bind_eq_some_iff.1 h
        obtain ⟨t4, e5, h⟩ := Option.bind_eq_some_iff.1 h
        split at h
        · cases h
        · obtain ⟨t5, e6, h⟩ := Option.bind_eq_some_iff.1 h
          simp only [pure, Option.some.injEq, Prod.mk.injEq] at h
          obtain ⟨rfl, rfl, rfl, rfl⟩ := h
          obtain ⟨a2, _⟩ := add?_inv e2
          obtain ⟨a3, _⟩ := add?_inv e3
          obtain ⟨a4, _⟩ := add?_inv e4
          obtain ⟨a5, _⟩ := add?_inv e5
          have a6 := sub?_inv e6
          omega

/-- **v1 renewal (rhp/v3 `PrepareContractRenewal`) is consensus-valid.** -/
theorem c17_v1_renewal_v3_valid (fs wst wend rp minNC : Nat) (pt : PriceTable) (ens e : Nat) (fc : Contract) (bp : Nat)
    (h : prepareRenewalV3 fs wst wend rp minNC pt ens e = some (some (fc, bp))) :
    fc.valid.sum = fc.missed.sum ∧ fc.payout = fc.valid.sum + tax fc.payout ∧
    (∀ L : Sia.Ledger.Ledger, L.P.hfTax ≤ L.child → fc.payout = fc.valid.sum + Sia.Ledger.fileContractTax L fc.payout) ∧
    fc.filesize = fs ∧ fc.windowStart = e ∧ wst ≤ e ∧ fc.revNum = 0 ∧ fc.valid.length = 2 ∧ fc.missed.length = 3 := by
  unfold prepareRenewalV3 at h
  cases hres : hostPayoutsV3 fs wst wend minNC pt ens e with
  | none => rw [hres] at h; cases h
  | some r =>
    cases r with
    | none => rw [hres] at h; cases h
    | some q =>
      obtain ⟨hv, hm, vm, b⟩ := q
      rw [hres] at h
      simp only [] at h
      obtain ⟨q1, _, _, q4, _⟩ := c17_v1_host_payouts_v3 fs wst wend minNC pt ens e hv hm vm b hres
      obtain ⟨t, e2, h⟩ := Option.bind_eq_some_iff.1 h
      obtain ⟨p, e3, h⟩ := Option.bind_eq_some_iff.1 h
      simp only [pure, Option.some.injEq, Prod.mk.injEq] at h
      obtain ⟨rfl, rfl⟩ := h
      obtain ⟨a2, _⟩ := add?_inv e2
      obtain ⟨q2, q3⟩ := payout_inv e3 ((sum2 rp hv).trans a2.symm)
      exact ⟨by simp only []; rw [sum2, sum3]; omega, q2, q3, rfl, rfl, q4, rfl, rfl, rfl⟩

/--
**rhp/v3 `PayByContract`** moves `amount` from the renter's to the host's output in both
the valid and the missed outputs: both sums are preserved (the two sum checks of a v1
revision in `validateFileContracts`), the revision number goes up by one (so the revision
is newer than its parent unless the number was already 2^64−1), nothing else changes; it
refuses — leaving the revision untouched — exactly when the valid or the missed renter
output is below the amount.
-/
theorem c17_pay_by_contract (valid missed : List Nat) (rev amount : Nat)
    (r : Option (List Nat × List Nat × Nat))
    (h : payByContract valid missed rev amount = some r) :
    ∃ vr vrest, valid = vr :: vrest ∧
      (r = none ↔ (vr < amount ∨ ∃ mr mrest, missed = mr :: mrest ∧ mr < amount)) ∧
      ∀ v' m' r', r = some (v', m', r') →
        ∃ vh vt mr mh mt, vrest = vh :: vt ∧ missed = mr :: mh :: mt ∧ amount ≤ vr ∧ amount ≤ mr ∧
          v' = (vr - amount) :: (vh + amount) :: vt ∧ m' = (mr - amount) :: (mh + amount) :: mt ∧
          v'.sum = valid.sum ∧ m'.sum = missed.sum ∧ v'.length = valid.length ∧ m'.length = missed.length ∧
          r' = (rev + 1) % 18446744073709551616 ∧ (rev + 1 < 18446744073709551616 → rev < r') := by
  unfold payByContract at h
  cases valid with
  | nil => cases h
  | cons vr vrest =>
    refine ⟨vr, vrest, rfl, ?_⟩
    simp only [] at h
    by_cases c1 : vr < amount
    · simp only [c1, if_true, Option.some.injEq] at h
      subst h
      exact ⟨⟨fun _ => Or.inl c1, fun _ => rfl⟩, fun _ _ _ x => by cases x⟩
    · simp only [c1, if_false] at h
      cases missed with
      | nil => cases h
      | cons mr mrest =>
        simp only [] at h
        by_cases c2 : mr < amount
        · simp only [c2, if_true, Option.some.injEq] at h
          subst h
          exact ⟨⟨fun _ => Or.inr ⟨mr, mrest, rfl, c2⟩, fun _ => rfl⟩, fun _ _ _ x => by cases x⟩
        · simp only [c2, if_false] at h
          cases vrest with
          | nil => cases h
          | cons vh vt =>
            cases mrest with
            | nil => cases h
            | cons mh mt =>
              simp only [] at h
              obtain ⟨vh', e1, h⟩ := Option.bind_eq_some_iff.1 h
              obtain ⟨mh', e2, h⟩ := Option.bind_eq_some_iff.1 h
              simp only [pure, Option.some.injEq] at h
              subst h
              obtain ⟨a1, _⟩ := add?_inv e1
              obtain ⟨a2, _⟩ := add?_inv e2
              subst a1; subst a2
              refine ⟨⟨(fun x => by cases x), fun x => ?_⟩, ?_⟩
              · rcases x with x | ⟨mr', mrest', e, x⟩
                · exact absurd x c1
                · cases e; exact absurd x c2
              · intro v' m' r' e
                simp only [Option.some.injEq, Prod.mk.injEq] at e
                obtain ⟨rfl, rfl, rfl⟩ := e
                refine ⟨vh, vt, mr, mh, mt, rfl, rfl, by omega, by omega, rfl, rfl, ?_, ?_, rfl, rfl, rfl, ?_⟩
                · simp only [List.sum_cons]; omega
                · simp only [List.sum_cons]; omega
                · intro hlt; show rev < (rev + 1) % 18446744073709551616; rw [Nat.mod_eq_of_lt hlt]; omega

def examplePT : PriceTable := { contractPrice := 5, collateralCost := 2, writeStoreCost := 3, maxCollateral := 100000, renewContractCost := 9, windowSize := 10, hostBlockHeight := 190 }

/-- satisfiability: the numbers of the doc comment in contracts.go, a renewal, and payments -/
example : (prepareFormation 87654321 0 0 100 10).map (·.payout) = some 91204321 := by decide
example : (prepareRenewalV3 1000 100 150 5000 0 examplePT 50 200).map (·.isSome) = some true := by decide
example : payByContract [100, 50] [100, 40, 10] 7 30 = some (some ([70, 80], [70, 70, 10], 8)) := by decide
example : payByContract [100, 50] [100, 40, 10] 7 101 = some none := by decide

end C17
