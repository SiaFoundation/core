import SiaModel.Gen.CodeConsensus
import SiaProofs.Props.C17Renew
import SiaProofs.Lemmas.GoCurrency
/-!
# C01 — the balance equation of a v2 transaction, on REGENERATED code

The second half of `consensus.validateV2Siacoins` — four loops, one of them over the resolutions with a type
assertion to `*V2FileContractRenewal` — is translated from the source
(`Gen.Consensus.validateV2Siacoins_balance`; which resolutions are renewals is the external fact
`ext.Resolution_as_V2FileContractRenewal`).  The theorem: if it accepts a transaction, then, AS INTEGERS and with
no wrap-around anywhere,

    Σ inputs + Σ rollovers of renewals = Σ outputs + Σ (contract outputs + tax) + Σ (renewed contract outputs + tax) + fee

and no output is zero-valued.  This is the per-transaction conservation equation C01's chain-level theorem rests on.
-/
namespace C01
open Gen.Types Gen.Consensus C15 C17 GoLoops

/-- what a new v2 contract costs its funders: both outputs plus the tax -/
def contractCost (fc : V2FileContract) : Nat := val fc.RenterOutput.Value + val fc.HostOutput.Value + tax fc

def inSum (txn : V2Transaction) : Nat := (txn.SiacoinInputs.map (fun i => val i.Parent.SiacoinOutput.Value)).sum
def outSumV2 (txn : V2Transaction) : Nat := (txn.SiacoinOutputs.map (fun o => val o.Value)).sum
def fcSum (txn : V2Transaction) : Nat := (txn.FileContracts.map contractCost).sum
/-- rollovers of the renewals among the resolutions -/
def resIn (ext : Ext) (txn : V2Transaction) : Nat :=
  (txn.FileContractResolutions.map (fun r =>
    if (ext.Resolution_as_V2FileContractRenewal r).2 then
      val (ext.Resolution_as_V2FileContractRenewal r).1.RenterRollover + val (ext.Resolution_as_V2FileContractRenewal r).1.HostRollover
    else 0)).sum
/-- cost of the contracts created by the renewals among the resolutions -/
def resOut (ext : Ext) (txn : V2Transaction) : Nat :=
  (txn.FileContractResolutions.map (fun r =>
    if (ext.Resolution_as_V2FileContractRenewal r).2 then contractCost (ext.Resolution_as_V2FileContractRenewal r).1.NewContract else 0)).sum

structure FCWF2 (fc : V2FileContract) : Prop where
  renter : WF fc.RenterOutput.Value
  host : WF fc.HostOutput.Value

/-- every currency the balance check reads is a genuine pair of 64-bit words -/
structure TxnCurWF (ext : Ext) (txn : V2Transaction) : Prop where
  ins : ∀ i ∈ txn.SiacoinInputs, WF i.Parent.SiacoinOutput.Value
  outs : ∀ o ∈ txn.SiacoinOutputs, WF o.Value
  fcs : ∀ fc ∈ txn.FileContracts, FCWF2 fc
  res : ∀ r ∈ txn.FileContractResolutions, (ext.Resolution_as_V2FileContractRenewal r).2 = true →
          WF (ext.Resolution_as_V2FileContractRenewal r).1.RenterRollover ∧ WF (ext.Resolution_as_V2FileContractRenewal r).1.HostRollover ∧
          FCWF2 (ext.Resolution_as_V2FileContractRenewal r).1.NewContract
  fee : WF txn.MinerFee

theorem cost_step (s : State) {acc t7 t8 t9 out : Currency} {fc : V2FileContract}
    (e7 : acc.Add fc.RenterOutput.Value = .ok t7) (e8 : t7.Add fc.HostOutput.Value = .ok t8)
    (e9 : State.V2FileContractTax s fc = .ok t9) (e10 : t8.Add t9 = .ok out) (hfc : FCWF2 fc) (ha : WF acc) :
    WF out ∧ val out = val acc + contractCost fc := by
  obtain ⟨w7, v7⟩ := add_step e7 hfc.renter ha
  obtain ⟨w8, v8⟩ := add_step e8 hfc.host w7
  obtain ⟨w9, v9, _⟩ := tax_inv s hfc.renter hfc.host e9
  obtain ⟨w10, v10⟩ := add_step e10 w9 w8
  exact ⟨w10, by unfold contractCost; omega⟩

/--
**The balance equation of an accepted v2 transaction**, about the second half of `consensus.validateV2Siacoins` as
regenerated from the source.
-/
theorem c01_v2_txn_balance_gen (ext : Ext) (ms : MidState) (txn : V2Transaction) (hw : TxnCurWF ext txn)
    (h : validateV2Siacoins_balance ext txn ms = .ok none) :
    inSum txn + resIn ext txn = outSumV2 txn + fcSum txn + resOut ext txn + val txn.MinerFee ∧
    inSum txn + resIn ext txn < W2 ∧
    (∀ o ∈ txn.SiacoinOutputs, val o.Value ≠ 0) := by
  obtain ⟨in1, c1, h⟩ := forRange_accept
    (R := fun (i : V2SiacoinInput) st st' => WF i.Parent.SiacoinOutput.Value → WF st → WF st' ∧ val st' = val st + val i.Parent.SiacoinOutput.Value)
    h (fun _ _ => rfl) (by
      intro i x st t st' hx
      refine ite_exit hx nofun fun ho hx => ?_
      cases hx
      exact addo_step ho)
  obtain ⟨wi1, vi1⟩ := Chain.sum (m := val) (I := WF) (fun _ _ _ r => r) _ _ _ c1 hw.ins wf_zero
  obtain ⟨out2, c2, h⟩ := forRange_accept
    (R := fun (o : SiacoinOutput) st st' => o.Value.IsZero = false ∧ (WF o.Value → WF st → WF st' ∧ val st' = val st + val o.Value))
    h (fun _ _ => rfl) (by
      intro i x st t st' hx
      refine ite_exit hx nofun fun hz hx => ?_
      obtain ⟨s', e, hx⟩ := of_bind_ok hx
      cases hx
      exact ⟨Bool.eq_false_iff.mpr hz, add_step e⟩)
  obtain ⟨wo2, vo2⟩ := Chain.sum (m := val) (I := WF) (fun _ _ _ r => r.2) _ _ _ c2 hw.outs wf_zero
  have nz : ∀ o ∈ txn.SiacoinOutputs, val o.Value ≠ 0 := fun o ho =>
    isZero_eq_false.1 (Chain.all (fun _ _ _ r => r.1) _ _ _ c2 o ho)
  obtain ⟨out3, c3, h⟩ := forRange_accept
    (R := fun (fc : V2FileContract) st st' => FCWF2 fc → WF st → WF st' ∧ val st' = val st + contractCost fc)
    h (fun _ _ => rfl) (by
      intro i x st t st' hx
      obtain ⟨t7, e7, hx⟩ := of_bind_ok hx
      obtain ⟨t8, e8, hx⟩ := of_bind_ok hx
      obtain ⟨t9, e9, hx⟩ := of_bind_ok hx
      obtain ⟨t10, e10, hx⟩ := of_bind_ok hx
      cases hx
      exact cost_step ms.base e7 e8 e9 e10)
  obtain ⟨wo3, vo3⟩ := Chain.sum (m := val) (I := WF) (fun _ _ _ r => r) _ _ _ c3 hw.fcs wo2
  obtain ⟨st4, c4, h⟩ := forRange_accept
    (R := fun (r : V2FileContractResolution) (st st' : Currency × Currency) =>
      ((ext.Resolution_as_V2FileContractRenewal r).2 = true →
        WF (ext.Resolution_as_V2FileContractRenewal r).1.RenterRollover ∧ WF (ext.Resolution_as_V2FileContractRenewal r).1.HostRollover ∧
        FCWF2 (ext.Resolution_as_V2FileContractRenewal r).1.NewContract) →
      WF st.1 ∧ WF st.2 → (WF st'.1 ∧ WF st'.2) ∧
        val st'.1 = val st.1 + (if (ext.Resolution_as_V2FileContractRenewal r).2 then
          val (ext.Resolution_as_V2FileContractRenewal r).1.RenterRollover + val (ext.Resolution_as_V2FileContractRenewal r).1.HostRollover else 0) ∧
        val st'.2 = val st.2 + (if (ext.Resolution_as_V2FileContractRenewal r).2 then
          contractCost (ext.Resolution_as_V2FileContractRenewal r).1.NewContract else 0))
    h (fun _ _ => rfl) (by
      intro i x st t st' hx
      obtain ⟨hr, hx⟩ | ⟨hr, hx⟩ := ite_cases hx
      · refine ite_exit hx nofun fun o1 hx => ?_
        refine ite_exit hx nofun fun o2 hx => ?_
        obtain ⟨t7, e7, hx⟩ := of_bind_ok hx
        obtain ⟨t8, e8, hx⟩ := of_bind_ok hx
        obtain ⟨t9, e9, hx⟩ := of_bind_ok hx
        obtain ⟨t10, e10, hx⟩ := of_bind_ok hx
        cases hx
        intro ok hi
        obtain ⟨wr, wh, wn⟩ := ok hr
        obtain ⟨a1, a2⟩ := addo_step o1 wr hi.1
        obtain ⟨b1, b2⟩ := addo_step o2 wh a1
        obtain ⟨d1, d2⟩ := cost_step ms.base e7 e8 e9 e10 wn hi.2
        rw [if_pos hr, if_pos hr]
        exact ⟨⟨b1, d1⟩, b2.trans ((congrArg (· + _) a2).trans (Nat.add_assoc _ _ _)), d2⟩
      · cases hx
        intro _ hi
        rw [if_neg hr, if_neg hr]
        exact ⟨hi, (Nat.add_zero _).symm, (Nat.add_zero _).symm⟩)
  obtain ⟨⟨w41, w42⟩, v41⟩ := Chain.sum (m := fun st : Currency × Currency => val st.1) (I := fun st => WF st.1 ∧ WF st.2)
    (fun _ _ _ r okx hi => ⟨(r okx hi).1, (r okx hi).2.1⟩) _ _ _ c4 hw.res ⟨wi1, wo3⟩
  obtain ⟨_, v42⟩ := Chain.sum (m := fun st : Currency × Currency => val st.2) (I := fun st => WF st.1 ∧ WF st.2)
    (fun _ _ _ r okx hi => ⟨(r okx hi).1, (r okx hi).2.2⟩) _ _ _ c4 hw.res ⟨wi1, wo3⟩
  obtain ⟨t22, e5, h⟩ := of_bind_ok h
  obtain ⟨heq, _⟩ := ite_else h nofun
  have heq : st4.1 = t22 := by simpa using heq
  obtain ⟨w5, v5⟩ := add_step e5 hw.fee w42
  have lt := val_lt w41
  rw [val_zero] at vi1 vo2
  simp only [] at v41 v42
  rw [heq] at v41 lt
  refine ⟨?_, ?_, nz⟩
  · unfold inSum resIn outSumV2 fcSum resOut; omega
  · unfold inSum resIn; omega

/-! ### non-vacuity: a balanced transaction with a renewal is accepted, an unbalanced one rejected -/

/-- every resolution is a renewal rolling over 3 + 2 into a new contract of 20 + 30 (tax 2) -/
def extRenew : Ext :=
  { Ext.trivial with Resolution_as_V2FileContractRenewal := fun _ =>
      ({ RenterRollover := { Lo := 3 }, HostRollover := { Lo := 2 },
         NewContract := { RenterOutput := { Value := { Lo := 20 } }, HostOutput := { Value := { Lo := 30 } } } }, true) }

def sampleTxn : V2Transaction :=
  { SiacoinInputs := [{ Parent := { SiacoinOutput := { Value := { Lo := 100 } } } }, { Parent := { SiacoinOutput := { Value := { Lo := 11 } } } }],
    SiacoinOutputs := [{ Value := { Lo := 4 } }],
    FileContracts := [{ RenterOutput := { Value := { Lo := 25 } }, HostOutput := { Value := { Lo := 25 } } }],  -- cost 52
    FileContractResolutions := [{}],                                                                           -- +5 in, 52 out
    MinerFee := { Lo := 8 } }

example : validateV2Siacoins_balance extRenew sampleTxn {} = .ok none := by rfl   -- 111 + 5 = 4 + 52 + 52 + 8
example : validateV2Siacoins_balance extRenew { sampleTxn with MinerFee := { Lo := 9 } } {}
    = .ok (some "siacoin inputs (%v) do not equal outputs (%v)") := by rfl
example : validateV2Siacoins_balance extRenew { sampleTxn with SiacoinOutputs := [{ Value := { Lo := 4 } }, {}] } {}
    = .ok (some "siacoin output %v has zero value") := by rfl

end C01
