import SiaProofs.Props.C17Revise
/-!
# C17 — formation, renewal, refresh (partial / full rollover) and their cost functions

Generated definitions: `Gen.Rhp4.NewContract`, `ContractCost`, `RenewContract`,
`RenewalCost`, `RefreshContractPartialRollover`, `RefreshContractFullRollover`,
`RefreshCost`, `Gen.Consensus.State.V2FileContractTax`; hand model of the consensus
side: `Sia.Ledger.validateContract`, `Sia.Ledger.validateRenewal`.
-/
namespace C17
open Gen.Types Gen.Rhp4 C15

/-- The invariant the constructors maintain on top of the consensus rules:
missed host value ≤ total collateral ≤ host output.  (Consensus itself only enforces
both `≤ host output` at formation; `RiskedCollateral()` = total − missed and
`RiskedHostRevenue()` = host − total panic without it.) -/
structure Inv (fc : V2FileContract) : Prop where
  missed_le_total : val fc.MissedHostValue ≤ val fc.TotalCollateral
  total_le_host : val fc.TotalCollateral ≤ val fc.HostOutput.Value

/-- the v2 contract tax as an integer: 4% of both outputs, rounded down -/
def tax (fc : V2FileContract) : Nat := (val fc.RenterOutput.Value + val fc.HostOutput.Value) / 25

theorem tax_checked (cs : Gen.Consensus.State) {fc : V2FileContract} (hr : WF fc.RenterOutput.Value)
    (hh : WF fc.HostOutput.Value) :
    Checked (Gen.Consensus.State.V2FileContractTax cs fc)
      (val fc.RenterOutput.Value + val fc.HostOutput.Value < W2) (Is · (tax fc)) := by
  unfold Gen.Consensus.State.V2FileContractTax
  exact .and_true <| (c15_add_panics_iff hr.is hh.is).bind fun t1 i1 => c15_div64 i1 (by decide) (by decide)

theorem tax_inv (cs : Gen.Consensus.State) {fc : V2FileContract} (hr : WF fc.RenterOutput.Value) (hh : WF fc.HostOutput.Value)
    {t : Currency} (h : Gen.Consensus.State.V2FileContractTax cs fc = .ok t) :
    WF t ∧ val t = tax fc ∧ val fc.RenterOutput.Value + val fc.HostOutput.Value < W2 :=
  have ⟨p, w, v⟩ := (tax_checked cs hr hh).of_ok h
  ⟨w, v, p⟩

theorem validateContract_accepts (ch : Nat) (fc : V2FileContract) (hfc : FCWF fc)
    (h1 : fc.Filesize ≤ fc.Capacity) (h2 : ch ≤ fc.ProofHeight) (h3 : fc.ProofHeight < fc.ExpirationHeight)
    (h4 : val fc.RenterOutput.Value ≠ 0 ∨ val fc.HostOutput.Value ≠ 0)
    (h5 : val fc.MissedHostValue ≤ val fc.HostOutput.Value)
    (h6 : val fc.TotalCollateral ≤ val fc.HostOutput.Value) :
    Sia.Ledger.validateContract ch fc = none := by
  unfold Sia.Ledger.validateContract
  have a1 : ¬ fc.Filesize > fc.Capacity := by omega
  have a2 : ¬ fc.ProofHeight < ch := by omega
  have a3 : ¬ fc.ExpirationHeight ≤ fc.ProofHeight := by omega
  have a4 : (fc.RenterOutput.Value.IsZero && fc.HostOutput.Value.IsZero) = false := by
    rw [Bool.and_eq_false_iff, isZero_eq_false, isZero_eq_false]; exact h4
  have a5 : ¬ fc.MissedHostValue.Cmp fc.HostOutput.Value > 0 := by rw [cmp_gt hfc.missed hfc.host]; omega
  have a6 : ¬ fc.TotalCollateral.Cmp fc.HostOutput.Value > 0 := by rw [cmp_gt hfc.total hfc.host]; omega
  simp [a1, a2, a3, a4, a5, a6]

/-- What every renewal/refresh constructor guarantees about its output, relative to the old contract. -/
structure RenewalOK (fc : V2FileContract) (rn : V2FileContractRenewal) : Prop where
  wf_fr : WF rn.FinalRenterOutput.Value
  wf_fh : WF rn.FinalHostOutput.Value
  wf_rr : WF rn.RenterRollover
  wf_hr : WF rn.HostRollover
  wf_nc : FCWF rn.NewContract
  /-- the old contract's value is split exactly, per party -/
  split_renter : val rn.FinalRenterOutput.Value + val rn.RenterRollover = val fc.RenterOutput.Value
  split_host : val rn.FinalHostOutput.Value + val rn.HostRollover = val fc.HostOutput.Value
  /-- never roll over more than the new contract costs (even before tax) -/
  rollover_le : val rn.RenterRollover + val rn.HostRollover
      ≤ val rn.NewContract.RenterOutput.Value + val rn.NewContract.HostOutput.Value
  keys : rn.NewContract.RenterPublicKey = fc.RenterPublicKey ∧ rn.NewContract.HostPublicKey = fc.HostPublicKey
  inv : Inv rn.NewContract
  fresh : rn.NewContract.RevisionNumber = 0 ∧ rn.NewContract.Filesize = fc.Filesize ∧
          rn.NewContract.FileMerkleRoot = fc.FileMerkleRoot ∧ rn.NewContract.Filesize ≤ rn.NewContract.Capacity
  nonzero : val rn.NewContract.RenterOutput.Value ≠ 0

/-- A renewal with the `RenewalOK` facts passes the renewal branch of consensus validation
(signatures aside), provided its proof height is still ahead and the sums consensus adds
up fit in 128 bits (which the transaction-level overflow check guarantees). -/
theorem validateRenewal_accepts (ch : Nat) (fc : V2FileContract) (rn : V2FileContractRenewal)
    (hfc : FCWF fc) (ok : RenewalOK fc rn)
    (hph : ch ≤ rn.NewContract.ProofHeight) (hwin : rn.NewContract.ProofHeight < rn.NewContract.ExpirationHeight)
    (fits_old : val fc.RenterOutput.Value + val fc.HostOutput.Value < W2)
    (fits_new : val rn.NewContract.RenterOutput.Value + val rn.NewContract.HostOutput.Value + tax rn.NewContract < W2) :
    Sia.Ledger.validateRenewal ch fc rn = .ok none := by
  obtain ⟨a1, a2, a3, a4, a5, a6, a7⟩ :=
    renewal_sums ok.split_renter ok.split_host ok.rollover_le fits_old fits_new
  obtain ⟨t1, e1, w1, v1⟩ := (c15_add_panics_iff ok.wf_fr.is ok.wf_rr.is).ok a1
  obtain ⟨t2, e2, w2, v2⟩ := (c15_add_panics_iff ⟨w1, v1⟩ ok.wf_fh.is).ok a2
  obtain ⟨t3, e3, w3, v3⟩ := (c15_add_panics_iff ⟨w2, v2⟩ ok.wf_hr.is).ok a3
  obtain ⟨ex, e4, w4, v4⟩ := (c15_add_panics_iff hfc.renter.is hfc.host.is).ok fits_old
  obtain ⟨s, e5, w5, v5⟩ := (c15_add_panics_iff ok.wf_nc.renter.is ok.wf_nc.host.is).ok a5
  obtain ⟨tx, e6, w6, v6⟩ := (tax_checked {} ok.wf_nc.renter ok.wf_nc.host).ok a5
  obtain ⟨ncc, e7, w7, v7⟩ := (c15_add_panics_iff ⟨w5, v5⟩ ⟨w6, v6⟩).ok fits_new
  obtain ⟨ro, e8, w8, v8⟩ := (c15_add_panics_iff ok.wf_rr.is ok.wf_hr.is).ok a6
  have heq : t3 = ex := val_inj w3 w4 (by rw [v3, v4]; exact a4)
  have hcmp : ¬ ro.Cmp ncc > 0 := by
    rw [cmp_gt w8 w7, v8, v7]; exact Nat.not_lt.mpr a7
  have hvc : Sia.Ledger.validateContract ch rn.NewContract = none :=
    validateContract_accepts ch _ ok.wf_nc ok.fresh.2.2.2 hph hwin (Or.inl ok.nonzero)
      (by have := ok.inv.missed_le_total; have := ok.inv.total_le_host; omega) ok.inv.total_le_host
  unfold Sia.Ledger.validateRenewal
  simp only [ok.keys.1, ok.keys.2, ne_eq, not_true_eq_false, ↓reduceIte, e1, e2, e3, e4, e5, e6, e7, e8, heq, hcmp, hvc,
    bind, Except.bind, pure, Except.pure]

/--
**NewContract yields a consensus-valid contract.**  Hypotheses = what
`RPCFormContractRequest.Validate` guarantees about the numbers: allowance non-zero,
proof height ≥ minProofHeight (> tip, so ≥ every child height until then) and
≤ MaxUint64 − ProofWindow.
-/
theorem c17_new_contract_valid (ch : Nat) (p : HostPrices) (cp : RPCFormContractParams) (hk ha : ByteArray)
    (fc : V2FileContract) (u : Usage)
    (hp : WF p.ContractPrice) (hal : WF cp.Allowance) (hco : WF cp.Collateral)
    (hph : cp.ProofHeight + 144 < W) (hch : ch ≤ cp.ProofHeight) (hnz : val cp.Allowance ≠ 0)
    (h : NewContract p cp hk ha = .ok (fc, u)) :
    Sia.Ledger.validateContract ch fc = none ∧ FCWF fc ∧ Inv fc ∧
    (val fc.RenterOutput.Value + val fc.HostOutput.Value < W2 → Live ch fc) ∧
    fc.ProofHeight = cp.ProofHeight ∧ fc.ExpirationHeight = cp.ProofHeight + 144 ∧
    fc.RenterOutput.Value = cp.Allowance ∧ val fc.HostOutput.Value = val cp.Collateral + val p.ContractPrice ∧
    fc.MissedHostValue = cp.Collateral ∧ fc.TotalCollateral = cp.Collateral ∧
    fc.RenterPublicKey = cp.RenterPublicKey ∧ fc.HostPublicKey = hk ∧
    fc.Filesize = 0 ∧ fc.Capacity = 0 ∧ fc.RevisionNumber = 0 ∧
    u = { RPC := p.ContractPrice } := by
  unfold NewContract at h
  obtain ⟨t1, e1, h⟩ := GoLoops.of_bind_ok h
  obtain ⟨_, w1, v1⟩ := (c15_add_panics_iff hco.is hp.is).of_ok e1
  have hct : val cp.Collateral ≤ val t1 := by rw [v1]; exact Nat.le_add_right _ _
  have hwin : cp.ProofHeight < cp.ProofHeight + 144 := Nat.lt_add_of_pos_right (by decide)
  simp only [Nat.mod_eq_of_lt hph] at h
  cases h
  suffices wf : FCWF _ from
    ⟨validateContract_accepts ch _ wf (Nat.le_refl 0) hch hwin (Or.inl hnz) hct hct, wf, ⟨Nat.le_refl _, hct⟩,
      fun fits => ⟨Nat.le_refl 0, hct, hch, hwin, show 0 + 1 < W by decide, fits⟩,
      rfl, rfl, rfl, v1, rfl, rfl, rfl, rfl, rfl, rfl, rfl, rfl⟩
  exact ⟨hal, w1, hco, hco, show (0 : Nat) < W by decide, show (0 : Nat) < W by decide,
    show (0 : Nat) < W by decide, Nat.lt_trans hwin hph, hph⟩

/-- `NewContract` panics only when collateral + contract price overflows 128 bits. -/
theorem c17_new_contract_no_panic (p : HostPrices) (cp : RPCFormContractParams) (hk ha : ByteArray)
    (hp : WF p.ContractPrice) (hco : WF cp.Collateral)
    (fits : val cp.Collateral + val p.ContractPrice < W2) :
    ∃ r, NewContract p cp hk ha = .ok r := by
  obtain ⟨t1, e1, _⟩ := (c15_add_panics_iff hco.is hp.is).ok fits
  unfold NewContract
  simp [e1, bind, Except.bind, pure, Except.pure]

/-- `ContractCost` panics exactly when the total collateral exceeds the host output or one of its sums overflows; the
renter pays both outputs less the collateral, the fee and the tax, the host its collateral. -/
theorem contractCost_checked (cs : Gen.Consensus.State) {fc : V2FileContract} {fee : Currency}
    (hfc : FCWF fc) (hfee : WF fee) :
    Checked (ContractCost cs fc fee)
      (val fc.TotalCollateral ≤ val fc.HostOutput.Value ∧ val fc.RenterOutput.Value + val fc.HostOutput.Value < W2 ∧
        val fc.RenterOutput.Value + (val fc.HostOutput.Value - val fc.TotalCollateral) + val fee + tax fc < W2)
      fun r =>
        Is r.1 (val fc.RenterOutput.Value + (val fc.HostOutput.Value - val fc.TotalCollateral) + val fee + tax fc) ∧
        r.2 = fc.TotalCollateral ∧ val fc.TotalCollateral ≤ val fc.HostOutput.Value := by
  unfold ContractCost
  exact ((c15_sub_panics_iff hfc.host.is hfc.total.is).bind fun t1 i1 =>
    (c15_add_panics_iff hfc.renter.is i1.1).bind fun t2 i2 => (c15_add_panics_iff i2 hfee.is).bind fun t3 i3 =>
    (tax_checked cs hfc.renter hfc.host).bind fun t4 i4 =>
    (c15_add_panics_iff i3 i4).map fun t5 i5 => ⟨i5, rfl, i1.2⟩).conv (by omega) fun _ h => h

/-- **Formation cost identity**: what `ContractCost` charges the two parties funds
exactly the two outputs, the tax and the miner fee. -/
theorem c17_contract_cost (cs : Gen.Consensus.State) (fc : V2FileContract) (fee r h : Currency)
    (hfc : FCWF fc) (hfee : WF fee)
    (hc : ContractCost cs fc fee = .ok (r, h)) :
    val r + val h = val fc.RenterOutput.Value + val fc.HostOutput.Value + tax fc + val fee ∧
    h = fc.TotalCollateral := by
  obtain ⟨_, ⟨_, e⟩, rfl, _⟩ := (contractCost_checked cs hfc hfee).of_ok hc
  exact ⟨by simp only [] at e; omega, rfl⟩

theorem c17_contract_cost_no_panic (cs : Gen.Consensus.State) (fc : V2FileContract) (fee : Currency)
    (hfc : FCWF fc) (hfee : WF fee) (htc : val fc.TotalCollateral ≤ val fc.HostOutput.Value)
    (fits : val fc.RenterOutput.Value + val fc.HostOutput.Value + tax fc + val fee < W2) :
    ∃ r, ContractCost cs fc fee = .ok r :=
  (contractCost_checked cs hfc hfee).returns ⟨htc, by omega, by omega⟩

theorem renewalCost_eq (cs : Gen.Consensus.State) (r : V2FileContractRenewal) (fee : Currency) :
    RenewalCost cs r fee = (do
      let x ← ContractCost cs r.NewContract fee
      let t6 ← x.1.Sub r.RenterRollover
      let t7 ← x.2.Sub r.HostRollover
      pure (t6, t7)) := by
  unfold RenewalCost ContractCost
  simp only [bind_assoc, pure_bind]

theorem renewalCost_checked (cs : Gen.Consensus.State) (rn : V2FileContractRenewal) (fee : Currency)
    (wnc : FCWF rn.NewContract) (wrr : WF rn.RenterRollover) (whr : WF rn.HostRollover) (hfee : WF fee) :
    Checked (RenewalCost cs rn fee)
      ((val rn.NewContract.TotalCollateral ≤ val rn.NewContract.HostOutput.Value ∧
        val rn.NewContract.RenterOutput.Value + val rn.NewContract.HostOutput.Value < W2 ∧
        val rn.NewContract.RenterOutput.Value + (val rn.NewContract.HostOutput.Value - val rn.NewContract.TotalCollateral)
          + val fee + tax rn.NewContract < W2) ∧
       val rn.RenterRollover ≤ val rn.NewContract.RenterOutput.Value
          + (val rn.NewContract.HostOutput.Value - val rn.NewContract.TotalCollateral) + val fee + tax rn.NewContract ∧
       val rn.HostRollover ≤ val rn.NewContract.TotalCollateral)
      fun r => val r.1 + val r.2 + val rn.RenterRollover + val rn.HostRollover
        = val rn.NewContract.RenterOutput.Value + val rn.NewContract.HostOutput.Value + tax rn.NewContract + val fee := by
  rw [renewalCost_eq]
  exact (contractCost_checked cs wnc hfee).bind fun x ix => (c15_sub_panics_iff ix.1 wrr.is).bind fun t6 i6 =>
    (c15_sub_panics_iff (ix.2.1 ▸ wnc.total.is) whr.is).map fun t7 i7 => by
      have := i6.1.eq; have := i7.1.eq; have := i6.2; have := i7.2; have := ix.2.2
      show val t6 + val t7 + _ + _ = _
      omega

/-- **Renewal cost identity**: renter cost + host cost + both rollovers = new outputs + tax + fee. -/
theorem c17_renewal_cost (cs : Gen.Consensus.State) (rn : V2FileContractRenewal) (fee r h : Currency)
    (wnc : FCWF rn.NewContract) (wrr : WF rn.RenterRollover) (whr : WF rn.HostRollover) (hfee : WF fee)
    (hc : RenewalCost cs rn fee = .ok (r, h)) :
    val r + val h + val rn.RenterRollover + val rn.HostRollover
      = val rn.NewContract.RenterOutput.Value + val rn.NewContract.HostOutput.Value + tax rn.NewContract + val fee :=
  ((renewalCost_checked cs rn fee wnc wrr whr hfee).of_ok hc).2

theorem refreshCost_checked (cs : Gen.Consensus.State) (p : HostPrices) (rn : V2FileContractRenewal) (fee : Currency)
    (wnc : FCWF rn.NewContract) (wrr : WF rn.RenterRollover) (whr : WF rn.HostRollover) (hfee : WF fee)
    (hp : WF p.ContractPrice) :
    Checked (RefreshCost cs p rn fee)
      (val rn.RenterRollover ≤ val rn.NewContract.RenterOutput.Value + val p.ContractPrice ∧
       val rn.HostRollover + val p.ContractPrice ≤ val rn.NewContract.HostOutput.Value ∧
       val rn.NewContract.RenterOutput.Value + val rn.NewContract.HostOutput.Value < W2 ∧
       val rn.NewContract.RenterOutput.Value + val p.ContractPrice - val rn.RenterRollover + val fee + tax rn.NewContract < W2)
      fun r => val r.1 + val r.2 + val rn.RenterRollover + val rn.HostRollover
        = val rn.NewContract.RenterOutput.Value + val rn.NewContract.HostOutput.Value + tax rn.NewContract + val fee := by
  unfold RefreshCost
  exact ((c15_add_panics_iff wnc.renter.is hp.is).bind fun t1 i1 => (c15_sub_panics_iff i1 wrr.is).bind fun t2 i2 =>
    (c15_add_panics_iff i2.1 hfee.is).bind fun t3 i3 => (tax_checked cs wnc.renter wnc.host).bind fun t4 i4 =>
    (c15_add_panics_iff i3 i4).bind fun t5 i5 => (c15_sub_panics_iff wnc.host.is hp.is).bind fun t6 i6 =>
    (c15_sub_panics_iff i6.1 whr.is).map fun t7 i7 => by
      have := i5.eq; have := i7.1.eq; have := i2.2; have := i6.2; have := i7.2
      show val t5 + val t7 + _ + _ = _
      omega).conv (by omega) fun _ h => h

theorem c17_refresh_cost (cs : Gen.Consensus.State) (p : HostPrices) (rn : V2FileContractRenewal) (fee r h : Currency)
    (wnc : FCWF rn.NewContract) (wrr : WF rn.RenterRollover) (whr : WF rn.HostRollover) (hfee : WF fee)
    (hp : WF p.ContractPrice)
    (hc : RefreshCost cs p rn fee = .ok (r, h)) :
    val r + val h + val rn.RenterRollover + val rn.HostRollover
      = val rn.NewContract.RenterOutput.Value + val rn.NewContract.HostOutput.Value + tax rn.NewContract + val fee :=
  ((refreshCost_checked cs p rn fee wnc wrr whr hfee hp).of_ok hc).2

/-- `RenewalCost` does not panic when the rollovers are within what the constructor
guarantees (`renter rollover ≤ new renter output`, `host rollover ≤ new total collateral ≤
new host output`) and the sums fit. -/
theorem c17_renewal_cost_no_panic (cs : Gen.Consensus.State) (rn : V2FileContractRenewal) (fee : Currency)
    (wnc : FCWF rn.NewContract) (wrr : WF rn.RenterRollover) (whr : WF rn.HostRollover) (hfee : WF fee)
    (b1 : val rn.NewContract.TotalCollateral ≤ val rn.NewContract.HostOutput.Value)
    (b2 : val rn.RenterRollover ≤ val rn.NewContract.RenterOutput.Value)
    (b3 : val rn.HostRollover ≤ val rn.NewContract.TotalCollateral)
    (fits : val rn.NewContract.RenterOutput.Value + val rn.NewContract.HostOutput.Value + tax rn.NewContract + val fee < W2) :
    ∃ r, RenewalCost cs rn fee = .ok r :=
  (renewalCost_checked cs rn fee wnc wrr whr hfee).returns ⟨⟨b1, by omega, by omega⟩, by omega, b3⟩

/-- `RefreshCost` does not panic when `renter rollover ≤ new renter output + contract price`
and `host rollover + contract price ≤ new host output` (both guaranteed by the refresh
constructors) and the sums fit. -/
theorem c17_refresh_cost_no_panic (cs : Gen.Consensus.State) (p : HostPrices) (rn : V2FileContractRenewal) (fee : Currency)
    (wnc : FCWF rn.NewContract) (wrr : WF rn.RenterRollover) (whr : WF rn.HostRollover) (hfee : WF fee)
    (hp : WF p.ContractPrice)
    (b1 : val rn.RenterRollover ≤ val rn.NewContract.RenterOutput.Value + val p.ContractPrice)
    (b2 : val rn.HostRollover + val p.ContractPrice ≤ val rn.NewContract.HostOutput.Value)
    (fits : val rn.NewContract.RenterOutput.Value + val rn.NewContract.HostOutput.Value + tax rn.NewContract
            + val fee + val p.ContractPrice < W2) :
    ∃ r, RefreshCost cs p rn fee = .ok r :=
  (refreshCost_checked cs p rn fee wnc wrr whr hfee hp).returns ⟨b1, b2, by omega, by omega⟩

/-! ## renewal and refresh

The three constructors build the renewal record field by field and choose each rollover by an `if`
between two updated records.  `ite_renewal` turns such an `if` into a record of `if`s, after which
unfolding a constructor leaves a chain of checked currency operations followed by one record.  Each gets one
`…_checked` theorem: the walk along that chain, with the checks that can fail as the precondition and the conclusion of
the `c17_…` theorem as what is returned; the `c17_…` theorem and its `…_no_panic` twin (`C17NoPanic`) are its two halves. -/

theorem ite_renewal (c : Prop) [Decidable c] (a b : V2FileContractRenewal) :
    (if c then a else b) =
      { FinalRenterOutput := if c then a.FinalRenterOutput else b.FinalRenterOutput
        FinalHostOutput := if c then a.FinalHostOutput else b.FinalHostOutput
        RenterRollover := if c then a.RenterRollover else b.RenterRollover
        HostRollover := if c then a.HostRollover else b.HostRollover
        NewContract := if c then a.NewContract else b.NewContract
        RenterSignature := if c then a.RenterSignature else b.RenterSignature
        HostSignature := if c then a.HostSignature else b.HostSignature } := by
  split <;> rfl

theorem riskedCollateral_eq (fc : V2FileContract) :
    fc.RiskedCollateral = fc.TotalCollateral.Sub fc.MissedHostValue := by
  unfold V2FileContract.RiskedCollateral
  cases fc.TotalCollateral.Sub fc.MissedHostValue <;> rfl

theorem riskedHostRevenue_eq (fc : V2FileContract) :
    fc.RiskedHostRevenue = fc.HostOutput.Value.Sub fc.TotalCollateral := by
  unfold V2FileContract.RiskedHostRevenue
  cases fc.HostOutput.Value.Sub fc.TotalCollateral <;> rfl

theorem val_ZeroCurrency : val Gen.Types.ZeroCurrency = 0 := val_zero

theorem refresh_full_checked (fc : V2FileContract) (p : HostPrices) (addr : ByteArray) (rp : RPCRefreshContractParams)
    (hfc : FCWF fc) (hp : PricesWF p) (ha : WF rp.Allowance) (hc : WF rp.Collateral) :
    Checked (RefreshContractFullRollover fc p addr rp)
      (val fc.RenterOutput.Value + val rp.Allowance < W2 ∧ val fc.HostOutput.Value + val rp.Collateral < W2 ∧
       val fc.HostOutput.Value + val rp.Collateral + val p.ContractPrice < W2 ∧
       val fc.MissedHostValue + val rp.Collateral < W2 ∧ val fc.TotalCollateral + val rp.Collateral < W2 ∧
       val fc.MissedHostValue + val rp.Collateral ≤ val fc.TotalCollateral + val rp.Collateral)
      fun r =>
    (Inv fc → fc.Filesize ≤ fc.Capacity → val rp.Allowance ≠ 0 → RenewalOK fc r.1) ∧
    val r.1.FinalRenterOutput.Value = 0 ∧ val r.1.FinalHostOutput.Value = 0 ∧
    val r.1.NewContract.RenterOutput.Value = val fc.RenterOutput.Value + val rp.Allowance ∧
    val r.1.NewContract.HostOutput.Value = val fc.HostOutput.Value + val rp.Collateral + val p.ContractPrice ∧
    val r.1.NewContract.MissedHostValue = val fc.MissedHostValue + val rp.Collateral ∧
    val r.1.NewContract.TotalCollateral = val fc.TotalCollateral + val rp.Collateral ∧
    r.1.NewContract.ProofHeight = fc.ProofHeight ∧ r.1.NewContract.ExpirationHeight = fc.ExpirationHeight ∧
    r.1.NewContract.Capacity = fc.Capacity ∧
    val r.1.RenterRollover ≤ val r.1.NewContract.RenterOutput.Value + val p.ContractPrice ∧
    val r.1.HostRollover + val p.ContractPrice ≤ val r.1.NewContract.HostOutput.Value ∧
    r.2.RPC = p.ContractPrice ∧ cost r.2 = val p.ContractPrice ∧
    val r.2.RiskedCollateral + val fc.MissedHostValue = val fc.TotalCollateral := by
  unfold RefreshContractFullRollover
  simp only [riskedCollateral_eq]
  exact (c15_add_panics_iff hfc.renter.is ha.is).bind fun t1 i1 =>
    (c15_add_panics_iff hfc.host.is hc.is).bind fun t2 i2 => (c15_add_panics_iff i2 hp.cp.is).bind fun t3 i3 =>
    (c15_add_panics_iff hfc.missed.is hc.is).bind fun t4 i4 => (c15_add_panics_iff hfc.total.is hc.is).bind fun t5 i5 =>
    (c15_sub_panics_iff i5 i4).map fun t6 i6 => by
      have v1 := i1.eq; have v3 := i3.eq; have v4 := i4.eq; have v5 := i5.eq; have v6 := i6.1.eq; have l6 := i6.2
      exact ⟨fun inv hfs hnz => ⟨wf_zero, wf_zero, hfc.renter, hfc.host,
          ⟨i1.wf, i3.wf, i4.wf, i5.wf, show (0 : Nat) < W by decide, hfc.cap, hfc.fsz, hfc.ph, hfc.eh⟩,
          by rw [val_ZeroCurrency, Nat.zero_add], by rw [val_ZeroCurrency, Nat.zero_add],
          by simp only []; omega, ⟨rfl, rfl⟩,
          ⟨by simp only []; omega, by have := inv.total_le_host; simp only []; omega⟩, ⟨rfl, rfl, rfl, hfs⟩,
          by simp only []; omega⟩,
        val_ZeroCurrency, val_ZeroCurrency, v1, v3, v4, v5, rfl, rfl, rfl,
        by simp only []; omega, by simp only []; omega, rfl, cost_of_rpc rfl rfl rfl rfl, by simp only []; omega⟩

/--
**RefreshContractFullRollover**: everything is rolled over (final outputs zero), the new
contract is the old one plus allowance / collateral / contract price, and all the
`RenewalOK` facts hold.  Hypotheses on the old contract: the constructor invariant `Inv`
and `filesize ≤ capacity`; on the request: allowance non-zero (`Validate`).
-/
theorem c17_refresh_full (fc : V2FileContract) (p : HostPrices) (addr : ByteArray) (rp : RPCRefreshContractParams)
    (rn : V2FileContractRenewal) (u : Usage)
    (hfc : FCWF fc) (hp : PricesWF p) (ha : WF rp.Allowance) (hc : WF rp.Collateral)
    (inv : Inv fc) (hfs : fc.Filesize ≤ fc.Capacity) (hnz : val rp.Allowance ≠ 0)
    (h : RefreshContractFullRollover fc p addr rp = .ok (rn, u)) :
    RenewalOK fc rn ∧
    val rn.FinalRenterOutput.Value = 0 ∧ val rn.FinalHostOutput.Value = 0 ∧
    val rn.NewContract.RenterOutput.Value = val fc.RenterOutput.Value + val rp.Allowance ∧
    val rn.NewContract.HostOutput.Value = val fc.HostOutput.Value + val rp.Collateral + val p.ContractPrice ∧
    val rn.NewContract.MissedHostValue = val fc.MissedHostValue + val rp.Collateral ∧
    val rn.NewContract.TotalCollateral = val fc.TotalCollateral + val rp.Collateral ∧
    rn.NewContract.ProofHeight = fc.ProofHeight ∧ rn.NewContract.ExpirationHeight = fc.ExpirationHeight ∧
    rn.NewContract.Capacity = fc.Capacity ∧
    val rn.RenterRollover ≤ val rn.NewContract.RenterOutput.Value + val p.ContractPrice ∧
    val rn.HostRollover + val p.ContractPrice ≤ val rn.NewContract.HostOutput.Value ∧
    u.RPC = p.ContractPrice ∧ cost u = val p.ContractPrice ∧
    val u.RiskedCollateral + val fc.MissedHostValue = val fc.TotalCollateral :=
  have ⟨_, ok, q⟩ := (refresh_full_checked fc p addr rp hfc hp ha hc).of_ok h
  ⟨ok inv hfs hnz, q⟩

theorem refresh_partial_checked (fc : V2FileContract) (p : HostPrices) (addr : ByteArray) (rp : RPCRefreshContractParams)
    (hfc : FCWF fc) (hp : PricesWF p) (ha : WF rp.Allowance) (hc : WF rp.Collateral) :
    Checked (RefreshContractPartialRollover fc p addr rp)
      (val fc.TotalCollateral ≤ val fc.HostOutput.Value ∧ val fc.MissedHostValue ≤ val fc.TotalCollateral ∧
       val fc.HostOutput.Value - val fc.MissedHostValue + val rp.Collateral < W2 ∧
       val fc.HostOutput.Value - val fc.MissedHostValue + val rp.Collateral + val p.ContractPrice < W2 ∧
       val rp.Allowance + val p.ContractPrice < W2)
      fun r =>
    (fc.Filesize ≤ fc.Capacity → val rp.Allowance ≠ 0 → RenewalOK fc r.1) ∧ Inv fc ∧
    r.1.NewContract.RenterOutput.Value = rp.Allowance ∧
    val r.1.NewContract.HostOutput.Value + val fc.MissedHostValue
      = val fc.HostOutput.Value + val rp.Collateral + val p.ContractPrice ∧
    r.1.NewContract.MissedHostValue = rp.Collateral ∧
    val r.1.NewContract.TotalCollateral + val fc.MissedHostValue = val fc.TotalCollateral + val rp.Collateral ∧
    r.1.NewContract.ProofHeight = fc.ProofHeight ∧ r.1.NewContract.ExpirationHeight = fc.ExpirationHeight ∧
    r.1.NewContract.Capacity = fc.Capacity ∧
    (val rp.Allowance + val p.ContractPrice < val fc.RenterOutput.Value →
        val r.1.RenterRollover = val rp.Allowance + val p.ContractPrice) ∧
    (val fc.RenterOutput.Value ≤ val rp.Allowance + val p.ContractPrice → r.1.RenterRollover = fc.RenterOutput.Value) ∧
    (val r.1.NewContract.HostOutput.Value < val fc.HostOutput.Value + val p.ContractPrice →
        val r.1.HostRollover + val p.ContractPrice = val r.1.NewContract.HostOutput.Value) ∧
    (val fc.HostOutput.Value + val p.ContractPrice ≤ val r.1.NewContract.HostOutput.Value →
        r.1.HostRollover = fc.HostOutput.Value) ∧
    val r.1.RenterRollover ≤ val r.1.NewContract.RenterOutput.Value + val p.ContractPrice ∧
    val r.1.HostRollover + val p.ContractPrice ≤ val r.1.NewContract.HostOutput.Value ∧
    r.2.RPC = p.ContractPrice ∧ cost r.2 = val p.ContractPrice ∧
    val r.2.RiskedCollateral + val fc.MissedHostValue = val fc.TotalCollateral := by
  have hH := val_lt hfc.host
  unfold RefreshContractPartialRollover
  simp only [ite_renewal, ite_self, riskedCollateral_eq, riskedHostRevenue_eq]
  exact (c15_sub_panics_iff hfc.host.is hfc.total.is).bind fun t1 i1 =>
    (c15_sub_panics_iff hfc.total.is hfc.missed.is).bind fun t2 i2 =>
    (c15_add_panics_iff i1.1 i2.1).bind_of (by have := i1.2; have := i2.2; omega) fun t3 i3 =>
    (c15_add_panics_iff (x := val fc.HostOutput.Value - val fc.MissedHostValue)
      ⟨i3.wf, i3.eq.trans (by have := i1.2; have := i2.2; omega)⟩ hc.is).bind fun t4 i4 => (c15_add_panics_iff i4 hp.cp.is).bind fun t5 i5 =>
    (c15_sub_panics_iff hfc.total.is hfc.missed.is).bind_of i2.2 fun t6 i6 =>
    (c15_add_panics_iff i6.1 hc.is).bind_of (by have := i4.eq; have := val_lt i4.wf; omega) fun t7 i7 =>
    (c15_sub_panics_iff i5 hp.cp.is).bind_of (Nat.le_add_left _ _) fun t8 i8 => by
      have hh := cmp_gt_min hfc.host.is i8.1
      obtain ⟨hro, eh, ih, hsel⟩ := hh
      simp only [eh]
      exact (c15_sub_panics_iff hfc.host.is ih).bind_of (Nat.min_le_left _ _) fun t9 i9 =>
        .and_true <| (c15_add_panics_iff ha.is hp.cp.is).bind fun t10 i10 => by
          have hr := cmp_gt_min hfc.renter.is i10
          obtain ⟨rro, er, ir, rsel⟩ := hr
          simp only [er]
          exact (c15_sub_panics_iff hfc.renter.is ir).bind_of (Nat.min_le_left _ _) fun t11 i11 =>
            (c15_sub_panics_iff i7 hc.is).bind_of (Nat.le_add_left _ _) fun t12 i12 => .pure <| by
              have l1 := i1.2
              have l2 := i2.2
              have v5 : val t5 + val fc.MissedHostValue = val fc.HostOutput.Value + val rp.Collateral + val p.ContractPrice := by
                have := i5.eq; omega
              have v7 : val t7 + val fc.MissedHostValue = val fc.TotalCollateral + val rp.Collateral := by
                have := i7.eq; omega
              have v8 : val t8 + val p.ContractPrice = val t5 := by
                rw [i8.1.eq, i5.eq]; exact Nat.sub_add_cancel (Nat.le_add_left _ _)
              have v12 : val t12 + val rp.Collateral = val t7 := by
                rw [i12.1.eq, i7.eq]; exact Nat.sub_add_cancel (Nat.le_add_left _ _)
              have e9 : val t9 + val hro = val fc.HostOutput.Value := by
                rw [i9.1.eq, ih.eq]; exact Nat.sub_add_cancel (Nat.min_le_left _ _)
              have e11 : val t11 + val rro = val fc.RenterOutput.Value := by
                rw [i11.1.eq, ir.eq]; exact Nat.sub_add_cancel (Nat.min_le_left _ _)
              have hle : val hro ≤ val t8 := by rw [ih.eq, i8.1.eq]; exact Nat.min_le_right _ _
              have rle : val rro ≤ val rp.Allowance + val p.ContractPrice := by rw [ir.eq]; exact Nat.min_le_right _ _
              have r10 := i10.eq
              exact ⟨fun hfs hnz => ⟨i11.1.wf, i9.1.wf, ir.wf, ih.wf,
                  ⟨ha, i5.wf, hc, i7.wf, show (0 : Nat) < W by decide, hfc.cap, hfc.fsz, hfc.ph, hfc.eh⟩,
                  e11, e9, by simp only []; omega, ⟨rfl, rfl⟩, ⟨by simp only []; omega, by simp only []; omega⟩,
                  ⟨rfl, rfl, rfl, hfs⟩, hnz⟩,
                ⟨l2, l1⟩, rfl, v5, rfl, v7, rfl, rfl, rfl,
                fun hx => by rw [rsel, r10, if_pos hx, r10], fun hx => by rw [rsel, r10, if_neg (Nat.not_lt.mpr hx)],
                fun hx => by rw [hsel, if_pos (by simp only [] at hx; omega)]; exact v8,
                fun hx => by rw [hsel, if_neg (by simp only [] at hx; omega)],
                by simp only []; omega, by simp only []; omega, rfl, cost_of_rpc rfl rfl rfl rfl, by simp only []; omega⟩

/--
**RefreshContractPartialRollover**: each party rolls over `min(what it has, what the new
contract needs from it)`; the rest is paid out as final outputs.
-/
theorem c17_refresh_partial (fc : V2FileContract) (p : HostPrices) (addr : ByteArray) (rp : RPCRefreshContractParams)
    (rn : V2FileContractRenewal) (u : Usage)
    (hfc : FCWF fc) (hp : PricesWF p) (ha : WF rp.Allowance) (hc : WF rp.Collateral)
    (hfs : fc.Filesize ≤ fc.Capacity) (hnz : val rp.Allowance ≠ 0)
    (h : RefreshContractPartialRollover fc p addr rp = .ok (rn, u)) :
    RenewalOK fc rn ∧ Inv fc ∧
    rn.NewContract.RenterOutput.Value = rp.Allowance ∧
    val rn.NewContract.HostOutput.Value + val fc.MissedHostValue
      = val fc.HostOutput.Value + val rp.Collateral + val p.ContractPrice ∧
    rn.NewContract.MissedHostValue = rp.Collateral ∧
    val rn.NewContract.TotalCollateral + val fc.MissedHostValue = val fc.TotalCollateral + val rp.Collateral ∧
    rn.NewContract.ProofHeight = fc.ProofHeight ∧ rn.NewContract.ExpirationHeight = fc.ExpirationHeight ∧
    rn.NewContract.Capacity = fc.Capacity ∧
    (val rp.Allowance + val p.ContractPrice < val fc.RenterOutput.Value →
        val rn.RenterRollover = val rp.Allowance + val p.ContractPrice) ∧
    (val fc.RenterOutput.Value ≤ val rp.Allowance + val p.ContractPrice → rn.RenterRollover = fc.RenterOutput.Value) ∧
    (val rn.NewContract.HostOutput.Value < val fc.HostOutput.Value + val p.ContractPrice →
        val rn.HostRollover + val p.ContractPrice = val rn.NewContract.HostOutput.Value) ∧
    (val fc.HostOutput.Value + val p.ContractPrice ≤ val rn.NewContract.HostOutput.Value →
        rn.HostRollover = fc.HostOutput.Value) ∧
    val rn.RenterRollover ≤ val rn.NewContract.RenterOutput.Value + val p.ContractPrice ∧
    val rn.HostRollover + val p.ContractPrice ≤ val rn.NewContract.HostOutput.Value ∧
    u.RPC = p.ContractPrice ∧ cost u = val p.ContractPrice ∧
    val u.RiskedCollateral + val fc.MissedHostValue = val fc.TotalCollateral :=
  have ⟨_, ok, q⟩ := (refresh_partial_checked fc p addr rp hfc hp ha hc).of_ok h
  ⟨ok hfs hnz, q⟩

/-- `RenewContract` returns exactly under the eight checks below, in the order of the code: four `Mul64`, three `Add`, and
the host rollover `min(total collateral, new total collateral)` within the old host output. -/
theorem renew_checked (fc : V2FileContract) (p : HostPrices) (addr : ByteArray) (rp : RPCRenewContractParams)
    (hfc : FCWF fc) (hp : PricesWF p) (ha : WF rp.Allowance) (hc : WF rp.Collateral)
    (hph : rp.ProofHeight + 144 < W)
    (dur ext : Nat)
    (hdur : (rp.ProofHeight + 144 + W - p.TipHeight) % W = dur)
    (hext : (rp.ProofHeight + 144 + W - fc.ExpirationHeight) % W = ext) :
    Checked (RenewContract fc p addr rp)
      (val p.Collateral * fc.Filesize < W2 ∧ val p.Collateral * fc.Filesize * dur < W2 ∧
       val rp.Collateral + val p.Collateral * fc.Filesize * dur < W2 ∧
       val p.StoragePrice * fc.Filesize < W2 ∧ val p.StoragePrice * fc.Filesize * ext < W2 ∧
       val rp.Collateral + val p.Collateral * fc.Filesize * dur + val p.StoragePrice * fc.Filesize * ext < W2 ∧
       val rp.Collateral + val p.Collateral * fc.Filesize * dur
              + val p.StoragePrice * fc.Filesize * ext + val p.ContractPrice < W2 ∧
       min (val fc.TotalCollateral) (val rp.Collateral + val p.Collateral * fc.Filesize * dur) ≤ val fc.HostOutput.Value)
      fun r =>
    (val rp.Allowance ≠ 0 → RenewalOK fc r.1) ∧
    r.1.NewContract.RenterOutput.Value = rp.Allowance ∧
    r.1.NewContract.MissedHostValue = rp.Collateral ∧
    val r.1.NewContract.TotalCollateral = val rp.Collateral + val p.Collateral * fc.Filesize * dur ∧
    val r.1.NewContract.HostOutput.Value
      = val r.1.NewContract.TotalCollateral + val p.StoragePrice * fc.Filesize * ext + val p.ContractPrice ∧
    r.1.NewContract.ProofHeight = rp.ProofHeight ∧ r.1.NewContract.ExpirationHeight = rp.ProofHeight + 144 ∧
    r.1.NewContract.Capacity = fc.Filesize ∧
    (val rp.Allowance < val fc.RenterOutput.Value → r.1.RenterRollover = rp.Allowance) ∧
    (val fc.RenterOutput.Value ≤ val rp.Allowance → r.1.RenterRollover = fc.RenterOutput.Value) ∧
    (val r.1.NewContract.TotalCollateral < val fc.TotalCollateral → r.1.HostRollover = r.1.NewContract.TotalCollateral) ∧
    (val fc.TotalCollateral ≤ val r.1.NewContract.TotalCollateral → r.1.HostRollover = fc.TotalCollateral) ∧
    val r.1.RenterRollover ≤ val r.1.NewContract.RenterOutput.Value ∧
    val r.1.HostRollover ≤ val r.1.NewContract.TotalCollateral ∧
    val r.1.HostRollover ≤ val fc.TotalCollateral ∧
    r.2.RPC = p.ContractPrice ∧
    cost r.2 = val p.ContractPrice + val p.StoragePrice * fc.Filesize * ext ∧
    val r.2.RiskedCollateral = val p.Collateral * fc.Filesize * dur := by
  have hdW : dur < W := by rw [← hdur]; exact Nat.mod_lt _ (by decide)
  have heW : ext < W := by rw [← hext]; exact Nat.mod_lt _ (by decide)
  unfold RenewContract
  simp only [ite_renewal, ite_self, riskedCollateral_eq, Nat.mod_eq_of_lt hph, hdur, hext]
  -- with a remainder mod 2^64 among its hypotheses and a `min` to split, `omega` builds a proof the kernel gives up on
  -- (deep recursion, after minutes)
  clear hdur hext
  exact (c15_mul64_panics_iff hp.coll.is hfc.fsz).bind fun t1 i1 => (c15_mul64_panics_iff i1 hdW).bind fun t2 i2 =>
    (c15_add_panics_iff hc.is i2).bind fun t3 i3 => (c15_mul64_panics_iff hp.sp.is hfc.fsz).bind fun t4 i4 =>
    (c15_mul64_panics_iff i4 heW).bind fun t5 i5 => (c15_add_panics_iff i3 i5).bind fun t6 i6 =>
    (c15_add_panics_iff i6 hp.cp.is).bind fun t7 i7 => by
      have hh := cmp_gt_min hfc.total.is i3
      have hr := cmp_gt_min hfc.renter.is ha.is
      obtain ⟨hro, eh, ih, hsel⟩ := hh
      obtain ⟨rro, er, ir, rsel⟩ := hr
      simp only [eh, er]
      exact .and_true <| (c15_sub_panics_iff hfc.host.is ih).bind fun t8 i8 =>
        (c15_sub_panics_iff hfc.renter.is ir).bind_of (Nat.min_le_left _ _) fun t9 i9 =>
        (c15_sub_panics_iff i7 i3).bind_of (by omega) fun t10 i10 =>
        (c15_sub_panics_iff i10.1 hp.cp.is).bind_of (by omega) fun t11 i11 =>
        (c15_sub_panics_iff i3 hc.is).bind_of (by omega) fun t12 i12 => .pure <| by
          have e8 : val t8 + val hro = val fc.HostOutput.Value := by have := i8.1.eq; have := i8.2; have := ih.eq; omega
          have e9 : val t9 + val rro = val fc.RenterOutput.Value := by have := i9.1.eq; have := i9.2; have := ir.eq; omega
          have hle : val hro ≤ val fc.TotalCollateral ∧ val hro ≤ val t3 := by
            rw [ih.eq, i3.eq]; exact ⟨Nat.min_le_left _ _, Nat.min_le_right _ _⟩
          have rle : val rro ≤ val rp.Allowance := by rw [ir.eq]; exact Nat.min_le_right _ _
          have v3 := i3.eq; have v7 := i7.eq
          exact ⟨fun hnz => ⟨i9.1.wf, i8.1.wf, ir.wf, ih.wf,
              ⟨ha, i7.wf, hc, i3.wf, show (0 : Nat) < W by decide, hfc.fsz, hfc.fsz, Nat.lt_of_le_of_lt (Nat.le_add_right _ _) hph, hph⟩,
              e9, e8, by simp only []; omega, ⟨rfl, rfl⟩,
              ⟨by simp only []; omega, by simp only []; omega⟩, ⟨rfl, rfl, rfl, Nat.le_refl _⟩, hnz⟩,
            rfl, rfl, v3, by simp only []; omega, rfl, rfl, rfl,
            fun hx => by rw [rsel, if_pos hx], fun hx => by rw [rsel, if_neg (Nat.not_lt.mpr hx)],
            fun hx => by rw [hsel, if_pos hx], fun hx => by rw [hsel, if_neg (Nat.not_lt.mpr hx)],
            rle, hle.2, hle.1, rfl,
            (cost_of_rpc_storage rfl rfl rfl).trans (by have := i11.1.eq; have := i10.1.eq; simp only []; omega),
            by have := i12.1.eq; simp only []; omega⟩

/--
**RenewContract**: new contract for the same data with capacity = filesize, proof height
`rp.ProofHeight`, renter output = allowance, total collateral = new collateral + risked
collateral of the existing data over the full new duration, host output = total collateral
+ storage cost of the extension + contract price.  Each party rolls over
`min(what it has locked, what the new contract needs from it)`.

`dur`/`ext` are the `uint64` differences exactly as the Go code computes them;
`RPCRenewContractRequest.Validate` (`ProofHeight ≥ tip + MinContractDuration`,
`ProofHeight > existing.ProofHeight`) and the constructor invariant
`ExpirationHeight = ProofHeight + 144` make them the true differences.
-/
theorem c17_renew (fc : V2FileContract) (p : HostPrices) (addr : ByteArray) (rp : RPCRenewContractParams)
    (rn : V2FileContractRenewal) (u : Usage)
    (hfc : FCWF fc) (hp : PricesWF p) (ha : WF rp.Allowance) (hc : WF rp.Collateral)
    (hph : rp.ProofHeight + 144 < W) (hnz : val rp.Allowance ≠ 0)
    (h : RenewContract fc p addr rp = .ok (rn, u)) :
    ∃ dur ext, dur = (rp.ProofHeight + 144 + W - p.TipHeight) % W ∧
               ext = (rp.ProofHeight + 144 + W - fc.ExpirationHeight) % W ∧
    RenewalOK fc rn ∧
    rn.NewContract.RenterOutput.Value = rp.Allowance ∧
    rn.NewContract.MissedHostValue = rp.Collateral ∧
    val rn.NewContract.TotalCollateral = val rp.Collateral + val p.Collateral * fc.Filesize * dur ∧
    val rn.NewContract.HostOutput.Value
      = val rn.NewContract.TotalCollateral + val p.StoragePrice * fc.Filesize * ext + val p.ContractPrice ∧
    rn.NewContract.ProofHeight = rp.ProofHeight ∧ rn.NewContract.ExpirationHeight = rp.ProofHeight + 144 ∧
    rn.NewContract.Capacity = fc.Filesize ∧
    (val rp.Allowance < val fc.RenterOutput.Value → rn.RenterRollover = rp.Allowance) ∧
    (val fc.RenterOutput.Value ≤ val rp.Allowance → rn.RenterRollover = fc.RenterOutput.Value) ∧
    (val rn.NewContract.TotalCollateral < val fc.TotalCollateral → rn.HostRollover = rn.NewContract.TotalCollateral) ∧
    (val fc.TotalCollateral ≤ val rn.NewContract.TotalCollateral → rn.HostRollover = fc.TotalCollateral) ∧
    val rn.RenterRollover ≤ val rn.NewContract.RenterOutput.Value ∧
    val rn.HostRollover ≤ val rn.NewContract.TotalCollateral ∧
    val rn.HostRollover ≤ val fc.TotalCollateral ∧
    u.RPC = p.ContractPrice ∧
    cost u = val p.ContractPrice + val p.StoragePrice * fc.Filesize * ext ∧
    val u.RiskedCollateral = val p.Collateral * fc.Filesize * dur :=
  have ⟨_, ok, q⟩ := (renew_checked fc p addr rp hfc hp ha hc hph _ _ rfl rfl).of_ok h
  ⟨_, _, rfl, rfl, ok hnz, q⟩

/-! ## consensus validity of the three renewal constructors

`ch` is the child height at which the renewal transaction is validated.  The height
hypotheses are what the requests' `Validate` guarantees (`rp.ProofHeight ≥ minProofHeight`
for renewals; `existing.ProofHeight > minProofHeight` for refreshes); `fits_*` is what
the transaction-level overflow check of consensus guarantees. -/

theorem c17_renew_valid (ch : Nat) (fc : V2FileContract) (p : HostPrices) (addr : ByteArray) (rp : RPCRenewContractParams)
    (rn : V2FileContractRenewal) (u : Usage)
    (hfc : FCWF fc) (hp : PricesWF p) (ha : WF rp.Allowance) (hc : WF rp.Collateral)
    (hph : rp.ProofHeight + 144 < W) (hnz : val rp.Allowance ≠ 0) (hch : ch ≤ rp.ProofHeight)
    (fits_old : val fc.RenterOutput.Value + val fc.HostOutput.Value < W2)
    (h : RenewContract fc p addr rp = .ok (rn, u))
    (fits_new : val rn.NewContract.RenterOutput.Value + val rn.NewContract.HostOutput.Value + tax rn.NewContract < W2) :
    Sia.Ledger.validateRenewal ch fc rn = .ok none := by
  obtain ⟨_, _, _, _, ok, _, _, _, _, q1, q2, _⟩ := c17_renew fc p addr rp rn u hfc hp ha hc hph hnz h
  exact validateRenewal_accepts ch fc rn hfc ok (by omega) (by omega) fits_old fits_new

theorem c17_refresh_partial_valid (ch : Nat) (fc : V2FileContract) (p : HostPrices) (addr : ByteArray)
    (rp : RPCRefreshContractParams) (rn : V2FileContractRenewal) (u : Usage)
    (hfc : FCWF fc) (hp : PricesWF p) (ha : WF rp.Allowance) (hc : WF rp.Collateral)
    (hfs : fc.Filesize ≤ fc.Capacity) (hnz : val rp.Allowance ≠ 0)
    (hch : ch ≤ fc.ProofHeight) (hwin : fc.ProofHeight < fc.ExpirationHeight)
    (fits_old : val fc.RenterOutput.Value + val fc.HostOutput.Value < W2)
    (h : RefreshContractPartialRollover fc p addr rp = .ok (rn, u))
    (fits_new : val rn.NewContract.RenterOutput.Value + val rn.NewContract.HostOutput.Value + tax rn.NewContract < W2) :
    Sia.Ledger.validateRenewal ch fc rn = .ok none := by
  obtain ⟨ok, _, _, _, _, _, q1, q2, _⟩ := c17_refresh_partial fc p addr rp rn u hfc hp ha hc hfs hnz h
  exact validateRenewal_accepts ch fc rn hfc ok (by omega) (by omega) fits_old fits_new

theorem c17_refresh_full_valid (ch : Nat) (fc : V2FileContract) (p : HostPrices) (addr : ByteArray)
    (rp : RPCRefreshContractParams) (rn : V2FileContractRenewal) (u : Usage)
    (hfc : FCWF fc) (hp : PricesWF p) (ha : WF rp.Allowance) (hc : WF rp.Collateral)
    (inv : Inv fc) (hfs : fc.Filesize ≤ fc.Capacity) (hnz : val rp.Allowance ≠ 0)
    (hch : ch ≤ fc.ProofHeight) (hwin : fc.ProofHeight < fc.ExpirationHeight)
    (fits_old : val fc.RenterOutput.Value + val fc.HostOutput.Value < W2)
    (h : RefreshContractFullRollover fc p addr rp = .ok (rn, u))
    (fits_new : val rn.NewContract.RenterOutput.Value + val rn.NewContract.HostOutput.Value + tax rn.NewContract < W2) :
    Sia.Ledger.validateRenewal ch fc rn = .ok none := by
  obtain ⟨ok, _, _, _, _, _, _, q1, q2, _⟩ := c17_refresh_full fc p addr rp rn u hfc hp ha hc inv hfs hnz h
  exact validateRenewal_accepts ch fc rn hfc ok (by omega) (by omega) fits_old fits_new

end C17
