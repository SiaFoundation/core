import SiaModel.Ledger.Model
import SiaModel.Gen.CodeConsensus
import SiaProofs.Props.C15
import SiaProofs.Props.C15QuoRem
import SiaModel.Gen.FactsLedger
/-!
# C01 ties: the ledger model's arithmetic helpers = the code, by translation

`SiaModel/Gen/CodeConsensus.lean` is translated from `consensus/state.go`
(T-code roots in `extract/roots_ledger.go`). Each `tie_*` below states that the hand-written
helper of `SiaModel/Ledger/Model.lean` equals the generated definition under the abstraction

* `types.Currency` ↔ `Nat` via `C15.val`, for well-formed limbs (`C15.WF`);
* `State`/`Network` fields ↔ `Ledger`/`Params` fields (stated as hypotheses of each theorem);
* a Go panic (`Except.error _` in the generated code) ↔ `.error (.panic _)` in the model.

`State.FileContractTax` uses `math/big` and a `float64` constant and cannot be translated;
`tie_fileContractTax_spec` instead pins the model's formula to the exact binary value of
`float64(0.039)`.
-/
namespace C01
open Sia.Ledger Gen.Types C15

/-- generated currency result vs model result -/
def Agrees (g : Except String Currency) (m : VM Cur) : Prop :=
  match g, m with
  | .ok c, .ok v => WF c ∧ val c = v
  | .error _, .error (.panic _) => True
  | _, _ => False

theorem agrees_cases {g : Except String Currency} {m : VM Cur} (h : Agrees g m) :
    (∃ c v, g = .ok c ∧ m = .ok v ∧ WF c ∧ val c = v) ∨ (∃ e msg, g = .error e ∧ m = .error (.panic msg)) := by
  cases g with
  | ok c => cases m with
    | ok v => exact .inl ⟨c, v, rfl, rfl, h.1, h.2⟩
    | error f => exact h.elim
  | error e => cases m with
    | ok v => exact h.elim
    | error f => cases f with
      | reject _ => exact h.elim
      | panic msg => exact .inr ⟨e, msg, rfl, rfl⟩

theorem hastings_val : WF HastingsPerSiacoin ∧ val HastingsPerSiacoin = 1000000000000000000000000 := by
  unfold WF val HastingsPerSiacoin NewCurrency
  decide

/-- `types.Siacoins(n)` for a uint32-sized `n` never panics and is the model's `siacoins n` -/
theorem siacoins_ok (n : Nat) (hn : n < 4294967296) :
    ∃ c, Gen.Types.Siacoins n = .ok c ∧ WF c ∧ val c = siacoins n := by
  obtain ⟨hw, hv⟩ := hastings_val
  have hlt : val HastingsPerSiacoin * n < W2 := by rw [hv]; omega
  obtain ⟨s, e, ws, vs⟩ := (c15_mul64_panics_iff hw.is (by omega)).ok hlt
  refine ⟨s, ?_, ws, ?_⟩
  · unfold Gen.Types.Siacoins; rw [e]
  · rw [vs, hv]; rfl

/-- the generated `BlockReward` never panics and returns the model's
    `blockReward`. -/
theorem tie_blockReward (s : Gen.Consensus.State) (L : Ledger)
    (hi : WF s.Network.InitialCoinbase) (hm : WF s.Network.MinimumCoinbase)
    (hc : L.child = Gen.Consensus.State.childHeight s)
    (h1 : L.P.initialCoinbase = val s.Network.InitialCoinbase)
    (h2 : L.P.minimumCoinbase = val s.Network.MinimumCoinbase) :
    ∃ c, Gen.Consensus.State.BlockReward s = .ok c ∧ WF c ∧ val c = blockReward L := by
  obtain ⟨sub, e, wsub, vsub⟩ := siacoins_ok (Gen.Consensus.State.childHeight s % 4294967296) (Nat.mod_lt _ (by omega))
  obtain ⟨w1, v1, u1⟩ := c15_sub s.Network.InitialCoinbase sub hi wsub
  have hil := val_lt hi
  have hsl := val_lt wsub
  unfold Gen.Consensus.State.BlockReward blockReward
  rw [e]
  simp only [bind, Except.bind, pure, Except.pure]
  rw [h1, h2, hc, ← vsub]
  by_cases hu : val s.Network.InitialCoinbase < val sub
  · have : (s.Network.InitialCoinbase.SubWithUnderflow sub).2 = true := u1.2 hu
    simp only [this, Bool.true_or, if_true, hu]
    exact ⟨_, rfl, hm, rfl⟩
  · have hf : (s.Network.InitialCoinbase.SubWithUnderflow sub).2 = false := by
      cases hb : (s.Network.InitialCoinbase.SubWithUnderflow sub).2
      · rfl
      · exact absurd (u1.1 hb) hu
    have hv : val (s.Network.InitialCoinbase.SubWithUnderflow sub).1 = val s.Network.InitialCoinbase - val sub := by
      rw [v1]; omega
    have hc := cmp_lt w1 hm
    rw [hv] at hc
    simp only [hf, Bool.false_or, hu, if_false, hc]
    by_cases hlt : val s.Network.InitialCoinbase - val sub < val s.Network.MinimumCoinbase
    · simp only [hlt, decide_true, if_true]
      exact ⟨_, rfl, hm, rfl⟩
    · simp only [hlt, decide_false, Bool.false_eq_true, if_false]
      exact ⟨_, rfl, w1, hv⟩

/-- `hno`: the uint64 addition does not wrap (true for heights and delays below 2^63) -/
theorem tie_maturityHeight (s : Gen.Consensus.State) (L : Ledger)
    (hc : L.child = Gen.Consensus.State.childHeight s) (hd : L.P.maturityDelay = s.Network.MaturityDelay)
    (hno : L.child + L.P.maturityDelay < 18446744073709551616) :
    Gen.Consensus.State.MaturityHeight s = maturityHeight L := by
  unfold Gen.Consensus.State.MaturityHeight maturityHeight
  rw [← hc, ← hd]
  exact Nat.mod_eq_of_lt hno

theorem tie_siafundCount (s : Gen.Consensus.State) : Gen.Consensus.State.SiafundCount s = siafundCount := rfl

theorem agrees_checked {op : Except String Currency} {x : Nat} {P : Prop} [Decidable P] {msg : String} {A : Currency → Prop}
    (h : Checked op P A) (hA : ∀ s, A s → Is s x) : Agrees op (if P then pure x else gopanic msg) := by
  by_cases hP : P
  · obtain ⟨s, e, a⟩ := h.1 hP
    rw [e, if_pos hP]; exact ⟨(hA s a).wf, (hA s a).eq⟩
  · obtain ⟨m, e⟩ := h.2 hP
    rw [e, if_neg hP]; exact trivial

theorem agrees_add (a b : Currency) (ha : WF a) (hb : WF b) : Agrees (a.Add b) (addC (val a) (val b)) :=
  agrees_checked (c15_add_panics_iff ha.is hb.is) fun _ h => h

theorem agrees_sub (a b : Currency) (ha : WF a) (hb : WF b) : Agrees (a.Sub b) (subC (val a) (val b)) :=
  agrees_checked (c15_sub_panics_iff ha.is hb.is) fun _ h => h.1

theorem agrees_mul64 (a : Currency) (n : Nat) (ha : WF a) (hn : n < W) : Agrees (a.Mul64 n) (mul64C (val a) n) :=
  agrees_checked (c15_mul64_panics_iff ha.is hn) fun _ h => h

/-- `fc.RenterOutput.Value.Add(fc.HostOutput.Value).Div64(25)`, panicking on the
    unchecked `Add` exactly when the model does. -/
theorem tie_v2Tax (cs : Gen.Consensus.State) (fc : V2FileContract) (m : Fc2)
    (hr : WF fc.RenterOutput.Value) (hh : WF fc.HostOutput.Value)
    (e1 : m.renter.value = val fc.RenterOutput.Value) (e2 : m.host.value = val fc.HostOutput.Value) :
    Agrees (Gen.Consensus.State.V2FileContractTax cs fc) (v2Tax m) := by
  unfold Gen.Consensus.State.V2FileContractTax v2Tax
  rw [e1, e2]
  rcases agrees_cases (agrees_add _ _ hr hh) with ⟨s, v, eg, em, ws, vs⟩ | ⟨e, msg, eg, em⟩
  · obtain ⟨q, eq, wq, vq⟩ := (c15_div64 (v := 25) ⟨ws, vs⟩ (by decide) (by decide)).ok trivial
    rw [eg, em]
    simp only [bind, Except.bind, eq, pure, Except.pure]
    exact ⟨wq, vq⟩
  · rw [eg, em]; exact trivial

/-- the claim expression of `ApplyTransaction` / `ApplyV2Transaction`
    (`ms.siafundTaxRevenue.Sub(claimStart).Div64(ms.base.SiafundCount()).Mul64(value)`), assembled
    from the generated `Currency.Sub`, `Currency.Div64`, `State.SiafundCount`, `Currency.Mul64` -/
def genClaimPortion (s : Gen.Consensus.State) (pool claimStart : Currency) (value : Nat) : Except String Currency := do
  let d ← pool.Sub claimStart
  let q ← d.Div64 (Gen.Consensus.State.SiafundCount s)
  q.Mul64 value

theorem tie_claimPortion (s : Gen.Consensus.State) (pool claimStart : Currency) (value : Nat)
    (hp : WF pool) (hs : WF claimStart) (hv : value < W) :
    Agrees (genClaimPortion s pool claimStart value) (claimPortion (val pool) (val claimStart) value) := by
  unfold genClaimPortion claimPortion
  rcases agrees_cases (agrees_sub _ _ hp hs) with ⟨d, v, eg, em, wd, vd⟩ | ⟨e, msg, eg, em⟩
  · obtain ⟨q, eq, wq, vq⟩ := (c15_div64 (v := 10000) ⟨wd, vd⟩ (by decide) (by decide)).ok trivial
    have hq : d.Div64 (Gen.Consensus.State.SiafundCount s) = .ok q := eq
    rw [eg, em]
    simp only [bind, Except.bind, hq]
    exact vq ▸ agrees_mul64 q value wq hv
  · rw [eg, em]; exact trivial

/-- generated `(sco, exists)` result vs the model's `Option ScOut` -/
def SubsidyAgrees (g : Except String (SiacoinOutput × Bool)) (m : VM (Option ScOut))
    (gaddr : ByteArray) (addr : Nat) : Prop :=
  match g, m with
  | .ok (_, false), .ok none => True
  | .ok (o, true), .ok (some out) => WF o.Value ∧ val o.Value = out.value ∧ o.Address = gaddr ∧ out.addr = addr
  | .error _, .error (.panic _) => True
  | _, _ => False

theorem subsidyAgrees_of_agrees {g : Except String Currency} {m : VM Cur} (h : Agrees g m) (ga : ByteArray) (a : Nat) :
    SubsidyAgrees (g >>= fun v => pure ({ Value := v, Address := ga }, true))
      (m >>= fun v => pure (some { value := v, addr := a })) ga a := by
  rcases agrees_cases h with ⟨c, v, eg, em, wc, vc⟩ | ⟨e, msg, eg, em⟩
  · rw [eg, em]; exact ⟨wc, vc, rfl, rfl⟩
  · rw [eg, em]; exact trivial

/-- Same verdict (no subsidy / subsidy / panic), same value, same
    address. Hypotheses = the abstraction: the void-address test, `blocksPerYear` as the code
    computes it (`uint64(365*24*time.Hour / BlockInterval)`, a non-zero interval — a zero one
    panics in Go before anything else), child height and Foundation fork height. -/
theorem tie_foundationSubsidy (s : Gen.Consensus.State) (L : Ledger)
    (hvoid : s.FoundationSubsidyAddress = Gen.Types.VoidAddress ↔ L.fPrimary = L.P.voidAddr)
    (hbi : s.Network.BlockInterval ≠ 0)
    (hbpy : L.P.blocksPerYear =
      Int.toNat ((Int.tdiv 31536000000000000 s.Network.BlockInterval) % 18446744073709551616))
    (hc : L.child = Gen.Consensus.State.childHeight s)
    (hhf : L.P.hfFoundation = s.Network.HardforkFoundation.Height)
    (hhfW : s.Network.HardforkFoundation.Height < W) :
    SubsidyAgrees (Gen.Consensus.State.FoundationSubsidy s) (foundationSubsidy L)
      s.FoundationSubsidyAddress L.fPrimary := by
  obtain ⟨spb, e, wspb, vspb⟩ := siacoins_ok 30000 (by decide)
  have hchild : Gen.Consensus.State.childHeight s < W := by
    unfold Gen.Consensus.State.childHeight; exact Nat.mod_lt _ (by decide)
  have hbpyW : L.P.blocksPerYear < W := by rw [hbpy]; omega
  unfold Gen.Consensus.State.FoundationSubsidy foundationSubsidy
  by_cases hv : s.FoundationSubsidyAddress = Gen.Types.VoidAddress
  · have hv' := hvoid.1 hv
    simp only [hv, hv', decide_true, if_true, pure, Except.pure]
    exact trivial
  · have hv' : ¬ L.fPrimary = L.P.voidAddr := fun c => hv (hvoid.2 c)
    have hdiv : Go.intDiv 31536000000000000 (Gen.Consensus.State.BlockInterval s) =
        .ok (Int.tdiv 31536000000000000 s.Network.BlockInterval) := by
      unfold Go.intDiv Gen.Consensus.State.BlockInterval; rw [if_neg hbi]
    simp only [hv, hv', decide_false, Bool.false_eq_true, if_false, e, hdiv, bind, Except.bind, ← hbpy, ← hc, ← hhf]
    generalize L.P.blocksPerYear = bpy at hbpyW ⊢
    rw [hc] at *
    generalize Gen.Consensus.State.childHeight s = child at hchild ⊢
    rw [← hhf] at hhfW
    generalize L.P.hfFoundation = hf at hhfW ⊢
    by_cases hlt : child < hf
    · simp only [hlt, decide_true, if_true, pure, Except.pure, true_or]
      split <;> exact trivial
    · have hsub : (child + 18446744073709551616 - hf) % 18446744073709551616 = child - hf :=
        GoWords.sub_mod_word (Nat.le_of_not_lt hlt) hchild
      simp only [hlt, decide_false, Bool.false_eq_true, if_false, hsub, false_or]
      by_cases hz : bpy / 12 = 0
      · simp only [hz, Go.natMod, if_true, gopanic]
        exact trivial
      · simp only [hz, Go.natMod, if_false, pure, Except.pure]
        by_cases hm : (child - hf) % (bpy / 12) ≠ 0
        · simp only [hm, decide_true, if_true, ne_eq, not_false_eq_true]
          exact trivial
        · have hm0 : (child - hf) % (bpy / 12) = 0 := by simpa using hm
          simp only [hm0, ne_eq, not_true_eq_false, decide_false, Bool.false_eq_true, if_false]
          by_cases heq : child = hf
          · simp only [heq, decide_true, if_true]
            exact subsidyAgrees_of_agrees (vspb ▸ agrees_mul64 spb bpy wspb hbpyW) _ _
          · simp only [heq, decide_false, Bool.false_eq_true, if_false]
            exact subsidyAgrees_of_agrees
              (vspb ▸ agrees_mul64 spb (bpy / 12) wspb (Nat.lt_of_le_of_lt (Nat.div_le_self _ _) hbpyW)) _ _

/-- significand and (negated) binary exponent of a positive normal IEEE-754 double given by its
    64-bit pattern: value = significand / 2^negExp -/
def f64Decode (bits : Nat) : Nat × Nat :=
  (4503599627370496 + bits % 4503599627370496, 1075 - (bits / 4503599627370496) % 2048)

/-- (1) `taxNum / taxDen` IS `float64(0.039)`: its bit pattern `0x3FA3F7CED916872B` decodes to
        `5620492334958379 / 2^57`, a 53-bit significand, just below 39/1000 and within half an ulp of it, odd — so
        `new(big.Rat).SetFloat64(0.039)` is exactly `taxNum/taxDen` in lowest terms;
    (2) the model computes `⌊payout·taxNum/2^57⌋` before the tax fork and `⌊payout·39/1000⌋` after
        it, rounded down to a multiple of `SiafundCount` = 10000, reduced mod 2^128 (the
        `Uint64()`/`Rsh(64)` truncation). -/
theorem tie_fileContractTax_spec :
    f64Decode 0x3FA3F7CED916872B = (taxNum, 57) ∧ taxDen = 2 ^ 57 ∧
    2 ^ 52 ≤ taxNum ∧ taxNum < 2 ^ 53 ∧ taxNum % 2 = 1 ∧
    1000 * taxNum ≤ 39 * taxDen ∧ 2 * (39 * taxDen - 1000 * taxNum) ≤ 1000 ∧
    (∀ (L : Ledger) (payout : Cur),
      fileContractTax L payout =
        ((if L.child < L.P.hfTax then payout * taxNum / 2 ^ 57 else payout * 39 / 1000) / 10000 * 10000)
          % 340282366920938463463374607431768211456) := by
  refine ⟨by decide, by decide, by decide, by decide, by decide, by decide, by decide, ?_⟩
  intro L payout
  unfold fileContractTax curLimit
  have hd : taxDen = 2 ^ 57 := by decide
  rw [hd]
  dsimp only
  generalize (if L.child < L.P.hfTax then payout * taxNum / 2 ^ 57 else payout * 39 / 1000) = i
  congr 1
  exact Nat.sub_eq_of_eq_add (Nat.div_add_mod' i 10000).symm

/-- the source of `FileContractTax`: the float constant, 39/1000, and the operation chain
    (`SetFloat64`·`Mul`·`Div(Num, Denom)` resp. `Mul`·`Div`, then `Sub(Mod(SiafundCount))`,
    `Uint64`/`Rsh 64`) the spec above reads -/
theorem tie_fileContractTax_source :
    Gen.FactsLedger.fileContractTaxLits = ["0.039", "39", "1000", "64"] ∧
    Gen.FactsLedger.fileContractTaxConds = ["s.childHeight() < s.Network.HardforkTax.Height"] ∧
    Gen.FactsLedger.fileContractTaxCalls =
      ["Big", "childHeight", "SetInt", "Mul", "SetFloat64", "Div", "Num", "Denom", "Mul", "NewInt", "Div",
       "NewInt", "Sub", "Mod", "NewInt", "SiafundCount", "Uint64", "Uint64", "Rsh", "NewCurrency"] :=
  ⟨rfl, rfl, rfl⟩

/-- the claim expression that `genClaimPortion` assembles, as written in the two appliers -/
theorem tie_claim_source :
    Gen.FactsLedger.claimExpr_ApplyTransaction =
      ["ms.siafundTaxRevenue.Sub(sfe.ClaimStart).Div64(ms.base.SiafundCount()).Mul64(sfe.SiafundOutput.Value)"] ∧
    Gen.FactsLedger.claimExpr_ApplyV2Transaction =
      ["ms.siafundTaxRevenue.Sub(sfi.Parent.ClaimStart).Div64(ms.base.SiafundCount()).Mul64(sfi.Parent.SiafundOutput.Value)"] :=
  ⟨rfl, rfl⟩

/-- a concrete state on which the state-side hypotheses of `tie_blockReward` and `tie_foundationSubsidy` hold
    (height 9, Foundation fork at 10, 10-minute blocks) -/
def exState : Gen.Consensus.State :=
  { Network := { InitialCoinbase := { Lo := 300000, Hi := 0 }, MinimumCoinbase := { Lo := 30000, Hi := 0 },
                 BlockInterval := 600000000000, MaturityDelay := 144,
                 HardforkFoundation := { Height := 10 } },
    Index := { Height := 9 }, FoundationSubsidyAddress := ⟨#[1]⟩ }

example : Gen.Consensus.State.childHeight exState = 10 ∧ WF exState.Network.InitialCoinbase ∧
    exState.Network.BlockInterval ≠ 0 ∧ exState.FoundationSubsidyAddress ≠ Gen.Types.VoidAddress ∧
    Int.toNat ((Int.tdiv 31536000000000000 exState.Network.BlockInterval) % 18446744073709551616) = 52560 := by
  refine ⟨by decide, ⟨by decide, by decide⟩, by decide, by decide, by decide⟩

/-- at the fork height the generated code pays a year of subsidy: 30000 SC × 52560 blocks -/
example : (Gen.Consensus.State.FoundationSubsidy exState).toOption.map (fun r => (val r.1.Value, r.2))
    = some (siacoins 30000 * 52560, true) := by decide

end C01
