import SiaProofs.Props.C17Free
import SiaProofs.Props.C17Renew
import SiaModel.Rhp.V4Validate
import SiaModel.Gen.FactsC17
/-!
# C17 — from the RPC's own `Validate` to the constructor

The `c17_revise_*` / `c17_new_contract_valid` theorems take the numeric consequences of
request validity as hypotheses.  Here those hypotheses are *discharged from the Validate
methods themselves*:

* `tie_validate_*`: the skeleton of each rhp/v4 `Validate` method, regenerated from
  rhp/v4/validation.go on every run (`SiaModel.Gen.FactsC17`), is exactly the text the hand
  model `Sia.Rhp.V4.*Validate` was transcribed from — any change of a bound, a comparison
  operator or the order of the checks breaks a tie;
* `c17_free_validated_no_wrap`, `c17_append_validated`, `c17_form_validated`: a request the
  model of `Validate` accepts makes the generated constructor produce a consensus-valid
  result without `uint64` wrap-around.
-/
namespace C17
open Gen.Types Gen.Rhp4 C15 Sia.Rhp.V4

theorem tie_validate_freeSectors : Gen.FactsC17.freeSectors = [
  "if err := req.Prices.Validate(pk); err != nil",
  "return error",
  "else",
  "if uint64(len(req.Indices)) > MaxSectorBatchSize",
  "return error",
  "seen := make(map[uint64]bool)",
  "sectors := fc.Filesize / SectorSize",
  "for _, index := range req.Indices",
  "if index >= sectors",
  "return error",
  "else",
  "if seen[index]",
  "return error",
  "seen[index] = true",
  "end for",
  "return nil"] := rfl

theorem tie_validate_appendSectors : Gen.FactsC17.appendSectors = [
  "if err := req.Prices.Validate(pk); err != nil",
  "return error",
  "else",
  "if len(req.Sectors) == 0",
  "return error",
  "else",
  "if uint64(len(req.Sectors)) > MaxSectorBatchSize",
  "return error",
  "return nil"] := rfl

theorem tie_validate_sectorRoots : Gen.FactsC17.sectorRoots = [
  "if err := req.Prices.Validate(pk); err != nil",
  "return error",
  "contractSectors := fc.Filesize / SectorSize",
  "switch",
  "case req.Length == 0",
  "return error",
  "case req.Offset > contractSectors || req.Length > (contractSectors-req.Offset)",
  "return error",
  "case req.Length > MaxSectorBatchSize",
  "return error",
  "return nil"] := rfl

theorem tie_validate_fundAccounts : Gen.FactsC17.fundAccounts = [
  "switch",
  "case req.ContractID == (types.FileContractID{})",
  "return error",
  "case req.RenterSignature == (types.Signature{})",
  "return error",
  "case len(req.Deposits) == 0",
  "return error",
  "case len(req.Deposits) > MaxAccountBatchSize",
  "return error",
  "for i, deposit := range req.Deposits",
  "switch",
  "case deposit.Account == (Account{})",
  "return error",
  "case deposit.Amount.IsZero()",
  "return error",
  "end for",
  "return nil"] := rfl

theorem tie_validate_replenishAccounts : Gen.FactsC17.replenishAccounts = [
  "switch",
  "case req.ContractID == (types.FileContractID{})",
  "return error",
  "case req.ChallengeSignature == (types.Signature{})",
  "return error",
  "case len(req.Accounts) == 0",
  "return error",
  "case len(req.Accounts) > MaxAccountBatchSize",
  "return error",
  "case req.Target.IsZero()",
  "return error",
  "for i, account := range req.Accounts",
  "if account == (Account{})",
  "return error",
  "end for",
  "return nil"] := rfl

theorem tie_validate_formContract : Gen.FactsC17.formContract = [
  "if err := req.Prices.Validate(pk); err != nil",
  "return error",
  "minProofHeight := minProofHeight(tip, req.Prices)",
  "switch",
  "case req.MinerFee.IsZero()",
  "return error",
  "case req.Basis == (types.ChainIndex{})",
  "return error",
  "case len(req.RenterInputs) == 0",
  "return error",
  "case req.Contract.ProofHeight < minProofHeight",
  "return error",
  "case req.Contract.ProofHeight > math.MaxUint64-ProofWindow",
  "return error",
  "case req.Contract.ProofHeight+ProofWindow-req.Prices.TipHeight > maxDuration",
  "return error",
  "hp := req.Prices",
  "minRenterAllowance := MinRenterAllowance(hp, req.Contract.Collateral)",
  "switch",
  "case req.Contract.Allowance.IsZero()",
  "return error",
  "case req.Contract.Collateral.Cmp(maxCollateral) > 0",
  "return error",
  "case req.Contract.Allowance.Cmp(minRenterAllowance) < 0",
  "return error",
  "default",
  "return nil"] := rfl

theorem tie_validate_renewContract : Gen.FactsC17.renewContract = [
  "if err := req.Prices.Validate(pk); err != nil",
  "return error",
  "minProofHeight := minProofHeight(tip, req.Prices)",
  "switch",
  "case req.MinerFee.IsZero()",
  "return error",
  "case req.Basis == (types.ChainIndex{})",
  "return error",
  "case req.Renewal.ProofHeight <= existing.ProofHeight",
  "return error",
  "case req.Renewal.ProofHeight < minProofHeight",
  "return error",
  "case req.Renewal.ProofHeight > math.MaxUint64-ProofWindow",
  "return error",
  "case req.Renewal.ProofHeight+ProofWindow-req.Prices.TipHeight > maxDuration",
  "return error",
  "hp := req.Prices",
  "duration := req.Renewal.ProofHeight + ProofWindow - hp.TipHeight",
  "minRenterAllowance := MinRenterAllowance(hp, req.Renewal.Collateral)",
  "riskedCollateral := req.Prices.Collateral.Mul64(existing.Filesize).Mul64(duration)",
  "totalCollateral := req.Renewal.Collateral.Add(riskedCollateral)",
  "switch",
  "case req.Renewal.Allowance.IsZero()",
  "return error",
  "case totalCollateral.Cmp(maxCollateral) > 0",
  "return error",
  "case req.Renewal.Allowance.Cmp(minRenterAllowance) < 0",
  "return error",
  "default",
  "return nil"] := rfl

theorem tie_validate_refreshContract : Gen.FactsC17.refreshContract = [
  "if err := req.Prices.Validate(pk); err != nil",
  "return error",
  "minProofHeight := minProofHeight(tip, req.Prices)",
  "switch",
  "case req.MinerFee.IsZero()",
  "return error",
  "case req.Basis == (types.ChainIndex{})",
  "return error",
  "case existing.ProofHeight <= minProofHeight",
  "return error",
  "hp := req.Prices",
  "minRenterAllowance := MinRenterAllowance(hp, req.Refresh.Collateral)",
  "var totalHostCollateral types.Currency",
  "if partial",
  "totalHostCollateral = existing.RiskedCollateral().Add(req.Refresh.Collateral)",
  "else",
  "totalHostCollateral = existing.TotalCollateral.Add(req.Refresh.Collateral)",
  "switch",
  "case req.Refresh.Allowance.IsZero()",
  "return error",
  "case req.Refresh.Allowance.Cmp(minRenterAllowance) < 0",
  "return error",
  "case totalHostCollateral.Cmp(maxCollateral) > 0",
  "return error",
  "default",
  "return nil"] := rfl

theorem tie_validate_readSector : Gen.FactsC17.readSector = [
  "if err := req.Prices.Validate(hostKey); err != nil",
  "return error",
  "else",
  "if err := req.Token.Validate(hostKey); err != nil",
  "return error",
  "switch",
  "case req.Length == 0",
  "return error",
  "case req.Offset > SectorSize || req.Length > (SectorSize-req.Offset)",
  "return error",
  "case (req.Offset+req.Length)%LeafSize != 0",
  "return error",
  "return nil"] := rfl

theorem tie_validate_writeSector : Gen.FactsC17.writeSector = [
  "if err := req.Prices.Validate(hostKey); err != nil",
  "return error",
  "else",
  "if err := req.Token.Validate(hostKey); err != nil",
  "return error",
  "switch",
  "case req.DataLength == 0",
  "return error",
  "case req.DataLength%LeafSize != 0",
  "return error",
  "case req.DataLength > SectorSize",
  "return error",
  "return nil"] := rfl

theorem tie_validate_constants :
    Gen.FactsC17.constSectorSize = 4194304 ∧
    Gen.FactsC17.constMaxSectorBatchSize = 262144 ∧
    Gen.FactsC17.constMaxAccountBatchSize = 1000 ∧
    Gen.FactsC17.constProofWindow = 144 ∧
    Gen.FactsC17.constMinContractDuration = 18 ∧
    Gen.FactsC17.constLeafSize = 64 := by decide

theorem freeLoop_spec (sectors : Nat) (l seen : List Nat) (h : freeLoop sectors l seen = true) :
    (∀ i ∈ l, i < sectors) ∧ l.Nodup ∧ (∀ i ∈ l, i ∉ seen) := by
  induction l generalizing seen with
  | nil => simp
  | cons a rest ih =>
    unfold freeLoop at h
    by_cases h1 : a ≥ sectors
    · simp [h1] at h
    · simp only [h1, if_false] at h
      by_cases ha : a ∈ seen
      · have hc : seen.contains a = true := List.contains_iff_mem.mpr ha
        rw [hc] at h
        simp at h
      · have hc : seen.contains a = false := by
          cases hcc : seen.contains a
          · rfl
          · exact absurd (List.contains_iff_mem.mp hcc) ha
        rw [hc] at h
        simp only [Bool.false_eq_true, if_false] at h
        obtain ⟨q1, q2, q3⟩ := ih (a :: seen) h
        refine ⟨?_, ?_, ?_⟩
        · intro i hi
          rcases List.mem_cons.mp hi with rfl | hi
          · omega
          · exact q1 i hi
        · refine List.nodup_cons.mpr ⟨?_, q2⟩
          intro hm; exact (q3 a hm) (List.mem_cons_self)
        · intro i hi
          rcases List.mem_cons.mp hi with rfl | hi
          · exact ha
          · intro hm; exact (q3 i hi) (List.mem_cons_of_mem _ hm)

theorem freeSectorsValidate_spec (filesize : Nat) (indices : List Nat) (h : freeSectorsValidate filesize indices = true) :
    indices.length ≤ 262144 ∧ indices.Nodup ∧ (∀ i ∈ indices, i < filesize / 4194304) ∧
    4194304 * indices.length ≤ filesize := by
  unfold freeSectorsValidate maxSectorBatch sectorSize at h
  by_cases h1 : indices.length > 262144
  · simp [h1] at h
  · simp only [h1, if_false] at h
    obtain ⟨q1, q2, _⟩ := freeLoop_spec _ _ _ h
    exact ⟨by omega, q2, q1, c17_free_no_wrap filesize indices q2 q1⟩

/--
**A validated free-sectors request cannot wrap the filesize.**  If the (model of the)
request's own `Validate` accepts the index list against the contract, then
`ReviseForFreeSectors` with `deletions = len(indices)` — whenever it returns — has the
stated error behaviour, and on success the new filesize is the old one minus one sector per
index (for a whole-sector filesize: `(sectors − |indices|)·SectorSize`), stays within the
capacity, and the revision is accepted by consensus.
-/
theorem c17_free_validated_no_wrap (ch eph : Nat) (fc fc' : V2FileContract) (p : HostPrices) (root : ByteArray)
    (indices : List Nat) (u : Usage) (err : Option String)
    (hfc : FCWF fc) (hp : PricesWF p) (live : Live ch fc)
    (hv : freeSectorsValidate fc.Filesize indices = true)
    (h : ReviseForFreeSectors fc p root (Int.ofNat indices.length) = .ok (fc', u, err)) :
    indices.length ≤ fc.Filesize / 4194304 ∧
    (err ≠ none ↔ val fc.RenterOutput.Value < val p.FreeSectorPrice * indices.length) ∧
    (err ≠ none → u = {} ∧ Refused fc fc') ∧
    (err = none →
      fc'.Filesize + 4194304 * indices.length = fc.Filesize ∧
      (fc.Filesize = 4194304 * (fc.Filesize / 4194304) →
        fc'.Filesize = 4194304 * (fc.Filesize / 4194304 - indices.length)) ∧
      fc'.Filesize ≤ fc'.Capacity ∧ fc'.Capacity = fc.Capacity ∧
      Revised ch eph fc fc' u) := by
  obtain ⟨_, _, _, hn⟩ := freeSectorsValidate_spec _ _ hv
  obtain ⟨r1, r2, r3⟩ := c17_revise_free ch eph fc fc' p root indices.length u err hfc hp live hn h
  refine ⟨by omega, r1, r2, fun he => ?_⟩
  obtain ⟨_, _, f1, f2, _, rv⟩ := r3 he
  have := live.fsz_le_cap
  exact ⟨f1, fun hw => by omega, by omega, f2, rv⟩

/--
**A validated append request** (`1 ≤ n ≤ MaxSectorBatchSize`) on a contract whose capacity
is at least one maximal batch (2^40 bytes) below 2^64 cannot wrap filesize or capacity; on
success the filesize grows by `n` sectors, the capacity by the missing whole sectors, and
the revision is accepted by consensus.
-/
theorem c17_append_validated (ch eph : Nat) (fc fc' : V2FileContract) (p : HostPrices) (root : ByteArray) (n : Nat)
    (u : Usage) (err : Option String)
    (hfc : FCWF fc) (hp : PricesWF p) (live : Live ch fc)
    (hv : appendSectorsValidate n = true)
    (hcap : fc.Capacity + 1099511627776 < W)
    (h : ReviseForAppendSectors fc p root n = .ok (fc', u, err)) :
    1 ≤ n ∧ n ≤ 262144 ∧
    (err ≠ none → u = {} ∧ Refused fc fc') ∧
    (err = none →
      fc'.Filesize = fc.Filesize + 4194304 * n ∧ fc'.Filesize ≤ fc'.Capacity ∧ fc.Capacity ≤ fc'.Capacity ∧
      (fc.Filesize + 4194304 * n ≤ fc.Capacity → fc'.Capacity = fc.Capacity) ∧
      (fc.Capacity < fc.Filesize + 4194304 * n → fc'.Capacity < fc'.Filesize + 4194304) ∧
      Revised ch eph fc fc' u) := by
  unfold appendSectorsValidate maxSectorBatch at hv
  have h1 : n ≠ 0 := by intro e; simp [e] at hv
  have h2 : ¬ n > 262144 := by intro e; simp [h1, e] at hv
  have h3 : n ≤ 262144 := Nat.le_of_not_lt h2
  obtain ⟨g, d, hg, _, _, r2, r3⟩ := c17_revise_append ch eph fc fc' p root n u err hfc hp live (by omega) h
  refine ⟨Nat.pos_of_ne_zero h1, h3, r2, fun he => ?_⟩
  obtain ⟨_, _, f1, f2, f3, f4, f5, _, rv⟩ := r3 he
  exact ⟨f1, f3, by omega, f4, f5, rv⟩

/--
**A validated formation request yields a consensus-valid contract**: if the model of
`RPCFormContractRequest.Validate` accepts (at chain tip `tipHeight`), `NewContract` — whenever
it returns — passes `validateContract` at the next block (for every child height up to the proof
height: `c17_new_contract_valid`).
-/
theorem c17_form_validated (tipHeight : Nat) (p : HostPrices) (feeZero basisZero : Bool) (nInputs : Nat)
    (cp : RPCFormContractParams) (maxCollateral : Currency) (maxDuration : Nat) (hk ha : ByteArray)
    (fc : V2FileContract) (u : Usage)
    (hp : PricesWF p) (hal : WF cp.Allowance) (hco : WF cp.Collateral) (htip : tipHeight < W)
    (hv : formContractValidate tipHeight p feeZero basisZero nInputs cp.Allowance cp.Collateral cp.ProofHeight
            maxCollateral maxDuration = .ok true)
    (h : NewContract p cp hk ha = .ok (fc, u)) :
    feeZero = false ∧ basisZero = false ∧ nInputs ≠ 0 ∧ tipHeight + 18 ≤ cp.ProofHeight ∧
    Sia.Ledger.validateContract (tipHeight + 1) fc = none ∧ FCWF fc ∧ Inv fc ∧
    fc.ExpirationHeight = fc.ProofHeight + 144 := by
  unfold formContractValidate at hv
  simp only [] at hv
  by_cases a1 : feeZero = true
  · simp [a1, pure, Except.pure] at hv
  by_cases a2 : basisZero = true
  · simp [a1, a2, pure, Except.pure] at hv
  by_cases a3 : nInputs = 0
  · simp [a1, a2, a3, pure, Except.pure] at hv
  by_cases a4 : cp.ProofHeight < minProofHeight { Height := tipHeight } p
  · simp [a1, a2, a3, a4, pure, Except.pure] at hv
  by_cases a5 : cp.ProofHeight > w64 - 1 - 144
  · simp [a1, a2, a3, a4, a5, pure, Except.pure] at hv
  simp only [a1, a2, a3, a4, a5, Bool.false_eq_true, if_false] at hv
  split at hv
  · simp [pure, Except.pure] at hv
  · obtain ⟨mra, _, hv⟩ := GoLoops.of_bind_ok hv
    by_cases a6 : cp.Allowance.IsZero = true
    · simp [a6, pure, Except.pure] at hv
    · have hnz : val cp.Allowance ≠ 0 := fun e => a6 (isZero_iff.mpr e)
      have hph : cp.ProofHeight + 144 < W := by unfold w64 at a5; omega
      have hmin : tipHeight + 18 ≤ cp.ProofHeight := by
        unfold minProofHeight at a4
        simp only [] at a4
        have := hp.tip
        have hm : tipHeight ≤ max tipHeight p.TipHeight := Nat.le_max_left _ _
        generalize max tipHeight p.TipHeight = M at *
        by_cases hM : M > 18446744073709551597
        · simp only [hM, decide_true, if_true] at a4; unfold w64 at a5; omega
        · simp only [hM, decide_false, Bool.false_eq_true, if_false] at a4; omega
      obtain ⟨vc, wf, inv, _, q1, q2, _⟩ :=
        c17_new_contract_valid (tipHeight + 1) p cp hk ha fc u hp.cp hal hco hph (by omega) hnz h
      refine ⟨by simpa using a1, by simpa using a2, a3, hmin, vc, wf, inv, by rw [q2, q1]⟩

end C17
