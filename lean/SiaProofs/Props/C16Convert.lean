import SiaProofs.Lemmas.MerkleRhpConvert
import SiaProofs.Props.C16
import SiaProofs.Props.C07Proof
/-!
# C16/C07 — the library prover composed with the consensus verifier accepts

A host builds a consensus storage proof with `BuildProof` (inside the sector), 
`BuildSectorRangeProof` (over the sector roots) and `ConvertProofOrdering`. This file proves, for a
tree over ANY number `n` of roots (the unbalanced shape of `metaRoot`, `n ≤ 2^30`) and any `i < n`:
`ConvertProofOrdering (BuildSectorRangeProof roots i (i+1)) i` is the honest leaf-to-root path
`spPath`, and the consensus fold (v1 loop with the merge-height rule, v2 `storageProofRoot`) takes it
to the plain root. `c16_convert_ordering` (Props/C16Leaf) is the balanced special case.
-/
set_option linter.unusedSectionVars false
namespace C16
open Sia Sia.Rhp Sia.Rhp.HashOps Sia.SP

variable {H : Type} [HashOps H]

/-- library prover ∘ consensus verifier = accept, on one level of the tree, for every `n` and `i < n`:
the converted range proof is the leaf-to-root sibling list, it passes the "too few proof hashes"
guard, and both consensus folds take it to the plain root. `fs` is any file size whose last leaf
index is `n - 1`. -/
theorem c16_convert_ordering_correct (ls : List H) (i fs : Nat) (hi : i < ls.length) (hn : ls.length ≤ 2 ^ 30)
    (hlast : lastLeafIndex fs = ls.length - 1) :
    buildSectorRangeProof ls i (i + 1) = .ok (honestProof ls i (i + 1)) ∧
    convertProofOrdering (honestProof ls i (i + 1)) i = .ok (spPath ls i) ∧
    SP.bitLen (i ^^^ lastLeafIndex fs) ≤ (spPath ls i).length ∧
    spLoop i (SP.bitLen (i ^^^ lastLeafIndex fs)) 0 (ls.getD i zero) (spPath ls i) = metaRoot ls ∧
    storageProofRoot (ls.getD i zero) i fs (spPath ls i) = metaRoot ls := by
  have hc := C07.c07_proof_complete ls i fs hi hlast
  exact ⟨buildSectorRangeProof_eq ls i (i + 1) (by omega) (by omega),
    convertProofOrdering_spPath ls i hi hn, hc.2.2, hc.2.1, hc.1⟩

/-- an unbalanced instance: the last of three roots, whose path is the one root-side hash -/
example : convertProofOrdering (honestProof [T.lf [0], T.lf [1], T.lf [2]] 2 3) 2
    = .ok [metaRoot ([T.lf [0], T.lf [1]] : List T)] := by
  have h := (c16_convert_ordering_correct ([T.lf [0], T.lf [1], T.lf [2]] : List T) 2 (3 * 64) (by decide) (by decide) (by decide)).2.1
  rw [h]
  congr 1
  decide +kernel


/-! ## two levels: segments inside sectors, sectors inside the file -/

/-- the leaf-to-root path of segment `seg` of chunk `i` in the tree over all segments is its path
inside the chunk followed by the path of the chunk's root among the chunk roots -/
theorem spPath_chunks (a : Nat) (chunks : List (List H)) (hc : ∀ c ∈ chunks, c.length = 2 ^ a)
    (i seg : Nat) (hi : i < chunks.length) (hseg : seg < 2 ^ a) :
    spPath chunks.flatten (i * 2 ^ a + seg) = spPath (chunks.getD i []) seg ++ spPath (chunks.map metaRoot) i := by
  induction chunks using split_induction generalizing i with
  | nil => cases hi
  | one c =>
    obtain rfl : i = 0 := Nat.lt_one_iff.1 hi
    simp [spPath_small]
  | node L R T hL hR0 hR ihL ihR =>
    -- the top split of the chunks, `2^T` of them on the left, is the top split of the segments
    have hcL : ∀ c ∈ L, c.length = 2 ^ a := fun c h => hc c (List.mem_append_left _ h)
    have hcR : ∀ c ∈ R, c.length = 2 ^ a := fun c h => hc c (List.mem_append_right _ h)
    have hfL : L.flatten.length = 2 ^ (T + a) := by rw [flatten_length_pow a L hcL, hL, Nat.pow_add]
    have hfR := flatten_length_pow a R hcR
    obtain ⟨pl, pr⟩ := spPath_append L.flatten R.flatten (T + a) hfL
      (by rw [hfR]; exact Nat.mul_pos hR0 (Nat.two_pow_pos a))
      (by rw [hfR, Nat.pow_add]; exact Nat.mul_le_mul_right _ hR)
    obtain ⟨ql, qr⟩ := spPath_append (L.map metaRoot) (R.map metaRoot) T
      (by rw [List.length_map]; exact hL) (by rw [List.length_map]; exact hR0)
      (by rw [List.length_map]; exact hR)
    rw [List.length_append] at hi
    rw [List.flatten_append, List.map_append, List.getD_eq_getElem?_getD]
    by_cases hik : i < 2 ^ T
    · have hj : i * 2 ^ a + seg < 2 ^ (T + a) := by
        have := Nat.mul_le_mul_right (2 ^ a) (Nat.succ_le_of_lt hik)
        rw [Nat.succ_mul, ← Nat.pow_add] at this; omega
      rw [pl _ hj, ql _ hik, ihL hcL i (hL ▸ hik), c16_metaroot_chunks a R hcR,
        List.getElem?_append_left (hL ▸ hik), List.getD_eq_getElem?_getD, List.append_assoc]
    · obtain ⟨b, rfl⟩ : ∃ b, i = 2 ^ T + b := ⟨i - 2 ^ T, by omega⟩
      rw [Nat.add_mul, ← Nat.pow_add, Nat.add_assoc, pr, qr, ihR hcR b (by omega), c16_metaroot_chunks a L hcL,
        List.getElem?_append_right (hL ▸ Nat.le_add_right _ _), hL, Nat.add_sub_cancel_left,
        List.getD_eq_getElem?_getD, List.append_assoc]

/-- The host's storage proof of segment `seg` of sector `i` of a file of `s` sectors of `2^a` segments
(any `s ≤ 2^30`, `a ≤ 30`): convert the in-sector proof and the sector-roots proof separately and
append them. The result is the leaf-to-root path of the global leaf `i*2^a + seg` in the tree over
all segments, whose root is the `MetaRoot` of the sector roots — so the consensus folds accept it
(`c07_proof_complete` applied to `chunks.flatten`). -/
theorem c16_prover_path_multisector (a : Nat) (ha : a ≤ 30) (chunks : List (List H))
    (hc : ∀ c ∈ chunks, c.length = 2 ^ a) (hs : chunks.length ≤ 2 ^ 30) (i seg : Nat)
    (hi : i < chunks.length) (hseg : seg < 2 ^ a) :
    ∃ p1 p2,
      convertProofOrdering (honestProof (chunks.getD i []) seg (seg + 1)) seg = .ok p1 ∧
      convertProofOrdering (honestProof (chunks.map metaRoot) i (i + 1)) i = .ok p2 ∧
      p1 ++ p2 = spPath chunks.flatten (i * 2 ^ a + seg) ∧
      metaRoot chunks.flatten = metaRoot (chunks.map metaRoot) := by
  have hci : (chunks.getD i []).length = 2 ^ a := by
    have : chunks.getD i [] = chunks[i] := by simp [List.getD_eq_getElem?_getD, List.getElem?_eq_getElem hi]
    rw [this]; exact hc _ (List.getElem_mem hi)
  refine ⟨spPath (chunks.getD i []) seg, spPath (chunks.map metaRoot) i, ?_, ?_, ?_, ?_⟩
  · exact convertProofOrdering_spPath _ seg (by rw [hci]; exact hseg)
      (by rw [hci]; exact Nat.pow_le_pow_right (by omega) ha)
  · exact convertProofOrdering_spPath _ i (by simpa using hi) (by simpa using hs)
  · exact (spPath_chunks a chunks hc i seg hi hseg).symm
  · exact (c16_metaroot_chunks a chunks hc).symm

end C16
