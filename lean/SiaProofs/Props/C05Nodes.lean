/-
# C05 (continued) — the node stream of `ForEachTreeNode`

`ApplyUpdate.ForEachTreeNode` (consensus/application.go) hands clients that keep a store of
accumulator nodes the nodes changed by a block. Model: `SiaModel/Merkle/TreeNodes.lean`
(a transliteration: for every element of the update, in diff order, its leaf and — hashing
up along the element's proof — its ancestors, stopping at the first coordinate already
reported), tied to the Go code node for node in call order by the driver op `acc-nodes`.

**Touched leaves.** The elements of the update are ALL its diff entries: every existing
leaf the block rewrites (spent, revised, resolved) and every leaf it adds — created
elements INCLUDING those created and spent within the block, attestations and the chain
index element (`forEachAppliedElement`). `els` below is that list with the proofs the
elements carry after the block.

**Hypothesis (visible in every theorem): `ElemValid ls l`** — each element is a leaf of the
forest `ls` after the block and carries its naive path. `c05_foreachtreenode_applyBlock`
establishes it for the elements `applyBlock` returns PROVIDED the added leaves were handed
in with EMPTY proofs (`hnp`) and the rewritten ones with their current paths (`UpdOK`).
Core does not enforce the first for an ephemeral parent (created earlier in the same block,
`LeafIndex = UnassignedLeafIndex`): validation never reads its `MerkleProof`,
`spendSiacoinElement` copies the caller's element into the diff and `addLeaves` appends the
real siblings after whatever was there. With junk there the hypothesis fails, and the
theorems below say nothing: the C05E harness reproduces it on ValidateBlock-valid blocks
(roots, leaf count and other elements' proofs unaffected; the created-and-spent element's
own proof and the node stream wrong) and records it as an observation outside the
property's statement.
-/
import SiaProofs.Lemmas.TreeNodes
import SiaProofs.Props.C05
namespace C05
open Sia.ElemAcc

section
variable {H : Type} [Hasher H] [Inhabited H]

/-- **Soundness of the node stream.** Under `ElemValid`, every node `ForEachTreeNode` reports
    has the hash of the naive forest's node at its coordinate (`nodeAt ls row col` = root of the
    subtree of height `row` over leaves `col·2^row …`), and the coordinate is on the path of
    one of the touched leaves (so it is a node of the forest, at most as high as its tree). -/
theorem c05_foreachtreenode_sound (ls : List H) (els : List (Leaf H)) (hv : ∀ l ∈ els, ElemValid ls l) :
    ∀ x ∈ forEachTreeNode els,
      x.2.2 = nodeAt ls x.1 x.2.1 ∧
      ∃ l ∈ els, x.1 ≤ treeHeight ls.length l.index ∧ x.2.1 = l.index / 2 ^ x.1 :=
  nodesFrom_sound ls els [] hv

/-- **Completeness of the node stream.** Under `ElemValid`, for every touched leaf — rewritten
    or added, created-and-spent ones included — every node on its path, from the leaf itself
    (row 0) to the root of its tree (row = height of the tree), is reported. Together with
    soundness: every node on the path of a touched leaf is reported with the hash it has in the
    new forest. That no other node of the forest changes is not stated in this file. -/
theorem c05_foreachtreenode_complete (ls : List H) (els : List (Leaf H)) (hv : ∀ l ∈ els, ElemValid ls l) :
    ∀ l ∈ els, ∀ r, r ≤ treeHeight ls.length l.index →
      (r, l.index / 2 ^ r, nodeAt ls r (l.index / 2 ^ r)) ∈ forEachTreeNode els := by
  intro l hl r hr
  have := nodesFrom_complete ls els [] hv (fun _ _ _ hm => nomatch hm) l hl r hr
  simp only [List.not_mem_nil, or_false, coords, List.mem_map] at this
  obtain ⟨⟨a, b, c⟩, hx, hc⟩ := this
  have e1 : a = r := congrArg Prod.fst hc
  have e2 : b = l.index / 2 ^ r := congrArg Prod.snd hc
  subst e1 e2
  rw [← (c05_foreachtreenode_sound ls els hv _ hx).1]; exact hx

/-- the sibling a client needs at level `r` of the proof of a touched leaf is either itself
    on the path of a touched leaf (then reported) or untouched by the block; in both cases the
    path of the leaf is determined by the reported nodes and the old store. Here: the
    reported nodes reproduce the root of every touched tree. -/
theorem c05_foreachtreenode_roots (ls : List H) (els : List (Leaf H)) (hv : ∀ l ∈ els, ElemValid ls l) :
    ∀ l ∈ els, ∃ x ∈ forEachTreeNode els, x.1 = treeHeight ls.length l.index ∧
      x.2.2 = subRoot ls (treeHeight ls.length l.index) (treeStart ls.length (treeHeight ls.length l.index)) := by
  intro l hl
  have v := hv l hl
  obtain ⟨hbit, hlo, hhi⟩ := treeHeight_spec v.lt
  refine ⟨_, c05_foreachtreenode_complete ls els hv l hl _ (Nat.le_refl _), rfl, ?_⟩
  simp only [nodeAt]
  rw [anc_eq (dvd_of_dvd_succ (treeStart_dvd _ _)) hlo hhi]

/-- **The hypothesis holds for what `applyBlock` returns** (rewritten leaves as stored in the
    update, added leaves as returned), when the block is well formed: rewritten leaves are
    distinct existing positions with their current paths, added leaves come with EMPTY
    proofs. -/
theorem c05_foreachtreenode_applyBlock (acc : Acc H) (ls : List H) (hacc : acc.toForest = forestOf ls)
    (updated : List (Leaf H)) (ok : UpdOK ls updated)
    (added : List (Leaf H)) (hnp : ∀ l ∈ added, l.proof = [])
    (hsz : ls.length + added.length ≤ unassignedLeafIndex) :
    let ls2 := writeLeaves ls updated ++ hashesFrom ls.length added
    ∃ (acc' : Acc H) (u : ApplyUpdate H) (added' : List (Leaf H)), acc.applyBlock updated added = .ok (acc', u, added') ∧
      (∀ h, ∀ l ∈ u.updated h, ElemValid ls2 l) ∧
      (∀ l ∈ added', ElemValid ls2 l) := by
  intro ls2
  obtain ⟨acc', u, added', h1, sp⟩ := applyBlock_spec acc ls hacc updated ok added hnp hsz
  have hlen2 : ls2.length = ls.length + added.length := length_applied ls updated added
  refine ⟨acc', u, added', h1, ?_, ?_⟩
  · intro h l hl
    obtain ⟨l0, hl0, _, rfl⟩ := (sp.rewritten h l).1 hl
    have hlt := ok.lt l0 hl0
    refine ⟨by show l0.index < ls2.length; omega, rfl, ?_⟩
    show (writeLeaves ls updated ++ hashesFrom ls.length added).getD l0.index default = l0.hash
    rw [← ok.write_get hl0, getD_append_left _ _ (by rw [writeLeaves_length]; exact hlt)]
  · intro l hl
    obtain ⟨j, hj', hl⟩ := List.mem_iff_getElem.1 hl
    have hl : added'[j]? = some l := by rw [List.getElem?_eq_getElem hj', hl]
    obtain ⟨a1, a2, a3, _⟩ := sp.fresh j l hl
    have hj : j < added.length := by rw [← sp.addedLen]; exact hj'
    exact ⟨by rw [a1, hlen2]; omega, by rw [a2, a1], by rw [a1]; exact a3⟩

/-- **The stream of a well-formed block**: for the elements `applyBlock` returns, in any order
    (`els` is any list of rewritten leaves as stored in the update and of added leaves as
    returned), the stream is sound and complete for the forest after the block. -/
theorem c05_foreachtreenode_block (acc : Acc H) (ls : List H) (hacc : acc.toForest = forestOf ls)
    (updated : List (Leaf H)) (ok : UpdOK ls updated)
    (added : List (Leaf H)) (hnp : ∀ l ∈ added, l.proof = [])
    (hsz : ls.length + added.length ≤ unassignedLeafIndex) :
    let ls2 := writeLeaves ls updated ++ hashesFrom ls.length added
    ∃ (acc' : Acc H) (u : ApplyUpdate H) (added' : List (Leaf H)), acc.applyBlock updated added = .ok (acc', u, added') ∧
      acc'.toForest = forestOf ls2 ∧
      ∀ els : List (Leaf H), (∀ l ∈ els, (∃ h, l ∈ u.updated h) ∨ l ∈ added') →
        (∀ x ∈ forEachTreeNode els, x.2.2 = nodeAt ls2 x.1 x.2.1) ∧
        (∀ l ∈ els, ∀ r, r ≤ treeHeight ls2.length l.index →
          (r, l.index / 2 ^ r, nodeAt ls2 r (l.index / 2 ^ r)) ∈ forEachTreeNode els) := by
  intro ls2
  obtain ⟨acc', u, added', h1, h2, h3⟩ := c05_foreachtreenode_applyBlock acc ls hacc updated ok added hnp hsz
  obtain ⟨_, _, _, e, sp⟩ := applyBlock_spec acc ls hacc updated ok added hnp hsz
  cases h1.symm.trans e
  refine ⟨acc', u, added', h1, sp.forest, ?_⟩
  intro els hels
  have hv : ∀ l ∈ els, ElemValid ls2 l := by
    intro l hl
    rcases hels l hl with ⟨h, hh⟩ | hh
    · exact h2 h l hh
    · exact h3 l hh
  exact ⟨fun x hx => (c05_foreachtreenode_sound ls2 els hv x hx).1, c05_foreachtreenode_complete ls2 els hv⟩

end

/-! ### non-vacuity: the three-leaf forest of C05, one leaf rewritten -/

/-- leaf 1 (spent by the block) with its path in the rewritten forest -/
def exNodesLs : List T := writeLeaves ls3 [{ elem := .atom 11, spent := true, index := 1, proof := path ls3 1 }]
def exNodesEl : Leaf T := { elem := .atom 11, spent := true, index := 1, proof := path exNodesLs 1 }

example : ElemValid exNodesLs exNodesEl := ⟨by decide, rfl, by decide⟩
/-- the stream for that single touched leaf: the leaf, its parent, and nothing else (the tree
    of leaves 0,1 has height 1) -/
example : (forEachTreeNode [exNodesEl]).map (fun x => (x.1, x.2.1)) = [(0, 1), (1, 0)] := by decide

end C05
