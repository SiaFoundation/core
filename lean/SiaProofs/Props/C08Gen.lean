import SiaProofs.Props.C07Gen
import SiaProofs.Props.C07V1Gen
import SiaProofs.Props.C02InputGen
/-!
# C08 — height rules flip exactly at their boundaries, on REGENERATED code

Each statement isolates ONE height rule of `consensus/validation.go` as it is translated from the source: with every
other condition of the rule chain satisfied, the verdict is `accept` exactly from the stated height on (or up to it) —
one block earlier / later it is the opposite.  `ch` is the child height the regenerated code computes from the
validation context (`State.childHeight ms.base`).
-/
namespace C08
open Gen.Types Gen.Consensus C07 C02

/-- v2 expiration: accepted exactly when `ExpirationHeight < child height`. -/
theorem c08_v2_expiration_boundary_gen (ms : MidState) (fc : V2FileContract) (i : Int) :
    validateV2FileContracts_expirationRules ms fc i = none ↔ fc.ExpirationHeight + 1 ≤ State.childHeight ms.base := by
  rw [c07_expiration_gen]; unfold chOf; omega

/-- v2 siacoin maturity: an input that is otherwise fresh passes exactly when `MaturityHeight ≤ child height`. -/
theorem c08_v2_maturity_boundary_gen (ext : Ext) (ms : MidState) (sci : V2SiacoinInput) (i : Int)
    (spent : List (ByteArray × Int))
    (h1 : (ext.spent ms sci.Parent.ID).2 = false) (h2 : (Go.mapGet spent sci.Parent.ID (0 : Int)).2 = false) :
    validateV2Siacoins_inputFresh ext ms sci i spent = none ↔ sci.Parent.MaturityHeight ≤ State.childHeight ms.base := by
  rw [c02_v2_siacoin_input_fresh_gen]; simp [h1, h2]

/-- v2 storage proof window: a proof that is otherwise in order is accepted exactly from the proof height on. -/
theorem c08_v2_proof_window_boundary_gen (ext : Ext) (ms : MidState) (fc : V2FileContract) (sp : V2StorageProof)
    (fcr : V2FileContractResolution) (i : Int)
    (hidx : sp.ProofIndex.ChainIndex.Height = fc.ProofHeight)
    (hmem : ext.containsChainIndex ms.base.Elements (ChainIndexElement.Share sp.ProofIndex) = true)
    (hlen : fc.Filesize > 0 →
          ext.storageProofSubtreeHeight
            (ext.StorageProofLeafIndex ms.base fc.Filesize sp.ProofIndex.ChainIndex.ID fcr.Parent.ID) fc.Filesize
            ≤ (sp.Proof.length : Int))
    (hroot : ext.storageProofRoot (ext.StorageProofLeafHash ms.base sp.Leaf)
          (ext.StorageProofLeafIndex ms.base fc.Filesize sp.ProofIndex.ChainIndex.ID fcr.Parent.ID)
          fc.Filesize sp.Proof = fc.FileMerkleRoot) :
    validateV2FileContracts_storageProofRules ext sp ms fc i fcr = none ↔ fc.ProofHeight ≤ State.childHeight ms.base := by
  rw [c07_storage_proof_gen]
  unfold chOf
  constructor
  · intro h; exact h.1
  · intro h; exact ⟨h, hidx, hmem, hlen, hroot⟩

/-- v1 revision: the timelock of the revealed conditions, the new window start and the in-block conflict test; with
the others satisfied the timelock rule flips exactly at `Timelock = child height`. -/
theorem c08_v1_revision_timelock_boundary_gen (ext : Ext) (ms : MidState) (fcr : FileContractRevision) (i : Int)
    (hw1 : State.childHeight ms.base ≤ fcr.FileContract.WindowStart)
    (hw2 : fcr.FileContract.WindowStart < fcr.FileContract.WindowEnd)
    (hs : (ext.spent ms fcr.ParentID).2 = false) :
    validateFileContracts_revisionRulesA ext fcr ms i = none ↔ fcr.UnlockConditions.Timelock ≤ State.childHeight ms.base := by
  rw [c07_v1_revision_a_gen]
  constructor
  · intro h; exact h.1
  · intro h; exact ⟨h, hw1, hw2, hs⟩

/-- v2 contract formation: with the other rules satisfied, a contract is accepted exactly while its proof height has
not passed (`child height ≤ ProofHeight`). -/
theorem c08_v2_formation_proof_height_boundary_gen (ext : Ext) (ms : MidState) (fc : V2FileContract)
    (h1 : fc.Filesize ≤ fc.Capacity) (h3 : fc.ProofHeight < fc.ExpirationHeight)
    (h4 : (fc.RenterOutput.Value.IsZero && fc.HostOutput.Value.IsZero) = false)
    (h5 : ¬ fc.MissedHostValue.Cmp fc.HostOutput.Value > 0) (h6 : ¬ fc.TotalCollateral.Cmp fc.HostOutput.Value > 0)
    (hs : validateV2FileContracts_validateSignatures ext ms fc fc.RenterPublicKey fc.HostPublicKey = none) :
    validateV2FileContracts_validateContract ext ms fc = none ↔ State.childHeight ms.base ≤ fc.ProofHeight := by
  rw [tie_validateContract_gen]
  unfold Sia.Ledger.validateContract chOf
  have a1 : ¬ fc.Filesize > fc.Capacity := by omega
  have a3 : ¬ fc.ExpirationHeight ≤ fc.ProofHeight := by omega
  by_cases h2 : fc.ProofHeight < State.childHeight ms.base
  · simp [a1, h2]
  · simp [a1, h2, a3, h4, h5, h6, hs]; omega

end C08
