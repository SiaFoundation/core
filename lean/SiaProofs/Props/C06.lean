import SiaModel.Ledger.Model
import SiaProofs.Lemmas.LedgerStore
import SiaProofs.Lemmas.LedgerGenuine
import SiaProofs.Lemmas.LedgerChain
import SiaModel.Driver.LedgerRevert
import SiaProofs.Props.C08
/-!
# C06 — revert is the exact inverse of apply

`RevertBlock` recomputes the block's `MidState` from the parent state and reports the
same diffs in reverse order; the model's `applyBlock` is a function, so re-applying
after a revert reproduces the same mid-state and ledger.
-/
namespace C06
open Sia.Ledger

/-- `RevertBlock` in the model: recompute the mid-state on the parent ledger, reverse the four diff lists. -/
def revertDiffs (L : Ledger) (b : Block) : VM (List ScDiff × List SfDiff × List Fc1Diff × List Fc2Diff) := do
  let ms ← midApplyBlock (newMid L) b
  pure (ms.sces.reverse, ms.sfes.reverse, ms.fces.reverse, ms.v2fces.reverse)

/-- what a revert reports is exactly what the apply reported, each list reversed -/
theorem c06_revert_reports_same (L : Ledger) (b : Block) (L' : Ledger) (ms : Mid)
    (h : applyBlock L b = .ok (L', ms)) :
    revertDiffs L b = .ok (ms.sces.reverse, ms.sfes.reverse, ms.fces.reverse, ms.v2fces.reverse) := by
  unfold revertDiffs
  rw [(applyBlock_facts h).1]
  rfl

/-- re-applying the same block to the same ledger gives the same ledger and the same diffs. As stated
(`f x = r₁ → f x = r₂ → r₁ = r₂`) this holds of any function; what it records is that the model's `applyBlock`
takes nothing but `L` and `b`, so a reorg history cannot influence it. -/
theorem c06_reapply_identical (L : Ledger) (b : Block) (r₁ r₂ : VM (Ledger × Mid))
    (h₁ : applyBlock L b = r₁) (h₂ : applyBlock L b = r₂) : r₁ = r₂ := by
  rw [← h₁, ← h₂]

/-- `c06_store_tracks_ledger` (general form): for a mid-state with the index invariant over a ledger
with unique ids whose non-created diffs carry ledger elements, applying its diffs to the store of
the ledger gives the store of the committed ledger. -/
theorem store_tracks_ledger_of {L : Ledger} (ms : Mid) (bid : Id) (hb : ms.base = L) (hJ : MidJ ms) (hL : LedgerIds L)
    (hG : Genuine L ms) : applyStore (Store.ofLedger L) ms = Store.ofLedger (ms.commit bid) := by
  subst hb
  have hsc : (applyStore (Store.ofLedger ms.base) ms).sc = (Store.ofLedger (ms.commit bid)).sc := by
    show _ = Map.ofList (fun e : ScElem => e.id) (List.filter _ _ ++ List.map _ (List.filter _ _))
    apply tracks_generic (fun e : ScElem => e.id) (fun d : ScDiff => d.e.id) _ _ _ _ _ hJ.sc.nodup
    · intro d _; rfl
    · intro d hd
      unfold ScDiff.applyAct
      cases hs : d.spent <;> cases hc : d.created <;> simp [Act.at]
      exact ofList_mem _ _ hL.sc _ (hG.sc d hd hc)
  have hsf : (applyStore (Store.ofLedger ms.base) ms).sf = (Store.ofLedger (ms.commit bid)).sf := by
    show _ = Map.ofList (fun e : SfElem => e.id) (List.filter _ _ ++ List.map _ (List.filter _ _))
    apply tracks_generic (fun e : SfElem => e.id) (fun d : SfDiff => d.e.id) _ _ _ _ _ hJ.sf.nodup
    · intro d _; rfl
    · intro d hd
      unfold SfDiff.applyAct
      cases hs : d.spent <;> cases hc : d.created <;> simp [Act.at]
      exact ofList_mem _ _ hL.sf _ (hG.sf d hd hc)
  have hfc1 : (applyStore (Store.ofLedger ms.base) ms).fc1 = (Store.ofLedger (ms.commit bid)).fc1 := by
    show _ = Map.ofList (fun e : Fc1Elem => e.id) (List.filter _ _ ++ List.map _ (List.filter _ _))
    apply tracks_generic (fun e : Fc1Elem => e.id) (fun d : Fc1Diff => d.e.id) _ _ _ _ _ hJ.fc1.nodup
    · intro d _; exact Fc1Diff.current_id d
    · intro d hd
      unfold Fc1Diff.applyAct Fc1Diff.current
      cases hs : d.resolved <;> cases hr : d.revision <;> cases hc : d.created <;> simp [Act.at]
      exact ofList_mem _ _ hL.fc1 _ (hG.fc1 d hd hc)
  have hfc2 : (applyStore (Store.ofLedger ms.base) ms).fc2 = (Store.ofLedger (ms.commit bid)).fc2 := by
    show _ = Map.ofList (fun e : Fc2Elem => e.id) (List.filter _ _ ++ List.map _ (List.filter _ _))
    apply tracks_generic (fun e : Fc2Elem => e.id) (fun d : Fc2Diff => d.e.id) _ _ _ _ _ hJ.fc2.nodup
    · intro d _; cases d.revision <;> rfl
    · intro d hd
      unfold Fc2Diff.applyAct
      cases hs : d.resolution <;> cases hr : d.revision <;> cases hc : d.created <;> simp [Act.at]
      exact ofList_mem _ _ hL.fc2 _ (hG.fc2 d hd hc)
  unfold applyStore Store.ofLedger at *
  simp only [Store.mk.injEq]
  exact ⟨hsc, hsf, hfc1, hfc2⟩

/-- `c06_store_inverse` (general form): reverting with the reversed diff lists undoes applying them -/
theorem store_inverse_of {L : Ledger} (ms : Mid) (hb : ms.base = L) (hJ : MidJ ms) (hL : LedgerIds L)
    (hG : Genuine L ms) (hF : FreshCreated L ms) :
    revertStore (applyStore (Store.ofLedger L) ms) ms.sces.reverse ms.sfes.reverse ms.fces.reverse ms.v2fces.reverse =
      Store.ofLedger L := by
  subst hb
  unfold revertStore applyStore Store.ofLedger
  simp only [Store.mk.injEq]
  refine ⟨?_, ?_, ?_, ?_⟩
  · apply inverse_generic (fun d : ScDiff => d.e.id) _ _ _ _ hJ.sc.nodup
    intro d hd
    unfold ScDiff.applyAct ScDiff.revertAct
    cases hc : d.created
    · cases hs : d.spent <;> simp [Act.at]
      exact (ofList_mem _ _ hL.sc _ (hG.sc d hd hc)).symm
    · have : Map.ofList (fun e : ScElem => e.id) ms.base.sc d.e.id = none :=
        ofList_not_mem _ _ _ (hF.sc d hd hc)
      cases hs : d.spent <;> simp [Act.at, this]
  · apply inverse_generic (fun d : SfDiff => d.e.id) _ _ _ _ hJ.sf.nodup
    intro d hd
    unfold SfDiff.applyAct SfDiff.revertAct
    cases hc : d.created
    · cases hs : d.spent <;> simp [Act.at]
      exact (ofList_mem _ _ hL.sf _ (hG.sf d hd hc)).symm
    · have : Map.ofList (fun e : SfElem => e.id) ms.base.sf d.e.id = none :=
        ofList_not_mem _ _ _ (hF.sf d hd hc)
      cases hs : d.spent <;> simp [Act.at, this]
  · apply inverse_generic (fun d : Fc1Diff => d.e.id) _ _ _ _ hJ.fc1.nodup
    intro d hd
    unfold Fc1Diff.revertAct
    cases hc : d.created
    · simp [Act.at]
      exact (ofList_mem _ _ hL.fc1 _ (hG.fc1 d hd hc)).symm
    · simp [Act.at]
      exact (ofList_not_mem _ _ _ (hF.fc1 d hd hc)).symm
  · apply inverse_generic (fun d : Fc2Diff => d.e.id) _ _ _ _ hJ.fc2.nodup
    intro d hd
    unfold Fc2Diff.revertAct
    cases hc : d.created
    · simp [Act.at]
      exact (ofList_mem _ _ hL.fc2 _ (hG.fc2 d hd hc)).symm
    · simp [Act.at]
      exact (ofList_not_mem _ _ _ (hF.fc2 d hd hc)).symm

/-- For a validated block applied to a ledger with unique element ids: a client store in sync with
the ledger, updated with the diffs the apply update reports (spent ⇒ delete, created ⇒ insert;
contracts: resolved ⇒ delete, revised ⇒ store the revision, created ⇒ insert), is in sync with the
new ledger — whatever mix of creation, spending, revision, resolution and expiry the block contains. -/
theorem c06_store_tracks_ledger (L L' : Ledger) (b : Block) (pid : Id) (ms0 ms : Mid) (hL : LedgerIds L)
    (hv : validateBlock L b pid = .ok ms0) (ha : applyBlock L b = .ok (L', ms)) :
    applyStore (Store.ofLedger L) ms = Store.ofLedger L' := by
  obtain ⟨hm, rfl⟩ := applyBlock_facts ha
  exact store_tracks_ledger_of ms _ (midApplyBlock_base hm) (midApplyBlock_J hm) hL (genuine_of_validated hv hm)

/-- … and feeding the same diff lists reversed (what `RevertBlock` reports, `c06_revert_reports_same`)
to the store's revert (created ⇒ delete, otherwise restore the diff's element) gives back exactly the
store before the block — provided the ids the block creates are not ids of live elements.  Covers
creation+spend in one block, created+revised, revised+resolved (kept true by the pre-block element
rule of `resolveFc1`, see `c06_resolve_keeps_preblock_element`) and expiring v1 contracts. -/
theorem c06_store_inverse (L L' : Ledger) (b : Block) (pid : Id) (ms0 ms : Mid) (hL : LedgerIds L)
    (hv : validateBlock L b pid = .ok ms0) (ha : applyBlock L b = .ok (L', ms)) (hF : FreshCreated L ms) :
    revertStore (applyStore (Store.ofLedger L) ms) ms.sces.reverse ms.sfes.reverse ms.fces.reverse ms.v2fces.reverse =
      Store.ofLedger L := by
  obtain ⟨hm, _⟩ := applyBlock_facts ha
  exact store_inverse_of ms (midApplyBlock_base hm) (midApplyBlock_J hm) hL (genuine_of_validated hv hm) hF

/-- Regression guard for the `resolveFileContractElement` fix: when a v1 contract (not yet in the
block's diffs) is revised and then resolved in the same block — the resolution being handed the
*revised* element, as the lookup returns it — the diff still records the element the revision was
applied to, together with the revision and the resolution. -/
theorem c06_resolve_keeps_preblock_element (s : Mid) (e0 e1 : Fc1Elem) (rev : Fc1) (v : Bool)
    (hfresh : s.lookup e0.id = none) (hid : e1.id = e0.id) :
    ((s.reviseFc1 e0 rev).resolveFc1 e1 v).fc1Diff? e0.id =
      some { e := e0, created := false, revision := some { rev with payout := e0.fc.payout }, resolved := true, valid := v } := by
  have h1 : s.reviseFc1 e0 rev =
      { s with fces := s.fces ++ [{ e := e0, revision := some { rev with payout := e0.fc.payout } }],
               elements := s.elements ++ [(e0.id, s.fces.length)] } := by
    unfold Mid.reviseFc1 Mid.putFc1
    rw [hfresh]; rfl
  have hl : (s.reviseFc1 e0 rev).lookup e0.id = some s.fces.length := by
    rw [h1]; exact lookup_append_none _ hfresh
  unfold Mid.resolveFc1 Mid.fc1Diff? Mid.putFc1
  rw [hid, hl]
  simp only [Mid.lookup] at hl ⊢
  rw [hl]
  rw [h1]
  simp [listSet, List.getD]

-- the hypotheses are satisfiable: an accepted block over a ledger with unique ids
def exBlock : Block :=
  { txns1 := [], v2 := some (15, true, [C08.tRev2, C08.tSpend2 C08.Ex.e0]), payouts := [(900, { value := 30010, addr := 5 })], foundationOutId := 901, expiring := [], headerOk := true, blockId := 1015, maxWeight := 1000 }

example : (validateBlock (C08.Ex.L 15) exBlock 1014).toOption.isSome = true := by decide
example : (applyBlock (C08.Ex.L 15) exBlock).toOption.isSome = true := by decide
example : LedgerIds (C08.Ex.L 15) := ⟨by decide, by decide, by decide, by decide⟩

/-- the `ledger-revert` correspondence op prints exactly the revert report the theorems are about -/
theorem tie_ledger_revert_op : revertDiffs = Sia.Driver.revertReport := rfl

/-- A chain of accepted blocks: each block passes `validateBlock` on the ledger it extends, is
applied by `applyBlock` (giving the next ledger and the mid-state whose diffs the apply / revert
updates report), and creates only ids that are not live (`FreshCreated`). The next block extends `L'` as `applyBlock`
returns it, created elements with `leaf := none`, without the relabelling of `C01.ChainHyps`; so no block of such a
chain can spend, by a v2 siacoin or siafund input, an output created by an earlier block of the chain (with `leaf := none` the input
is taken for an ephemeral one and rejected as nonexistent, with a leaf index its record is not in the ledger). v1
inputs and contract revisions / resolutions do not read `leaf` and are not affected. -/
inductive Chain : Ledger → List (Block × Id) → List Mid → Ledger → Prop where
  | nil (L : Ledger) : Chain L [] [] L
  | cons {L L' L'' : Ledger} {b : Block} {pid : Id} {ms ms0 : Mid} {bs : List (Block × Id)} {mss : List Mid} :
      validateBlock L b pid = .ok ms0 → applyBlock L b = .ok (L', ms) → FreshCreated L ms →
      Chain L' bs mss L'' → Chain L ((b, pid) :: bs) (ms :: mss) L''

/-- the store after the apply updates of a list of blocks, oldest first -/
def applyUpdates (S : Store) (mss : List Mid) : Store := mss.foldl applyStore S
/-- the store after the revert updates of a list of blocks, in the order given (newest first for a reorg) -/
def revertUpdates (S : Store) (mss : List Mid) : Store :=
  mss.foldl (fun S ms => revertStore S ms.sces.reverse ms.sfes.reverse ms.fces.reverse ms.v2fces.reverse) S

theorem applyUpdates_append (S : Store) (a b : List Mid) : applyUpdates S (a ++ b) = applyUpdates (applyUpdates S a) b := by
  simp [applyUpdates]

theorem chain_ledgerIds {L L' : Ledger} {bs : List (Block × Id)} {mss : List Mid} (hL : LedgerIds L)
    (h : Chain L bs mss L') : LedgerIds L' := by
  induction h with
  | nil => exact hL
  | cons _ ha _ _ ih => exact ih (applyBlock_ledgerIds hL ha)

theorem chain_tracks {L L' : Ledger} {bs : List (Block × Id)} {mss : List Mid} (hL : LedgerIds L)
    (h : Chain L bs mss L') : applyUpdates (Store.ofLedger L) mss = Store.ofLedger L' := by
  induction h with
  | nil => rfl
  | cons hv ha _ _ ih =>
    simp only [applyUpdates, List.foldl_cons]
    rw [c06_store_tracks_ledger _ _ _ _ _ _ hL hv ha]
    exact ih (applyBlock_ledgerIds hL ha)

/-- for any chain of accepted blocks from a ledger with unique ids, applying
the client store's apply update for every block and then its revert update for every block in
reverse order returns exactly the initial store. -/
theorem c06_history_inverse {L L' : Ledger} {bs : List (Block × Id)} {mss : List Mid} (hL : LedgerIds L)
    (h : Chain L bs mss L') :
    revertUpdates (applyUpdates (Store.ofLedger L) mss) mss.reverse = Store.ofLedger L := by
  induction h with
  | nil => rfl
  | cons hv ha hF hrest ih =>
    rename_i L1 L2 L3 b pid ms ms0 bs' mss'
    have hL2 := applyBlock_ledgerIds hL ha
    have e1 : applyUpdates (Store.ofLedger L1) (ms :: mss') = applyUpdates (Store.ofLedger L2) mss' := by
      simp only [applyUpdates, List.foldl_cons]
      rw [c06_store_tracks_ledger _ _ _ _ _ _ hL hv ha]
    rw [e1, List.reverse_cons]
    unfold revertUpdates
    rw [List.foldl_append]
    have := ih hL2
    unfold revertUpdates at this
    rw [this]
    simp only [List.foldl_cons, List.foldl_nil]
    rw [← c06_store_tracks_ledger _ _ _ _ _ _ hL hv ha]
    exact c06_store_inverse _ _ _ _ _ _ hL hv ha hF

/-- after following `pre ++ old`, reverting the `old` blocks and applying a
different valid continuation `new`, the store equals the store obtained by following `pre ++ new`
directly — and both are the store of the new tip: the store is a function of the chain, not of
the path taken. -/
theorem c06_reorg_equiv {L0 Lk Ln Lm : Ledger} {pre old new : List (Block × Id)} {mpre mold mnew : List Mid}
    (hL : LedgerIds L0) (hpre : Chain L0 pre mpre Lk) (hold : Chain Lk old mold Ln) (hnew : Chain Lk new mnew Lm) :
    applyUpdates (revertUpdates (applyUpdates (Store.ofLedger L0) (mpre ++ mold)) mold.reverse) mnew =
      applyUpdates (Store.ofLedger L0) (mpre ++ mnew) ∧
    applyUpdates (Store.ofLedger L0) (mpre ++ mnew) = Store.ofLedger Lm := by
  have hLk := chain_ledgerIds hL hpre
  have e1 := chain_tracks hL hpre
  rw [applyUpdates_append, applyUpdates_append, e1, c06_history_inverse hLk hold]
  exact ⟨rfl, chain_tracks hLk hnew⟩

/-- reverting a block brings the store back to the store of the
ledger `L` it was applied to; re-applying the block there is the same computation `applyBlock L b`
(same ledger, same report — `c06_reapply_identical`), and the store is again that of the new ledger. -/
theorem c06_revert_then_apply_same_block (L L' : Ledger) (b : Block) (pid : Id) (ms0 ms : Mid) (hL : LedgerIds L)
    (hv : validateBlock L b pid = .ok ms0) (ha : applyBlock L b = .ok (L', ms)) (hF : FreshCreated L ms) :
    let reverted := revertStore (applyStore (Store.ofLedger L) ms) ms.sces.reverse ms.sfes.reverse ms.fces.reverse ms.v2fces.reverse
    reverted = Store.ofLedger L ∧
      (∀ r, applyBlock L b = .ok r → r = (L', ms)) ∧ applyStore reverted ms = Store.ofLedger L' := by
  have h1 := c06_store_inverse L L' b pid ms0 ms hL hv ha hF
  refine ⟨h1, fun r hr => ?_, ?_⟩
  · rw [ha] at hr; cases hr; rfl
  · rw [h1]
    exact c06_store_tracks_ledger L L' b pid ms0 ms hL hv ha

/-! non-vacuity on the two shapes in which a diff must keep the pre-block element for the revert to be exact: a v1
contract revised and then resolved in one block (Go fix cd2bc15) and a v2 contract revised twice in one block (the
seeded change `C06-double-revision-overwrites-preblock-element`) -/

/-- a v1 storage proof for contract 301 (window start = child height 15, so the parent block is the
window-start block) placed after a revision of the same contract in the same block -/
def tProofAfterRev : Txn1 := { C08.Ex.txn1 with proofs := [{ parent := 301, proofOk := true, outIds := [401] }] }
/-- a second v2 revision of contract 501 in the same block -/
def tRev2b : Txn2 := { C08.Ex.txn2 with revs := [{ parent := C08.Ex.c2, rev := { C08.Ex.c2.fc with revNum := 3 }, sigCurOk := true }] }

/-- one block that revises-then-resolves a v1 contract and revises a v2 contract twice -/
def reorgBlock : Block :=
  { txns1 := [C08.tRev1 15, tProofAfterRev], v2 := some (15, true, [C08.tRev2, tRev2b]), payouts := [(900, { value := 30000, addr := 5 })], foundationOutId := 901, expiring := [], headerOk := true, blockId := 1015, maxWeight := 1000 }

def reorgMs0 : Mid := match validateBlock (C08.Ex.L 15) reorgBlock 1014 with | .ok m => m | _ => default
def reorgRes : Ledger × Mid := match applyBlock (C08.Ex.L 15) reorgBlock with | .ok r => r | _ => default

theorem reorgBlock_valid : validateBlock (C08.Ex.L 15) reorgBlock 1014 = .ok reorgMs0 := by decide
theorem reorgBlock_applies : applyBlock (C08.Ex.L 15) reorgBlock = .ok (reorgRes.1, reorgRes.2) := by decide
theorem reorgBlock_fresh : FreshCreated (C08.Ex.L 15) reorgRes.2 := ⟨by decide, by decide, by decide, by decide⟩

-- the block really has the two shapes: a v1 diff that is revised and resolved but not created, keeping
-- the pre-block element; a v2 diff holding the second revision over the pre-block element
example : reorgRes.2.fces.any (fun d => d.revision.isSome && d.resolved && !d.created && d.e == C08.Ex.c1) = true := by decide
example : reorgRes.2.v2fces.any (fun d => d.revision == some { C08.Ex.c2.fc with revNum := 3 } && d.e == C08.Ex.c2) = true := by decide

/-- the hypotheses of `c06_history_inverse` / `c06_reorg_equiv` are satisfiable by that block -/
theorem reorgChain : Chain (C08.Ex.L 15) [(reorgBlock, 1014)] [reorgRes.2] reorgRes.1 :=
  Chain.cons reorgBlock_valid reorgBlock_applies reorgBlock_fresh (Chain.nil _)

example : revertUpdates (applyUpdates (Store.ofLedger (C08.Ex.L 15)) [reorgRes.2]) [reorgRes.2].reverse =
    Store.ofLedger (C08.Ex.L 15) :=
  c06_history_inverse ⟨by decide, by decide, by decide, by decide⟩ reorgChain

end C06
