import SiaProofs.Lemmas.Pow
import SiaProofs.Lemmas.GoWords
/-!
# C13, `c13_work_ops_exact_add/_sub/_mul64/_div64`: the four limb loops of `Work` are exact 256-bit arithmetic

`Limbs.add/sub/mul64/div64` (SiaModel/Pow/Work.lean) mirror the Go loops over four
big-endian `uint64` limbs with `math/bits`. Each is proved equal — result value, and the
exact condition under which it panics — to the `Nat` operation (`wadd`, `wsub`, `wmul64`,
`wdiv64`) that the rest of the model and all other C13 theorems use.
-/
namespace C13
open Sia.Pow

/-- the limb representation used by the driver is faithful -/
theorem c13_limbs_ofNat (n : Nat) (h : n < W256) : (Limbs.ofNat n).WF ∧ (Limbs.ofNat n).val = n := by
  unfold Limbs.ofNat Limbs.WF Limbs.val
  dsimp only
  refine ⟨by omega, by omega⟩

theorem val_lt_of_wf {x : Limbs} (h : x.WF) : x.val < W256 := by
  unfold Limbs.WF at h; unfold Limbs.val; omega

/-- Four limb steps `Sᵢ + cᵢ·2^64 = Tᵢ + cᵢ₊₁`, the carry running from limb 3 up to limb 0, add
    up to one equation between the numbers. All four loops are of this shape: the sum limbs
    and the carry for `add`; `w = r + v` with the borrows for `sub`; the product limbs and the
    carry for `mul64`; and `w = v·q + rem` for `div64`, where the remainders take the place of
    the carries and run downwards. -/
theorem limb_chain {S0 S1 S2 S3 T0 T1 T2 T3 c0 c1 c2 c3 c4 : Nat}
    (e3 : S3 + c3 * W64 = T3 + c4) (e2 : S2 + c2 * W64 = T2 + c3)
    (e1 : S1 + c1 * W64 = T1 + c2) (e0 : S0 + c0 * W64 = T0 + c1) :
    (Limbs.mk S0 S1 S2 S3).val + c0 * W256 = (Limbs.mk T0 T1 T2 T3).val + c4 := by
  unfold Limbs.val; dsimp only; omega

theorem addCarry_spec (w v : Limbs) (hw : w.WF) (hv : v.WF) :
    (Limbs.addCarry w v).1.WF ∧ (Limbs.addCarry w v).2 ≤ 1 ∧
    (Limbs.addCarry w v).1.val + (Limbs.addCarry w v).2 * W256 = w.val + v.val := by
  obtain ⟨a0, a1, a2, a3⟩ := hw
  obtain ⟨b0, b1, b2, b3⟩ := hv
  unfold Limbs.addCarry
  rcases h3 : Go.bits_Add64 w.l3 v.l3 0 with ⟨s3, c3⟩; dsimp only
  rcases h2 : Go.bits_Add64 w.l2 v.l2 c3 with ⟨s2, c2⟩; dsimp only
  rcases h1 : Go.bits_Add64 w.l1 v.l1 c2 with ⟨s1, c1⟩; dsimp only
  rcases h0 : Go.bits_Add64 w.l0 v.l0 c1 with ⟨s0, c0⟩; dsimp only
  obtain ⟨r3, e3⟩ := GoWords.bits_Add64_spec h3
  obtain ⟨r2, e2⟩ := GoWords.bits_Add64_spec h2
  obtain ⟨r1, e1⟩ := GoWords.bits_Add64_spec h1
  obtain ⟨r0, e0⟩ := GoWords.bits_Add64_spec h0
  refine ⟨⟨r0, r1, r2, r3⟩, by omega, (limb_chain e3 e2 e1 e0).trans ?_⟩
  unfold Limbs.val; dsimp only; omega

theorem exact_of_carry {r : Limbs} {c x : Nat} (e : String) (hr : r.WF) (h : r.val + c * W256 = x) :
    (if c > 0 then Except.error e else .ok r).map Limbs.val = (if x < W256 then .ok x else .error e) ∧
    ∀ r', (if c > 0 then Except.error e else .ok r) = .ok r' → r'.WF := by
  have hlt := val_lt_of_wf hr
  by_cases hc : c > 0
  · have : 1 * W256 ≤ c * W256 := Nat.mul_le_mul_right _ hc
    rw [if_pos hc, if_neg (by omega)]
    exact ⟨rfl, fun _ h => by cases h⟩
  · obtain rfl : c = 0 := by omega
    rw [Nat.zero_mul, Nat.add_zero] at h
    subst h
    rw [if_neg hc, if_pos hlt]
    exact ⟨rfl, fun _ h => by cases h; exact hr⟩

theorem c13_work_ops_exact_add (w v : Limbs) (hw : w.WF) (hv : v.WF) :
    (Limbs.add w v).map Limbs.val = wadd w.val v.val ∧ ∀ r, Limbs.add w v = .ok r → r.WF := by
  obtain ⟨h1, -, h3⟩ := addCarry_spec w v hw hv
  exact exact_of_carry _ h1 h3

theorem subBorrow_spec (w v : Limbs) (hw : w.WF) (hv : v.WF) :
    (Limbs.subBorrow w v).1.WF ∧ (Limbs.subBorrow w v).2 ≤ 1 ∧
    (Limbs.subBorrow w v).1.val + v.val = w.val + (Limbs.subBorrow w v).2 * W256 := by
  obtain ⟨a0, a1, a2, a3⟩ := hw
  obtain ⟨b0, b1, b2, b3⟩ := hv
  unfold Limbs.subBorrow
  rcases h3 : Go.bits_Sub64 w.l3 v.l3 0 with ⟨s3, c3⟩; dsimp only
  rcases h2 : Go.bits_Sub64 w.l2 v.l2 c3 with ⟨s2, c2⟩; dsimp only
  rcases h1 : Go.bits_Sub64 w.l1 v.l1 c2 with ⟨s1, c1⟩; dsimp only
  rcases h0 : Go.bits_Sub64 w.l0 v.l0 c1 with ⟨s0, c0⟩; dsimp only
  obtain ⟨r3, k3, e3⟩ := GoWords.bits_Sub64_spec h3 a3 b3 (Nat.zero_le 1)
  obtain ⟨r2, k2, e2⟩ := GoWords.bits_Sub64_spec h2 a2 b2 k3
  obtain ⟨r1, k1, e1⟩ := GoWords.bits_Sub64_spec h1 a1 b1 k2
  obtain ⟨r0, k0, e0⟩ := GoWords.bits_Sub64_spec h0 a0 b0 k1
  refine ⟨⟨r0, r1, r2, r3⟩, k0, Eq.trans ?_ (limb_chain e3 e2 e1 e0).symm⟩
  unfold Limbs.val; dsimp only; omega

theorem c13_work_ops_exact_sub (w v : Limbs) (hw : w.WF) (hv : v.WF) :
    (Limbs.sub w v).map Limbs.val = wsub w.val v.val ∧ ∀ r, Limbs.sub w v = .ok r → r.WF := by
  obtain ⟨h1, h2, h3⟩ := subBorrow_spec w v hw hv
  have hlt := val_lt_of_wf h1
  have hv' := val_lt_of_wf hv
  unfold Limbs.sub wsub
  by_cases hc : (Limbs.subBorrow w v).2 > 0
  · rw [if_pos hc, if_neg (show ¬ v.val ≤ w.val by omega)]
    exact ⟨rfl, fun r h => by cases h⟩
  · obtain hc0 : (Limbs.subBorrow w v).2 = 0 := by omega
    rw [hc0, Nat.zero_mul, Nat.add_zero] at h3
    have hle : v.val ≤ w.val := by rw [← h3]; exact Nat.le_add_left _ _
    rw [if_neg hc, if_pos hle, ← h3, Nat.add_sub_cancel]
    exact ⟨rfl, fun r h => by cases h; exact h1⟩

theorem mulStep_spec {x v c p c' : Nat} (h : mulStep x v c = (p, c'))
    (hx : x < W64) (hv : v < W64) (hc : c < W64) :
    p < W64 ∧ c' < W64 ∧ p + c' * W64 = x * v + c := by
  have hq : x * v ≤ 18446744073709551615 * 18446744073709551615 := Nat.mul_le_mul (by omega) (by omega)
  unfold mulStep Go.bits_Mul64 Go.bits_Add64 at h
  obtain ⟨rfl, rfl⟩ := Prod.mk.inj h
  generalize x * v = q at hq ⊢
  omega

theorem mulCarry_spec (w : Limbs) (v : Nat) (hw : w.WF) (hv : v < W64) :
    (Limbs.mulCarry w v).1.WF ∧
    (Limbs.mulCarry w v).1.val + (Limbs.mulCarry w v).2 * W256 = w.val * v := by
  obtain ⟨a0, a1, a2, a3⟩ := hw
  unfold Limbs.mulCarry
  rcases h3 : mulStep w.l3 v 0 with ⟨s3, c3⟩; dsimp only
  rcases h2 : mulStep w.l2 v c3 with ⟨s2, c2⟩; dsimp only
  rcases h1 : mulStep w.l1 v c2 with ⟨s1, c1⟩; dsimp only
  rcases h0 : mulStep w.l0 v c1 with ⟨s0, c0⟩; dsimp only
  obtain ⟨r3, k3, e3⟩ := mulStep_spec h3 a3 hv (by decide)
  obtain ⟨r2, k2, e2⟩ := mulStep_spec h2 a2 hv k3
  obtain ⟨r1, k1, e1⟩ := mulStep_spec h1 a1 hv k2
  obtain ⟨r0, k0, e0⟩ := mulStep_spec h0 a0 hv k1
  refine ⟨⟨r0, r1, r2, r3⟩, (limb_chain e3 e2 e1 e0).trans ?_⟩
  unfold Limbs.val
  simp only [Nat.add_mul, Nat.mul_right_comm, Nat.add_zero]

theorem c13_work_ops_exact_mul64 (w : Limbs) (v : Nat) (hw : w.WF) (hv : v < W64) :
    (Limbs.mul64 w v).map Limbs.val = wmul64 w.val v ∧ ∀ r, Limbs.mul64 w v = .ok r → r.WF := by
  obtain ⟨h1, h3⟩ := mulCarry_spec w v hw hv
  exact exact_of_carry _ h1 h3

theorem div64_step {r l v : Nat} (hr : r < v) (hl : l < W64) :
    ∃ q r', Go.bits_Div64 r l v = .ok (q, r') ∧ q < W64 ∧ r' < v ∧
      l + r * W64 = v * q + r' := by
  refine ⟨_, _, GoWords.bits_Div64_ok hr, GoWords.div_word_lt hr hl, Nat.mod_lt _ (Nat.zero_lt_of_lt hr), ?_⟩
  rw [Nat.div_add_mod, Nat.add_comm]

theorem c13_work_ops_exact_div64 (w : Limbs) (v : Nat) (hw : w.WF) (_hv : v < W64) :
    (Limbs.div64 w v).map Limbs.val = wdiv64 w.val v ∧ ∀ r, Limbs.div64 w v = .ok r → r.WF := by
  obtain ⟨a0, a1, a2, a3⟩ := hw
  unfold Limbs.div64 wdiv64
  by_cases h0 : v = 0
  · rw [if_pos h0, if_pos h0]
    exact ⟨rfl, fun r h => by cases h⟩
  · rw [if_neg h0, if_neg h0]
    have vpos : 0 < v := Nat.pos_of_ne_zero h0
    obtain ⟨q0, r0, e0, q0lt, r0lt, d0⟩ := div64_step vpos a0
    obtain ⟨q1, r1, e1, q1lt, r1lt, d1⟩ := div64_step r0lt a1
    obtain ⟨q2, r2, e2, q2lt, r2lt, d2⟩ := div64_step r1lt a2
    obtain ⟨q3, r3, e3, q3lt, r3lt, d3⟩ := div64_step r2lt a3
    rw [e0, GoLoops.ok_bind]; dsimp only
    rw [e1, GoLoops.ok_bind]; dsimp only
    rw [e2, GoLoops.ok_bind]; dsimp only
    rw [e3, GoLoops.ok_bind]
    refine ⟨?_, fun r h => by cases h; exact ⟨q0lt, q1lt, q2lt, q3lt⟩⟩
    have key : w.val = v * (Limbs.mk q0 q1 q2 q3).val + r3 := by
      have := limb_chain d3 d2 d1 d0
      rw [Nat.zero_mul, Nat.add_zero] at this
      rw [this]
      unfold Limbs.val
      simp only [Nat.mul_add, Nat.mul_assoc]
    show Except.ok _ = Except.ok _
    rw [key, Nat.mul_add_div vpos, Nat.div_eq_of_lt r3lt, Nat.add_zero]

/-- satisfiable and non-trivial: a carry chain through all four limbs -/
example : (Limbs.add ⟨0, 18446744073709551615, 18446744073709551615, 18446744073709551615⟩ ⟨0, 0, 0, 1⟩).map Limbs.val
    = .ok 6277101735386680763835789423207666416102355444464034512896 := by rfl
example : (Limbs.div64 ⟨1, 2, 3, 4⟩ 7).map Limbs.val = wdiv64 (Limbs.val ⟨1, 2, 3, 4⟩) 7 := by rfl

end C13
