import SiaProofs.Props.C02LoopGen
/-!
# C02 / C07 — the revision loop of `validateV2FileContracts`, on REGENERATED code

The loop over `txn.FileContractRevisions` — the closure `validateParent` (block-wide `ext.spent`, the transaction's
`revised` and `resolved` maps, accumulator membership), the proof-height test, the whole closure `validateRevision`
and the bookkeeping write `revised[id] = i` — is translated as one definition.

`c02_v2_revisions_gen`: if it accepts, no contract is revised twice by the transaction (`List.Nodup` of the revised
parent ids, none of them already in `revised`), and every revision individually: its contract was not resolved or
revised earlier in the block (`ext.spent`), is not resolved by this transaction (`resolved`), is an UNRESOLVED member
of the accumulator, has not passed its proof height, and passes `validateRevision` (`C07RevGen`: judged against the
latest in-block revision, signed by the current keys).
-/
namespace C02
open Gen.Types Gen.Consensus GoLoops

structure RevisionOk (ext : Ext) (ms : MidState) (resolved : List (ByteArray × Int)) (fcr : V2FileContractRevision) : Prop where
  notSpentInBlock : (ext.spent ms fcr.Parent.ID).2 = false
  notResolvedHere : (Go.mapGet resolved fcr.Parent.ID (0 : Int)).2 = false
  unresolvedMember : ext.containsUnresolvedV2FileContractElement ms.base.Elements (V2FileContractElement.Share fcr.Parent) = true
  beforeProofHeight : State.childHeight ms.base ≤ fcr.Parent.V2FileContract.ProofHeight
  rules : validateV2FileContracts_validateRevision ext ms (V2FileContractElement.Share fcr.Parent) fcr.Revision = .ok none

theorem c02_v2_revisions_gen (ext : Ext) (ms : MidState) (txn : V2Transaction) (revised resolved : List (ByteArray × Int))
    (h : validateV2FileContracts_revisions ext txn ms revised resolved = .ok none) :
    (txn.FileContractRevisions.map (fun r => r.Parent.ID)).Nodup ∧
    (∀ fcr ∈ txn.FileContractRevisions, fcr.Parent.ID ∉ revised.map Prod.fst ∧ RevisionOk ext ms resolved fcr) := by
  obtain ⟨st', c, _⟩ := forRange_accept (R := FreshStep (·.Parent.ID) (RevisionOk ext ms resolved)) h (fun _ _ => rfl) (by
    intro i x st t st' hx
    refine ite_exit hx nofun fun hp hx => ?_
    refine ite_exit hx nofun fun hph hx => ?_
    obtain ⟨rr, hr, hx⟩ := of_bind_ok hx
    refine ite_exit hx nofun fun hrr hx => ?_
    cases hx
    have hp : validateV2FileContracts_validateParent ext ms st resolved (V2FileContractElement.Share x.Parent) = none := by
      simpa using hp
    obtain ⟨h1, hp⟩ := ite_else hp nofun
    obtain ⟨h2, hp⟩ := ite_else hp nofun
    obtain ⟨h3, hp⟩ := ite_else hp nofun
    obtain ⟨h4, _⟩ := ite_else hp (by split <;> nofun)
    have hrr : rr = none := by simpa using hrr
    exact ⟨Bool.eq_false_iff.mpr h2, ⟨i, rfl⟩, Bool.eq_false_iff.mpr h1, Bool.eq_false_iff.mpr h3, by simp at h4; exact h4,
      by simpa using hph, hrr ▸ hr⟩)
  obtain ⟨nd, ok⟩ := FreshStep.chain _ _ _ c
  exact ⟨nd, ok⟩

end C02
