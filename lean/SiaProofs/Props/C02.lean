import SiaProofs.Lemmas.LedgerBlockFold
import SiaProofs.Lemmas.LedgerCommit
import SiaProofs.Lemmas.LedgerIndex
import SiaProofs.Props.C08
/-!
# C02 — no double spend or double resolution (ledger model)

* in one transaction: `c02_v2_sc_dup_in_txn`, `c02_v2_sf_dup_in_txn`, `c02_v1_dup_in_txn`,
  `c02_v2_contract_dup_in_txn`;
* in different transactions of one block (any mix of versions): `c02_apply_records_spends`,
  `c02_spent_in_block_rejected`, and for whole blocks `c02_block_no_repeats`;
* in different blocks: `c02_commit_removes_spent…`, `c02_spent_in_earlier_block_rejected`;
* `c02_lookup_checks_kind`: a v1 parent id is only ever resolved to the element carrying that id.
-/
namespace C02
open Sia.Ledger C08

/-- a v2 transaction listing the same siacoin parent id twice is rejected (without panic) -/
theorem c02_v2_sc_dup_in_txn (ms : Mid) (t : Txn2) (mw : Nat) (h : ¬ (t.scIns.map (·.parent.id)).Nodup) :
    Rejected (validateV2Siacoins ms t) ∧ Rejected (validateV2Transaction ms t mw) := by
  have : Rejected (validateV2Siacoins ms t) := validateV2Siacoins_rejected ms t (fun hh => h hh.2)
  exact ⟨this, v2Txn_rejected_of_sc this⟩

/-- a v2 transaction listing the same siafund parent id twice is rejected by `validateV2Siafunds`
and therefore never accepted -/
theorem c02_v2_sf_dup_in_txn (ms : Mid) (t : Txn2) (mw : Nat) (h : ¬ (t.sfIns.map (·.parent.id)).Nodup) :
    Rejected (validateV2Siafunds ms t) ∧ NotOk (validateV2Transaction ms t mw) := by
  exact ⟨validateV2Siafunds_rejected ms t (fun hh => h hh.2), fun _ hr => h (validateV2Transaction_ok_rules hr).sfNodup⟩

/-- a v1 transaction that spends or revises a parent twice (among all siacoin inputs, siafund inputs
and revisions), or proves storage twice for one contract, or both revises and proves, is not accepted -/
theorem c02_v1_dup_in_txn (ms : Mid) (t : Txn1) (pid mw : Nat)
    (h : ¬ (t.scIns.map (·.parent) ++ t.sfIns.map (·.parent) ++ t.revs.map (·.parent)).Nodup ∨
         ¬ (t.proofs.map (·.parent)).Nodup ∨ (t.proofs ≠ [] ∧ t.revs ≠ [])) :
    NotOk (validateTransaction ms t pid mw) ∧
      (¬ (t.scIns.map (·.parent) ++ t.sfIns.map (·.parent) ++ t.revs.map (·.parent)).Nodup →
        Rejected (validateSignatures t)) := by
  refine ⟨?_, fun h => ?_⟩
  · intro _ hr
    have R := validateTransaction_ok_rules hr
    rcases h with h | h | ⟨h1, h2⟩
    · exact h R.nodup
    · exact h R.proofNodup
    · exact R.proofAlone ⟨List.length_pos_iff.2 h1, Or.inr (Or.inr (Or.inr (List.length_pos_iff.2 h2)))⟩
  · unfold validateSignatures
    simp only []
    rw [if_pos h]; simp

/-- a v2 transaction that revises one contract twice, resolves one twice, or revises and resolves
the same contract, is not accepted -/
theorem c02_v2_contract_dup_in_txn (ms : Mid) (t : Txn2) (mw : Nat)
    (h : ¬ (t.revs.map (·.parent.id)).Nodup ∨ ¬ (t.ress.map (·.parent.id)).Nodup ∨
         (∃ r ∈ t.revs, ∃ r' ∈ t.ress, r.parent.id = r'.parent.id)) :
    NotOk (validateV2FileContracts ms t) ∧ NotOk (validateV2Transaction ms t mw) := by
  have key : (t.revs.map (·.parent.id)).Nodup → (t.ress.map (·.parent.id)).Nodup →
      (∀ r ∈ t.ress, Res2Rules ms (t.revs.map (·.parent.id)).reverse r) → False := by
    intro h1 h3 h2
    rcases h with h | h | ⟨r, hr, r', hr', heq⟩
    · exact h h1
    · exact h h3
    · apply (h2 r' hr').notRevised
      rw [List.mem_reverse, ← heq]
      exact List.mem_map.2 ⟨r, hr, rfl⟩
  exact ⟨fun _ hr => let ⟨_, _, h1, h2, h3⟩ := (validateV2FileContracts_ok_iff ms t).1 hr; key h1 h3 h2,
    fun _ hr => let R := validateV2Transaction_ok_rules hr; key R.revNodup R.resNodup R.res⟩

example : validateV2Transaction (Ex.M 15)
    { Ex.txn2 with scIns := [{ parent := Ex.e0, addrOk := true, authOk := true }, { parent := Ex.e0, addrOk := true, authOk := true }], fee := 100 } 100 =
      .error (.reject "siacoin input double-spends parent output (previously spent by input)") := rfl

/-- a v1 parent id resolves (through the block's diff or through the
supplement) only to an element that carries exactly that id. -/
theorem c02_lookup_checks_kind (ms : Mid) (ts : Supp1) (id : Id) :
    (∀ e, ms.scElement ts id = some e → e.id = id) ∧ (∀ e, ms.sfElement ts id = some e → e.id = id) ∧
    (∀ e, ms.fc1Element ts id = some e → e.id = id) :=
  ⟨fun _ h => scElement_id h, fun _ h => sfElement_id h, fun _ h => fc1Element_id h⟩

/-- Applying a transaction prepends to `spends` exactly the ids it consumes — spent siacoin and
siafund parents and resolved contracts — and keeps everything recorded before. -/
theorem c02_apply_records_spends :
    (∀ (ms ms' : Mid) (t : Txn1), applyTransaction ms t = .ok ms' →
      ms'.spends = (t.proofs.map (·.parent)).reverse ++ ((t.sfIns.map (·.parent)).reverse ++
        ((t.scIns.map (·.parent)).reverse ++ ms.spends))) ∧
    (∀ (ms ms' : Mid) (t : Txn2), applyV2Transaction ms t = .ok ms' →
      ms'.spends = (t.ress.map (·.parent.id)).reverse ++ ((t.sfIns.map (·.parent.id)).reverse ++
        ((t.scIns.map (·.parent.id)).reverse ++ ms.spends))) :=
  ⟨fun _ _ _ h => applyTransaction_spends h, fun _ _ _ h => applyV2Transaction_spends h⟩

/-- the ids a v1 / v2 transaction uses in a way that conflicts with an earlier consumption -/
def Txn1.uses (t : Txn1) : List Id :=
  t.scIns.map (·.parent) ++ t.sfIns.map (·.parent) ++ t.revs.map (·.parent) ++ t.proofs.map (·.parent)
def Txn2.uses (t : Txn2) : List Id :=
  t.scIns.map (·.parent.id) ++ t.sfIns.map (·.parent.id) ++ t.revs.map (·.parent.id) ++ t.ress.map (·.parent.id)

/-- If `id` was consumed earlier in the block (by a transaction of either version), no later v1
transaction using it as siacoin input, siafund input, revised or proven contract, and no later v2
transaction using it as siacoin input, siafund input, revised or resolved contract, is accepted. -/
theorem c02_spent_in_block_rejected (ms : Mid) (id : Id) (hs : ms.isSpent id = true) :
    (∀ (t : Txn1) (pid mw : Nat), id ∈ Txn1.uses t → NotOk (validateTransaction ms t pid mw)) ∧
    (∀ (t : Txn2) (mw : Nat), id ∈ Txn2.uses t → NotOk (validateV2Transaction ms t mw)) := by
  constructor
  · intro t pid mw hu _ hr
    have R := validateTransaction_ok_rules hr
    simp only [Txn1.uses, List.mem_append, List.mem_map] at hu
    rcases hu with ((⟨x, hx, rfl⟩ | ⟨x, hx, rfl⟩) | ⟨x, hx, rfl⟩) | ⟨x, hx, rfl⟩
    · obtain ⟨_, _, r⟩ := R.scIn x hx; rw [r.notSpent] at hs; cases hs
    · obtain ⟨_, _, r⟩ := R.sfIn x hx; rw [r.notSpent] at hs; cases hs
    · obtain ⟨_, _, r⟩ := R.rev x hx; rw [r.notSpent] at hs; cases hs
    · rw [(R.proof x hx).notSpent] at hs; cases hs
  · intro t mw hu _ hr
    have R := validateV2Transaction_ok_rules hr
    simp only [Txn2.uses, List.mem_append, List.mem_map] at hu
    rcases hu with ((⟨x, hx, rfl⟩ | ⟨x, hx, rfl⟩) | ⟨x, hx, rfl⟩) | ⟨x, hx, rfl⟩
    · rw [(R.scIn x hx).notSpent] at hs; cases hs
    · rw [(R.sfIn x hx).notSpent] at hs; cases hs
    · rw [(R.rev x hx).notSpent] at hs; cases hs
    · rw [(R.res x hx).notSpent] at hs; cases hs

/-- parent ids of all siacoin inputs / siafund inputs / contract resolutions of a block, in order -/
def Block.scSpent (b : Block) : List Id :=
  (b.txns1.map (fun t => t.scIns.map (·.parent))).flatten ++ (b.txns2.map (fun t => t.scIns.map (·.parent.id))).flatten
def Block.sfSpent (b : Block) : List Id :=
  (b.txns1.map (fun t => t.sfIns.map (·.parent))).flatten ++ (b.txns2.map (fun t => t.sfIns.map (·.parent.id))).flatten
def Block.fcResolved (b : Block) : List Id :=
  (b.txns1.map (fun t => t.proofs.map (·.parent))).flatten ++ (b.txns2.map (fun t => t.ress.map (·.parent.id))).flatten

theorem consumes_map {α} {s s' : Mid} {l : List α} {key : α → Id} (hnd : (l.map key).Nodup)
    (hfresh : ∀ x ∈ l, s.isSpent (key x) = false) (hmono : ∀ k ∈ s.spends, k ∈ s'.spends)
    (hrec : ∀ k ∈ l.map key, k ∈ s'.spends) : Consumes s s' (l.map key) :=
  ⟨hnd, fun _ hk => let ⟨x, hx, e⟩ := List.mem_map.1 hk; e ▸ (isSpent_false_iff _ _).1 (hfresh x hx), hmono, hrec⟩

theorem vb1Step_consumes {pid mw : Nat} {s s' : Mid} {t : Txn1} (h : vb1Step pid mw s t = .ok s') :
    Consumes s s' (t.scIns.map (·.parent)) ∧ Consumes s s' (t.sfIns.map (·.parent)) ∧
      Consumes s s' (t.proofs.map (·.parent)) := by
  obtain ⟨_, hv, ha⟩ := bind_ok_iff.1 h
  have hsp := applyTransaction_spends ha
  have R := validateTransaction_ok_rules hv
  have hnd := (List.nodup_append.1 (List.nodup_append.1 R.nodup).1)
  have mono : ∀ k ∈ s.spends, k ∈ s'.spends := fun k hk => by rw [hsp]; simp [hk]
  exact ⟨consumes_map hnd.1 (fun x hx => let ⟨_, _, r⟩ := R.scIn x hx; r.notSpent) mono (fun k hk => by rw [hsp]; simp [hk]),
    consumes_map hnd.2.1 (fun x hx => let ⟨_, _, r⟩ := R.sfIn x hx; r.notSpent) mono (fun k hk => by rw [hsp]; simp [hk]),
    consumes_map R.proofNodup (fun x hx => (R.proof x hx).notSpent) mono (fun k hk => by rw [hsp]; simp [hk])⟩

theorem vb2Step_consumes {mw : Nat} {s s' : Mid} {t : Txn2} (h : vb2Step mw s t = .ok s') :
    Consumes s s' (t.scIns.map (·.parent.id)) ∧ Consumes s s' (t.sfIns.map (·.parent.id)) ∧
      Consumes s s' (t.ress.map (·.parent.id)) := by
  obtain ⟨_, hv, ha⟩ := bind_ok_iff.1 h
  have hsp := applyV2Transaction_spends ha
  have R := validateV2Transaction_ok_rules hv
  have mono : ∀ k ∈ s.spends, k ∈ s'.spends := fun k hk => by rw [hsp]; simp [hk]
  exact ⟨consumes_map R.scNodup (fun x hx => (R.scIn x hx).notSpent) mono (fun k hk => by rw [hsp]; simp [hk]),
    consumes_map R.sfNodup (fun x hx => (R.sfIn x hx).notSpent) mono (fun k hk => by rw [hsp]; simp [hk]),
    consumes_map R.resNodup (fun x hx => (R.res x hx).notSpent) mono (fun k hk => by rw [hsp]; simp [hk])⟩

/-- In an accepted block no siacoin output, no siafund output is spent twice and no contract is
resolved twice — whatever the versions and positions of the transactions involved, outputs created
inside the block included — and every consumed id is recorded in the final mid-state. -/
theorem c02_block_no_repeats (L : Ledger) (b : Block) (pid : Id) (ms : Mid) (h : validateBlock L b pid = .ok ms) :
    (Block.scSpent b).Nodup ∧ (Block.sfSpent b).Nodup ∧ (Block.fcResolved b).Nodup ∧
      (∀ id ∈ Block.scSpent b ++ Block.sfSpent b ++ Block.fcResolved b, ms.isSpent id = true) := by
  obtain ⟨_, _, _, s1, h1, h2⟩ := validateBlock_ok_iff.1 h
  -- per kind: the v1 transactions from the empty list of consumed ids, then the v2 transactions from theirs
  have two := fun (k1 : Txn1 → List Id) (k2 : Txn2 → List Id)
      (c1 : ∀ s t s', vb1Step pid b.maxWeight s t = .ok s' → Consumes s s' (k1 t))
      (c2 : ∀ s t s', vb2Step b.maxWeight s t = .ok s' → Consumes s s' (k2 t)) =>
    let r := foldlM_keys_nodup k1 c1 b.txns1 (newMid L) s1 [] ⟨List.nodup_nil, by simp⟩ h1
    foldlM_keys_nodup k2 c2 b.txns2 s1 ms _ ⟨r.1, r.2.1⟩ h2
  have sc := two _ _ (fun _ _ _ hs => (vb1Step_consumes hs).1) (fun _ _ _ hs => (vb2Step_consumes hs).1)
  have sf := two _ _ (fun _ _ _ hs => (vb1Step_consumes hs).2.1) (fun _ _ _ hs => (vb2Step_consumes hs).2.1)
  have fc := two _ _ (fun _ _ _ hs => (vb1Step_consumes hs).2.2) (fun _ _ _ hs => (vb2Step_consumes hs).2.2)
  simp only [List.nil_append] at sc sf fc
  refine ⟨sc.1, sf.1, fc.1, ?_⟩
  intro id hid
  rw [isSpent_true_iff]
  rcases List.mem_append.1 hid with hid | hid
  · rcases List.mem_append.1 hid with hid | hid
    · exact sc.2.1 id hid
    · exact sf.2.1 id hid
  · exact fc.2.1 id hid

/-- the ids of the diffs of each kind are pairwise distinct -/
structure DiffIdsUnique (ms : Mid) : Prop where
  sc : (ms.sces.map (·.e.id)).Nodup
  sf : (ms.sfes.map (·.e.id)).Nodup
  fc1 : (ms.fces.map (·.e.id)).Nodup
  fc2 : (ms.v2fces.map (·.e.id)).Nodup

/-- it follows from the index invariant `MidJ`, which every reachable mid-state satisfies
(`Lemmas/LedgerIndex.lean`) -/
theorem diffIdsUnique_of_J {ms : Mid} (h : MidJ ms) : DiffIdsUnique ms :=
  ⟨h.sc.nodup, h.sf.nodup, h.fc1.nodup, h.fc2.nodup⟩

theorem commit_removes_spent_of_unique (ms : Mid) (bid : Id) (hu : DiffIdsUnique ms) :
    (∀ d ∈ ms.sces, d.spent = true → ∀ e ∈ (ms.commit bid).sc, e.id ≠ d.e.id) ∧
    (∀ d ∈ ms.sfes, d.spent = true → ∀ e ∈ (ms.commit bid).sf, e.id ≠ d.e.id) ∧
    (∀ d ∈ ms.fces, d.resolved = true → ∀ e ∈ (ms.commit bid).fc1, e.id ≠ d.e.id) ∧
    (∀ d ∈ ms.v2fces, d.resolution.isSome = true → ∀ e ∈ (ms.commit bid).fc2, e.id ≠ d.e.id) := by
  refine ⟨?_, ?_, ?_, ?_⟩
  · intro d hd hs e he heq
    rcases (commit_sc_mem ms bid e).1 he with ⟨_, h⟩ | ⟨d', hd', hs', rfl⟩
    · exact h d hd heq.symm
    · have := eq_of_nodup_map (fun d : ScDiff => d.e.id) hu.sc hd' hd heq
      subst this; rw [hs] at hs'; cases hs'
  · intro d hd hs e he heq
    rcases (commit_sf_mem ms bid e).1 he with ⟨_, h⟩ | ⟨d', hd', hs', rfl⟩
    · exact h d hd heq.symm
    · have := eq_of_nodup_map (fun d : SfDiff => d.e.id) hu.sf hd' hd heq
      subst this; rw [hs] at hs'; cases hs'
  · intro d hd hs e he heq
    rcases (commit_fc1_mem ms bid e).1 he with ⟨_, h⟩ | ⟨d', hd', hs', rfl⟩
    · exact h d hd heq.symm
    · rw [Fc1Diff.current_id] at heq
      have := eq_of_nodup_map (fun d : Fc1Diff => d.e.id) hu.fc1 hd' hd heq
      subst this; rw [hs] at hs'; cases hs'
  · intro d hd hs e he heq
    rcases (commit_fc2_mem ms bid e).1 he with ⟨_, h⟩ | ⟨d', hd', hs', rfl⟩
    · exact h d hd heq.symm
    · have hid : d'.e.id = d.e.id := by
        cases hr : d'.revision <;> simp only [hr] at heq <;> exact heq
      have := eq_of_nodup_map (fun d : Fc2Diff => d.e.id) hu.fc2 hd' hd hid
      subst this; rw [hs'] at hs; cases hs

/-- for the mid-state produced by applying a block (`midApplyBlock`,
i.e. what `applyBlock` commits), the id of every diff marked spent / resolved is not live in the
committed ledger: no siacoin element, siafund element, v1 or v2 contract carries it. -/
theorem c02_commit_removes_spent (L : Ledger) (b : Block) (ms : Mid) (bid : Id)
    (h : midApplyBlock (newMid L) b = .ok ms) :
    (∀ d ∈ ms.sces, d.spent = true → ∀ e ∈ (ms.commit bid).sc, e.id ≠ d.e.id) ∧
    (∀ d ∈ ms.sfes, d.spent = true → ∀ e ∈ (ms.commit bid).sf, e.id ≠ d.e.id) ∧
    (∀ d ∈ ms.fces, d.resolved = true → ∀ e ∈ (ms.commit bid).fc1, e.id ≠ d.e.id) ∧
    (∀ d ∈ ms.v2fces, d.resolution.isSome = true → ∀ e ∈ (ms.commit bid).fc2, e.id ≠ d.e.id) :=
  commit_removes_spent_of_unique ms bid (diffIdsUnique_of_J (midApplyBlock_J h))

/-- in the mid-state an accepted block is validated to, the ids of the diffs of each kind are pairwise distinct
(what `commit_removes_spent_of_unique` needs; the statement itself does not speak of the committed ledger) -/
theorem c02_block_diff_ids_unique (L : Ledger) (b : Block) (pid : Id) (ms : Mid) (h : validateBlock L b pid = .ok ms) :
    DiffIdsUnique ms := diffIdsUnique_of_J (validateBlock_J h)

/-- If no live element of ledger `L` carries `id` (e.g. it was consumed by an earlier block), then
* a v2 transaction presenting a non-ephemeral siacoin / siafund element record with that id, or
  revising / resolving a v2 contract record with that id — whatever proof it carries, the record
  fails the membership check — is not accepted (siacoins: rejected without panic);
* a block whose v1 supplement contains a record with that id (siacoin input, siafund input,
  revised contract, proven contract, expiring contract) is rejected by `validateSupplement`. -/
theorem c02_spent_in_earlier_block_rejected (L : Ledger) (id : Id) :
    ((∀ e ∈ L.sc, e.id ≠ id) →
      (∀ (ms : Mid) (t : Txn2) (mw : Nat) (sci : ScIn2), ms.base = L → sci ∈ t.scIns → sci.parent.id = id →
        sci.parent.leaf ≠ none → Rejected (validateV2Transaction ms t mw)) ∧
      (∀ (b : Block) (t : Txn1) (e : ScElem), t ∈ b.txns1 → e ∈ t.supp.scIns → e.id = id →
        Rejected (validateSupplement L b))) ∧
    ((∀ e ∈ L.sf, e.id ≠ id) →
      (∀ (ms : Mid) (t : Txn2) (mw : Nat) (sfi : SfIn2), ms.base = L → sfi ∈ t.sfIns → sfi.parent.id = id →
        sfi.parent.leaf ≠ none → NotOk (validateV2Transaction ms t mw)) ∧
      (∀ (b : Block) (t : Txn1) (e : SfElem), t ∈ b.txns1 → e ∈ t.supp.sfIns → e.id = id →
        Rejected (validateSupplement L b))) ∧
    ((∀ e ∈ L.fc1, e.id ≠ id) →
      (∀ (b : Block) (t : Txn1) (e : Fc1Elem), t ∈ b.txns1 → e.id = id →
        (e ∈ t.supp.revised ∨ e ∈ t.supp.proofs.map (·.1)) → Rejected (validateSupplement L b)) ∧
      (∀ (b : Block) (e : Fc1Elem), e ∈ b.expiring.map (·.1) → e.id = id → Rejected (validateSupplement L b))) ∧
    ((∀ e ∈ L.fc2, e.id ≠ id) →
      (∀ (ms : Mid) (t : Txn2) (mw : Nat), ms.base = L →
        ((∃ r ∈ t.revs, r.parent.id = id) ∨ (∃ r ∈ t.ress, r.parent.id = id)) →
        NotOk (validateV2Transaction ms t mw))) := by
  have supp : ∀ b, ¬ SuppRules L b → Rejected (validateSupplement L b) := fun b hn =>
    rejected_of_notOk_noPanic (fun _ h => hn ((validateSupplement_ok_iff L b).1 h)) (validateSupplement_noPanic L b)
  refine ⟨fun hl => ⟨?_, ?_⟩, fun hl => ⟨?_, ?_⟩, fun hl => ⟨?_, ?_⟩, fun hl => ?_⟩
  · intro ms t mw sci hb hm hid hleaf
    apply v2Txn_rejected_of_sc
    apply validateV2Siacoins_rejected
    rintro ⟨h1, _⟩
    have hp := (h1 sci hm).present
    unfold ScIn2Present at hp
    split at hp
    · rename_i hl'; exact hleaf hl'
    · rw [hb] at hp
      exact hl _ (by simpa [Ledger.hasSc] using hp) hid
  · intro b t e ht he hid
    exact supp b (fun hr => hl e (hr.sc t ht e he) hid)
  · intro ms t mw sfi hb hm hid hleaf _ hr
    have hp := ((validateV2Transaction_ok_rules hr).sfIn sfi hm).present
    unfold SfIn2Present at hp
    split at hp
    · rename_i hl'; exact hleaf hl'
    · rw [hb] at hp
      exact hl _ (by simpa [Ledger.hasSf] using hp) hid
  · intro b t e ht he hid
    exact supp b (fun hr => hl e (hr.sf t ht e he) hid)
  · intro b t e ht hid he
    refine supp b (fun hr => ?_)
    rcases he with he | he
    · exact hl e (hr.revised t ht e he) hid
    · obtain ⟨p, hp, rfl⟩ := List.mem_map.1 he
      exact hl _ (hr.proofs t ht p hp) hid
  · intro b e he hid
    refine supp b (fun hr => ?_)
    obtain ⟨p, hp, rfl⟩ := List.mem_map.1 he
    exact hl _ (hr.expiring p hp) hid
  · intro ms t mw hb hex _ hr
    have R := validateV2Transaction_ok_rules hr
    rcases hex with ⟨r, hm, hid⟩ | ⟨r, hm, hid⟩
    · have hp := (R.rev r hm).present
      rw [hb] at hp
      exact hl _ (by simpa [Ledger.hasFc2] using hp) hid
    · have hp := (R.res r hm).present
      rw [hb] at hp
      exact hl _ (by simpa [Ledger.hasFc2] using hp) hid

/-- An *ephemeral* v2 siacoin input (no leaf index) is only accepted if the index maps its id to a slot of the siacoin
diffs that holds a diff created in this block. That this diff carries the id is not part of the statement, and below
`ephemeralFix` it can fail: in `C10.c10_legacy_cross_kind_forgery` the id was created as a siafund output and the slot
holds another created siacoin output. -/
theorem c02_ephemeral_needs_in_block_creation (ms : Mid) (sci : ScIn2) (h : validateEphemeralSc ms sci = .ok ()) :
    ∃ j, ms.lookup sci.parent.id = some j ∧ j < ms.sces.length ∧ (ms.sces.getD j default).created = true :=
  ephemeralSc_createdAt h

-- the output e0 is spent in a block; in the next ledger the same record is refused, for v1 and v2 alike
example : (do let (L', _) ← applyBlock (Ex.L 15) { (default : Block) with v2 := some (15, true, [tSpend2 Ex.e0]) }
              validateV2Transaction (newMid L') (tSpend2 Ex.e0) 100) =
    .error (.reject "siacoin input spends output not present in the accumulator") := rfl
example : (do let (L', _) ← applyBlock (Ex.L 15) { (default : Block) with v2 := some (15, true, [tSpend2 Ex.e0]) }
              validateSupplement L' { (default : Block) with txns1 := [tSpend1 Ex.e0 0] }) =
    .error (.reject "siacoin element is not present in the accumulator") := rfl

end C02
