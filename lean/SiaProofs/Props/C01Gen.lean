import SiaModel.Gen.CodeConsensus
import SiaProofs.Lemmas.GoCurrency
/-!
# C01 — "miner fees reappear exactly in the miner payout", on REGENERATED code

`Gen.Consensus.validateMinerPayouts` is `consensus.validateMinerPayouts` translated statement by statement,
its four `for … range` loops included (`Go.forRange`).  The theorem: whenever it accepts a block, the miner
payouts add up — as integers, no wrap-around anywhere — to the block reward plus every v1 miner fee plus every v2
miner fee; every payout and every v1 fee is non-zero; a v2 block has exactly one payout.
-/
namespace C01
open Gen.Types Gen.Consensus C15 GoLoops

/-- all v1 miner fees of a block, as an integer -/
def v1Fees (b : Block) : Nat := (b.Transactions.map (fun t => (t.MinerFees.map val).sum)).sum
/-- all v2 miner fees of a block, as an integer -/
def v2Fees (b : Block) : Nat :=
  match b.V2 with
  | some d => (d.Transactions.map (fun t => val t.MinerFee)).sum
  | none => 0
/-- the miner payouts of a block, as an integer -/
def payoutSum (b : Block) : Nat := (b.MinerPayouts.map (fun o => val o.Value)).sum

/-- every currency the payout rule reads is a genuine pair of 64-bit words -/
structure BlockCurWF (b : Block) : Prop where
  fees : ∀ t ∈ b.Transactions, ∀ f ∈ t.MinerFees, WF f
  v2fees : ∀ d, b.V2 = some d → ∀ t ∈ d.Transactions, WF t.MinerFee
  payouts : ∀ o ∈ b.MinerPayouts, WF o.Value

/-- one iteration of the payout loop: a non-zero payout, added to the sum kept in the second component -/
def PayStep (o : SiacoinOutput) (st st' : Bool × Currency) : Prop :=
  o.Value.IsZero = false ∧ (WF o.Value → WF st.2 → WF st'.2 ∧ val st'.2 = val st.2 + val o.Value)

theorem pay_facts {b : Block} (hb : BlockCurWF b) {o0 : Bool} {st' : Bool × Currency}
    (c : Chain PayStep b.MinerPayouts (o0, {}) st') :
    val st'.2 = payoutSum b ∧ payoutSum b < W2 ∧ ∀ o ∈ b.MinerPayouts, val o.Value ≠ 0 := by
  obtain ⟨w, v⟩ := Chain.sum (m := fun st => val st.2) (I := fun st => WF st.2) (fun _ _ _ r => r.2) _ _ _ c hb.payouts wf_zero
  have v : val st'.2 = payoutSum b := by rw [v]; show val ({} : Currency) + _ = _; rw [val_zero, Nat.zero_add]; rfl
  exact ⟨v, by rw [← v]; exact val_lt w, fun o ho => isZero_eq_false.1 (Chain.all (fun _ _ _ r => r.1) _ _ _ c o ho)⟩

/--
**Miner fees reappear exactly in the miner payout** — about `consensus.validateMinerPayouts` as regenerated from
the source: if it accepts block `b` on state `s`, then (the scheduled reward being a genuine 128-bit value) the
payouts sum, as integers, to reward + all v1 fees + all v2 fees, nothing wrapped, no payout and no v1 fee is zero,
and a block carrying v2 data has exactly one payout.
-/
theorem c01_miner_payouts_gen (s : State) (b : Block) (hb : BlockCurWF b)
    (h : validateMinerPayouts s b = .ok none) :
    ∃ reward, State.BlockReward s = .ok reward ∧
      (WF reward →
        payoutSum b = val reward + v1Fees b + v2Fees b ∧ payoutSum b < W2 ∧
        (∀ o ∈ b.MinerPayouts, val o.Value ≠ 0) ∧
        (∀ t ∈ b.Transactions, ∀ f ∈ t.MinerFees, val f ≠ 0) ∧
        (b.V2 ≠ none → b.MinerPayouts.length = 1)) := by
  obtain ⟨reward, hr, h⟩ := of_bind_ok h
  refine ⟨reward, hr, fun hw => ?_⟩
  obtain ⟨st1, c1, h⟩ := forRange_accept
    (R := fun (t : Transaction) st st' => (∀ f ∈ t.MinerFees, f.IsZero = false) ∧
      ((∀ f ∈ t.MinerFees, WF f) → WF st.1 → WF st'.1 ∧ val st'.1 = val st.1 + (t.MinerFees.map val).sum))
    h (fun _ _ => rfl) (by
      intro i t st r st' hx
      obtain ⟨q, _, hq, hx⟩ | ⟨st2, c, hx⟩ := forRange_bind (P := (· ≠ none))
        (R := fun f st st' => f.IsZero = false ∧ (WF f → WF st.1 → WF st'.1 ∧ val st'.1 = val st.1 + val f)) hx (by
          intro i f st t st' hx
          refine ite_exit hx nofun fun hz hx => ?_
          refine ite_exit hx nofun fun ho hx => ?_
          cases hx
          exact ⟨Bool.eq_false_iff.mpr hz, addo_step ho⟩)
      · cases hx; exact hq
      cases hx
      exact ⟨Chain.all (fun _ _ _ r => r.1) _ _ _ c,
        Chain.sum (m := fun st => val st.1) (I := fun st => WF st.1) (fun _ _ _ r => r.2) _ _ _ c⟩)
  obtain ⟨w1, s1⟩ := Chain.sum (m := fun st => val st.1) (I := fun st => WF st.1) (ok := fun t => ∀ f ∈ t.MinerFees, WF f)
    (fun _ _ _ r => r.2) _ _ _ c1 hb.fees hw
  have feesNZ : ∀ t ∈ b.Transactions, ∀ f ∈ t.MinerFees, val f ≠ 0 := fun t ht f hf =>
    isZero_eq_false.1 (Chain.all (fun _ _ _ r => r.1) _ _ _ c1 t ht f hf)
  obtain ⟨hv2, h⟩ | ⟨hv2, h⟩ := ite_cases h
  · -- a v2 block: its fees are added, and there is exactly one payout
    obtain ⟨d, hd, h⟩ := of_bind_ok h
    have hd : b.V2 = some d := by cases hb2 : b.V2 <;> rw [hb2] at hd <;> cases hd; rfl
    obtain ⟨st2, c2, h⟩ := forRange_accept
      (R := fun (t : V2Transaction) (st st' : Currency × Bool) => WF t.MinerFee → WF st.1 → WF st'.1 ∧ val st'.1 = val st.1 + val t.MinerFee)
      h (fun _ _ => rfl) (by
        intro i t st r st' hx
        refine ite_exit hx nofun fun ho hx => ?_
        cases hx
        exact addo_step ho)
    obtain ⟨w2, s2⟩ := Chain.sum (m := fun st : Currency × Bool => val st.1) (I := fun st => WF st.1) (fun _ _ _ r => r) _ _ _ c2 (hb.v2fees d hd) w1
    obtain ⟨hlen, h⟩ := ite_else h nofun
    obtain ⟨st3, c3, h⟩ := forRange_accept (R := PayStep) h (fun _ _ => rfl) (by
      intro i o st r st' hx
      refine ite_exit hx nofun fun hz hx => ?_
      refine ite_exit hx nofun fun ho hx => ?_
      cases hx
      exact ⟨Bool.eq_false_iff.mpr hz, addo_step ho⟩)
    obtain ⟨heq, _⟩ := ite_else h nofun
    have heq : st3.2 = st2.1 := by simpa using heq
    obtain ⟨s3, lt, nz⟩ := pay_facts hb c3
    refine ⟨?_, lt, nz, feesNZ, fun _ => by simp at hlen; omega⟩
    rw [← s3, heq, s2, s1]
    simp [v2Fees, hd, v1Fees]
  · obtain ⟨st3, c3, h⟩ := forRange_accept (R := PayStep) h (fun _ _ => rfl) (by
      intro i o st r st' hx
      refine ite_exit hx nofun fun hz hx => ?_
      refine ite_exit hx nofun fun ho hx => ?_
      cases hx
      exact ⟨Bool.eq_false_iff.mpr hz, addo_step ho⟩)
    obtain ⟨heq, _⟩ := ite_else h nofun
    have heq : st3.2 = st1.1 := by simpa using heq
    obtain ⟨s3, lt, nz⟩ := pay_facts hb c3
    have hn : b.V2 = none := by simpa using hv2
    refine ⟨?_, lt, nz, feesNZ, fun hh => absurd hn hh⟩
    rw [← s3, heq, s1]
    simp [v2Fees, hn, v1Fees]

/-! ### non-vacuity: the regenerated rule accepts and rejects concrete blocks (reward 0 on the default network) -/

def sampleBlock : Block :=
  { MinerPayouts := [{ Value := { Lo := 7 } }],
    Transactions := [{ MinerFees := [{ Lo := 5 }] }, { MinerFees := [{ Lo := 1 }, { Lo := 1 }] }] }

example : validateMinerPayouts {} sampleBlock = .ok none := by rfl
example : validateMinerPayouts {} { sampleBlock with MinerPayouts := [{ Value := { Lo := 8 } }] }
    = .ok (some "miner payout sum (%v) does not match block reward + fees (%v)") := by rfl
example : validateMinerPayouts {} { sampleBlock with V2 := some { Transactions := [{ MinerFee := { Lo := 2 } }] },
                                                      MinerPayouts := [{ Value := { Lo := 9 } }] } = .ok none := by rfl
example : validateMinerPayouts {} { sampleBlock with V2 := some {}, MinerPayouts := [{ Value := { Lo := 3 } }, { Value := { Lo := 4 } }] }
    = .ok (some "block must have exactly one miner payout") := by rfl
example : BlockCurWF sampleBlock := by
  refine ⟨?_, ?_, ?_⟩
  · intro t ht f hf
    simp [sampleBlock] at ht
    rcases ht with rfl | rfl <;> simp at hf
    · subst hf; exact ⟨by decide, by decide⟩
    · rcases hf with rfl | rfl <;> exact ⟨by decide, by decide⟩
  · intro d hd; simp [sampleBlock] at hd
  · intro o ho; simp [sampleBlock] at ho; subst ho; exact ⟨by decide, by decide⟩

end C01
