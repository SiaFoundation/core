import SiaProofs.Props.C11Irregular
import SiaModel.Codec.PolicyBridge
import SiaModel.Gen.FactsPolicyCodec
/-!
# C11 for the `SpendPolicy` / `SatisfiedPolicy` binary codec

Model: `SiaModel/Codec/Policy.lean` (version byte, opcode, payload; thresholds with a one-byte
child count; depth 0…32), assembled from the lawful combinators, hence itself lawful
(`Policy.codec_ok`) and plugged into `Irregular.env` as `Types.SpendPolicy` — so every generic
theorem of C11 / C10-decode also covers v2 transactions WITH inputs (`c11_v2txn_*`),
`SatisfiedPolicy`, `V2SiacoinInput`, ….

`SatisfiedPolicy.EncodeTo/DecodeFrom` are a plain record (policy, signatures, preimages): the
witnesses are NOT interleaved with the policy walk on the wire; any number of signatures and
preimages round-trips, and matching them to the policy (surplus / missing witnesses) is the
business of `Verify` (C14), not of the codec.
-/
namespace C11
open Sia.Codec Sia.Codec.Gen

/-- the schema of a policy (an `ext` leaf resolved by `Irregular.env`) -/
def policySch : Sch := .ext "Types.SpendPolicy"

/-- **the decoder's limits**, as a decidable predicate on policy values: version 1; known
opcodes; above/after < 2^64; keys, hashes, addresses of 32 bytes; a threshold has `n < 256` and
fewer than 256 sub-policies, each within the limits one level deeper; nodes at depths 0…32
only; unlock conditions canonical for their (generated) schema. -/
def PolicyWithinLimits (v : Val) : Bool := (Policy.codec Env.default).canon v

theorem policy_canon_eq (v : Val) : canon Irregular.env policySch v = PolicyWithinLimits v := rfl

/-! explicit form of the limits, opcode by opcode (`f` = levels that may still follow): `canon` of
the tagged codecs evaluated on a value of the given shape -/

theorem limits_version (n : Val) : PolicyWithinLimits (.pair (.nat 1) n) = (Policy.node Env.default Policy.maxDepth).canon n := rfl

theorem limits_above (f h : Nat) : (Policy.node Env.default f).canon (.pair (.nat 1) (.nat h)) = decide (h < W64) := by
  cases f <;> rfl

theorem limits_hash (f : Nat) (b : Bytes) : (Policy.node Env.default f).canon (.pair (.nat 4) (.bytes b)) = (b.length == 32) := by
  cases f <;> rfl

theorem limits_threshold_leaf (n : Nat) (cs : List Val) :
    (Policy.node Env.default 0).canon (.pair (.nat 5) (.pair (.nat n) (.pair (.list cs) .unit))) =
      (decide (n < 256) && cs.isEmpty) := by
  cases cs with
  | nil => rfl
  | cons v vs =>
    -- the children's codec is `Codec.fail`, canonical for nothing
    show (decide (n < 256) && (decide ((v :: vs).length < 256) && (false && _) && true)) = (decide (n < 256) && false)
    simp only [Bool.false_and, Bool.and_false]

theorem limits_threshold (f n : Nat) (cs : List Val) :
    (Policy.node Env.default (f + 1)).canon (.pair (.nat 5) (.pair (.nat n) (.pair (.list cs) .unit))) =
      (decide (n < 256) && (decide (cs.length < 256) && cs.all (Policy.node Env.default f).canon)) := by
  show (decide (n < 256) && (decide (cs.length < 256) && cs.all (Policy.node Env.default f).canon && true)) = _
  rw [Bool.and_true]

/-- Every policy within the decoder's limits decodes back from its
encoding (followed by anything) -/
theorem c11_policy_roundtrip (k : Nat) (v : Val) (rest : Bytes) (h : PolicyWithinLimits v = true) :
    dec Irregular.env k policySch (enc Irregular.env policySch v ++ rest) = .ok (v, rest) :=
  c11_roundtrip c11_env_ok k policySch rfl v rest ((policy_canon_eq v).trans h)

/-- whatever the decoder returns is within the limits (the predicate is exact) -/
theorem c11_policy_decoded_within_limits (k : Nat) (bs : Bytes) (v : Val) (rest : Bytes)
    (h : dec Irregular.env k policySch bs = .ok (v, rest)) : PolicyWithinLimits v = true :=
  (policy_canon_eq v).symm.trans (c11_decode_canon c11_env_ok false k policySch bs v rest h).1

theorem c11_policy_injective (v w : Val) (hv : PolicyWithinLimits v = true) (hw : PolicyWithinLimits w = true)
    (h : enc Irregular.env policySch v = enc Irregular.env policySch w) : v = w :=
  c11_injective c11_env_ok policySch rfl v w ((policy_canon_eq v).trans hv)
    ((policy_canon_eq w).trans hw) h

theorem c11_policy_prefix_free (v w : Val) (hv : PolicyWithinLimits v = true) (hw : PolicyWithinLimits w = true)
    (t : Bytes) (h : enc Irregular.env policySch v ++ t = enc Irregular.env policySch w) : v = w ∧ t = [] :=
  c11_prefix_free c11_env_ok policySch rfl v w ((policy_canon_eq v).trans hv)
    ((policy_canon_eq w).trans hw) t h

/-- every proper prefix of a policy encoding is refused -/
theorem c11_policy_truncation (k : Nat) (v : Val) (hv : PolicyWithinLimits v = true) (p q : Bytes)
    (h : p ++ q = enc Irregular.env policySch v) (hq : q ≠ []) : ∃ e, dec Irregular.env k policySch p = .error e :=
  c11_truncation_fails c11_env_ok false k policySch rfl v ((policy_canon_eq v).trans hv) p q h hq

/-- re-encoding gives back the bytes consumed exactly when the strict decoder accepts them too
(instance of `c11_reencode`) -/
theorem c11_policy_reencode (k : Nat) (bs : Bytes) (v : Val) (rest : Bytes)
    (h : dec Irregular.env k policySch bs = .ok (v, rest)) :
    (enc Irregular.env policySch v ++ rest = bs ↔ decStrict Irregular.env k policySch bs = .ok (v, rest)) :=
  c11_reencode c11_env_ok k policySch rfl bs v rest h

/-- On ANY bytes the decoder returns a value or an ordinary error —
it is a total function (recursion on the 33 depth levels of `Policy.node`, the explicit fuel; the
one-byte child count bounds every loop by 255) — it never panics, and it allocates at most
`depth·(|input| + slack)` slots (256 per nesting level: `make([]SpendPolicy, d.ReadUint8())`). -/
theorem c11_policy_decode_total (k : Nat) (bs : Bytes) :
    dec Irregular.env k policySch bs ≠ .error .panic ∧
    allocOf Irregular.env k policySch bs ≤ policySch.depth Irregular.env * bs.length + policySch.depth Irregular.env * k :=
  ⟨C10D.c10_decode_total c11_env_ok false k policySch (env_fine.grd _) bs,
   C10D.c10_decode_alloc_bounded c11_env_ok k policySch rfl (env_fine.grd _) bs⟩

/-- Policy, then ANY number of signatures and of preimages
(the counts are transmitted, not derived from the policy walk) -/
theorem c11_satisfied_policy_roundtrip (k : Nat) (v : Val) (rest : Bytes)
    (h : Canon Irregular.env encSchema_Types_SatisfiedPolicy v) :
    dec Irregular.env k encSchema_Types_SatisfiedPolicy (enc Irregular.env encSchema_Types_SatisfiedPolicy v ++ rest) = .ok (v, rest) :=
  c11_roundtrip c11_env_ok k _ (wf_of_default env_fine _ (by decide +kernel)) v rest h

/-- a policy of the semantics model within the limits round-trips through the codec -/
theorem c11_policy_roundtrip_tree (k : Nat) (p : Sia.Policy.Policy) (rest : Bytes)
    (h : PolicyWithinLimits (Policy.ofPolicy p) = true) :
    dec Irregular.env k policySch (enc Irregular.env policySch (Policy.ofPolicy p) ++ rest) = .ok (Policy.ofPolicy p, rest) :=
  c11_policy_roundtrip k _ rest h

def exLeaf : Val := .pair (.nat 1) (.nat 7)                             -- above(7)
def exThresh : Val := .pair (.nat 5) (.pair (.nat 2) (.pair (.list [exLeaf, .pair (.nat 4) (.bytes (List.replicate 32 9))]) .unit))
def exPolicy : Val := .pair (.nat 1) exThresh
/-- `d` thresholds around a leaf -/
def nested : Nat → Val
  | 0 => exLeaf
  | d + 1 => .pair (.nat 5) (.pair (.nat 1) (.pair (.list [nested d]) .unit))

example : PolicyWithinLimits exPolicy = true := by decide +kernel
example : enc Irregular.env policySch exPolicy =
    [1, 5, 2, 2, 1, 7,0,0,0,0,0,0,0, 4] ++ List.replicate 32 9 := by decide +kernel
example : PolicyWithinLimits (.pair (.nat 1) (nested 32)) = true := by decide +kernel
example : PolicyWithinLimits (.pair (.nat 1) (nested 33)) = false := by decide +kernel
example : PolicyWithinLimits (.pair (.nat 2) exLeaf) = false := by decide +kernel   -- wrong version
example : PolicyWithinLimits (.pair (.nat 1) (.pair (.nat 8) (.nat 0))) = false := by decide +kernel   -- unknown opcode
/-- `n > len(of)` is accepted by the codec (it is `Verify` that can never satisfy it) -/
example : PolicyWithinLimits (.pair (.nat 1) (.pair (.nat 5) (.pair (.nat 200) (.pair (.list []) .unit)))) = true := by
  decide +kernel
example : dec Irregular.env 0 policySch [2, 1, 7,0,0,0,0,0,0,0] = .error .invalid := rfl
example : dec Irregular.env 0 policySch [1, 0] = .error .invalid := rfl

/-- the opcodes of the model are the ones in the code — in the encoder AND in the decoder (two
separate constant blocks) -/
theorem tie_policy_opcodes :
    PolicyCodec.opcodesEnc = PolicyCodec.opcodesDec ∧
    PolicyCodec.opcodesEnc = [("opInvalid", 0), ("opAbove", Policy.opAbove), ("opAfter", Policy.opAfter),
      ("opPublicKey", Policy.opPublicKey), ("opHash", Policy.opHash), ("opThreshold", Policy.opThreshold),
      ("opOpaque", Policy.opOpaque), ("opUnlockConditions", Policy.opUnlockConditions)] ∧
    PolicyCodec.versionEnc = Policy.version ∧ PolicyCodec.versionDec = Policy.version := by
  refine ⟨rfl, rfl, rfl, rfl⟩

/-- the limits: `maxPolicyDepth`, the check `depth > maxPolicyDepth` with the root at depth 0 and
children one deeper, and the ONE-BYTE child count that sizes the slice -/
theorem tie_policy_limits :
    PolicyCodec.maxPolicyDepth = Policy.maxDepth ∧
    PolicyCodec.depthChecks = ["depth > maxPolicyDepth"] ∧
    PolicyCodec.readPolicyCalls = ["readPolicy(depth + 1)", "readPolicy(0)"] ∧
    PolicyCodec.thresholdAlloc = ["make([]SpendPolicy, d.ReadUint8())"] := by
  refine ⟨rfl, rfl, rfl, rfl⟩

/-- the payload of `opUnlockConditions` is the generated `UnlockConditions` codec, and a satisfied
policy is the generated record around the policy leaf -/
theorem tie_policy_payload_schemas :
    encSchema_Types_UnlockConditions = Spec.unlockConditions ∧
    encSchema_Types_SatisfiedPolicy = Spec.satisfiedPolicy := ⟨rfl, rfl⟩

end C11
