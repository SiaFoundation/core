/-
# C18 — Multiproof block compression and compact block relay are lossless

Models: `SiaModel/Merkle/Multiproof.lean` (types/multiproof.go over the forest model of
C05: a transaction set is the list of its non-ephemeral element leaves in visiting
order; ephemeral parents are skipped by the code and never touched) and
`SiaModel/Gateway/Outline.lean` (gateway/outline.go over abstract transactions).

No hash assumption is needed for the multiproof theorems (they are equalities with the
naive forest). The outline theorems assume `EnvOK`: the transaction leaf hash is injective
on v1 and on v2 transactions and never coincides across the kinds (collision freedom of
`hashAll(leafHashPrefix, txn)` + injectivity of the transaction encodings, C11).
-/
import SiaProofs.Lemmas.Multiproof
import SiaProofs.Lemmas.Outline
import SiaProofs.Lemmas.TermHash
import SiaProofs.Lemmas.TxTraverse
import SiaProofs.Props.C11Irregular
import SiaProofs.Lemmas.OutlineBytes
import SiaProofs.Lemmas.TxCanon
namespace C18
open Sia.ElemAcc Sia.Multiproof Sia.Outline

section
variable {H : Type} [Hasher H] [Inhabited H]

/-- **expand ∘ compute = id, and the size is right.** If every element proof is the naive
    path `path ls i` of one forest `ls` (the same leaf may occur several times; `tag`s are
    the identities of the StateElements; ephemeral parents are not in the list at all),
    then for ANY placeholders `g` of the same lengths (the stripped transactions),
    `expandMultiproof` applied to the computed multiproof restores every leaf proof for
    proof, and the multiproof has exactly `multiproofSize` hashes. -/
theorem c18_expand_compute (ls : List H) (leaves : List (MLeaf H)) (hv : ∀ l ∈ leaves, Valid ls l)
    (htag : ∀ a ∈ leaves, ∀ b ∈ leaves, a.tag = b.tag → a = b) (hn : ls.length < 2 ^ 64)
    (g : MLeaf H → MLeaf H) (hg : Shape g) :
    expandMultiproof (leaves.map g) (computeMultiproof leaves) = .ok leaves ∧
    (computeMultiproof leaves).length = multiproofSize (leaves.map g) :=
  expand_compute ls leaves hv htag hn g hg

/-- **The numLeaves inference recovers every proof length** — a pure bit-level fact, for
    all naturals (in particular all 64-bit values): if every `(idx_i, len_i)` is a leaf of
    a forest with `N` leaves (bit `len_i` of `N` set and `idx_i` inside that tree), then
    with `N' = OR_i ((idx_i &^ (2^len_i − 1)) | 2^len_i)` — which need not equal `N` —
    `idx_i < N'` and `bits.Len64(idx_i ^ N') − 1 = len_i`. -/
theorem c18_numleaves_recovers_lengths (N : Nat) (leaves : List (MLeaf H))
    (hin : ∀ l ∈ leaves, N.testBit l.proof.length = true ∧
      treeStart N l.proof.length ≤ l.index ∧ l.index < treeStart N l.proof.length + 2 ^ l.proof.length) :
    ∀ l ∈ leaves, l.index < inferNumLeaves leaves ∧
      bitLen (l.index ^^^ inferNumLeaves leaves) - 1 = l.proof.length :=
  numLeaves_recovers N (fun l : MLeaf H => l.index) (fun l => l.proof.length) leaves hin

/-- The codec at the level the multiproof code works on: the element leaves and the hash
    stream — proofless leaves, inferred `numLeaves`, multiproof — followed by any further
    data `tail`, decode to exactly the original leaves and leave `tail` unread. -/
theorem c18_codec_roundtrip_leaves (ls : List H) (leaves : List (MLeaf H)) (hv : ∀ l ∈ leaves, Valid ls l)
    (htag : ∀ a ∈ leaves, ∀ b ∈ leaves, a.tag = b.tag → a = b) (hn : ls.length < 2 ^ 64) (tail : List H) :
    decodeMP (encodeMP leaves).1 (encodeMP leaves).2.1 ((encodeMP leaves).2.2 ++ tail) = .ok (leaves, tail) :=
  codec_roundtrip ls leaves hv htag hn tail

end

section
variable [Hasher Hash32]

/-- **The multiproof codec round-trips on bytes**: for ANY transaction codec
    `(encP, decP)` that round-trips on canonical values (C11 supplies it), any element-hash
    function `eh` that does not read the proof, and any slice of transactions `t` (a value
    tree) whose non-ephemeral parents carry the naive paths of one forest:
    `DecodeFrom (EncodeTo t ‖ tail) = (t, tail)` — every proof restored bit for bit, hence
    every hash over the transactions (block ID, commitment) unchanged.
    Side conditions: `GoodTxns t` (parents have the element shape, 32-byte proof entries) and
    canonicity of the proofless transactions — both hold for every canonical `t`. -/
theorem c18_codec_roundtrip (eh : Nat → Sia.Codec.Val → Hash32) (heh : ∀ k el p, eh k (setProof el p) = eh k el)
    (encP : Sia.Codec.Val → Sia.Codec.Bytes) (decP : Sia.Codec.Bytes → Except Sia.Codec.DecErr (Sia.Codec.Val × Sia.Codec.Bytes))
    (CanonP : Sia.Codec.Val → Prop) (hrt : ∀ t rest, CanonP t → decP (encP t ++ rest) = .ok (t, rest))
    (ls : List Hash32) (t : Sia.Codec.Val) (hgood : GoodTxns t)
    (hv : ∀ l ∈ (valOps eh encP decP).leaves t, Valid ls l) (hn : ls.length < 2 ^ 64)
    (hcanon : CanonP ((valOps eh encP decP).strip t)) (tail : Sia.Codec.Bytes) :
    decodeBytes (valOps eh encP decP) (encodeBytes (valOps eh encP decP) t ++ tail) = .ok (t, tail) :=
  bytes_roundtrip (valOps eh encP decP) CanonP GoodTxns (valOps_ok eh heh encP decP CanonP hrt) ls t hgood hv hn hcanon tail

/-- the schema of `[]V2Transaction` in C11's codec model -/
def txnsSch : Sia.Codec.Sch := .slice C11.v2txn

/-- `c18_codec_roundtrip` with C11's codec as the payload codec, over ANY environment `E` of irregular codecs
    that is lawful (`EnvOK`) and contains the modelled V2Transaction / resolution codecs
    (`TxnEnv`), for any decoder slack `k`. The only hypotheses left are the codec-side one —
    `t` is a canonical value of `[]V2Transaction` — and the statement's own premise that the
    non-ephemeral parents carry the paths of one forest: well-shapedness of the parents and
    canonicity of the stripped set are DERIVED from canonicity of `t` (`Lemmas/TxCanon`).
    An environment extended by further codecs (e.g. a spend-policy codec) qualifies as is. -/
theorem c18_codec_roundtrip_env {E E2 E1 E0 : Sia.Codec.Env} (hE : Sia.Codec.EnvOK E) (henv : TxnEnv E E2 E1 E0) (k : Nat)
    (eh : Nat → Sia.Codec.Val → Hash32) (heh : ∀ k el p, eh k (setProof el p) = eh k el)
    (ls : List Hash32) (t : Sia.Codec.Val) (hc : Sia.Codec.Canon E txnsSch t)
    (hv : ∀ l ∈ (valOps eh (Sia.Codec.enc E txnsSch) (Sia.Codec.dec E k txnsSch)).leaves t, Valid ls l)
    (hn : ls.length < 2 ^ 64) (tail : Sia.Codec.Bytes) :
    decodeBytes (valOps eh (Sia.Codec.enc E txnsSch) (Sia.Codec.dec E k txnsSch))
      (encodeBytes (valOps eh (Sia.Codec.enc E txnsSch) (Sia.Codec.dec E k txnsSch)) t ++ tail) = .ok (t, tail) := by
  have hwf : txnsSch.wf E = true := by
    show (true && decide (1 ≤ (E.ext "Types.V2Transaction").minLen)) = true
    rw [henv.txn]
    rfl
  exact c18_codec_roundtrip eh heh _ _ (Sia.Codec.Canon E txnsSch)
    (fun v rest hc => C11.c11_roundtrip hE k txnsSch hwf v rest hc) ls t
    (goodTxns_of_canon henv hc) hv hn (strip_canon henv eh _ _ hc) tail

/-- the instance for the codec model's environment `Irregular.env` -/
theorem c18_codec_roundtrip_c11 (k : Nat) (eh : Nat → Sia.Codec.Val → Hash32) (heh : ∀ k el p, eh k (setProof el p) = eh k el)
    (ls : List Hash32) (t : Sia.Codec.Val) (hc : Sia.Codec.Canon Sia.Codec.Irregular.env txnsSch t)
    (hv : ∀ l ∈ (valOps eh (Sia.Codec.enc Sia.Codec.Irregular.env txnsSch) (Sia.Codec.dec Sia.Codec.Irregular.env k txnsSch)).leaves t, Valid ls l)
    (hn : ls.length < 2 ^ 64) (tail : Sia.Codec.Bytes) :
    decodeBytes (valOps eh (Sia.Codec.enc Sia.Codec.Irregular.env txnsSch) (Sia.Codec.dec Sia.Codec.Irregular.env k txnsSch))
      (encodeBytes (valOps eh (Sia.Codec.enc Sia.Codec.Irregular.env txnsSch) (Sia.Codec.dec Sia.Codec.Irregular.env k txnsSch)) t ++ tail) = .ok (t, tail) :=
  c18_codec_roundtrip_env C11.c11_env_ok irregular_txnEnv k eh heh ls t hc hv hn tail

end

section
variable {Tx1 Tx2 H Addr : Type} [DecidableEq H] (env : Env Tx1 Tx2 H Addr)

/-- a block whose commitment is the one consensus requires (`State.Commitment`) -/
def CommitOK (b : Block Tx1 Tx2 H Addr) : Prop :=
  b.commitment = env.commit b.minerAddress (b.txns.map env.leaf1 ++ b.v2txns.map env.leaf2)

/-- **An outline has the block's ID**, whatever subset of transactions is omitted. -/
theorem c18_outline_id (b : Block Tx1 Tx2 H Addr) (hc : CommitOK env b) (om1 : List Tx1) (om2 : List Tx2) :
    (outlineBlock env b om1 om2).id env = b.id env := by
  unfold CommitOK at hc
  simp only [BlockOutline.id, BlockOutline.commitment, Block.id, outline_hashes]
  rw [hc]
  rfl

/-- `Missing` of a fresh outline: the hashes of the omitted transactions, in block order. -/
theorem c18_missing_fresh (ok : EnvOK env) (b : Block Tx1 Tx2 H Addr) (om1 : List Tx1) (om2 : List Tx2) :
    (outlineBlock env b om1 om2).missing =
      (b.txns.filter (fun t => decide (env.leaf1 t ∈ om1.map env.leaf1 ++ om2.map env.leaf2))).map env.leaf1 ++
      (b.v2txns.filter (fun t => decide (env.leaf2 t ∈ om1.map env.leaf1 ++ om2.map env.leaf2))).map env.leaf2 := by
  -- completing with an empty pool fills nothing in
  have hfill : fillOne (H := H) env [] [] = id := funext (by rintro ⟨h, _ | a, _ | b⟩ <;> rfl)
  have h := (complete_spec env ok b om1 om2 [] []).1
  simp only [BlockOutline.complete, hfill, List.map_id, present1, present2, List.map_nil, List.not_mem_nil,
    decide_false, Bool.or_false, Bool.not_not] at h
  exact h

/-- **Complete reports exactly the still-missing hashes, in block order**, and returns the
    block's other transactions in block order. -/
theorem c18_missing_exact (ok : EnvOK env) (b : Block Tx1 Tx2 H Addr) (om1 : List Tx1) (om2 : List Tx2)
    (pool1 : List Tx1) (pool2 : List Tx2) :
    ((outlineBlock env b om1 om2).complete env pool1 pool2).2.1 =
      (b.txns.filter (fun t => !present1 env om1 om2 pool1 t)).map env.leaf1 ++
      (b.v2txns.filter (fun t => !present2 env om1 om2 pool2 t)).map env.leaf2 ∧
    ((outlineBlock env b om1 om2).complete env pool1 pool2).1.txns = b.txns.filter (present1 env om1 om2 pool1) ∧
    ((outlineBlock env b om1 om2).complete env pool1 pool2).1.v2txns = b.v2txns.filter (present2 env om1 om2 pool2) :=
  complete_spec env ok b om1 om2 pool1 pool2

theorem present_of_imp {p q : Prop} [Decidable p] [Decidable q] (h : p → q) : (!decide p || decide q) = true := by
  by_cases hp : p
  · rw [decide_eq_true (h hp), Bool.or_true]
  · rw [decide_eq_false hp]; rfl

/-- **Complete restores exactly the block.** If the pools contain the omitted transactions
    (any superset, any order, duplicates, unrelated entries), the block's commitment is the
    consensus one and its miner payout is reward + fees (both required of a valid v2
    block), then `Complete` returns the original block and no missing hashes. -/
theorem c18_complete_restores (ok : EnvOK env) (b : Block Tx1 Tx2 H Addr) (hc : CommitOK env b)
    (hpay : b.minerValue = env.reward + (b.txns.map env.fee1).sum + (b.v2txns.map env.fee2).sum)
    (om1 : List Tx1) (om2 : List Tx2) (pool1 : List Tx1) (pool2 : List Tx2)
    (h1 : ∀ t ∈ om1, env.leaf1 t ∈ pool1.map env.leaf1) (h2 : ∀ t ∈ om2, env.leaf2 t ∈ pool2.map env.leaf2) :
    ((outlineBlock env b om1 om2).complete env pool1 pool2).1 = b ∧
    ((outlineBlock env b om1 om2).complete env pool1 pool2).2.1 = [] := by
  have hp1 : ∀ t, present1 env om1 om2 pool1 t = true := fun t =>
    present_of_imp fun hr => (List.mem_append.1 hr).elim
      (fun h => by obtain ⟨t', ht', e⟩ := List.mem_map.1 h; exact e ▸ h1 t' ht')
      (fun h => by obtain ⟨t', _, e⟩ := List.mem_map.1 h; exact absurd e.symm (ok.disj t t'))
  have hp2 : ∀ t, present2 env om1 om2 pool2 t = true := fun t =>
    present_of_imp fun hr => (List.mem_append.1 hr).elim
      (fun h => by obtain ⟨t', _, e⟩ := List.mem_map.1 h; exact absurd e (ok.disj t' t))
      (fun h => by obtain ⟨t', ht', e⟩ := List.mem_map.1 h; exact e ▸ h2 t' ht')
  obtain ⟨c3, c1, c2⟩ := complete_spec env ok b om1 om2 pool1 pool2
  have f1 : b.txns.filter (present1 env om1 om2 pool1) = b.txns := List.filter_eq_self.2 (fun t _ => hp1 t)
  have f2 : b.v2txns.filter (present2 env om1 om2 pool2) = b.v2txns := List.filter_eq_self.2 (fun t _ => hp2 t)
  refine ⟨?_, ?_⟩
  · rw [f1] at c1; rw [f2] at c2
    cases b with
    | mk parentID nonce timestamp minerAddress minerValue height commitment txns v2txns =>
      simp only [BlockOutline.complete] at c1 c2 ⊢
      simp only [Block.mk.injEq]
      refine ⟨rfl, rfl, rfl, rfl, ?_, rfl, ?_, c1, c2⟩
      · rw [c1, c2]; exact hpay.symm
      · simp only [BlockOutline.commitment, outline_hashes]; exact hc.symm
  · rw [c3]
    simp [hp1, hp2]

/-- **The outline codec round-trips on bytes** (`(*V2BlockOutline).encodeTo/decodeFrom`,
    gateway/encoding.go): header fields, the present v1 transactions (`EncodeSlice`), the
    present v2 transactions as ONE multiproof set, the hashes of the missing ones, one kind
    byte per transaction — for ANY three payload codecs that round-trip on the values
    `P1/P2/PH` describe. The outline must be one whose present entries carry the hash of
    their transaction (`EntriesWF`: true of `OutlineBlock` outlines, `c18_outlineBlock_entries_wf`). -/
theorem c18_outline_codec_roundtrip {Tx1 Tx2 : Type} (env : Env Tx1 Tx2 Hash32 Hash32) (C : OutlineCodecs Tx1 Tx2)
    (P1 : List Tx1 → Prop) (P2 : List Tx2 → Prop) (PH : List Hash32 → Prop)
    (l1 : C.v1.Law P1) (l2 : C.v2.Law P2) (lH : C.hs.Law PH)
    (bo : BOutline Tx1 Tx2) (hwf : EntriesWF env bo.transactions)
    (hh : bo.height < Sia.Codec.W64) (hnn : bo.nonce < Sia.Codec.W64) (hts : bo.timestamp < Sia.Codec.W64)
    (h1 : P1 (encodeShape bo).1) (h2 : P2 (encodeShape bo).2.1) (h3 : PH (encodeShape bo).2.2.1) (tail : Sia.Codec.Bytes) :
    decodeOutline env C (encodeOutline C bo ++ tail) = .ok (bo, tail) :=
  outline_bytes_roundtrip env C P1 P2 PH l1 l2 lH bo hwf hh hnn hts h1 h2 h3 tail

/-- `RemoveTransactions` only clears entries -/
theorem removeTransactions_entries_wf {Tx1 Tx2 : Type} (env : Env Tx1 Tx2 Hash32 Hash32)
    (bo : BOutline Tx1 Tx2) (om1 : List Tx1) (om2 : List Tx2) (h : EntriesWF env bo.transactions) :
    EntriesWF env (bo.removeTransactions env om1 om2).transactions := by
  intro t ht
  obtain ⟨t0, ht0, rfl⟩ := List.mem_map.1 ht
  split
  · exact ⟨fun _ hx => (nomatch hx), fun _ hx => (nomatch hx)⟩
  · exact h t0 ht0

/-- the outline of a block made by `OutlineBlock` satisfies `EntriesWF` -/
theorem c18_outlineBlock_entries_wf {Tx1 Tx2 : Type} (env : Env Tx1 Tx2 Hash32 Hash32)
    (b : Block Tx1 Tx2 Hash32 Hash32) (om1 : List Tx1) (om2 : List Tx2) :
    EntriesWF env (outlineBlock env b om1 om2).transactions := by
  refine removeTransactions_entries_wf env _ om1 om2 fun t ht => ?_
  rcases List.mem_append.1 ht with h | h <;> obtain ⟨x, _, rfl⟩ := List.mem_map.1 h
  · exact ⟨fun y hy => ⟨by cases hy; rfl, rfl⟩, fun _ hy => (nomatch hy)⟩
  · exact ⟨fun _ hy => (nomatch hy), fun y hy => by cases hy; rfl⟩

end

section
open Sia.Codec

/-- `EncodeSlice` / `DecodeSlice` of a slice whose elements have schema `s`, on lists of values -/
def sliceCodec (E : Sia.Codec.Env) (k : Nat) (s : Sch) : BCodec (List Val) where
  enc := fun l => enc E (.slice s) (.list l)
  dec := fun bs => match dec E k (.slice s) bs with
    | .ok (.list l, r) => .ok (l, r)
    | .ok _ => .error .invalid
    | .error e => .error e

theorem sliceCodec_law {E : Sia.Codec.Env} (hE : EnvOK E) (k : Nat) (s : Sch) (hwf : (Sch.slice s).wf E = true) :
    (sliceCodec E k s).Law (fun l => Canon E (.slice s) (.list l)) := by
  intro l rest hc
  simp only [sliceCodec, C11.c11_roundtrip hE k (.slice s) hwf (.list l) rest hc]

/-- `EncodeSlice` / `DecodeSlice` of `[]types.Hash256` -/
def hashCodec (E : Sia.Codec.Env) (k : Nat) : BCodec (List Hash32) where
  enc := fun hs => enc E (.slice (.fixed 32)) (.list (hs.map fun h => .bytes h.val))
  dec := fun bs => match dec E k (.slice (.fixed 32)) bs with
    | .ok (.list vs, r) => if (vs.filterMap hash32Of).length = vs.length then .ok (vs.filterMap hash32Of, r) else .error .invalid
    | .ok _ => .error .invalid
    | .error e => .error e

theorem hashCodec_law {E : Sia.Codec.Env} (hE : EnvOK E) (k : Nat) :
    (hashCodec E k).Law (fun hs => hs.length < W64) := by
  intro hs rest hlen
  have hc : Canon E (.slice (.fixed 32)) (.list (hs.map fun h => .bytes h.val)) :=
    canon_slice_iff.2 ⟨by rw [List.length_map]; exact hlen, fun w hw => by
      obtain ⟨h, _, rfl⟩ := List.mem_map.1 hw
      exact beq_iff_eq.2 h.property⟩
  simp only [hashCodec, C11.c11_roundtrip hE k (.slice (.fixed 32)) rfl _ rest hc, filterMap_hash32Of,
    List.length_map, if_true]

variable [Hasher Hash32]

/-- `V2TransactionsMultiproof` on lists of transaction values -/
def mpCodec (ops : TxSetOps Val) : BCodec (List Val) where
  enc := fun l => encodeBytes ops (.list l)
  dec := fun bs => match decodeBytes ops bs with
    | .ok (.list l, r) => .ok (l, r)
    | .ok _ => .error .invalid
    | .error e => .error e

/-- the side conditions of `c18_codec_roundtrip` for a list of transaction values -/
def MpOK (eh : Nat → Val → Hash32) (encP : Val → Bytes) (decP : Bytes → Except DecErr (Val × Bytes)) (CanonP : Val → Prop)
    (l : List Val) : Prop :=
  GoodTxns (.list l) ∧ (∃ ls : List Hash32, ls.length < 2 ^ 64 ∧ ∀ x ∈ (valOps eh encP decP).leaves (.list l), Valid ls x) ∧
  CanonP ((valOps eh encP decP).strip (.list l))

theorem mpCodec_law (eh : Nat → Val → Hash32) (heh : ∀ k el p, eh k (setProof el p) = eh k el)
    (encP : Val → Bytes) (decP : Bytes → Except DecErr (Val × Bytes)) (CanonP : Val → Prop)
    (hrt : ∀ t rest, CanonP t → decP (encP t ++ rest) = .ok (t, rest)) :
    (mpCodec (valOps eh encP decP)).Law (MpOK eh encP decP CanonP) := by
  rintro l rest ⟨hg, ⟨ls, hn, hv⟩, hc⟩
  simp only [mpCodec, c18_codec_roundtrip eh heh encP decP CanonP hrt ls (.list l) hg hv hn hc rest]

/-- the side conditions for the v2 transactions of an outline, codec side only: a canonical
    value whose non-ephemeral parents carry the paths of one forest -/
def MpCanon (E : Sia.Codec.Env) (k : Nat) (eh : Nat → Val → Hash32) (l : List Val) : Prop :=
  Canon E txnsSch (.list l) ∧
  ∃ ls : List Hash32, ls.length < 2 ^ 64 ∧ ∀ x ∈ (valOps eh (enc E txnsSch) (dec E k txnsSch)).leaves (.list l), Valid ls x

theorem mpCodec_law_env {E E2 E1 E0 : Sia.Codec.Env} (hE : EnvOK E) (henv : TxnEnv E E2 E1 E0) (k : Nat)
    (eh : Nat → Val → Hash32) (heh : ∀ k el p, eh k (setProof el p) = eh k el) :
    (mpCodec (valOps eh (enc E txnsSch) (dec E k txnsSch))).Law (MpCanon E k eh) := by
  rintro l rest ⟨hc, ls, hn, hv⟩
  simp only [mpCodec, c18_codec_roundtrip_env hE henv k eh heh ls (.list l) hc hv hn rest]

/-- **The outline codec round-trips on bytes, with C11's codecs**, over any lawful
    environment containing the modelled transaction codecs: v1 transactions and hashes
    through `c11_roundtrip` for their slice schemas (`txn1` = the generated schema of
    `types.Transaction`), v2 transactions through `c18_codec_roundtrip_env`. Hypotheses:
    the payloads are canonical values (codec side), the v2 parents carry the paths of one
    forest (the property's premise), the header numbers are uint64. -/
theorem c18_outline_codec_roundtrip_c11 {E E2 E1 E0 : Sia.Codec.Env} (hE : EnvOK E) (henv : TxnEnv E E2 E1 E0)
    (k : Nat) (txn1 : Sch) (hwf1 : (Sch.slice txn1).wf E = true)
    (env : Sia.Outline.Env Val Val Hash32 Hash32)
    (eh : Nat → Val → Hash32) (heh : ∀ k el p, eh k (setProof el p) = eh k el)
    (bo : BOutline Val Val) (hwf : EntriesWF env bo.transactions)
    (hh : bo.height < W64) (hnn : bo.nonce < W64) (hts : bo.timestamp < W64)
    (h1 : Canon E (.slice txn1) (.list (encodeShape bo).1))
    (h2 : MpCanon E k eh (encodeShape bo).2.1)
    (hlen : (encodeShape bo).2.2.1.length < W64) (tail : Bytes) :
    let C : OutlineCodecs Val Val :=
      { v1 := sliceCodec E k txn1,
        v2 := mpCodec (valOps eh (enc E txnsSch) (dec E k txnsSch)),
        hs := hashCodec E k }
    decodeOutline env C (encodeOutline C bo ++ tail) = .ok (bo, tail) := by
  intro C
  exact c18_outline_codec_roundtrip env C _ _ _
    (sliceCodec_law hE k txn1 hwf1) (mpCodec_law_env hE henv k eh heh) (hashCodec_law hE k)
    bo hwf hh hnn hts h1 h2 hlen tail

end

/-! ### The hypotheses are satisfiable -/

/-- a three-leaf forest (free term algebra) and a transaction set using leaf 1 twice and leaf 2 -/
def exLs : List T := [Hasher.leaf (.atom 10) 0 false, Hasher.leaf (.atom 11) 1 false, Hasher.leaf (.atom 12) 2 false]
def exLeaves : List (MLeaf T) :=
  [⟨0, .atom 11, 1, path exLs 1⟩, ⟨1, .atom 12, 2, path exLs 2⟩, ⟨2, .atom 11, 1, path exLs 1⟩]

theorem exLeaves_valid : ∀ l ∈ exLeaves, Valid exLs l := by
  intro l hl
  simp [exLeaves] at hl
  rcases hl with rfl | rfl | rfl <;> exact ⟨by decide, rfl, by decide⟩

example : ∀ l ∈ exLeaves, Valid exLs l := exLeaves_valid

/-- `c18_expand_compute` instantiated on it (the same leaf twice, distinct tags) -/
example : expandMultiproof (exLeaves.map zeroProof) (computeMultiproof exLeaves) = .ok exLeaves :=
  (c18_expand_compute exLs exLeaves exLeaves_valid
    (by
      intro a ha b hb h
      simp [exLeaves] at ha hb
      rcases ha with rfl | rfl | rfl <;> rcases hb with rfl | rfl | rfl <;> first | rfl | (simp at h))
    (by decide) zeroProof zeroProof_shape).1

/-- a model of `EnvOK`: transactions are their own hashes, tagged by kind -/
def exEnv : Env Nat Nat (Bool × Nat) Unit where
  leaf1 := fun t => (false, t)
  leaf2 := fun t => (true, t)
  fee1 := fun _ => 1
  fee2 := fun _ => 2
  commit := fun _ hs => (true, hs.length)
  headerID := fun _ _ _ c => c
  reward := 100

example : EnvOK exEnv := ⟨fun _ _ h => by cases h; rfl, fun _ _ h => by cases h; rfl, fun _ _ h => by cases h⟩

/-- a block with 2 + 2 transactions; omit one of each kind; complete from a shuffled superset -/
def exBlock : Block Nat Nat (Bool × Nat) Unit :=
  { parentID := (false, 0), nonce := 7, timestamp := 9, minerAddress := (), minerValue := 106, height := 5,
    commitment := (true, 4), txns := [1, 2], v2txns := [3, 4] }

example : CommitOK exEnv exBlock := rfl
example : ((outlineBlock exEnv exBlock [2] [3]).complete exEnv [9, 2, 8] [4, 3, 3]).1.txns = [1, 2] ∧
    ((outlineBlock exEnv exBlock [2] [3]).complete exEnv [9, 2, 8] [4, 3, 3]).2.1 = [] ∧
    ((outlineBlock exEnv exBlock [2] [3]).complete exEnv [9] [4]).2.1 = [(false, 2), (true, 3)] := by decide

end C18

namespace C18
open Sia.ElemAcc Sia.Multiproof Sia.Codec

/-! ### A canonical value of `txnsSch` with one element parent (hypothesis `hc` of `c18_codec_roundtrip_c11`) -/

/-- a constant hash (enough to exhibit a consistent instance; the theorem is for every `Hasher`) -/
def constHasher : Hasher Hash32 := ⟨fun _ _ => default, fun _ _ _ => default⟩

/-- one transaction with one expiring contract whose element is leaf 0 of a one-leaf forest -/
def exSet : Val :=
  let zero32 : Val := .bytes (List.replicate 32 0)
  let zero64 : Val := .bytes (List.replicate 64 0)
  let cur : Val := .pair (.nat 0) (.pair (.nat 0) .unit)
  let out : Val := .pair cur (.pair zero32 .unit)
  let se : Val := .pair (.nat 0) (.pair (.list []) .unit)
  let fc : Val := .pair (.nat 1) <| .pair (.nat 2) <| .pair zero32 <| .pair (.nat 3) <| .pair (.nat 4) <|
    .pair out <| .pair out <| .pair cur <| .pair cur <| .pair zero32 <| .pair zero32 <| .pair (.nat 5) <|
    .pair zero64 <| .pair zero64 .unit
  let res : Val := .pair (.pair se (.pair zero32 (.pair fc .unit))) (.pair (.pair (.nat 2) .unit) .unit)
  .list [.list [.none, .none, .none, .none, .none, .none, .some (.list [res]), .none, .none, .none, .none]]

example : Canon Irregular.env txnsSch exSet := by decide +kernel
example : (txnsParents.get exSet).length = 1 := by decide

end C18
