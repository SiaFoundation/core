import SiaModel.Gen.FactsSp
import SiaProofs.Lemmas.StorageProofBits
/-!
# C07 (proof part) — ties: the shape of the storage-proof code is the one the model transcribes

`Gen.FactsSp` is regenerated on every run from consensus/merkle.go and from the closures of
`validateFileContracts` (consensus/validation.go): signatures and top-level statements, printed by
go/printer. Each tie below pins one of them to the exact text `SiaModel/Merkle/StorageProof.lean`
was written from and names the model definition that transcribes it; the `…_meaning` theorems
prove that the model's arithmetic reading of the quoted Go expressions is the literal one. Any
rewrite of these functions breaks a tie; their behaviour is tied by the C07P correspondence run
(`sp-root2`, `sp-proofroot`, and `sp-verify1` against `consensus.ValidateTransaction`).
-/
namespace C07
open Sia.SP

/-- consensus/merkle.go `proofRoot` ↦ `Sia.SP.proofRoot` (= `Sia.Rhp.leafToRoot`: bit clear ⇒ `SumPair(root, h)`) -/
theorem tie_proofRoot_shape :
    Gen.FactsSp.proofRootSig = "func(leafHash types.Hash256, leafIndex uint64, proof []types.Hash256) types.Hash256" ∧
    Gen.FactsSp.proofRootBody = [
      "root := leafHash",
      "for i, h := range proof { if leafIndex&(1<<i) == 0 { root = blake2b.SumPair(root, h) } else { root = blake2b.SumPair(h, root) } }",
      "return root"] := ⟨rfl, rfl⟩

/-- consensus/merkle.go `storageProofSubtreeHeight` ↦ `Sia.SP.storageProofSubtreeHeight` / `Sia.SP.lastLeafIndex` -/
theorem tie_storageProofSubtreeHeight_shape :
    Gen.FactsSp.storageProofSubtreeHeightSig = "func(leafIndex uint64, filesize uint64) int" ∧
    Gen.FactsSp.storageProofSubtreeHeightBody = [
      "const leafSize = uint64(len(types.V2StorageProof{}.Leaf))",
      "lastLeafIndex := filesize / leafSize",
      "if filesize%leafSize == 0 { lastLeafIndex-- }",
      "return bits.Len64(leafIndex ^ lastLeafIndex)"] := ⟨rfl, rfl⟩

/-- consensus/merkle.go `storageProofRoot` ↦ `Sia.SP.storageProofRoot` -/
theorem tie_storageProofRoot_shape :
    Gen.FactsSp.storageProofRootSig
      = "func(leafHash types.Hash256, leafIndex uint64, filesize uint64, proof []types.Hash256) types.Hash256" ∧
    Gen.FactsSp.storageProofRootBody = [
      "subtreeHeight := storageProofSubtreeHeight(leafIndex, filesize)",
      "if len(proof) < subtreeHeight { return types.Hash256{} }",
      "root := proofRoot(leafHash, leafIndex, proof[:subtreeHeight])",
      "for _, h := range proof[subtreeHeight:] { root = blake2b.SumPair(h, root) }",
      "return root"] := ⟨rfl, rfl⟩

/-- the `case *types.V2StorageProof` clause of `validateV2FileContracts` ↦ `Sia.SP.verifyV2` for its last
two checks (the "too few proof hashes" guard of fix a3a6e71 and the root comparison over
`StorageProofLeafHash(sp.Leaf[:])` = `leaf (padLeaf leaf64)`); the three checks before
(proof height reached, `ProofIndex` height = contract `ProofHeight`, history proof) and the derivation
of the leaf index are decision logic outside the Merkle model (C07's ledger part) -/
theorem tie_v2_proofCheck_shape :
    Gen.FactsSp.v2ProofCheck = [
      "sp := *r",
      "if ms.base.childHeight() < fc.ProofHeight => return error",
      "if sp.ProofIndex.ChainIndex.Height != fc.ProofHeight => return error",
      "if !ms.base.Elements.containsChainIndex(sp.ProofIndex.Share()) => return error",
      "leafIndex := ms.base.StorageProofLeafIndex(fc.Filesize, sp.ProofIndex.ChainIndex.ID, types.FileContractID(fcr.Parent.ID))",
      "if fc.Filesize > 0 && len(sp.Proof) < storageProofSubtreeHeight(leafIndex, fc.Filesize) => return error",
      "if storageProofRoot(ms.base.StorageProofLeafHash(sp.Leaf[:]), leafIndex, fc.Filesize, sp.Proof) != fc.FileMerkleRoot => return error"] := rfl

/-- consensus/state.go `State.StorageProofLeafIndex` ↦ `Sia.SP.storageProofLeafIndex` (`numLeaves`, the
early return for an empty file, `hashAll(windowID, fcid)` = BLAKE2b-256 of the two ids, the
word-by-word `bits.Div64` reduction `Sia.SP.leafIndexLoop`). `C07.c07_leaf_index_total` proves that
this shape never divides by zero; a rewrite of the rounding (e.g. `(filesize+leafSize-1)/leafSize`,
which wraps for `filesize ≥ 2^64-63`) breaks this tie. -/
theorem tie_leafIndex_shape :
    Gen.FactsSp.leafIndexSig = "func(filesize uint64, windowID types.BlockID, fcid types.FileContractID) uint64" ∧
    Gen.FactsSp.leafIndexBody = [
      "const leafSize = uint64(len(types.StorageProof{}.Leaf))",
      "numLeaves := filesize / leafSize",
      "if filesize%leafSize != 0 { numLeaves++ }",
      "if numLeaves == 0 { return 0 }",
      "seed := hashAll(windowID, fcid)",
      "var r uint64",
      "for i := 0; i < len(seed); i += 8 { _, r = bits.Div64(r, binary.BigEndian.Uint64(seed[i:]), numLeaves) }",
      "return r"] := ⟨rfl, rfl⟩

/-- consensus/state.go `State.StorageProofLeafHash` ↦ `leaf (padLeaf ·)` (zero-extend to 64 bytes, leaf hash) -/
theorem tie_leafHash_shape :
    Gen.FactsSp.leafHashBody = [
      "if len(leaf) == 64 { return blake2b.SumLeaf((*[64]byte)(leaf)) }",
      "var buf [64]byte",
      "copy(buf[:], leaf)",
      "return blake2b.SumLeaf(&buf)"] := rfl

/-- `numLeaves++` cannot wrap and the model's `numLeaves` is the literal reading of the first three
statements with `leafSize = 64` -/
theorem tie_numLeaves_meaning (filesize : Nat) (h : filesize < 18446744073709551616) :
    numLeaves filesize = (if filesize % 64 ≠ 0 then (filesize / 64 + 1) % 18446744073709551616 else filesize / 64) := by
  unfold numLeaves
  have hlt : filesize / 64 + 1 < 18446744073709551616 := by omega
  rw [Nat.mod_eq_of_lt hlt]

/-- v1 closure `lastLeafIndex` ↦ `Sia.SP.lastLeafIndex` (same value as the v2 computation) -/
theorem tie_v1_lastLeafIndex_shape :
    Gen.FactsSp.v1LastLeafIndexSig = "func(filesize uint64) uint64" ∧
    Gen.FactsSp.v1LastLeafIndexBody = [
      "if filesize%leafSize != 0 { return filesize / leafSize }",
      "return (filesize / leafSize) - 1"] ∧
    Gen.FactsSp.v1LeafSizeExpr = "uint64(len(types.StorageProof{}.Leaf))" ∧
    Gen.FactsSp.v1LeafSize = 64 := ⟨rfl, rfl, rfl, rfl⟩

/-- v1 closure `storageProofLeaf` ↦ `Sia.SP.storageProofLeaf` (`Era.preTax`, `Era.preStorageProof`,
`Era.current`, in this order; `leaf[:k]` ↦ `extract 0 k`, `nil` ↦ `none`) -/
theorem tie_v1_storageProofLeaf_shape :
    Gen.FactsSp.v1StorageProofLeafSig = "func(leafIndex, filesize uint64, leaf [64]byte) []byte" ∧
    Gen.FactsSp.v1StorageProofLeafCases = [
      "case ms.base.childHeight() < ms.base.Network.HardforkTax.Height => return leaf[:]",
      "case ms.base.childHeight() < ms.base.Network.HardforkStorageProof.Height => if leafIndex == lastLeafIndex(filesize) { return leaf[:filesize%leafSize] } ; return leaf[:]",
      "default => if filesize == 0 { return nil } else if leafIndex == lastLeafIndex(filesize) && filesize%leafSize != 0 { return leaf[:filesize%leafSize] } ; return leaf[:]"] :=
  ⟨rfl, rfl⟩

/-- v1 closure `storageProofRoot` ↦ `Sia.SP.storageProofRootV1` (`padLeaf`, leaf prefix 0) and
`Sia.SP.spLoop` (the fold: condition, left-sibling branch, right-sibling branch) -/
theorem tie_v1_storageProofRoot_shape :
    Gen.FactsSp.v1StorageProofRootSig
      = "func(leafIndex uint64, filesize uint64, leaf []byte, proof []types.Hash256) types.Hash256" ∧
    Gen.FactsSp.v1StorageProofRootBody = [
      "buf := make([]byte, 1+leafSize)",
      "buf[0] = 0",
      "copy(buf[1:], leaf)",
      "root := types.HashBytes(buf)",
      "subtreeHeight := bits.Len64(leafIndex ^ lastLeafIndex(filesize))",
      "for i, h := range proof { if leafIndex&(1<<i) != 0 || i >= subtreeHeight { root = blake2b.SumPair(h, root) } else { root = blake2b.SumPair(root, h) } }",
      "return root"] ∧
    Gen.FactsSp.v1LoopRange = "i, h := range proof" ∧
    Gen.FactsSp.v1LoopCond = "leafIndex&(1<<i) != 0 || i >= subtreeHeight" ∧
    Gen.FactsSp.v1LoopThen = ["root = blake2b.SumPair(h, root)"] ∧
    Gen.FactsSp.v1LoopElse = ["root = blake2b.SumPair(root, h)"] := ⟨rfl, rfl, rfl, rfl, rfl, rfl⟩

/-- the per-proof check ↦ `Sia.SP.verifyV1` (`nil` leaf ⇒ accepted without a proof; the
"too few proof hashes" guard; the root comparison) -/
theorem tie_v1_proofCheck_shape :
    Gen.FactsSp.v1ProofCheck = [
      "leafIndex := ms.base.StorageProofLeafIndex(fc.Filesize, windowID, sp.ParentID)",
      "leaf := storageProofLeaf(leafIndex, fc.Filesize, sp.Leaf)",
      "if leaf == nil => continue",
      "if fc.Filesize > 0 && len(sp.Proof) < bits.Len64(leafIndex^lastLeafIndex(fc.Filesize)) => return error",
      "if storageProofRoot(leafIndex, fc.Filesize, leaf, sp.Proof) != fc.FileMerkleRoot => return error"] := rfl

theorem and_pow_ne_zero (x i : Nat) : (x &&& 2 ^ i ≠ 0) ↔ x.testBit i = true := by
  constructor
  · intro h
    cases hb : x.testBit i with
    | true => rfl
    | false =>
      exfalso
      apply h
      apply Nat.eq_of_testBit_eq
      intro j
      rw [Nat.testBit_and, Nat.testBit_two_pow, Nat.zero_testBit]
      by_cases hj : i = j
      · subst hj; simp [hb]
      · simp [hj]
  · intro hb h
    have := congrArg (fun y => y.testBit i) h
    simp [Nat.testBit_and, Nat.testBit_two_pow, hb] at this

/-- `leafIndex&(1<<i) != 0 || i >= subtreeHeight`, read literally on naturals, is the condition of
`Sia.SP.spLoop` -/
theorem tie_v1_loop_cond_meaning (leafIndex i subtreeHeight : Nat) :
    (leafIndex &&& (1 <<< i) ≠ 0 ∨ i ≥ subtreeHeight) ↔ (leafIndex / 2 ^ i % 2 = 1 ∨ i ≥ subtreeHeight) := by
  rw [Nat.one_shiftLeft, and_pow_ne_zero, Nat.testBit_eq_decide_div_mod_eq]
  simp

/-- `(filesize / leafSize) - 1` in uint64 arithmetic (resp. `lastLeafIndex--`) and the other branch,
read literally with `leafSize = 64` (`tie_v1_lastLeafIndex_shape`), are `Sia.SP.lastLeafIndex`;
`x - 1` on uint64 is `(x + (2^64 - 1)) mod 2^64` -/
theorem tie_lastLeafIndex_meaning (filesize : Nat) :
    lastLeafIndex filesize =
      (if filesize % 64 ≠ 0 then filesize / 64
       else (filesize / 64 + 18446744073709551615) % 18446744073709551616) := by
  unfold lastLeafIndex
  by_cases h : filesize % 64 = 0
  · rw [if_pos h, if_neg (fun hn => hn h)]
  · rw [if_neg h, if_pos h]

/-- the model's `bitLen` (written where the code has `bits.Len64`, as in
`bits.Len64(leafIndex ^ lastLeafIndex(filesize))`) is the number of bits of its argument -/
theorem tie_bitLen_meaning (x j : Nat) : bitLen x ≤ j ↔ x < 2 ^ j := bitLen_le_iff x j

end C07
