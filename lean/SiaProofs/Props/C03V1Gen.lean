import SiaModel.Gen.CodeConsensus
import SiaProofs.Lemmas.GoLoops
/-!
# C03 / C01 — `consensus.validateSiafunds` (v1), the WHOLE function, on REGENERATED code

`c03_v1_siafund_inputs_gen`: if the regenerated function accepts a v1 transaction, every siafund input is past its
timelock, not consumed earlier in the block, an existing parent, and AUTHORISED in exactly one of two ways: the
revealed unlock conditions hash to the parent's address, or — the developer-address override — the child height has
reached `HardforkDevAddr.Height`, the parent sits at `OldAddress` and the revealed conditions hash to `NewAddress`.
There is no third way.  The input and output siafund sums agree modulo 2^64 (`uint64` additions; exact under the
per-value bound, as in `C01SfGen`).
-/
namespace C03
open Gen.Types Gen.Consensus GoLoops

abbrev sfParent (ext : Ext) (ms : MidState) (ts : V1TransactionSupplement) (sfi : SiafundInput) : SiafundElement :=
  (ext.siafundElement ms ts sfi.ParentID).1

structure V1SiafundInputOk (ext : Ext) (ms : MidState) (ts : V1TransactionSupplement) (sfi : SiafundInput) : Prop where
  timelock : sfi.UnlockConditions.Timelock ≤ State.childHeight ms.base
  notSpentInBlock : (ext.spent ms sfi.ParentID).2 = false
  exists_ : (ext.siafundElement ms ts sfi.ParentID).2 = true
  authorised : ext.UnlockHash sfi.UnlockConditions = (sfParent ext ms ts sfi).SiafundOutput.Address ∨
    (State.childHeight ms.base ≥ ms.base.Network.HardforkDevAddr.Height ∧
     (sfParent ext ms ts sfi).SiafundOutput.Address = ms.base.Network.HardforkDevAddr.OldAddress ∧
     ext.UnlockHash sfi.UnlockConditions = ms.base.Network.HardforkDevAddr.NewAddress)

def SfStep (ext : Ext) (ms : MidState) (ts : V1TransactionSupplement) (sfi : SiafundInput) (st st' : Nat) : Prop :=
  V1SiafundInputOk ext ms ts sfi ∧ st' = (st + (sfParent ext ms ts sfi).SiafundOutput.Value) % 18446744073709551616

theorem c03_v1_siafund_inputs_gen (ext : Ext) (ms : MidState) (txn : Transaction) (ts : V1TransactionSupplement)
    (h : validateSiafunds ext ms txn ts = .ok none) :
    (∀ sfi ∈ txn.SiafundInputs, V1SiafundInputOk ext ms ts sfi) ∧
    (txn.SiafundInputs.map (fun i => (sfParent ext ms ts i).SiafundOutput.Value)).sum % 18446744073709551616
      = (txn.SiafundOutputs.map (fun o => o.Value)).sum % 18446744073709551616 := by
  obtain ⟨s1, c1, h⟩ := forRange_accept (R := SfStep ext ms ts) h (fun _ _ => rfl) (by
      intro i x st t st' hx
      refine ite_exit hx nofun fun h1 hx => ?_
      refine ite_exit hx nofun fun h2 hx => ?_
      refine ite_exit hx nofun fun h3 hx => ?_
      refine ite_exit hx nofun fun h4 hx => ?_
      cases hx
      refine ⟨⟨by simpa using h1, Bool.eq_false_iff.mpr h2, by simpa using h3, ?_⟩, rfl⟩
      simp only [Bool.and_eq_true, Bool.not_eq_true', decide_eq_true_eq, Bool.and_eq_false_imp, decide_eq_false_iff_not,
        not_and, Classical.not_imp, Decidable.not_not] at h4
      by_cases hA : ext.UnlockHash x.UnlockConditions = (sfParent ext ms ts x).SiafundOutput.Address
      · exact .inl hA
      · obtain ⟨⟨b1, b2⟩, b3⟩ := h4 hA
        exact .inr ⟨b1, b2, b3⟩)
  obtain ⟨s2, c2, h⟩ := forRange_accept
    (R := fun (o : SiafundOutput) (st st' : Nat) => st' = (st + o.Value) % 18446744073709551616)
    h (fun _ _ => rfl) (by intro i x st t st' hx; cases hx; exact rfl)
  obtain ⟨heq, _⟩ := ite_else h nofun
  have heq : s1 = s2 := by simpa using heq
  have a1 := Chain.sum_mod (m := id) (n := 18446744073709551616) (fun _ _ _ r => by rw [r.2]; exact Nat.mod_mod _ _) _ _ _ c1
  have a2 := Chain.sum_mod (m := id) (n := 18446744073709551616) (fun _ _ _ r => by rw [r]; exact Nat.mod_mod _ _) _ _ _ c2
  refine ⟨Chain.all (fun _ _ _ r => r.1) _ _ _ c1, ?_⟩
  simp only [id, Nat.zero_add] at a1 a2
  rw [← a1, ← a2, heq]

end C03
