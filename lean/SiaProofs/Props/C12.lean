import SiaModel.Ids.Derive
import SiaModel.Ids.Spec
import SiaModel.Gen.FactsIds
import SiaModel.Gen.FactsSchema
import SiaProofs.Lemmas.IdsSem
import SiaProofs.Lemmas.IdsWF
import SiaProofs.Lemmas.PolicyMerkle
import SiaProofs.Lemmas.CodecSize
/-!
# C12 — IDs and sighashes bind exactly the effect-bearing content; block IDs bind all

Model: `SiaModel/Ids` (`semEncode` mirrors `V2TransactionSemantics.EncodeTo`; `strip` is the
specification of effect-bearing content written from the property text; every id / sighash is
`H (preimage)` for a hash `H` that is injective by HYPOTHESIS `HashInj H`, satisfiable by
`H = id`).  The encoder theory is C11's (`c11_injective`).

Two findings are built into the statements (both confirmed on the Go code by the harness):
* the semantic encoding writes a resolution WITHOUT its type tag, so it is injective only among
  transactions with the same list of resolution kinds (`c12_v2_id_iff_partial`; the
  machine-checked counterexample is `c12_v2_id_collision_witness`);
* the claim address of a v2 siafund input is not written at all (`codeBindsClaimAddress =
  false`): ids and input sighashes bind `stripCode`, which forgets it
  (`c12_v2_claim_address_unbound`).
-/
namespace C12
open Sia.Codec Sia.Ids

theorem tie_semantics_schema : Gen.FactsIds.semanticsSchema = codeSemantics codeBindsClaimAddress := by rfl

/-- every declared field of `V2Transaction` is written by the semantic encoder, in declaration order -/
theorem tie_semantics_covers :
    Gen.FactsIds.v2TransactionDeclaredFields = (codeSemantics codeBindsClaimAddress).map (·.1) := by rfl

/-- the generated flag "the siafund-input loop writes the claim address" is the model's flag -/
theorem tie_claim_address_flag : Gen.FactsIds.semanticsBindsClaimAddress = codeBindsClaimAddress := by rfl

theorem tie_semantics_nilsigs : Gen.FactsIds.semanticsNilSigs =
    "nilSigs := func(sigs ...*Signature) { for i := range sigs { *sigs[i] = Signature{} } }" := by rfl

/-- the `hashAll` calls in the code (functions, distinguishers, argument lists, how each argument is
written) are exactly the committed ones the model mirrors -/
theorem tie_hashall_derivations : Gen.FactsIds.hashAllCalls = Spec.hashAllCalls := by rfl

theorem tie_distinguishers : Gen.FactsIds.distinguishers = Spec.distinguishers := by rfl

theorem tie_write_distinguisher : Gen.FactsIds.writeDistinguisher = "h.E.Write([]byte(\"sia/\" + p + \"|\"))" := by rfl

theorem tie_hashall_switch :
    Gen.FactsIds.hashAllSwitch_types = [("string", "h.WriteDistinguisher(e)"), ("uint8", "h.E.WriteUint8(e)"),
      ("int", "h.E.WriteUint64(uint64(e))"), ("uint64", "h.E.WriteUint64(e)"), ("bool", "h.E.WriteBool(e)"), ("default", "panic")] ∧
    Gen.FactsIds.hashAllSwitch_consensus = [("string", "h.WriteDistinguisher(e)"), ("uint8", "h.E.WriteUint8(e)"),
      ("uint64", "h.E.WriteUint64(e)"), ("default", "panic")] := by constructor <;> rfl

theorem tie_specifiers : Gen.FactsIds.specifiers = Spec.specifiers := by rfl

theorem tie_replay_prefix :
    Gen.FactsIds.replayPrefixTable = Spec.replayPrefixTable ∧ Gen.FactsIds.v2ReplayPrefix = v2ReplayPrefix ∧
    Spec.replayPrefixTable.map (·.2) = replayPrefixes.map (·.2.map UInt8.toNat) := by
  refine ⟨by rfl, by rfl, by decide⟩

theorem tie_v1_sighash_bodies :
    Gen.FactsIds.wholeSigHashBody = Spec.wholeSigHashBody ∧ Gen.FactsIds.partialSigHashBody = Spec.partialSigHashBody := by
  constructor <;> rfl

theorem tie_v2_sighash_bodies :
    Gen.FactsIds.contractSigHashBody = Spec.contractSigHashBody ∧ Gen.FactsIds.renewalSigHashBody = Spec.renewalSigHashBody ∧
    Gen.FactsIds.attestationSigHashBody = Spec.attestationSigHashBody := by
  refine ⟨by rfl, by rfl, by rfl⟩

theorem tie_block_id_bodies :
    Gen.FactsIds.blockHeaderIDBody = Spec.blockHeaderIDBody ∧ Gen.FactsIds.blockHeaderBody = Spec.blockHeaderBody ∧
    Gen.FactsIds.blockMerkleRootBody = Spec.blockMerkleRootBody ∧ Gen.FactsIds.commitmentBody = Spec.commitmentBody ∧
    Gen.FactsIds.stateMerkleLeafHashBody = Spec.stateMerkleLeafHashBody ∧
    Gen.FactsIds.leafHashPrefix_types = 0 ∧ Gen.FactsIds.leafHashPrefix_consensus = 0 ∧
    Gen.FactsIds.commitmentDistinguisher = "commitment" := by
  refine ⟨by rfl, by rfl, by rfl, by rfl, by rfl, by rfl, by rfl, by rfl⟩

/-- the Merkle accumulator (`AddLeaf`, `Root`), the node hash (65 bytes `0x01 ‖ left ‖ right`), the leaf and
node prefixes are the ones the model assumes -/
theorem tie_accumulator :
    Gen.FactsIds.accumulatorAddLeafBody = Spec.accumulatorAddLeafBody ∧ Gen.FactsIds.accumulatorRootBody = Spec.accumulatorRootBody ∧
    Gen.FactsIds.accumulatorHasTreeBody = Spec.accumulatorHasTreeBody ∧ Gen.FactsIds.sumPairBody = Spec.sumPairBody ∧
    Gen.FactsIds.hashBlockGenericBody = Spec.hashBlockGenericBody ∧
    Gen.FactsIds.leafHashPrefix_blake2b = 0 ∧ Gen.FactsIds.nodeHashPrefix_blake2b = 1 := by
  refine ⟨by rfl, by rfl, by rfl, by rfl, by rfl, by rfl, by rfl⟩

theorem tie_block_weight :
    Gen.FactsIds.maxBlockWeight = 2000000 ∧ Gen.FactsIds.maxBlockWeightBody = Spec.maxBlockWeightBody ∧
    Gen.FactsIds.transactionWeightBody = Spec.transactionWeightBody := by
  refine ⟨by rfl, by rfl, by rfl⟩

theorem tie_v1_txn_bodies :
    Gen.FactsIds.txnSansSigsBody = Spec.txnSansSigsBody ∧ Gen.FactsIds.transactionEncodeBody = Spec.transactionEncodeBody := by
  constructor <;> rfl

/-- the v1 body schema of the model is the schema the extractor reads off `txnSansSigs.EncodeTo`,
and a full transaction is that body followed by the signatures -/
theorem tie_v1_body_schema :
    Sia.Codec.Gen.encSchema_Types_txnSansSigs = v1BodySch ∧
    Sia.Codec.Gen.encSchema_Types_Transaction = v1BodySch.append (Sch.seq [("Signatures", v1SigsSch)]) := by
  constructor <;> rfl

/-- the layouts used inside the semantic encoding and the v2 sighashes are the generated ones -/
theorem tie_v2_layouts :
    Sia.Codec.Gen.encSchema_Types_V2FileContract = Spec.v2FileContract ∧
    Sia.Codec.Gen.encSchema_Types_V2FileContractRenewal = Spec.v2FileContractRenewal ∧
    Sia.Codec.Gen.encSchema_Types_V2StorageProof = Spec.v2StorageProof ∧
    Sia.Codec.Gen.encSchema_Types_V2FileContractExpiration = Spec.v2FileContractExpiration ∧
    Sia.Codec.Gen.encSchema_Types_Attestation = Spec.attestation ∧
    Sia.Codec.Gen.encSchema_Types_V2SiacoinOutput = Spec.v2SiacoinOutput ∧
    Sia.Codec.Gen.encSchema_Types_V2SiafundOutput = Spec.v2SiafundOutput := by
  refine ⟨by rfl, by rfl, by rfl, by rfl, by rfl, by rfl, by rfl⟩

/-- no distinguisher (as written: `"sia/" ‖ d ‖ "|"`) is a prefix of another -/
theorem c12_distinguishers_prefix_free :
    ∀ a ∈ Spec.distinguishers, ∀ b ∈ Spec.distinguishers, a ≠ b → ¬ (dist a <+: dist b) := by decide +kernel

/-- two preimages that start with different distinguishers of the table differ, whatever follows -/
theorem c12_distinguished_preimages_differ {a b : String} (ha : a ∈ Spec.distinguishers) (hb : b ∈ Spec.distinguishers)
    (hne : a ≠ b) (x y : List UInt8) : dist a ++ x ≠ dist b ++ y :=
  append_ne_of_not_prefix (c12_distinguishers_prefix_free a ha b hb hne)
    (c12_distinguishers_prefix_free b hb a ha (Ne.symm hne))

theorem dist_append_inj {a b : String} (ha : a ∈ Spec.distinguishers) (hb : b ∈ Spec.distinguishers) {x y : List UInt8}
    (h : dist a ++ x = dist b ++ y) : a = b ∧ x = y := by
  by_cases e : a = b
  · subst e; exact ⟨rfl, List.append_cancel_left h⟩
  · exact absurd h (c12_distinguished_preimages_differ ha hb e x y)

example : dist "id/siacoinoutput" ++ [1, 2] ≠ dist "id/siafundoutput" ++ [1, 2] :=
  c12_distinguished_preimages_differ (a := "id/siacoinoutput") (b := "id/siafundoutput") (by decide) (by decide) (by decide) _ _

/-- the distinguisher of every derived id, of the transaction id and of the four sighashes is in the
generated table, hence (`c12_distinguished_preimages_differ`) an id of one kind is never a sighash, a
transaction id never a derived id, … -/
theorem c12_id_and_sighash_domains_disjoint :
    (∀ k : V2Kind, k.distinguisher ∈ Spec.distinguishers) ∧
    (∀ d ∈ ["id/transaction", "sig/input", "sig/filecontract", "sig/filecontractrenewal", "sig/attestation", "commitment"],
      d ∈ Spec.distinguishers) ∧
    (∀ k : V2Kind, k.distinguisher ≠ "id/transaction" ∧ k.distinguisher ≠ "sig/input") := by
  refine ⟨fun k => ?_, by decide +kernel, fun k => ?_⟩
  · cases k <;> simp [V2Kind.distinguisher, Spec.distinguishers]
  · cases k <;> simp [V2Kind.distinguisher]

theorem distinguisher_inj (k k' : V2Kind) (e : k.distinguisher = k'.distinguisher) : k = k' := by
  cases k <;> cases k' <;> first | rfl | simp [V2Kind.distinguisher] at e

/-! ## the v2 transaction id

Full statement (NOT true of the code at the pinned commit):

    c12_v2_id_iff : HashInj H → (txid H t = txid H t' ↔ strip t = strip t')

Proved: the same equivalence for well-formed `t`, `t'` with the two exclusions made explicit
hypotheses — the same list of resolution kinds, the same claim addresses — each exclusion with a
machine-checked witness that it cannot be dropped. -/

theorem txid_eq_iff (H : List UInt8 → List UInt8) (hH : HashInj H) (t t' : V2Txn) :
    txid H t = txid H t' ↔ semEncode t = semEncode t' :=
  ⟨fun h => List.append_cancel_left (hH _ _ h), congrArg fun x => H (dist "id/transaction" ++ x)⟩

/-- `⇐`, unconditionally: the id only reads the effect-bearing content -/
theorem c12_v2_id_of_strip (H : List UInt8 → List UInt8) (t t' : V2Txn) (h : strip t = strip t') :
    txid H t = txid H t' ∧ H (inputSigPre t) = H (inputSigPre t') := by
  have := semEncodeG_of_stripCode _ (stripCode_of_strip codeBindsClaimAddress h)
  simp only [txid, txidPre, txidPreG, inputSigPre, inputSigPreG, this, and_self]

theorem v2_pre_iff (b : Bool) (t t' : V2Txn) (hw : WFG b t) (hw' : WFG b t') (hk : t.kinds = t'.kinds)
    (hc : t.siafundInputs.map (·.claimAddress) = t'.siafundInputs.map (·.claimAddress)) :
    semEncodeG b t = semEncodeG b t' ↔ strip t = strip t' := by
  rw [semEncodeG_eq_iff b hw hw' hk]
  refine ⟨fun hs => ?_, stripCode_of_strip b⟩
  cases b
  · exact (strip_eq_iff t t').2 ⟨hs, hc⟩
  · exact hs

/-- Under `HashInj`, for well-formed transactions with the same
resolution kinds and the same siafund claim addresses, the transaction ids are equal iff the
effect-bearing contents are equal. -/
theorem c12_v2_id_iff_partial (H : List UInt8 → List UInt8) (hH : HashInj H) (t t' : V2Txn)
    (hw : WFG codeBindsClaimAddress t) (hw' : WFG codeBindsClaimAddress t') (hk : t.kinds = t'.kinds)
    (hc : t.siafundInputs.map (·.claimAddress) = t'.siafundInputs.map (·.claimAddress)) :
    txid H t = txid H t' ↔ strip t = strip t' :=
  (txid_eq_iff H hH t t').trans (v2_pre_iff codeBindsClaimAddress t t' hw hw' hk hc)

/-- the well-formedness hypothesis made explicit: it follows from the typing conditions the Go types
guarantee (`V2Txn.Typed`: 32-byte ids / addresses / keys / roots, 64-byte leaves and signatures, `uint64`
fields below 2^64, currencies below 2^128, lengths below 2^64) -/
theorem c12_wf_of_typed (t : V2Txn) (h : t.Typed) : WFG codeBindsClaimAddress t := wfg_of_typed _ h

/-- `c12_v2_id_iff_partial` with the typing conditions as hypotheses -/
theorem c12_v2_id_iff_typed_partial (H : List UInt8 → List UInt8) (hH : HashInj H) (t t' : V2Txn) (ht : t.Typed) (ht' : t'.Typed)
    (hk : t.kinds = t'.kinds) (hc : t.siafundInputs.map (·.claimAddress) = t'.siafundInputs.map (·.claimAddress)) :
    txid H t = txid H t' ↔ strip t = strip t' :=
  c12_v2_id_iff_partial H hH t t' (wfg_of_typed _ ht) (wfg_of_typed _ ht') hk hc

/-- what the id binds when the claim addresses are left free: `stripCode` -/
theorem c12_v2_id_binds_code (H : List UInt8 → List UInt8) (hH : HashInj H) (t t' : V2Txn)
    (hw : WFG codeBindsClaimAddress t) (hw' : WFG codeBindsClaimAddress t') (hk : t.kinds = t'.kinds) :
    txid H t = txid H t' ↔ stripCode codeBindsClaimAddress t = stripCode codeBindsClaimAddress t' :=
  (txid_eq_iff H hH t t').trans (semEncodeG_eq_iff _ hw hw' hk)

def z32 : List UInt8 := zeros 32
def z64 : List UInt8 := zeros 64
def fc0 : V2FileContract :=
  { capacity := 0, filesize := 0, fileMerkleRoot := z32, proofHeight := 0, expirationHeight := 0,
    renterOutput := ⟨0, z32⟩, hostOutput := ⟨0, z32⟩, missedHostValue := 0, totalCollateral := 0,
    renterPublicKey := z32, hostPublicKey := z32, revisionNumber := 0, renterSignature := z64, hostSignature := z64 }
def el0 : V2FileContractElement := { se := ⟨0, []⟩, id := z32, contract := fc0 }
/-- B: the renewal of a contract whose final renter output is worth 648 · 2^64 H -/
def rnB : V2Renewal :=
  { finalRenterOutput := ⟨648 * W64, z32⟩, finalHostOutput := ⟨0, z32⟩,
    renterRollover := 0, hostRollover := 0, newContract := fc0, renterSignature := z64, hostSignature := z64 }
def txB : V2Txn := { (default : V2Txn) with resolutions := [⟨el0, .renewal rnB⟩] }
/-- A: the expiration of the same contract, carrying 648 bytes of B's encoding as arbitrary data -/
def txA : V2Txn :=
  { (default : V2Txn) with resolutions := [⟨el0, .expiration⟩],
                            arbitraryData := ((semEncodeG false txB).drop 104).take 648 }

/-- The semantic encoding writes a resolution without its type
tag: an expiration followed by (no attestations, 648 bytes of arbitrary data) is byte for byte a
renewal whose first currency is 648 · 2^64.  Two well-formed transactions with different
effect-bearing content, the same transaction id and the same input sighash for EVERY hash. -/
theorem c12_v2_id_collision_witness :
    (∀ b, WFG b txA ∧ WFG b txB ∧ semEncodeG b txA = semEncodeG b txB) ∧ strip txA ≠ strip txB ∧ txA.kinds ≠ txB.kinds ∧
    ∀ H : List UInt8 → List UInt8, txid H txA = txid H txB ∧ H (inputSigPre txA) = H (inputSigPre txB) := by
  have h : ∀ b, WFG b txA ∧ WFG b txB ∧ semEncodeG b txA = semEncodeG b txB := by
    intro b; cases b <;> decide +kernel
  have hk : txA.kinds ≠ txB.kinds := by decide
  refine ⟨h, fun e => hk (by rw [← strip_kinds txA, e, strip_kinds]), hk, fun H => ?_⟩
  have := (h codeBindsClaimAddress).2.2
  simp only [txid, txidPre, txidPreG, inputSigPre, inputSigPreG, this, and_self]

def sfIn0 (claim : List UInt8) : V2SiafundInput :=
  { parent := { se := ⟨0, []⟩, id := z32, output := ⟨1, z32⟩, claimStart := 0 }, claimAddress := claim, satisfied := default }
def txC (claim : List UInt8) : V2Txn := { (default : V2Txn) with siafundInputs := [sfIn0 claim], siafundOutputs := [⟨1, z32⟩] }

/-- As long as the siafund-input loop of the semantic encoder does
not write the claim address (`bindsClaim = false`, the code at the pinned commit), two transactions
that pay the siafund claim to different addresses have the same id and the same input sighash. -/
theorem c12_v2_claim_address_unbound :
    WFG false (txC z32) ∧ WFG false (txC (List.replicate 32 1)) ∧ (txC z32).kinds = (txC (List.replicate 32 1)).kinds ∧
    strip (txC z32) ≠ strip (txC (List.replicate 32 1)) ∧
    semEncodeG false (txC z32) = semEncodeG false (txC (List.replicate 32 1)) ∧
    (codeBindsClaimAddress = false → ∀ H : List UInt8 → List UInt8,
      txid H (txC z32) = txid H (txC (List.replicate 32 1)) ∧ H (inputSigPre (txC z32)) = H (inputSigPre (txC (List.replicate 32 1)))) := by
  have e : semEncodeG false (txC z32) = semEncodeG false (txC (List.replicate 32 1)) := by decide +kernel
  refine ⟨by decide +kernel, by decide +kernel, by decide, by decide +kernel, e, fun hb H => ?_⟩
  simp only [txid, txidPre, txidPreG, inputSigPre, inputSigPreG, hb, e, and_self]

/-- with the claim address written (`bindsClaim = true`) that pair is told apart -/
example : semEncodeG true (txC z32) ≠ semEncodeG true (txC (List.replicate 32 1)) := by decide +kernel

/-- the hypotheses of `c12_v2_id_iff_partial` are satisfiable: `txB` is well formed and `id` is injective -/
example : WFG codeBindsClaimAddress txB ∧ HashInj id := ⟨by decide +kernel, fun _ _ h => h⟩

/-- the v2 id ignores the input witnesses (the satisfied policies) -/
theorem c12_v2_id_ignores_witnesses (H : List UInt8 → List UInt8) (t : V2Txn)
    (w : V2SiacoinInput → SatisfiedPolicy) (w' : V2SiafundInput → SatisfiedPolicy) :
    txid H { t with siacoinInputs := t.siacoinInputs.map (fun i => { i with satisfied := w i }),
                    siafundInputs := t.siafundInputs.map (fun i => { i with satisfied := w' i }) } = txid H t :=
  (c12_v2_id_of_strip H _ _ (by simp [strip, List.map_map, Function.comp_def])).1

/-- the v2 id ignores contract signatures (formations, revisions) -/
theorem c12_v2_id_ignores_contract_sigs (H : List UInt8 → List UInt8) (t : V2Txn) (rs hs : V2FileContract → List UInt8) :
    txid H { t with fileContracts := t.fileContracts.map (fun fc => { fc with renterSignature := rs fc, hostSignature := hs fc }),
                    revisions := t.revisions.map (fun r => { r with revision := { r.revision with renterSignature := rs r.revision, hostSignature := hs r.revision } }) } = txid H t :=
  (c12_v2_id_of_strip H _ _ (by simp [strip, List.map_map, Function.comp_def, V2FileContract.nilSigs])).1

/-- replace the four signatures of a renewal -/
def resign (rs hs : V2Renewal → List UInt8) (nrs nhs : V2FileContract → List UInt8) : V2ResolutionBody → V2ResolutionBody
  | .renewal r =>
    .renewal { r with renterSignature := rs r, hostSignature := hs r,
                      newContract := { r.newContract with renterSignature := nrs r.newContract, hostSignature := nhs r.newContract } }
  | .storageProof p => .storageProof p
  | .expiration => .expiration

/-- the v2 id ignores renewal signatures (the renewal's own and its new contract's) -/
theorem c12_v2_id_ignores_renewal_sigs (H : List UInt8 → List UInt8) (t : V2Txn)
    (rs hs : V2Renewal → List UInt8) (nrs nhs : V2FileContract → List UInt8) :
    txid H { t with resolutions := t.resolutions.map (fun r => { r with body := resign rs hs nrs nhs r.body }) } = txid H t := by
  refine (c12_v2_id_of_strip H _ _ ?_).1
  have : ∀ b, stripBody (resign rs hs nrs nhs b) = stripBody b := by
    intro b; cases b <;> simp [resign, stripBody, V2Renewal.nilSigs, V2FileContract.nilSigs]
  simp [strip, List.map_map, Function.comp_def, this]

/-- parent element contents other than their ids (siacoin / siafund parents, revised and resolved contracts) -/
theorem c12_v2_id_ignores_parent_contents (H : List UInt8 → List UInt8) (t : V2Txn)
    (p1 : SiacoinElement → SiacoinElement) (p2 : SiafundElement → SiafundElement) (p3 : V2FileContractElement → V2FileContractElement)
    (h1 : ∀ e, (p1 e).id = e.id) (h2 : ∀ e, (p2 e).id = e.id) (h3 : ∀ e, (p3 e).id = e.id) :
    txid H { t with siacoinInputs := t.siacoinInputs.map (fun i => { i with parent := p1 i.parent }),
                    siafundInputs := t.siafundInputs.map (fun i => { i with parent := p2 i.parent }),
                    revisions := t.revisions.map (fun r => { r with parent := p3 r.parent }),
                    resolutions := t.resolutions.map (fun r => { r with parent := p3 r.parent }) } = txid H t :=
  (c12_v2_id_of_strip H _ _ (by simp [strip, List.map_map, Function.comp_def, idOnlySc, idOnlySf, idOnlyFc, h1, h2, h3])).1

def reproof (f : V2StorageProof → List (List UInt8)) : V2ResolutionBody → V2ResolutionBody
  | .storageProof p => .storageProof { p with proofIndex := { p.proofIndex with se := { p.proofIndex.se with merkleProof := f p } } }
  | .renewal r => .renewal r
  | .expiration => .expiration

/-- Merkle proofs of state elements (the chain-index element of a storage proof; the parents'
proofs are covered by `c12_v2_id_ignores_parent_contents`) -/
theorem c12_v2_id_ignores_proofs (H : List UInt8 → List UInt8) (t : V2Txn) (f : V2StorageProof → List (List UInt8)) :
    txid H { t with resolutions := t.resolutions.map (fun r => { r with body := reproof f r.body }) } = txid H t := by
  refine (c12_v2_id_of_strip H _ _ ?_).1
  have : ∀ b, stripBody (reproof f b) = stripBody b := by
    intro b; cases b <;> simp [reproof, stripBody, V2StorageProof.dropIndexProof]
  simp [strip, List.map_map, Function.comp_def, this]

/-- any observation of the effect-bearing content that differs makes the ids differ -/
theorem c12_v2_id_sees_field {α} (f : V2Txn → α) (H : List UInt8 → List UInt8) (hH : HashInj H) (t t' : V2Txn)
    (hw : WFG codeBindsClaimAddress t) (hw' : WFG codeBindsClaimAddress t') (hk : t.kinds = t'.kinds)
    (hf : f (stripCode codeBindsClaimAddress t) ≠ f (stripCode codeBindsClaimAddress t')) : txid H t ≠ txid H t' :=
  fun h => hf (congrArg f ((c12_v2_id_binds_code H hH t t' hw hw' hk).1 h))

/-- instances: siacoin outputs, siafund outputs, miner fee, arbitrary data, attestations (signature
included), the new Foundation address, the ids of all parents, contracts / revisions / renewals
without their signatures, the storage proof without the chain-index proof -/
theorem c12_v2_id_sees_fields (H : List UInt8 → List UInt8) (hH : HashInj H) (t t' : V2Txn)
    (hw : WFG codeBindsClaimAddress t) (hw' : WFG codeBindsClaimAddress t') (hk : t.kinds = t'.kinds)
    (h : t.siacoinOutputs ≠ t'.siacoinOutputs ∨ t.siafundOutputs ≠ t'.siafundOutputs ∨ t.minerFee ≠ t'.minerFee ∨
      t.arbitraryData ≠ t'.arbitraryData ∨ t.attestations ≠ t'.attestations ∨ t.newFoundationAddress ≠ t'.newFoundationAddress ∨
      t.siacoinInputs.map (·.parent.id) ≠ t'.siacoinInputs.map (·.parent.id) ∨
      t.siafundInputs.map (·.parent.id) ≠ t'.siafundInputs.map (·.parent.id) ∨
      t.fileContracts.map (·.nilSigs) ≠ t'.fileContracts.map (·.nilSigs) ∨
      t.revisions.map (fun r => (r.parent.id, r.revision.nilSigs)) ≠ t'.revisions.map (fun r => (r.parent.id, r.revision.nilSigs)) ∨
      t.resolutions.map (fun r => (r.parent.id, stripBody r.body)) ≠ t'.resolutions.map (fun r => (r.parent.id, stripBody r.body))) :
    txid H t ≠ txid H t' := by
  have key : ∀ {α} (f : V2Txn → α) (a b : α), f (stripCode codeBindsClaimAddress t) = a → f (stripCode codeBindsClaimAddress t') = b →
      a ≠ b → txid H t ≠ txid H t' :=
    fun f a b ha hb hab => c12_v2_id_sees_field f H hH t t' hw hw' hk (by rw [ha, hb]; exact hab)
  have hsc : ∀ b (x : V2Txn), (stripCode b x).siacoinOutputs = x.siacoinOutputs ∧ (stripCode b x).siafundOutputs = x.siafundOutputs ∧
      (stripCode b x).minerFee = x.minerFee ∧ (stripCode b x).arbitraryData = x.arbitraryData ∧ (stripCode b x).attestations = x.attestations ∧
      (stripCode b x).newFoundationAddress = x.newFoundationAddress ∧
      (stripCode b x).siacoinInputs.map (·.parent.id) = x.siacoinInputs.map (·.parent.id) ∧
      (stripCode b x).siafundInputs.map (·.parent.id) = x.siafundInputs.map (·.parent.id) ∧
      (stripCode b x).fileContracts = x.fileContracts.map (·.nilSigs) ∧
      (stripCode b x).revisions.map (fun r => (r.parent.id, r.revision)) = x.revisions.map (fun r => (r.parent.id, r.revision.nilSigs)) ∧
      (stripCode b x).resolutions.map (fun r => (r.parent.id, r.body)) = x.resolutions.map (fun r => (r.parent.id, stripBody r.body)) := by
    intro b x
    cases b <;> simp [stripCode, strip, List.map_map, Function.comp_def]
  obtain ⟨a1, a2, a3, a4, a5, a6, a7, a8, a9, a10, a11⟩ := hsc codeBindsClaimAddress t
  obtain ⟨b1, b2, b3, b4, b5, b6, b7, b8, b9, b10, b11⟩ := hsc codeBindsClaimAddress t'
  rcases h with h | h | h | h | h | h | h | h | h | h | h
  · exact key (·.siacoinOutputs) _ _ a1 b1 h
  · exact key (·.siafundOutputs) _ _ a2 b2 h
  · exact key (·.minerFee) _ _ a3 b3 h
  · exact key (·.arbitraryData) _ _ a4 b4 h
  · exact key (·.attestations) _ _ a5 b5 h
  · exact key (·.newFoundationAddress) _ _ a6 b6 h
  · exact key (fun x => x.siacoinInputs.map (·.parent.id)) _ _ a7 b7 h
  · exact key (fun x => x.siafundInputs.map (·.parent.id)) _ _ a8 b8 h
  · exact key (·.fileContracts) _ _ a9 b9 h
  · exact key (fun x => x.revisions.map (fun r => (r.parent.id, r.revision))) _ _ a10 b10 h
  · exact key (fun x => x.resolutions.map (fun r => (r.parent.id, r.body))) _ _ a11 b11 h

/-- one derivation of the form `hashAll("<distinguisher>", <32-byte id>[, <index>])` -/
structure Derivation where
  kind : V2Kind
  parent : List UInt8
  index : Nat
deriving DecidableEq

/-- parent ids have 32 bytes, indices fit 64 bits, kinds without an index carry 0 -/
def Derivation.WF (d : Derivation) : Prop :=
  d.parent.length = 32 ∧ d.index < W64 ∧ (d.kind.indexed = false → d.index = 0)

instance (d : Derivation) : Decidable d.WF := by unfold Derivation.WF; infer_instance

def Derivation.pre (d : Derivation) : List UInt8 := derivedPre d.kind d.parent d.index

/-- the preimage determines kind, parent id and index -/
theorem c12_derived_preimages_distinct (d d' : Derivation) (hd : d.WF) (hd' : d'.WF) (h : d.pre = d'.pre) : d = d' := by
  obtain ⟨k, p, i⟩ := d
  obtain ⟨k', p', i'⟩ := d'
  simp only [Derivation.pre, derivedPre, List.append_assoc] at h
  simp only [Derivation.WF] at hd hd'
  obtain ⟨hk, h2⟩ := dist_append_inj (c12_id_and_sighash_domains_disjoint.1 k) (c12_id_and_sighash_domains_disjoint.1 k') h
  cases distinguisher_inj k k' hk
  obtain ⟨hp, hi⟩ := List.append_inj h2 (by rw [hd.1, hd'.1])
  subst hp
  cases hx : k.indexed
  · rw [hd.2.2 hx, hd'.2.2 hx]
  · rw [hx] at hi
    simp only [if_true] at hi
    rw [u64le_inj hd.2.1 hd'.2.1 hi]

/-- Two derivations of distinct (kind, parent id, index) — v2 siacoin /
siafund output, contract, attestation, contract renter/host output, claim output, renewal id — never
coincide (under `HashInj`).  In particular the i-th and j-th output of one transaction, an output and a
contract of the same index, the renter and the host payout of a contract, and ids derived from
different transactions are all different. -/
theorem c12_derived_ids_distinct (H : List UInt8 → List UInt8) (hH : HashInj H) (d d' : Derivation)
    (hd : d.WF) (hd' : d'.WF) (hne : d ≠ d') : H d.pre ≠ H d'.pre :=
  fun h => hne (c12_derived_preimages_distinct d d' hd hd' (hH _ _ h))

example : (⟨.contractOutput, z32, 0⟩ : Derivation).WF ∧ (⟨.contractOutput, z32, 1⟩ : Derivation).WF ∧
    (⟨.contractOutput, z32, 0⟩ : Derivation) ≠ ⟨.contractOutput, z32, 1⟩ := by decide

/-- a transaction id is never a derived id, and never an input sighash -/
theorem c12_txid_not_derived (H : List UInt8 → List UInt8) (hH : HashInj H) (t t' : V2Txn) (d : Derivation) :
    txid H t ≠ H d.pre ∧ txid H t ≠ H (inputSigPre t') := by
  have hid : "id/transaction" ∈ Spec.distinguishers := c12_id_and_sighash_domains_disjoint.2.1 _ List.mem_cons_self
  have hsig : "sig/input" ∈ Spec.distinguishers :=
    c12_id_and_sighash_domains_disjoint.2.1 _ (List.mem_cons_of_mem _ List.mem_cons_self)
  constructor
  · intro h
    have := hH _ _ h
    simp only [txidPre, txidPreG, Derivation.pre, derivedPre, List.append_assoc] at this
    exact c12_distinguished_preimages_differ hid (c12_id_and_sighash_domains_disjoint.1 d.kind)
      (Ne.symm (c12_id_and_sighash_domains_disjoint.2.2 d.kind).1) _ _ this
  · intro h
    have := hH _ _ h
    simp only [txidPre, txidPreG, inputSigPre, inputSigPreG, List.append_assoc] at this
    exact c12_distinguished_preimages_differ hid hsig (by decide) _ _ this

theorem v1BodySch_wf : v1BodySch.wf Env.default = true := by decide +kernel

/-- The v1 transaction id is the hash of everything but the signatures -/
theorem c12_v1_id_iff (H : List UInt8 → List UInt8) (hH : HashInj H) (t t' : V1Txn) (hw : t.WF) (hw' : t'.WF) :
    v1Txid H t = v1Txid H t' ↔ t.strip = t'.strip := by
  have hs : t.strip = t'.strip ↔ t.body = t'.body := by cases t; cases t'; simp [V1Txn.strip]
  rw [hs]
  exact ⟨fun h => C11.c11_injective Env.default_ok v1BodySch v1BodySch_wf _ _ hw hw' (hH _ _ h),
    fun h => by simp only [v1Txid, v1TxidPre, v1BodyEnc, h]⟩

theorem c12_v1_id_ignores_signatures (H : List UInt8 → List UInt8) (t : V1Txn) (sigs : Val) :
    v1Txid H { t with signatures := sigs } = v1Txid H t := rfl

theorem specifier_length (s : String) : (specifier s).length = 16 := copyInto_length 16 _

theorem v1_spec_inj (k k' : V1Kind) (h : specifier k.spec = specifier k'.spec) : k = k' := by
  cases k <;> cases k' <;> first | rfl | (exact absurd h (by decide))

/-- **specifier-based v1 derivations** (`SiacoinOutputID`, `SiafundOutputID`, `FileContractID`): the
preimage determines the kind, the transaction's effect-bearing content and the index -/
theorem c12_v1_derived_preimages_distinct (k k' : V1Kind) (t t' : V1Txn) (i i' : Nat) (hw : t.WF) (hw' : t'.WF)
    (hi : i < W64) (hi' : i' < W64) (h : v1DerivedPre k t i = v1DerivedPre k' t' i') :
    k = k' ∧ t.body = t'.body ∧ i = i' := by
  simp only [v1DerivedPre, List.append_assoc] at h
  obtain ⟨hs, h2⟩ := List.append_inj h (by rw [specifier_length, specifier_length])
  obtain ⟨hb, hi2⟩ := List.append_inj' h2 (by rw [u64le_length, u64le_length])
  exact ⟨v1_spec_inj k k' hs, C11.c11_injective Env.default_ok v1BodySch v1BodySch_wf _ _ hw hw' hb, u64le_inj hi hi' hi2⟩

theorem c12_v1_derived_ids_distinct (H : List UInt8 → List UInt8) (hH : HashInj H) (k k' : V1Kind) (t t' : V1Txn) (i i' : Nat)
    (hw : t.WF) (hw' : t'.WF) (hi : i < W64) (hi' : i' < W64) (hne : k ≠ k' ∨ t.body ≠ t'.body ∨ i ≠ i') :
    v1Derived H k t i ≠ v1Derived H k' t' i' := by
  intro h
  obtain ⟨a, b, c⟩ := c12_v1_derived_preimages_distinct k k' t t' i i' hw hw' hi hi' (hH _ _ h)
  rcases hne with hne | hne | hne
  · exact hne a
  · exact hne b
  · exact hne c

/-- v1 transaction ids carry NO distinguisher: a derived id is `H (specifier ‖ body ‖ i)`, a transaction id
`H (body'')`.  The two preimages can only coincide if the encoded `body''` starts with the 16 specifier
bytes, i.e. if its first field — the number of siacoin inputs, 8 little-endian bytes — reads as the first 8
specifier bytes ("siacoin ", "siafund ", "file con": ≥ 2^61 inputs; in particular the 8th byte of each
specifier is not zero).  Lemma: with fewer than 2^56 siacoin inputs the preimages differ. -/
theorem v1_derived_vs_txid_of_bound (k : V1Kind) (t : V1Txn) (i : Nat) (ins : List Val) (rest : Val)
    (hn : ins.length < 2 ^ 56) :
    v1DerivedPre k t i ≠ enc Env.default v1BodySch (.pair (.list ins) rest) := by
  intro h
  have hs : (v1DerivedPre k t i)[7]? = (specifier k.spec)[7]? := by
    rw [v1DerivedPre, List.append_assoc, List.getElem?_append_left (by rw [specifier_length]; decide)]
  have he : (enc Env.default v1BodySch (.pair (.list ins) rest))[7]? = some 0 := by
    show (u64le ins.length ++ _)[7]? = some 0
    rw [List.getElem?_append_left (by rw [u64le_length]; decide), u64le, leBytes_getElem? _ (by decide),
      Nat.div_eq_of_lt hn]
    rfl
  rw [h, he] at hs
  cases k <;> exact absurd hs.symm (by decide)

/-- a canonical v1 body is its list of siacoin inputs followed by the other fields, and its encoding is at
least as long as that list (every encoded input occupies at least one byte — in fact 56) -/
theorem v1_body_inputs_le_length (body : Val) (hc : Canon Env.default v1BodySch body) :
    ∃ ins rest, body = .pair (.list ins) rest ∧ ins.length ≤ (enc Env.default v1BodySch body).length := by
  obtain ⟨a, rest, rfl, ha, -⟩ := canon_cons_inv hc
  obtain ⟨ins, rfl, _, hins⟩ := canon_slice_inv ha
  exact ⟨ins, rest, rfl, length_le_enc_cons_slice _ _ _ fun w hw =>
    Nat.le_trans (by decide +kernel : 1 ≤ Spec.siacoinInput.minLen Env.default)
      (C11.minLen_le Env.default_ok Spec.siacoinInput w (hins w hw))⟩

/-- A specifier-based derived id preimage differs from the id preimage of every
well-formed v1 transaction whose encoding fits the block weight limit (`MaxBlockWeight` = 2,000,000 bytes,
the weight of a v1 transaction being its encoded length; tied constants): such a transaction has fewer than
2^56 siacoin inputs. Under `HashInj` a v1 derived id is therefore never the id of a transaction that can be
in a block. -/
theorem c12_v1_derived_vs_txid (k : V1Kind) (t t'' : V1Txn) (i : Nat) (hw : t''.WF)
    (hlen : (v1BodyEnc t'').length ≤ Gen.FactsIds.maxBlockWeight) : v1DerivedPre k t i ≠ v1TxidPre t'' := by
  obtain ⟨ins, rest, hb, hle⟩ := v1_body_inputs_le_length t''.body hw
  have hn : ins.length < 2 ^ 56 := by
    have h2 : (enc Env.default v1BodySch t''.body).length ≤ 2000000 := hlen
    omega
  have := v1_derived_vs_txid_of_bound k t i ins rest hn
  simpa only [v1TxidPre, v1BodyEnc, hb] using this

theorem c12_v1_derived_id_vs_txid (H : List UInt8 → List UInt8) (hH : HashInj H) (k : V1Kind) (t t'' : V1Txn) (i : Nat)
    (hw : t''.WF) (hlen : (v1BodyEnc t'').length ≤ Gen.FactsIds.maxBlockWeight) : v1Derived H k t i ≠ v1Txid H t'' :=
  fun h => c12_v1_derived_vs_txid k t t'' i hw hlen (hH _ _ h)

/-- a v2 sighash preimage: purpose distinguisher, replay prefix byte, covered content -/
def sigPre (purpose : String) (prefixByte : UInt8) (content : List UInt8) : List UInt8 := dist purpose ++ [prefixByte] ++ content

def sigPurposes : List String := ["sig/input", "sig/filecontract", "sig/filecontractrenewal", "sig/attestation"]

/-- the model's four sighash preimages are `sigPre` with the v2 replay prefix -/
theorem sigPre_eqs (t : V2Txn) (fc : V2FileContract) (r : V2Renewal) (a : Attestation) :
    inputSigPre t = sigPre "sig/input" 2 (semEncode t) ∧
    contractSigPre fc = sigPre "sig/filecontract" 2 (enc Env.default Spec.v2FileContract (fcVal fc.nilSigs)) ∧
    renewalSigPre r = sigPre "sig/filecontractrenewal" 2 (enc Env.default Spec.v2FileContractRenewal (renewalVal r.nilSigs)) ∧
    attestationSigPre a = sigPre "sig/attestation" 2 (enc Env.default Spec.attestation (attVal a.nilSig)) := ⟨rfl, rfl, rfl, rfl⟩

/-- (v2) equal sighash preimages have the same purpose, the same
replay prefix and the same covered content — so (under `HashInj`) a signature made for one purpose or
era is over a different hash than any signature for another purpose or era. -/
theorem c12_sighash_binds_era_and_purpose (p p' : String) (hp : p ∈ sigPurposes) (hp' : p' ∈ sigPurposes)
    (e e' : UInt8) (x x' : List UInt8) (h : sigPre p e x = sigPre p' e' x') : p = p' ∧ e = e' ∧ x = x' := by
  have hsub : ∀ q ∈ sigPurposes, q ∈ Spec.distinguishers := fun q hq =>
    c12_id_and_sighash_domains_disjoint.2.1 q (List.mem_cons_of_mem _ (List.mem_append_left ["commitment"] hq))
  simp only [sigPre, List.append_assoc] at h
  obtain ⟨hpp, this⟩ := dist_append_inj (hsub p hp) (hsub p' hp') h
  simp only [List.singleton_append, List.cons.injEq] at this
  exact ⟨hpp, this.1, this.2⟩

/-- hash level: different purpose or era ⇒ different sighash -/
theorem c12_sighash_purposes_distinct (H : List UInt8 → List UInt8) (hH : HashInj H) (p p' : String)
    (hp : p ∈ sigPurposes) (hp' : p' ∈ sigPurposes) (e e' : UInt8) (x x' : List UInt8) (hne : p ≠ p' ∨ e ≠ e') :
    H (sigPre p e x) ≠ H (sigPre p' e' x') := by
  intro h
  obtain ⟨a, b, _⟩ := c12_sighash_binds_era_and_purpose p p' hp hp' e e' x x' (hH _ _ h)
  rcases hne with hne | hne
  · exact hne a
  · exact hne b

/-- the v1 replay prefixes of the four eras are pairwise different byte strings -/
theorem c12_v1_era_prefixes_distinct : (replayPrefixes.map (·.2)).Nodup := by decide

/-- `Sia.Ids.replayPrefix`, the model of `State.replayPrefix` as a function of the parent height, unfolded
(no generated fact occurs here; `tie_replay_prefix` is about the tables) -/
theorem c12_v1_replay_prefix_eras (v2Allow foundation asic h : Nat) :
    replayPrefix v2Allow foundation asic h =
      if h ≥ v2Allow then [2] else if h ≥ foundation then [1] else if h ≥ asic then [0] else [] := rfl

/-- a whole-transaction sighash preimage of a transaction with at least one siacoin input starts with
the input count and then the replay prefix of the era -/
theorem wholeSigPre_head (p : List UInt8) (t : V1Txn) (v : Val) (vs : List Val) (rest : Val)
    (hb : t.body = .pair (.list (v :: vs)) rest) (pid : List UInt8) (pki tl : Nat) (cs : List Nat) (x : List UInt8)
    (h : wholeSigPre p t pid pki tl cs = some x) : ∃ y, x = u64le (vs.length + 1) ++ (p ++ y) := by
  unfold wholeSigPre at h
  simp only [] at h
  split at h
  · cases h
  · rename_i sel _
    injection h with h
    subst h
    have hr : List.range 9 = [0, 1, 2, 3, 4, 5, 6, 7, 8] := by decide
    rw [hr, hb]
    simp only [List.map_cons, List.flatten_cons, bodyFields, listOf, List.getD_cons_zero, encList, encElem, prefixed,
      beq_self_eq_true, Bool.true_or, if_true, List.length_cons, List.append_assoc]
    exact ⟨_, rfl⟩

/-- **v1 sighashes bind their era**: whole-transaction sighash preimages made with the one-byte replay
prefixes of two different eras (ASIC `[0]`, Foundation `[1]`, v2 `[2]`) differ for every transaction with
a siacoin input — a signature cannot be replayed across those hardforks.  (The pre-ASIC era has the
empty prefix: there the preimages differ in length, not proved here.) -/
theorem c12_v1_sighash_binds_era (a b : UInt8) (hab : a ≠ b) (t t' : V1Txn) (v v' : Val) (vs vs' : List Val) (rest rest' : Val)
    (hb : t.body = .pair (.list (v :: vs)) rest) (hb' : t'.body = .pair (.list (v' :: vs')) rest')
    (pid pid' : List UInt8) (pki pki' tl tl' : Nat) (cs cs' : List Nat) (x x' : List UInt8)
    (h : wholeSigPre [a] t pid pki tl cs = some x) (h' : wholeSigPre [b] t' pid' pki' tl' cs' = some x') : x ≠ x' := by
  obtain ⟨y, rfl⟩ := wholeSigPre_head [a] t v vs rest hb pid pki tl cs x h
  obtain ⟨y', rfl⟩ := wholeSigPre_head [b] t' v' vs' rest' hb' pid' pki' tl' cs' x' h'
  intro he
  obtain ⟨_, h2⟩ := List.append_inj he (by rw [u64le_length, u64le_length])
  simp only [List.singleton_append, List.cons.injEq] at h2
  exact hab h2.1

/-! ## block ids

`Block.ID = HashBytes(ParentID ‖ Nonce ‖ Timestamp ‖ Commitment)`; the commitment is the root of a
`blake2b.Accumulator` (= `Sia.Policy.merkleRootG`, tied by `tie_accumulator` and compared byte for byte with
Go by the `merkle-v1` / `commitment` ops) whose leaves are BLAKE2b(0x00 ‖ data) and whose nodes are
BLAKE2b(0x01 ‖ left ‖ right):
* v1 (`blockMerkleRoot`): one leaf per miner payout, then one per transaction;
* v2 (`State.Commitment`): the leaf `"sia/commitment|" ‖ 2 ‖ H(parent state) ‖ miner address`, then one leaf per
  v1 and per v2 transaction (FULL encodings: signatures, witnesses and proofs included).

The hash algebra (`lf`, `nd`) is abstract with the HYPOTHESIS `Sia.Policy.HashInj lf nd`: leaf and node
hashes are injective and a leaf hash is never a node hash — the symbolic form of "BLAKE2b is collision
free on the tagged preimages" (`tagged_hashInj` derives it from injectivity of one hash function on the
preimages `0x00 ‖ data` / `0x01 ‖ l ‖ r`, the node preimages having the fixed length 65).  Satisfiable by the
free term algebra (`Sia.Policy.MTree.hashInj_free`).  Because leaves and nodes are disjoint the root
determines the NUMBER of leaves too: no length hypothesis. -/

/-- the header: equal ids ⇒ equal parent id, nonce, timestamp and commitment -/
theorem c12_block_id_binds_header (H : List UInt8 → List UInt8) (hH : HashInj H) (p p' c c' : List UInt8) (n n' ts ts' : Nat)
    (hp : p.length = 32) (hp' : p'.length = 32) (hn : n < W64) (hn' : n' < W64) (hts : ts < W64) (hts' : ts' < W64)
    (h : H (blockIdPre p n ts c) = H (blockIdPre p' n' ts' c')) : p = p' ∧ n = n' ∧ ts = ts' ∧ c = c' := by
  have h0 := hH _ _ h
  simp only [blockIdPre, List.append_assoc] at h0
  obtain ⟨e1, h1⟩ := List.append_inj h0 (by rw [hp, hp'])
  obtain ⟨e2, h2⟩ := List.append_inj h1 (by rw [u64le_length, u64le_length])
  obtain ⟨e3, e4⟩ := List.append_inj h2 (by rw [u64le_length, u64le_length])
  exact ⟨e1, u64le_inj hn hn' e2, u64le_inj hts hts' e3, e4⟩

theorem toBA_inj {a b : List UInt8} (h : toBA a = toBA b) : a = b := by
  have := congrArg (fun x => x.data.toList) h
  simpa [toBA] using this

/-- the tagged hash algebra over ONE hash function with 32-byte digests: injectivity of that function (on the
leaf preimages `0x00 ‖ data` and the 65-byte node preimages `0x01 ‖ l ‖ r`) gives `HashInj` -/
theorem tagged_hashInj (H : ByteArray → { d : ByteArray // d.size = 32 }) (hH : ∀ a b, H a = H b → a = b) :
    Sia.Policy.HashInj (fun d => H (Sia.Policy.byte 0 ++ d)) (fun l r => H (Sia.Policy.byte 1 ++ l.val ++ r.val)) := by
  refine ⟨?_, ?_, ?_⟩
  · intro a b h
    exact (Sia.Policy.ba_append_inj (hH _ _ h) rfl).2
  · intro a b c d h
    have h1 := hH _ _ h
    rw [ByteArray.append_assoc, ByteArray.append_assoc] at h1
    have h2 := (Sia.Policy.ba_append_inj h1 rfl).2
    obtain ⟨e1, e2⟩ := Sia.Policy.ba_append_inj h2 (by rw [a.2, c.2])
    exact ⟨Subtype.ext e1, Subtype.ext e2⟩
  · intro a b c h
    have h1 := hH _ _ h
    rw [ByteArray.append_assoc] at h1
    have h2 := (Sia.Policy.ba_append_inj h1 rfl).1
    have := congrArg (fun x => x.data.toList) h2
    simp [Sia.Policy.byte] at this

section commitment
variable {D : Type} (lf : ByteArray → D) (nd : D → D → D) (zero : D)

theorem root_leaves_inj (hI : Sia.Policy.HashInj lf nd) (l l' : List (List UInt8)) (hl : l ≠ []) (hl' : l' ≠ [])
    (h : Sia.Policy.merkleRootG nd zero (l.map (fun d => lf (toBA d))) = Sia.Policy.merkleRootG nd zero (l'.map (fun d => lf (toBA d)))) :
    l = l' := by
  have e : ∀ x : List (List UInt8), x.map (fun d => lf (toBA d)) = (x.map toBA).map lf := by intro x; simp
  rw [e, e] at h
  have := Sia.Policy.merkleRootG_inj hI zero (l.map toBA) (l'.map toBA) (by simpa using hl) (by simpa using hl') h
  exact (List.map_inj_right fun _ _ => toBA_inj).1 this

/-- (v2) equal commitments ⇒ equal parent-state hash, equal miner address and the
same sequence of transaction encodings (v1 transactions followed by v2 transactions: same number, same order,
each with its signatures, witnesses and Merkle proofs); if the blocks have the same number of v1
transactions, the v1 list and the v2 list are equal separately.  (Both kinds of transaction are hashed into
the tree the same way, `0x00 ‖ encoding`; a v1 transaction could only pass for a v2 one if their encodings
were the same byte string, which needs a v1 transaction with ≥ 258 siacoin inputs whose bytes parse as a v2
transaction — not excluded here.)  The encodings determine the transactions by C11 (`c11_injective`,
`c11_v2txn_injective`). -/
theorem c12_block_commitment_binds (hI : Sia.Policy.HashInj lf nd) (sh sh' ma ma' : List UInt8) (v1 v1' v2 v2' : List (List UInt8))
    (hsh : sh.length = 32) (hsh' : sh'.length = 32)
    (h : commitmentG lf nd zero sh ma v1 v2 = commitmentG lf nd zero sh' ma' v1' v2') :
    sh = sh' ∧ ma = ma' ∧ v1 ++ v2 = v1' ++ v2' ∧ (v1.length = v1'.length → v1 = v1' ∧ v2 = v2') := by
  have hl := root_leaves_inj lf nd zero hI _ _ (List.cons_ne_nil _ _) (List.cons_ne_nil _ _) h
  simp only [List.cons.injEq] at hl
  obtain ⟨h0, hr⟩ := hl
  simp only [commitmentLeafData, List.append_assoc] at h0
  have h2 := List.append_cancel_left (List.append_cancel_left h0)
  obtain ⟨e1, e2⟩ := List.append_inj h2 (by rw [hsh, hsh'])
  exact ⟨e1, e2, hr, fun hlen => List.append_inj hr hlen⟩

theorem append_split_of_pred {α} (P : α → Prop) : ∀ (a a' b b' : List α), (∀ x ∈ a, P x) → (∀ x ∈ a', P x) →
    (∀ x ∈ b, ¬ P x) → (∀ x ∈ b', ¬ P x) → a ++ b = a' ++ b' → a = a' ∧ b = b'
  | [], [], _, _, _, _, _, _, h => ⟨rfl, h⟩
  | [], y :: a', b, b', _, ha', hb, _, h => by
    simp only [List.nil_append, List.cons_append] at h
    exact absurd (ha' y List.mem_cons_self) (hb y (by rw [h]; exact List.mem_cons_self))
  | x :: a, [], b, b', ha, _, _, hb', h => by
    simp only [List.nil_append, List.cons_append] at h
    exact absurd (ha x List.mem_cons_self) (hb' x (by rw [← h]; exact List.mem_cons_self))
  | x :: a, y :: a', b, b', ha, ha', hb, hb', h => by
    simp only [List.cons_append, List.cons.injEq] at h
    obtain ⟨e1, e2⟩ := append_split_of_pred P a a' b b' (fun z hz => ha z (List.mem_cons_of_mem _ hz))
      (fun z hz => ha' z (List.mem_cons_of_mem _ hz)) hb hb' h.2
    exact ⟨by rw [h.1, e1], e2⟩

/-- (v1 header root) equal roots ⇒ the same miner payouts and the same
transactions (same number, same order, full encodings).  Payout leaves and transaction leaves cannot be
confused: by hypothesis an encoded payout has at most 56 bytes, an encoded transaction at least 80, which
`payout_enc_length_le`, `txn_enc_length_ge` below prove of canonical values. -/
theorem c12_block_merkle_root_binds (hI : Sia.Policy.HashInj lf nd) (pay pay' txns txns' : List (List UInt8))
    (hne : pay ++ txns ≠ []) (hne' : pay' ++ txns' ≠ [])
    (hp : ∀ x ∈ pay, x.length ≤ 56) (hp' : ∀ x ∈ pay', x.length ≤ 56)
    (ht : ∀ x ∈ txns, 80 ≤ x.length) (ht' : ∀ x ∈ txns', 80 ≤ x.length)
    (h : blockMerkleRootG lf nd zero pay txns = blockMerkleRootG lf nd zero pay' txns') : pay = pay' ∧ txns = txns' := by
  have hl := root_leaves_inj lf nd zero hI _ _ hne hne' h
  exact append_split_of_pred (fun x : List UInt8 => x.length ≤ 56) pay pay' txns txns' hp hp'
    (fun x hx => by have := ht x hx; omega) (fun x hx => by have := ht' x hx; omega) hl

end commitment

/-- an encoded miner payout (`V1SiacoinOutput`: length-prefixed trimmed big-endian value, address) has at most 56 bytes -/
theorem payout_enc_length_le (v : Val) (hc : Canon Env.default Spec.v1SiacoinOutput v) :
    (enc Env.default Spec.v1SiacoinOutput v).length ≤ 56 := by
  obtain ⟨a, r, rfl, -, hr⟩ := canon_cons_inv hc
  obtain ⟨b, u, rfl, -, -⟩ := canon_cons_inv hr
  exact maxSizeIn_bound Env.default none Spec.v1SiacoinOutput 56 _ rfl hc rfl

/-- an encoded v1 transaction has at least 80 bytes (ten length prefixes) -/
theorem txn_enc_length_ge (v : Val) (hc : Canon Env.default Spec.transaction v) :
    80 ≤ (enc Env.default Spec.transaction v).length :=
  Nat.le_trans (by decide +kernel : 80 ≤ Spec.transaction.minLen Env.default) (C11.minLen_le Env.default_ok Spec.transaction v hc)

/-- the hypotheses are satisfiable (free term algebra) and the statement is not vacuous: two commitments
over different transaction lists are different terms -/
example : Sia.Policy.HashInj Sia.Policy.MTree.leaf Sia.Policy.MTree.node := Sia.Policy.MTree.hashInj_free
example : commitmentG Sia.Policy.MTree.leaf Sia.Policy.MTree.node (Sia.Policy.MTree.leaf ByteArray.empty) z32 z32 [[1]] [[2]] ≠
    commitmentG Sia.Policy.MTree.leaf Sia.Policy.MTree.node (Sia.Policy.MTree.leaf ByteArray.empty) z32 z32 [[2]] [[1]] := by
  intro h
  have := (c12_block_commitment_binds _ _ _ Sia.Policy.MTree.hashInj_free z32 z32 z32 z32 [[1]] [[2]] [[2]] [[1]] (by decide) (by decide) h).2.2.2 rfl
  exact absurd this.1 (by decide)

end C12
