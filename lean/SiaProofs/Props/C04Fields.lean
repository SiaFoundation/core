/-
# C04 (continued) — the leaf hash commits to every field of the element

For each element kind the accumulator leaf is
`H(0x00 ‖ elemHash ‖ le64 LeafIndex ‖ spent)` with
`elemHash = H("sia/leaf/<kind>|" ‖ encode(ID) ‖ encode(fields…))`
(consensus/merkle.go: the `*Leaf` constructors and `elementLeaf.hash`).

* The constructors are READ OFF THE CODE on every run (`extract/facts_leaf.go` →
  `SiaModel/Gen/FactsLeaf.lean`): distinguisher, `hashAll` argument list, the schema of
  the hashed content (built from the generated codec schemas of the argument types), the
  declared fields of the element struct and the ones the constructor reads.
  `tie_leaf_fields_complete`: every declared field is read — `ID` and the content fields
  by `hashAll`, `StateElement` handed on to `elementLeaf.hash`, which hashes `LeafIndex`
  (its `MerkleProof` and the aliasing flag `shared` are deliberately not part of the leaf).
* `c04_leaf_commits_all_fields`: under collision freedom of the hash (hypotheses, not
  axioms) equal leaf hashes imply equal kind, equal ID and content (as values of the
  generated schema: every field), equal leaf index and equal spent flag. Hence an element
  altered in ANY field, moved, or with the spent bit flipped is a different leaf, and
  `c04_contains_sound` / `c04_rejects_altered` reject it unless that other leaf is itself
  in the forest.

Encoder injectivity is C11's generic `c11_injective` applied to the generated schemas.
-/
import SiaModel.Gen.FactsLeaf
import SiaModel.Ids.Derive
import SiaProofs.Props.C11
import SiaProofs.Props.C04
namespace C04
open Sia.Codec Sia.ElemAcc

/-- the six constructors, their distinguishers and `hashAll` argument lists -/
theorem tie_leaf_constructors : Gen.FactsLeaf.leafConstructors = [
    ("chainIndexLeaf", "leaf/chainindex", [("e.ID", "enc:types.BlockID"), ("e.ChainIndex", "enc:types.ChainIndex")]),
    ("siacoinLeaf", "leaf/siacoin", [("e.ID", "enc:types.SiacoinOutputID"),
      ("types.V2SiacoinOutput(e.SiacoinOutput)", "enc:types.V2SiacoinOutput"), ("e.MaturityHeight", "u64")]),
    ("siafundLeaf", "leaf/siafund", [("e.ID", "enc:types.SiafundOutputID"),
      ("types.V2SiafundOutput(e.SiafundOutput)", "enc:types.V2SiafundOutput"), ("types.V2Currency(e.ClaimStart)", "enc:types.V2Currency")]),
    ("fileContractLeaf", "leaf/filecontract", [("e.ID", "enc:types.FileContractID"), ("fc", "enc:types.FileContract")]),
    ("v2FileContractLeaf", "leaf/v2filecontract", [("e.ID", "enc:types.FileContractID"), ("fc", "enc:types.V2FileContract")]),
    ("attestationLeaf", "leaf/attestation", [("e.ID", "enc:types.AttestationID"), ("e.Attestation", "enc:types.Attestation")])] := by rfl

/-- **every declared field of every element struct is covered by its constructor**:
    read by a `hashAll` argument (directly, through a conversion, or through the local
    `fc := e.<Contract>`), or — `StateElement` — handed on to `elementLeaf.hash` -/
theorem tie_leaf_fields_complete :
    Gen.FactsLeaf.elementDeclaredFields.map (fun x => (x.1, x.2.2)) = Gen.FactsLeaf.leafCoveredFields := by rfl

/-- element types and their declared fields (a new field breaks this tie until the
    constructor hashes it) -/
theorem tie_element_fields : Gen.FactsLeaf.elementDeclaredFields = [
    ("chainIndexLeaf", "types.ChainIndexElement", ["ID", "StateElement", "ChainIndex"]),
    ("siacoinLeaf", "types.SiacoinElement", ["ID", "StateElement", "SiacoinOutput", "MaturityHeight"]),
    ("siafundLeaf", "types.SiafundElement", ["ID", "StateElement", "SiafundOutput", "ClaimStart"]),
    ("fileContractLeaf", "types.FileContractElement", ["ID", "StateElement", "FileContract"]),
    ("v2FileContractLeaf", "types.V2FileContractElement", ["ID", "StateElement", "V2FileContract"]),
    ("attestationLeaf", "types.AttestationElement", ["ID", "StateElement", "Attestation"])] := by rfl

/-- every constructor returns `elementLeaf{&e.StateElement, elemHash, <spent>}` -/
theorem tie_leaf_returns : Gen.FactsLeaf.leafReturns.map (·.2) =
    [["&e.StateElement", "elemHash", "false"], ["&e.StateElement", "elemHash", "spent"],
     ["&e.StateElement", "elemHash", "spent"], ["&e.StateElement", "elemHash", "spent"],
     ["&e.StateElement", "elemHash", "spent"], ["&e.StateElement", "elemHash", "false"]] := by rfl

/-- the contract constructors hash the revision in place of the element's contract when one is given -/
theorem tie_contract_leaf_bodies :
    Gen.FactsLeaf.leafBodies.lookup "fileContractLeaf" = some ["fc := e.FileContract", "if rev != nil { fc = *rev }",
      "elemHash := hashAll(\"leaf/filecontract\", e.ID, fc)", "return elementLeaf{&e.StateElement, elemHash, spent}"] ∧
    Gen.FactsLeaf.leafBodies.lookup "v2FileContractLeaf" = some ["fc := e.V2FileContract", "if rev != nil { fc = *rev }",
      "elemHash := hashAll(\"leaf/v2filecontract\", e.ID, fc)", "return elementLeaf{&e.StateElement, elemHash, spent}"] :=
  ⟨rfl, rfl⟩

/-- `elementLeaf.hash`: prefix byte, element hash, little-endian leaf index, spent byte -/
theorem tie_element_leaf_hash :
    Gen.FactsLeaf.elementLeafHashBody = ["buf := make([]byte, 1+32+8+1)", "buf[0] = leafHashPrefix",
      "copy(buf[1:], l.elementHash[:])", "binary.LittleEndian.PutUint64(buf[33:], l.LeafIndex)",
      "if l.spent { buf[41] = 1 }", "return types.HashBytes(buf)"] ∧
    Gen.FactsLeaf.leafHashPrefix = 0 ∧
    Gen.FactsLeaf.elementLeafFields = [("StateElement", "*types.StateElement"), ("elementHash", "types.Hash256"), ("spent", "bool")] ∧
    Gen.FactsLeaf.stateElementFields = [("LeafIndex", "uint64"), ("MerkleProof", "[]types.Hash256"), ("shared", "bool")] := by
  refine ⟨by rfl, by rfl, by rfl, by rfl⟩

/-- the hashed content of every constructor is a well-formed schema (so C11 applies) -/
theorem tie_leaf_schemas_wf : ∀ c ∈ Gen.FactsLeaf.leafSchemas, c.2.2.wf Env.default = true := by decide +kernel

theorem eq_or_rel_of_pairwise {α : Type} {S : α → α → Prop} (hs : ∀ a b, S a b → S b a) {l : List α}
    (h : l.Pairwise S) : ∀ a ∈ l, ∀ b ∈ l, a = b ∨ S a b :=
  fun _ ha _ hb => List.Pairwise.forall_of_forall_of_flip (R := fun a b => a = b ∨ S a b)
    (fun _ _ => Or.inl rfl) (h.imp Or.inr) (h.imp fun q => Or.inr (hs _ _ q)) ha hb

/-- neither distinguisher (as `WriteDistinguisher` writes it) is a prefix of another:
    evaluated on the 15 pairs of the table -/
theorem leaf_dists_apart : Gen.FactsLeaf.leafSchemas.Pairwise fun a b =>
    ¬ Sia.Ids.dist a.2.1 <+: Sia.Ids.dist b.2.1 ∧ ¬ Sia.Ids.dist b.2.1 <+: Sia.Ids.dist a.2.1 := by decide +kernel

/-- the preimage of the element hash: distinguisher, then ID and content in the constructor's schema -/
def elemPre (c : String × String × Sch) (v : Val) : Bytes := Sia.Ids.dist c.2.1 ++ enc Env.default c.2.2 v

section
variable {H : Type} [Hasher H]

/-- **The leaf hash commits to the kind, the ID, every content field, the leaf index and
    the spent flag.** `P` is the element hash function (`hashAll`'s BLAKE2b) into the hash
    type of the accumulator; `c`, `c'` range over the constructors read off the code and
    `v`, `v'` over the canonical values of their schemas (ID and all fields). -/
theorem c04_leaf_commits_all_fields (P : Bytes → H) (hP : ∀ a b, P a = P b → a = b) (hi : HashInj H)
    (c c' : String × String × Sch) (hc : c ∈ Gen.FactsLeaf.leafSchemas) (hc' : c' ∈ Gen.FactsLeaf.leafSchemas)
    (v v' : Val) (hv : Canon Env.default c.2.2 v) (hv' : Canon Env.default c'.2.2 v')
    (i i' : Nat) (s s' : Bool)
    (h : (Hasher.leaf (P (elemPre c v)) i s : H) = Hasher.leaf (P (elemPre c' v')) i' s') :
    c = c' ∧ v = v' ∧ i = i' ∧ s = s' := by
  obtain ⟨he, hidx, hs⟩ := hi.leaf_inj _ _ _ _ _ _ h
  have hpre := hP _ _ he
  unfold elemPre at hpre
  rcases eq_or_rel_of_pairwise (fun _ _ => And.symm) leaf_dists_apart c hc c' hc' with rfl | ⟨n1, n2⟩
  case inr => exact absurd hpre (append_ne_of_not_prefix n1 n2)
  have henc := List.append_cancel_left hpre
  exact ⟨rfl, C11.c11_injective Env.default_ok c.2.2 (tie_leaf_schemas_wf c hc) v v' hv hv' henc, hidx, hs⟩

/-- Consequence in the form the property states it: an element that differs from the
    genuine one in kind, ID, any content field, leaf index or spent flag has a different
    leaf hash — so by `c04_rejects_altered` it is rejected, with any proof, unless that
    different leaf is itself a leaf of the forest. -/
theorem c04_altered_element_different_leaf (P : Bytes → H) (hP : ∀ a b, P a = P b → a = b) (hi : HashInj H)
    (c c' : String × String × Sch) (hc : c ∈ Gen.FactsLeaf.leafSchemas) (hc' : c' ∈ Gen.FactsLeaf.leafSchemas)
    (v v' : Val) (hv : Canon Env.default c.2.2 v) (hv' : Canon Env.default c'.2.2 v')
    (i i' : Nat) (s s' : Bool) (hne : c ≠ c' ∨ v ≠ v' ∨ i ≠ i' ∨ s ≠ s') :
    (Hasher.leaf (P (elemPre c v)) i s : H) ≠ Hasher.leaf (P (elemPre c' v')) i' s' := fun h =>
  have ⟨a, b, c3, d⟩ := c04_leaf_commits_all_fields P hP hi c c' hc hc' v v' hv hv' i i' s s' h
  hne.elim (· a) (·.elim (· b) (·.elim (· c3) (· d)))

end

/-- the byte layout of `elementLeaf.hash` is injective on (32-byte element hash, uint64
    index, spent flag): with a collision-free byte hash, `Hasher.leaf` is injective as
    `HashInj.leaf_inj` assumes -/
theorem c04_leaf_layout_injective (e e' : Bytes) (i i' : Nat) (s s' : Bool)
    (he : e.length = 32) (he' : e'.length = 32) (hi : i < W64) (hi' : i' < W64)
    (h : (0 : UInt8) :: e ++ u64le i ++ [if s then 1 else 0] = (0 : UInt8) :: e' ++ u64le i' ++ [if s' then 1 else 0]) :
    e = e' ∧ i = i' ∧ s = s' := by
  rw [List.append_assoc, List.append_assoc, List.cons_append, List.cons_append] at h
  obtain ⟨h2, h3⟩ := List.append_inj (List.cons.inj h).2 (he.trans he'.symm)
  obtain ⟨h4, h5⟩ := List.append_inj' h3 rfl
  refine ⟨h2, ?_, ?_⟩
  · exact u64le_inj hi hi' h4
  · revert h5
    cases s <;> cases s' <;> decide

/-! ### the hypotheses are satisfiable -/

/-- a canonical siacoin element content: ID, (value, address), maturity height -/
def exSiacoin (value height : Nat) : Val :=
  .pair (.bytes (List.replicate 32 7)) (.pair (.pair (.pair (.nat value) (.pair (.nat 0) .unit)) (.pair (.bytes (List.replicate 32 9)) .unit)) (.pair (.nat height) .unit))

example : Canon Env.default Gen.FactsLeaf.leafSchema_siacoinLeaf (exSiacoin 5 144) := by decide
example : ("siacoinLeaf", "leaf/siacoin", Gen.FactsLeaf.leafSchema_siacoinLeaf) ∈ Gen.FactsLeaf.leafSchemas :=
  .tail _ (.head _)

/-- two canonical contents differing in one field are different values, so (theorem above)
    their leaves differ under any collision-free hash -/
example : exSiacoin 5 144 ≠ exSiacoin 6 144 := by intro h; simp [exSiacoin] at h
example : Canon Env.default Gen.FactsLeaf.leafSchema_siacoinLeaf (exSiacoin 6 144) := by decide

end C04
